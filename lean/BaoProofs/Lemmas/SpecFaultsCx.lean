import BaoProofs.Lemmas.SpecFaultsR

/-!
# A false alarm of the `faults` machinery: `encv-*` on the `EmptyOutboard`

`cx_root_mismatch` evaluates the executable BLAKE3 in the kernel (`decide +kernel`: two chunks, 17
compressions, and two parents).  Nothing imports this file.

`faults encv-sync/const:0:1025/0/empty/0 1`: the skeleton `opTrace` lists the calls of the whole plan
(load 0, write, read chunk 0, write, read chunk 1, write), but the validating encoder on an
`EmptyOutboard` (every pair is zero) stops after the first `load` with `ParentHashMismatch(0)`: no
fault on `data` or `w`, and no fault on the second … `ob` call is reached, the twin prints its
fault-free terminal `ParentHashMismatch(0)` for them, and the verdict rejects that token of the
model's own report ("fault reported as hash mismatch").  `opFaults` does not compare the encoder twin
with the skeleton (`faultCalls` is `none` for `enc*`), so `twinOk` does not catch this.
The case generator (`harness/src/gen3.rs`, C10) takes the store of every operation but `decr-*` from
`STORES = [preMem, postMem, preIo, postIo]`: it never emits this case.

`#eval` on the model (`lake env lean`):
`(opFaults ["encv-sync/const:1:3000/0/empty/0", "1"] m).specFail` for the model's own line `m` is
`some "data@0[read_at_0_1024] Other=P: fault reported as hash mismatch"`.
-/

namespace Bao.SpecFaults
open Bao Bao.Ops Bao.Proto Bao.SpecIndex Bao.SpecOb Bao.SpecSerde

/-- 1025 zero bytes: two chunks, one parent -/
def cxData : List UInt8 := List.replicate 1025 0

/-- the skeleton has a first event on `data` -/
theorem cx_event : ((opTrace "encv-sync" cxData 0 .empty [0]).map fun tr =>
    ((tr.filter (·.obj == "data"))[0]?).map (·.label)) = some (some "read_at_0_1024") := by
  decide +kernel

/-- the executable BLAKE3 reads nothing but zeros from an all-zero buffer, wherever it looks -/
theorem wordsOfBlock_zeros (n off len : Nat) :
    Blake3.wordsOfBlock ⟨(List.replicate n 0).toArray⟩ off len = Array.replicate 16 0 := by
  have get (i : Nat) : (ByteArray.mk (List.replicate n 0).toArray).get! i = 0 := by
    simp only [ByteArray.get!, List.toArray_replicate]
    by_cases h : i < n
    · simp [h]
    · simp [h]; rfl
  unfold Blake3.wordsOfBlock
  simp only [get, show UInt8.toUInt32 0 = 0 from rfl, UInt32.zero_shiftLeft, UInt32.or_zero, ite_self]
  simp
  rfl

/-- The stored pair of an `EmptyOutboard` (two zero hashes) does not hash to the root of `cxData`.
Evaluated as written, `chunkCv` of the first chunk is dear out of proportion: each of its 1024 byte
reads walks the 1024-element list behind the `ByteArray`.  Rewriting the block reads with
`wordsOfBlock_zeros` first leaves the kernel the 16 compressions only. -/
theorem cx_root_mismatch :
    (hf.parentCv (hf.ofBytes zeros32) (hf.ofBytes zeros32) true != Spec.root hf cxData) = true := by
  have hlen : cxData.length = 1025 := List.length_replicate
  have hc0 : hf.chunkCv 0 (List.replicate 1024 0) false
      = [145, 113, 90, 214, 49, 200, 88, 35, 45, 82, 44, 194, 255, 103, 128, 82, 40, 140, 140, 84, 15,
        198, 171, 108, 95, 165, 16, 76, 182, 62, 13, 57] := by
    show Blake3.chunkCv 0 (List.replicate 1024 0) false = _
    unfold Blake3.chunkCv Blake3.chunkCvWords
    simp only [wordsOfBlock_zeros]
    decide +kernel
  have htake : cxData.take (2 ^ 0 * 1024) = List.replicate 1024 0 := by
    rw [cxData, List.take_replicate]; rfl
  have hdrop : cxData.drop (2 ^ 0 * 1024) = [0] := by
    rw [cxData, List.drop_replicate]; rfl
  rw [← hashSubtree_root, hashSubtree_parent (L := 0) (by rw [hlen]; decide) (by rw [hlen]; decide)
      (by decide), htake, hdrop,
    hashSubtree_chunk (by rw [List.length_replicate]; exact Nat.le_refl _),
    hashSubtree_chunk (by decide), hc0]
  decide +kernel

/-- the validating encoder stops at the first item of its plan when that is a parent whose stored
pair does not hash to the root -/
theorem encF_stops_at_root {H : Type} (hf : HashFns H) [BEq H] (fl : Flavour) (data : List UInt8)
    (ob : Store H) (ranges : Ranges) (fault : Option EncFault) {node : Nat} {isRoot left right : Bool}
    {rs : Ranges} {plan : List Chunk} {l r : H} (hne : ranges.isEmpty = false)
    (hplan : ob.tree.prePartialChunks (Ranges.truncate ranges ob.tree.size) 0
      = some (.parent node isRoot left right rs :: plan))
    (hhit : EncFault.hits fault .ob 0 = none) (hload : ob.load hf fl node = .ok (some (l, r)))
    (hmis : (hf.parentCv l r isRoot != ob.root) = true) :
    (encodeRangesF hf fl true data ob ranges fault).terminal = .err (.parentHashMismatch node) := by
  unfold encodeRangesF
  rw [hne, Bool.and_false, if_neg Bool.false_ne_true]
  simp only [hplan, encodeLoopF, hhit, hload, if_true, hmis]

/-- … but a fault on it is not reached: the twin ends with the hash mismatch of the root pair -/
theorem cx_terminal :
    (encodeRangesF hf .sync true cxData (intactStore .empty cxData 0) [0]
      (some ⟨.data, 0, .other⟩)).terminal = .err (.parentHashMismatch 0) := by
  have hlen : cxData.length = 1025 := List.length_replicate
  refine encF_stops_at_root hf .sync cxData (intactStore .empty cxData 0) [0] _ (isRoot := true)
    (left := true) (right := true) (rs := [0]) (plan := [.leaf 0 1024 false [0], .leaf 1 1 false [0]])
    (l := hf.ofBytes zeros32) (r := hf.ofBytes zeros32) rfl ?_ rfl ?_ ?_
  · rw [SpecEnc.intactStore_tree, hlen]
    decide +kernel
  · unfold Store.load
    rw [SpecEnc.intactStore_kind, SpecEnc.intactStore_tree, hlen,
      show Tree.isRelevant ⟨1025, 0⟩ 0 = true from by decide]
    rfl
  · rw [SpecEnc.intactStore_root .empty cxData 0 (by rw [hlen]; decide) (by decide)]
    exact cx_root_mismatch

/-- the raw terminal the model prints for that event and the kind `Other` -/
theorem cx_raw (e : Ev) :
    twinRes "encv-sync" cxData 0 .empty [0] "data" e 0 "Other" = numRes "ParentHashMismatch" 0 := by
  unfold twinRes
  rw [if_pos (by swdec), if_neg (by rw [endsWith_eq_decide]; decide),
    show ("encv-sync" : String).startsWith "encv" = true from by swdec,
    show encObjOf "data" = EncObj.data from by decide, show ioKindOf "Other" = IoKind.other from rfl,
    cx_terminal]
  rfl

/-- the verdict rejects the token the model prints -/
theorem cx_token (part : String) (e : Ev) :
    (tokVerdict part (tokOf "encv-sync" cxData 0 .empty [0] "data" e 0 "Other")).isSome = true := by
  have : tokOf "encv-sync" cxData 0 .empty [0] "data" e 0 "Other"
      = "Other" ++ "=" ++ numRes "ParentHashMismatch" 0 ++ "/a0/p1" := by
    show "Other" ++ "=" ++ resOf "encv-sync" cxData 0 .empty [0] "data" e 0 "Other" ++ "/a0/p1" = _
    unfold resOf
    rw [show evalKind "Other" = "Other" from by decide, cx_raw]
    rfl
  rw [this]
  exact tokVerdict_rejects_mismatch part "Other" 0 (noCh_lit _ _ (by decide))

end Bao.SpecFaults
