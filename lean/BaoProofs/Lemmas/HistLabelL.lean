import BaoProofs.Lemmas.HistL
import BaoProofs.Lemmas.DecodeBridge
import BaoProofs.Lemmas.SizeProofLoc

/-!
# Labelled decoder invariant under the TRUE geometry (C07, stages A and B)

`Lemmas/C01InvLoc.lean` shows that every pair the decoder yields is the true pair of SOME node.
Here the claimed tree is the true one (`⟨d.length, bs⟩`), and the run of the decoder over the
recursive response plan is followed node by node (`run_good`, one lemma per shape of the plan), on
ANY stream: every item is correctly LABELLED (`IG hf d bs T lo hi pre x`): a parent item is
`pItem k L`, the item of an existing node with its true pair; a leaf item is a true leaf
`[c, e) ⊆ [lo, hi)`, and the `pItem` of every existing ancestor of level `bs ≤ L < T` of every chunk
of the leaf occurs in front of it (`pre`).  The hash hypothesis is `CollisionFreeOn hf S` for a set
`S` containing the inputs of the honest hashing of the blob and of the run in question;
`S := fun _ => True` is the case of a collision free `hf`.

The stages of C07 under the true geometry (`Props/C07Conv.lean`; this file and `HistLogL` serve A and
B, `HistSlotL` B and C, `HistValidL` D):
* A – labelled saves: every save writes the true pair of an existing node under that node's label;
* B – ancestors before leaves: every leaf write comes after the saves of its persisted ancestors,
  so their slots hold true pairs;
* C – convergence of the outboard: all bytes delivered ⇒ the backing is the blob's outboard;
* D – the validator after a history reports exactly the delivered chunk groups.
-/

namespace Bao.C07L
open Bao Bao.Spec Bao.C01 Bao.PlanPre Bao.DecodeSpec Bao.Bits

variable {H : Type}

/-- `p` for parent: the item the decoder yields at node `(k, L)` when the pair it read is the true
one -/
def pItem (hf : HashFns H) (d : List UInt8) (k L : Nat) : Item H :=
  .parent (nodeOf k L) (Spec.pair hf d k L).1 (Spec.pair hf d k L).2

/-- every element satisfies `P` relative to the elements in front of it (most recent first) and
`pre` -/
def Trace {α : Type} (P : List α → α → Prop) : List α → List α → Prop
  | _, [] => True
  | pre, x :: xs => P pre x ∧ Trace P (x :: pre) xs

theorem Trace.append {α : Type} {P : List α → α → Prop} :
    ∀ (a b pre : List α),
      Trace P pre (a ++ b) ↔ Trace P pre a ∧ Trace P (a.reverse ++ pre) b := by
  intro a
  induction a with
  | nil => intro b pre; simp [Trace]
  | cons x a ih =>
    intro b pre
    simp only [List.cons_append, Trace, ih, List.reverse_cons, List.append_assoc,
      List.cons_append, List.nil_append, and_assoc]

theorem Trace.imp {α : Type} {P Q : List α → α → Prop} {pre2 : List α}
    (h : ∀ p1 p2 x, (∀ y ∈ p1, y ∈ p2) → (∀ y ∈ pre2, y ∈ p2) → P p1 x → Q p2 x) :
    ∀ (xs p1 p2 : List α), (∀ y ∈ p1, y ∈ p2) → (∀ y ∈ pre2, y ∈ p2) →
      Trace P p1 xs → Trace Q p2 xs := by
  intro xs
  induction xs with
  | nil => intro _ _ _ _ _; trivial
  | cons x xs ih =>
    intro p1 p2 h1 h2 ht
    refine ⟨h p1 p2 x h1 h2 ht.1, ih (x :: p1) (x :: p2) ?_ ?_ ht.2⟩
    · intro y hy
      rcases List.mem_cons.1 hy with rfl | hy
      · exact List.mem_cons_self
      · exact List.mem_cons_of_mem _ (h1 y hy)
    · intro y hy
      exact List.mem_cons_of_mem _ (h2 y hy)

theorem Trace.split {α : Type} {P : List α → α → Prop} (a : List α) (x : α) (b pre : List α)
    (h : Trace P pre (a ++ x :: b)) : P (a.reverse ++ pre) x :=
  ((Trace.append a (x :: b) pre).1 h).2.1

section
variable (hf : HashFns H) (d : List UInt8) (bs : Nat)

/-- "item good": the label of the item is right; for a leaf, relative to the items `pre` in front
of it (its ancestors below level `T` must be among them) -/
def IG (T lo hi : Nat) (pre : List (Item H)) : Item H → Prop
  | .parent node l r =>
    ∃ k L, L < 64 ∧ midOf k L < nChunks d.length ∧ Item.parent node l r = pItem hf d k L
  | .leaf off data =>
    ∃ c e, Sub d c e ∧ lo ≤ c ∧ c < e ∧ e ≤ hi ∧ off = c * 1024 ∧ data = slice d c e ∧
      ∀ x, c ≤ x → x < e → ∀ L, bs ≤ L → L < T →
        midOf (x / 2 ^ (L + 1)) L < nChunks d.length → pItem hf d (x / 2 ^ (L + 1)) L ∈ pre

end

variable {hf : HashFns H} {d : List UInt8} {bs : Nat}

theorem IG.lift {T T' lo lo' hi hi' : Nat} {p1 p2 : List (Item H)} {x : Item H}
    (h : IG hf d bs T lo hi p1 x) (hsub : ∀ y ∈ p1, y ∈ p2) (hlo : lo' ≤ lo) (hhi : hi ≤ hi')
    (hanc : ∀ x, lo ≤ x → x < hi → ∀ L, bs ≤ L → T ≤ L → L < T' →
      midOf (x / 2 ^ (L + 1)) L < nChunks d.length → pItem hf d (x / 2 ^ (L + 1)) L ∈ p2) :
    IG hf d bs T' lo' hi' p2 x := by
  cases x with
  | parent node l r => exact h
  | leaf off data =>
    obtain ⟨c, e, hs, h1, h2, h3, h4, h5, h6⟩ := h
    refine ⟨c, e, hs, by omega, h2, by omega, h4, h5, ?_⟩
    intro x hx1 hx2 L hL1 hL2 hm
    by_cases hT : L < T
    · exact hsub _ (h6 x hx1 hx2 L hL1 hT hm)
    · exact hanc x (by omega) (by omega) L hL1 (by omega) hL2 hm

theorem pushLR_eq (hf : HashFns H) (node : Nat) (ir lf rf : Bool) (x : Ranges) (buf : List UInt8)
    (rest : List H) :
    push hf (.parent node ir lf rf x) buf rest
      = pushLR lf rf (parsePair hf buf).1 (parsePair hf buf).2 rest := by
  cases lf <;> cases rf <;> rfl

theorem cvEvals_split_head (hf : HashFns H) (d : List UInt8) {a m b j : Nat} (hj : j < 64)
    (hm : m = a + 2 ^ j) (hmb : m < b) (hb : b ≤ m + 2 ^ j) (hlen : m * 1024 < d.length)
    (r : Bool) :
    HashIn.parent (cv hf d a m false) (cv hf d m b false) r ∈ hashEvals hf a (slice d a b) r := by
  -- `omega` is slow on sums of products `x * 1024` (`Nat.mul` recurses on the literal): flip them
  rw [hm, Nat.mul_comm] at hlen
  have h1 : 2 ^ j * 1024 < (slice d a b).length := by
    rw [C01.slice_length]; simp only [Nat.mul_comm _ 1024]; omega
  have h2 : (slice d a b).length ≤ 2 ^ (j + 1) * 1024 := by
    rw [C01.slice_length, Nat.pow_succ]; simp only [Nat.mul_comm _ 1024]; omega
  have hev := evalsOf_parent (hf := hf) (M := 64) (N := 64) h1 h2 (by omega) (by omega) a r
  rw [C01.slice_take (by omega), C01.slice_drop (by omega), ← hm] at hev
  unfold hashEvals
  rw [hev]
  exact List.mem_cons_self

theorem sub_node {k L : Nat} (hs : startOf k L < nChunks d.length) :
    Sub d (startOf k L) (min (endOf k L) (nChunks d.length)) :=
  ⟨L + 1, ⟨k, by unfold startOf; rw [Nat.mul_comm]⟩, by rw [Offsets.endOf_start], hs⟩

section step
variable [BEq H] [LawfulBEq H] {S : HashIn H → Prop} (cf : CollisionFreeOn hf S)
  (hT : ∀ x ∈ trueEvals hf d, S x) (hd : d.length ≤ 2 ^ 64 * 1024)
include cf hT hd

/-- a parent step at an existing node `(k, L)` that succeeds against the chaining value of `(k, L)`
yields the TRUE pair of `(k, L)`: the input of the check and the honest input of `(k, L)` are both
in `S` and have the same hash -/
theorem stepC_parent {k L : Nat} (hL : L < 64)
    (hm : midOf k L < nChunks d.length) {ir lf rf f : Bool} {x : Ranges} {stk : List H}
    {s : List UInt8} {i : Item H} {st' : List H} {s' : List UInt8}
    (hflag : f = isRootIv d (startOf k L) (min (endOf k L) (nChunks d.length)))
    (hS : ∀ y ∈ checkEvals hf (.parent (nodeOf k L) ir lf rf x) (s.take 64), S y)
    (h : stepC hf (.parent (nodeOf k L) ir lf rf x)
      (cv hf d (startOf k L) (min (endOf k L) (nChunks d.length)) f :: stk) s = .item i st' s') :
    i = pItem hf d k L ∧
      st' = pushLR lf rf (cv hf d (startOf k L) (midOf k L) false)
        (cv hf d (midOf k L) (min (endOf k L) (nChunks d.length)) false) stk := by
  obtain ⟨-, top, rest, hst, hc, hi, hst', -⟩ := stepC_item h
  injection hst with h1 h2
  subst h1 h2
  have htop : cv hf d (startOf k L) (min (endOf k L) (nChunks d.length)) f
      = check hf (.parent (nodeOf k L) ir lf rf x) (s.take 64) := by
    simpa [Chunk.size] using hc
  have hsm := startOf_lt_midOf k L
  have e1 := startOf_eq k L
  have e2 := midOf_eq k L
  have e3 := endOf_eq k L
  have hp := two_pow_pos' L
  have hlen := lt_length_of_lt_nChunks (len := d.length) (m := midOf k L) (by omega) hm
  have hsplit := OutboardL.cv_split hf d (a := startOf k L) (m := midOf k L)
    (b := min (endOf k L) (nChunks d.length)) (j := L) hL
    (by omega) (by omega) (by omega) hlen f
  have hhead := cvEvals_split_head hf d (a := startOf k L) (m := midOf k L)
    (b := min (endOf k L) (nChunks d.length)) (j := L) hL
    (by omega) (by omega) (by omega) hlen f
  rw [hsplit] at htop
  simp only [check] at htop
  have hS1 : S (.parent (cv hf d (startOf k L) (midOf k L) false)
      (cv hf d (midOf k L) (min (endOf k L) (nChunks d.length)) false) f) := by
    refine hT _ (trueEvals_sub hd (sub_node (k := k) (L := L) (by omega)) _ ?_)
    rw [← hflag]
    exact hhead
  have hS2 : S (.parent (parsePair hf (s.take 64)).1 (parsePair hf (s.take 64)).2 ir) :=
    hS _ (by simp [checkEvals])
  obtain ⟨hl, hr, -⟩ := cf.parent_inj hS1 hS2 htop
  refine ⟨?_, ?_⟩
  · rw [hi]; simp only [itemOf, Chunk.size, pItem, Spec.pair, hl, hr]
  · rw [hst', pushLR_eq]; simp only [Chunk.size, hl, hr]

theorem stepC_leaf {c e z : Nat} {ir f : Bool} {x : Ranges}
    {stk : List H} {s : List UInt8} {i : Item H} {st' : List H} {s' : List UInt8}
    (hs : Sub d c e) (hflag : f = isRootIv d c e)
    (hS : ∀ y ∈ checkEvals hf (.leaf c z ir x) (s.take z), S y)
    (h : stepC hf (.leaf c z ir x) (cv hf d c e f :: stk) s = .item i st' s') :
    i = .leaf (c * 1024) (slice d c e) ∧ st' = stk := by
  obtain ⟨-, top, rest, hst, hc, hi, hst', -⟩ := stepC_item h
  injection hst with h1 h2
  subst h1 h2
  have htop : cv hf d c e f = check hf (.leaf c z ir x) (s.take z) := by
    simpa [Chunk.size] using hc
  simp only [check, cv] at htop
  obtain ⟨-, hb, -⟩ := cv_inj_on' cf
    (fun y hy => hT y (trueEvals_sub hd hs y (by rw [← hflag]; exact hy)))
    (fun y hy => hS y (by simpa only [checkEvals] using hy)) htop
  refine ⟨?_, ?_⟩
  · rw [hi]; simp only [itemOf, Chunk.size, toBytes, ← hb]
  · rw [hst']; rfl

end step

/-- the run `o` yields a good trace inside `[lo, hi)` below level `T`, and if it ends `ok` the hash
stack left is `stk` -/
def OutGood (hf : HashFns H) (d : List UInt8) (bs T lo hi : Nat) (stk : List H) (o : Out H) : Prop :=
  Trace (IG hf d bs T lo hi) [] o.items ∧ ∀ st' s', o.fin = .ok st' s' → st' = stk

theorem div_of_mem_range {k L x : Nat} (h1 : startOf k L ≤ x) (h2 : x < endOf k L) :
    x / 2 ^ (L + 1) = k := by
  unfold startOf at h1
  unfold endOf at h2
  exact Nat.div_eq_of_lt_le h1 h2

theorem Trace.lift {T T' lo lo' hi hi' : Nat} {pre2 : List (Item H)} (hlo : lo' ≤ lo)
    (hhi : hi ≤ hi')
    (hanc : ∀ x, lo ≤ x → x < hi → ∀ L, bs ≤ L → T ≤ L → L < T' →
      midOf (x / 2 ^ (L + 1)) L < nChunks d.length → pItem hf d (x / 2 ^ (L + 1)) L ∈ pre2)
    {xs : List (Item H)} (h : Trace (IG hf d bs T lo hi) [] xs) (pre' : List (Item H))
    (hsub : ∀ y ∈ pre2, y ∈ pre') : Trace (IG hf d bs T' lo' hi') pre' xs := by
  refine Trace.imp (pre2 := pre2) ?_ xs [] pre' (fun y hy => by cases hy) hsub h
  intro p1 p2 x h1 h2 hx
  exact hx.lift h1 hlo hhi (fun y a b L c e f m => h2 _ (hanc y a b L c e f m))

section runs
variable [BEq H] [LawfulBEq H] {S : HashIn H → Prop}

/-- if the inputs evaluated by the run of the plan `p` from the hash stack `st` on the stream `s`
lie in `S`, the run is good and leaves `stk` -/
def GoodOn (S : HashIn H → Prop) (hf : HashFns H) (d : List UInt8) (bs T lo hi : Nat)
    (stk : List H) (p : List Chunk) (st : List H) (s : List UInt8) : Prop :=
  (∀ y ∈ runLEvals hf p st s, S y) → OutGood hf d bs T lo hi stk (runL hf p st s)

omit [LawfulBEq H] in
theorem outGood_nil (T lo hi : Nat) (stk : List H) (s : List UInt8) :
    OutGood hf d bs T lo hi stk (runL hf [] stk s) := by
  refine ⟨trivial, ?_⟩
  intro st' s' h
  simp only [runL_nil, End.ok.injEq] at h
  exact h.1.symm

omit [LawfulBEq H] in
theorem outGood_cons {c : Chunk} {p : List Chunk} {st : List H} {s : List UInt8} {T lo hi : Nat}
    {stk : List H}
    (h : ∀ i st' s', stepC hf c st s = .item i st' s' →
      IG hf d bs T lo hi [] i ∧ Trace (IG hf d bs T lo hi) [i] (runL hf p st' s').items ∧
        ∀ st'' s'', (runL hf p st' s').fin = .ok st'' s'' → st'' = stk) :
    OutGood hf d bs T lo hi stk (runL hf (c :: p) st s) := by
  rw [runL_cons]
  cases hs : stepC hf c st s with
  | item i st' s' =>
    obtain ⟨h1, h2, h3⟩ := h i st' s' hs
    exact ⟨⟨h1, h2⟩, h3⟩
  | err e s' => exact ⟨trivial, fun _ _ h => by cases h⟩
  | panic s' => exact ⟨trivial, fun _ _ h => by cases h⟩

omit [LawfulBEq H] in
theorem runLEvals_append_sub (B : List Chunk) :
    ∀ (A : List Chunk) (st : List H) (s : List UInt8),
      ∀ y ∈ runLEvals hf A st s, y ∈ runLEvals hf (A ++ B) st s := by
  intro A
  induction A with
  | nil => intro st s y hy; simp [runLEvals] at hy
  | cons c A ih =>
    intro st s y hy
    cases hsc : stepC hf c st s with
    | item i st' s' =>
      rw [runLEvals_cons_item hsc] at hy
      rw [List.cons_append, runLEvals_cons_item hsc]
      rcases List.mem_append.1 hy with hy | hy
      · exact List.mem_append_left _ hy
      · exact List.mem_append_right _ (ih st' s' y hy)
    | err e s' => simp [runLEvals, hsc] at hy
    | panic s' => simp [runLEvals, hsc] at hy

omit [LawfulBEq H] in
theorem trace_bind {P : List (Item H) → Item H → Prop} {pre : List (Item H)}
    {A B : List Chunk} {stA stB stk : List H} {s : List UInt8}
    (hE : ∀ y ∈ runLEvals hf (A ++ B) stA s, S y)
    (hA : Trace P pre (runL hf A stA s).items)
    (hAfin : ∀ st' s', (runL hf A stA s).fin = .ok st' s' → st' = stB)
    (hB : ∀ s1 pre', (∀ y ∈ pre, y ∈ pre') → (∀ y ∈ runLEvals hf B stB s1, S y) →
      Trace P pre' (runL hf B stB s1).items ∧
      ∀ st' s', (runL hf B stB s1).fin = .ok st' s' → st' = stk) :
    Trace P pre (runL hf (A ++ B) stA s).items ∧
      ∀ st' s', (runL hf (A ++ B) stA s).fin = .ok st' s' → st' = stk := by
  rw [runL_append]
  cases ho : runL hf A stA s with
  | mk its fin =>
    rw [ho] at hA hAfin
    cases fin with
    | ok st1 s1 =>
      have e := hAfin st1 s1 rfl
      subst e
      have hfin : (runL hf A stA s).fin = .ok st1 s1 := by rw [ho]
      rw [runLEvals_append_ok B A stA s st1 s1 hfin] at hE
      simp only [Out.bind]
      obtain ⟨h1, h2⟩ := hB s1 (its.reverse ++ pre) (fun y hy => List.mem_append_right _ hy)
        (fun y hy => hE y (List.mem_append_right _ hy))
      exact ⟨(Trace.append its _ pre).2 ⟨hA, h1⟩, h2⟩
    | err e s1 => exact ⟨hA, fun _ _ h => by cases h⟩
    | panic s1 => exact ⟨hA, fun _ _ h => by cases h⟩

omit [LawfulBEq H] in
theorem opt_good {rs : Ranges} {p : List Chunk} {h : H} {T lo hi : Nat} (hnil : rs = [] → p = [])
    (hgood : rs ≠ [] → ∀ stk s, GoodOn S hf d bs T lo hi stk p (h :: stk) s)
    (stk : List H) (s : List UInt8) :
    GoodOn S hf d bs T lo hi stk p ((if rs.isEmpty then [] else [h]) ++ stk) s := by
  cases rs with
  | nil =>
    rw [hnil rfl]
    exact fun _ => outGood_nil _ _ _ _ _
  | cons a l => exact hgood (by simp) stk s

section item
variable (cf : CollisionFreeOn hf S) (hT : ∀ x ∈ trueEvals hf d, S x)
  (hd : d.length ≤ 2 ^ 64 * 1024)
include cf hT hd

theorem leaf_good {c e z : Nat} {ir f : Bool} {x : Ranges} {T lo hi : Nat}
    (hs : Sub d c e) (hflag : f = isRootIv d c e) (h1 : lo ≤ c) (h2 : c < e) (h3 : e ≤ hi)
    (hanc : ∀ y, c ≤ y → y < e → ∀ L, bs ≤ L → L < T →
      ¬ midOf (y / 2 ^ (L + 1)) L < nChunks d.length) (stk : List H) (s : List UInt8) :
    GoodOn S hf d bs T lo hi stk [.leaf c z ir x] (cv hf d c e f :: stk) s := by
  intro hE
  apply outGood_cons
  intro i st' s' hstep
  rw [runLEvals_cons_item hstep] at hE
  obtain ⟨rfl, rfl⟩ := stepC_leaf cf hT hd hs hflag
    (fun y hy => hE y (List.mem_append_left _ hy)) hstep
  exact ⟨⟨c, e, hs, h1, h2, h3, rfl, rfl, fun y hy1 hy2 L hL1 hL2 hm =>
    absurd hm (hanc y hy1 hy2 L hL1 hL2)⟩, trivial, (outGood_nil (d := d) (bs := bs) T lo hi _ s').2⟩

theorem parent_good {k L : Nat} (hL : L < 64)
    (hm : midOf k L < nChunks d.length) {ir f : Bool} {x : Ranges} {A B : List Chunk}
    (hflag : f = isRootIv d (startOf k L) (min (endOf k L) (nChunks d.length)))
    (lrs rrs : Ranges) (hAnil : lrs = [] → A = [])
    (hA : lrs ≠ [] → ∀ stk' s', GoodOn S hf d bs L (startOf k L) (midOf k L) stk' A
      (cv hf d (startOf k L) (midOf k L) false :: stk') s')
    (hBnil : rrs = [] → B = [])
    (hB : rrs ≠ [] → ∀ stk' s', GoodOn S hf d bs L (midOf k L) (min (endOf k L) (nChunks d.length))
      stk' B (cv hf d (midOf k L) (min (endOf k L) (nChunks d.length)) false :: stk') s')
    (stk : List H) (s : List UInt8) :
    GoodOn S hf d bs (L + 1) (startOf k L) (min (endOf k L) (nChunks d.length)) stk
      (.parent (nodeOf k L) ir (!lrs.isEmpty) (!rrs.isEmpty) x :: (A ++ B))
      (cv hf d (startOf k L) (min (endOf k L) (nChunks d.length)) f :: stk) s := by
  intro hE
  replace hA := opt_good hAnil hA
  replace hB := opt_good hBnil hB
  have hsm := startOf_lt_midOf k L
  have hme := midOf_lt_endOf k L
  apply outGood_cons
  intro i st' s' hstep
  rw [runLEvals_cons_item hstep] at hE
  obtain ⟨rfl, rfl⟩ := stepC_parent cf hT hd hL hm hflag
    (fun y hy => hE y (List.mem_append_left _ hy)) hstep
  have hE' := fun y hy => hE y (List.mem_append_right _ hy)
  rw [pushLR_not] at hE' ⊢
  refine ⟨⟨k, L, hL, hm, rfl⟩, ?_⟩
  have hself : ∀ y, startOf k L ≤ y → y < endOf k L → ∀ L', bs ≤ L' → L ≤ L' → L' < L + 1 →
      midOf (y / 2 ^ (L' + 1)) L' < nChunks d.length →
      pItem hf d (y / 2 ^ (L' + 1)) L' ∈ [pItem hf d k L] := by
    intro y hy1 hy2 L' _ h1 h2 _
    have : L' = L := by omega
    subst this
    rw [div_of_mem_range hy1 hy2]
    exact List.mem_singleton.2 rfl
  have hA' := hA _ s' (fun y hy => hE' y (runLEvals_append_sub B A _ _ y hy))
  apply trace_bind (S := S) hE'
  · exact Trace.lift (Nat.le_refl _) (by omega)
      (fun y a b => hself y a (by omega)) hA'.1 _ (fun _ h => h)
  · exact hA'.2
  · intro s1 pre' hsub hEB
    exact ⟨Trace.lift (by omega) (Nat.le_refl _)
      (fun y a b => hself y (by omega) (by omega)) (hB stk s1 hEB).1 _ hsub, (hB stk s1 hEB).2⟩

end item

theorem isRootIv_false_of_lt {c e : Nat} (h : e < nChunks d.length) : false = isRootIv d c e := by
  simp only [isRootIv]
  exact (decide_eq_false (by omega)).symm

theorem isRootIv_false_of_pos {c e : Nat} (h : 0 < c) : false = isRootIv d c e := by
  simp only [isRootIv]
  exact (decide_eq_false (by omega)).symm

/-- the run over a plan `p` of the node `(k, L)` for a non-empty sub-query: with the chaining value
of the subtree `(k, L)` of the true blob (honest root flag: only those evaluations are in
`trueEvals`) on top of the hash stack, the run over `p` — on ANY stream — yields only correctly
labelled items, every leaf after the parent items of all its existing ancestors of level `≥ bs`
inside `(k, L)`; if it ends `ok` that hash has been popped -/
def GoodNode (S : HashIn H → Prop) (hf : HashFns H) (d : List UInt8) (bs filled L k : Nat)
    (rs : Ranges) (p : List Chunk) : Prop :=
  rs ≠ [] → startOf k L < filled → ∀ (f : Bool) (stk : List H) (s : List UInt8),
    f = isRootIv d (startOf k L) (min (endOf k L) (nChunks d.length)) →
    GoodOn S hf d bs (L + 1) (startOf k L) (min (endOf k L) (nChunks d.length)) stk p
      (cv hf d (startOf k L) (min (endOf k L) (nChunks d.length)) f :: stk) s

section node
variable (cf : CollisionFreeOn hf S) (hT : ∀ x ∈ trueEvals hf d, S x) (hd : d.length ≤ 2 ^ 63)
  {filled root : Nat} (g : Geo d.length 0 filled) {L k : Nat} {rs : Ranges}
include cf hT hd g

theorem goodNode_leaf
    (hanc : ∀ y, startOf k L ≤ y → y < min (endOf k L) (nChunks d.length) → ∀ L', bs ≤ L' →
      L' < L + 1 → ¬ midOf (y / 2 ^ (L' + 1)) L' < nChunks d.length) :
    GoodNode S hf d bs filled L k rs [nodeLeaf d.length 0 root L k rs] := by
  intro _ hex f stk s hflag
  have hsn : startOf k L < nChunks d.length := g.start_lt_nChunks (L := L) hex
  have hse := Offsets.endOf_start k L
  have hp := two_pow_pos' (L + 1)
  rw [nodeLeaf_zero]
  exact leaf_good cf hT (by omega) (sub_node hsn) hflag (Nat.le_refl _) (by omega) (Nat.le_refl _)
    hanc stk s

omit [LawfulBEq H] cf hT hd in
theorem goodNode_skip {p : List Chunk} (hge : filled ≤ nodeOf k (L + 1))
    (ih : GoodNode S hf d bs filled L (2 * k) rs p) :
    GoodNode S hf d bs filled (L + 1) k rs p := by
  intro hne hex f stk s hflag
  have hm : nChunks d.length ≤ midOf k (L + 1) := g.skip_mid_ge hge
  have hme := midOf_lt_endOf k (L + 1)
  have hmin : min (midOf k (L + 1)) (nChunks d.length)
      = min (endOf k (L + 1)) (nChunks d.length) := by omega
  have := ih hne (by rw [startOf_left]; exact hex) f stk s
    (by rw [startOf_left, endOf_left, hmin]; exact hflag)
  rw [startOf_left, endOf_left, hmin] at this
  intro hE
  refine ⟨Trace.lift (pre2 := []) (Nat.le_refl _) (Nat.le_refl _) ?_ (this hE).1 _
    (fun _ h => h), (this hE).2⟩
  intro y hy1 hy2 L' _ h1 h2 hmid
  have : L' = L + 1 := by omega
  subst this
  rw [div_of_mem_range hy1 (by omega)] at hmid
  omega

omit g in
theorem goodNode_group (hh : toBytes (midOf k 0) < d.length) :
    GoodNode S hf d bs filled 0 k rs (nodeParent 0 root 0 k rs ::
      ((if (lq 0 0 k rs).isEmpty then [] else [leftLeaf 0 k rs]) ++
        (if (rq 0 0 k rs).isEmpty then [] else [rightLeaf d.length 0 k rs]))) := by
  intro _ hex f stk s hflag
  have hd' : d.length ≤ 2 ^ 64 * 1024 := by omega
  have hm : midOf k 0 < nChunks d.length := lt_nChunks_of_toBytes_lt hh
  obtain ⟨e1, e2, e3⟩ := two_zero_geom k
  rw [nodeParent_zero]
  refine parent_good cf hT hd' (by omega) hm hflag (lq 0 0 k rs) (rq 0 0 k rs)
    (fun h => by simp [h]) (fun hl stk' s' => ?_) (fun h => by simp [h]) (fun hr stk' s' => ?_)
    stk s
  · rw [if_neg (by simpa using hl), leftLeaf_zero]
    exact leaf_good cf hT hd' ⟨0, Nat.one_dvd _, by omega, by omega⟩
      (isRootIv_false_of_lt hm) (Nat.le_refl _)
      (by omega) (Nat.le_refl _) (fun _ _ _ _ _ h => by omega) stk' s'
  · rw [if_neg (by simpa using hr), rightLeaf_zero]
    exact leaf_good cf hT hd' ⟨0, Nat.one_dvd _, by omega, by omega⟩
      (isRootIv_false_of_pos (by omega)) (Nat.le_refl _)
      (by omega) (Nat.le_refl _) (fun _ _ _ _ _ h => by omega) stk' s'

theorem goodNode_inner {A B : List Chunk} (hlt : nodeOf k (L + 1) < filled)
    (hAnil : lq 0 (L + 1) k rs = [] → A = []) (hBnil : rq 0 (L + 1) k rs = [] → B = [])
    (ihl : GoodNode S hf d bs filled L (2 * k) (lq 0 (L + 1) k rs) A)
    (ihr : GoodNode S hf d bs filled L (2 * k + 1) (rq 0 (L + 1) k rs) B) :
    GoodNode S hf d bs filled (L + 1) k rs (nodeParent 0 root (L + 1) k rs :: (A ++ B)) := by
  intro _ hex f stk s hflag
  have hm : midOf k (L + 1) < nChunks d.length := g.mid_lt_nChunks hlt
  have hme := midOf_lt_endOf k (L + 1)
  have hsm := startOf_lt_midOf k (L + 1)
  rw [nodeParent_zero]
  refine parent_good cf hT (by omega) (level_lt_of_mid_lt hd hm) hm hflag (lq 0 (L + 1) k rs)
    (rq 0 (L + 1) k rs) hAnil (fun hl stk' s' => ?_) hBnil (fun hr stk' s' => ?_) stk s
  · have hmin : min (midOf k (L + 1)) (nChunks d.length) = midOf k (L + 1) := by omega
    have := ihl hl (by rw [startOf_left]; exact hex) false stk' s'
      (by rw [startOf_left, endOf_left, hmin]; exact isRootIv_false_of_lt hm)
    rw [startOf_left, endOf_left, hmin] at this
    exact this
  · have := ihr hr (g.right_exists hlt) false stk' s'
      (by rw [startOf_right, endOf_right]; exact isRootIv_false_of_pos (by omega))
    rw [startOf_right, endOf_right] at this
    exact this

theorem run_good (L k : Nat) (rs : Ranges) :
    GoodNode S hf d bs filled L k rs (planPre d.length 0 bs filled root L k rs) := by
  refine planPre_induct (P := GoodNode S hf d bs filled) (fun _ _ h => absurd rfl h) ?_
    (fun L k rs _ hge ih => goodNode_skip g hge ih) ?_ ?_
    (fun k rs _ _ _ hh => goodNode_group cf hT hd hh)
    (fun L k rs _ hlt _ ihl ihr => goodNode_inner cf hT hd g hlt
      (fun h => by rw [h, planPre_nil]) (fun h => by rw [h, planPre_nil]) ihl ihr) L k rs
  · -- a node of level 0 beyond the filled part does not exist
    intro k rs _ hge _ hex
    rw [Offsets.startOf_zero] at hex
    rw [Offsets.nodeOf_zero] at hge
    omega
  · -- query leaf: no level `≥ bs` inside the node
    intro L k rs _ _ hq
    have hLB := queryLeaf_lt hq
    exact goodNode_leaf cf hT hd g (fun y _ _ L' h1 h2 => by omega)
  · -- half leaf: the node of level 0 does not exist
    intro k rs _ _ _ hh
    have hm : nChunks d.length ≤ midOf k 0 :=
      nChunks_le_of_le_toBytes (by have := startOf_lt_midOf k 0; omega) hh
    refine goodNode_leaf cf hT hd g (fun y hy1 hy2 L' _ h2 hmid => ?_)
    have : L' = 0 := by omega
    subst this
    rw [div_of_mem_range hy1 (by omega)] at hmid
    omega

end node

theorem two_pow_le_midOf (k L : Nat) : 2 ^ L ≤ midOf k L := by
  unfold midOf; omega

theorem decodeAll_good (cf : CollisionFreeOn hf S) (hT : ∀ x ∈ trueEvals hf d, S x)
    (hd : d.length ≤ 2 ^ 63) (fl : Flavour) (q : Ranges) (s : List UInt8)
    (hE : ∀ x ∈ runEvals hf fl (Spec.root hf d) ⟨d.length, bs⟩ q s, S x) :
    Trace (IG hf d bs 64 0 (nChunks d.length)) []
      (decodeAll hf fl (Spec.root hf d) ⟨d.length, bs⟩ q s).items := by
  have hsup := runEvals_sup hf fl (Spec.root hf d) d.length bs q s hd
  rw [decodeAll_eq_runL hf fl _ d.length bs q s hd]
  simp only [Out.toRun]
  have g := shifted_geo d.length 0 hd (by omega)
  obtain ⟨hh, hroot, hlt⟩ := rootLevel_spec d.length 0 hd
  have hcov := rootLevel_covers d.length 0 hd
  rw [Nat.add_zero] at hcov
  generalize hq : Ranges.truncate q d.length = q' at hsup
  cases q' with
  | nil => rw [plan_nil]; trivial
  | cons a q'' =>
    have h0 : startOf 0 (rootLevel ⟨d.length, 0⟩) = 0 := startOf_zero_idx _
    have hex : startOf 0 (rootLevel ⟨d.length, 0⟩) < (Tree.shifted ⟨d.length, 0⟩).2 := by
      rw [h0]; omega
    have := run_good (bs := bs) (root := (Tree.shifted ⟨d.length, 0⟩).1) cf hT hd g
      (rootLevel ⟨d.length, 0⟩) 0 (a :: q'') (List.cons_ne_nil _ _) hex true [] s
      (by rw [h0, Nat.min_eq_right hcov]; simp [isRootIv])
    rw [h0, Nat.min_eq_right hcov] at this
    refine Trace.lift (pre2 := []) (Nat.le_refl _) (Nat.le_refl _) ?_
      (this (fun y hy => hE y (hsup y hy))).1 _ (fun _ h => h)
    intro y _ hy L _ h1 _ hmid
    exfalso
    have h2 : 2 ^ (rootLevel ⟨d.length, 0⟩ + 1) ≤ 2 ^ L := Nat.pow_le_pow_right (by decide) h1
    have h3 := two_pow_le_midOf (y / 2 ^ (L + 1)) L
    have h4 : endOf 0 (rootLevel ⟨d.length, 0⟩) = 2 ^ (rootLevel ⟨d.length, 0⟩ + 1) := by
      simp [endOf]
    omega

end runs

end Bao.C07L
