import BaoModel.Ops1
import BaoProofs.Lemmas.SpecTruncL
import BaoProofs.Props.C17

/-!
# Lemmas for `Props/C17SpecRound.lean`: the verdict of `round` never rejects the model

* strings: `natList_ne_panic` (`parseNatList_natList` is in `Lemmas/SpecTruncL.lean`);
* range sets: membership changes exactly at the boundaries (`par_succ`, `par_const`), hence the
  boundary-list tests `meetsB` / `insideB` of the verdict decide "the interval meets / lies inside
  the set" (`meetsB_iff`, `insideB_iff`);
* the verdict of `opRound` restated as named definitions (`roundModel`, `roundCore`,
  `roundVerdict`; `opRound_eq` ties them to the operation by `rfl`), `roundCore_none`;
* unit by unit: `chunks_unit`, `groups_unit`, `full_unit` (from the C17 theorems);
* `parseNatList_bad`, `roundModel_bad` (a kind other than the three).
-/

namespace Bao.SpecRound
open Bao Bao.Ops Bao.Proto Bao.Ranges

theorem natList_ne_panic (l : List Nat) : natList l ≠ "panic" := by
  cases l with
  | nil => decide
  | cons a l => exact SpecTrunc.intercalate_ne a l (c := 'p') (by decide) (by decide) (by decide)

/-- on a strictly sorted list membership changes exactly at the boundaries -/
theorem par_succ {l : List Nat} (h : WF l = true) (x : Nat) :
    par l (x + 1) = xor (decide (x + 1 ∈ l)) (par l x) := by
  induction l with
  | nil => simp [par]
  | cons a l ih =>
    rw [par, par, ih (WF_tail h)]
    by_cases ha : a = x + 1
    · have hnot : x + 1 ∉ l := fun hm => by have := WF_head_lt h _ hm; omega
      have hx : ¬ x + 1 ≤ x := Nat.not_succ_le_self x
      simp [ha, hnot, hx]
    · have hd : decide (a ≤ x + 1) = decide (a ≤ x) := decide_eq_decide.2 (by omega)
      have hm : decide (x + 1 ∈ a :: l) = decide (x + 1 ∈ l) :=
        decide_eq_decide.2 (by simp [Ne.symm ha])
      rw [hd, hm]
      cases decide (a ≤ x) <;> cases decide (x + 1 ∈ l) <;> cases par l x <;> rfl
theorem par_const {l : List Nat} (h : WF l = true) (lo : Nat) :
    ∀ d, (∀ b ∈ l, ¬ (lo < b ∧ b ≤ lo + d)) → par l (lo + d) = par l lo := by
  intro d
  induction d with
  | zero => intro _; rfl
  | succ d ih =>
    intro hno
    rw [← Nat.add_assoc, par_succ h, decide_eq_false fun hm => hno _ hm ⟨by omega, by omega⟩,
      Bool.false_xor]
    exact ih (fun b hb hh => hno b hb ⟨hh.1, by omega⟩)

/-- "the interval `[lo, hi)` meets the set": the test of the verdict (`meets`, `outAny`) -/
def meetsB (R : List Nat) (lo hi : Nat) : Bool :=
  mem R lo || R.any fun b => lo < b && b < hi && mem R b

/-- "the interval `[lo, hi)` lies inside the set": the test of the verdict (`inside`, `outHas`) -/
def insideB (R : List Nat) (lo hi : Nat) : Bool :=
  mem R lo && !(R.any fun b => lo < b && b < hi)

theorem meetsB_iff {R : List Nat} (h : WF R = true) {lo hi : Nat} (hlt : lo < hi) :
    meetsB R lo hi = true ↔ ∃ x, lo ≤ x ∧ x < hi ∧ C17.Mem R x := by
  unfold meetsB C17.Mem mem
  simp only [Bool.or_eq_true, List.any_eq_true, Bool.and_eq_true, decide_eq_true_eq]
  constructor
  · rintro (h0 | ⟨b, _, ⟨h1, h2⟩, h3⟩)
    · exact ⟨lo, Nat.le_refl _, hlt, h0⟩
    · exact ⟨b, Nat.le_of_lt h1, h2, h3⟩
  · rintro ⟨x, h1, h2, h3⟩
    obtain ⟨d, rfl⟩ : ∃ d, x = lo + d := ⟨x - lo, by omega⟩
    clear h1
    induction d with
    | zero => exact Or.inl h3
    | succ d ih =>
      by_cases hc : contains R (lo + d) = true
      · exact ih (by omega) hc
      · -- membership changes between `lo + d` and `lo + d + 1`: that point is a boundary
        have hs := par_succ h (lo + d)
        rw [← contains_eq_par h, ← contains_eq_par h, Nat.add_assoc, h3, Bool.eq_false_iff.2 hc,
          Bool.xor_false] at hs
        exact Or.inr ⟨lo + d + 1, of_decide_eq_true hs.symm, ⟨by omega, by omega⟩, h3⟩

theorem insideB_iff {R : List Nat} (h : WF R = true) {lo hi : Nat} (hlt : lo < hi) :
    insideB R lo hi = true ↔ ∀ x, lo ≤ x → x < hi → C17.Mem R x := by
  unfold insideB C17.Mem mem
  simp only [Bool.and_eq_true, Bool.not_eq_true', List.any_eq_false, Bool.and_eq_true,
    decide_eq_true_eq]
  constructor
  · rintro ⟨h0, hno⟩ x h1 h2
    obtain ⟨d, rfl⟩ : ∃ d, x = lo + d := ⟨x - lo, by omega⟩
    rw [contains_eq_par h, par_const h lo d (fun b hb hh => hno b hb ⟨hh.1, by omega⟩),
      ← contains_eq_par h]
    exact h0
  · intro hall
    refine ⟨hall lo (Nat.le_refl _) hlt, ?_⟩
    rintro b hb ⟨h1, h2⟩
    obtain ⟨x, rfl⟩ : ∃ x, b = x + 1 := ⟨b - 1, by omega⟩
    have hf := par_succ h x
    rw [decide_eq_true hb, ← contains_eq_par h, ← contains_eq_par h, hall (x + 1) (by omega) h2,
      hall x (by omega) (by omega)] at hf
    cases hf

def roundModel (kind : String) (rs : List Nat) (bs : Nat) : String :=
  match kind with
  | "chunks" => natList (Ranges.roundUpToChunks rs)
  | "groups" => natList (Ranges.roundUpToChunkGroups rs bs)
  | "full" => natList (Ranges.fullChunkGroups rs bs)
  | _ => "bad-kind"

/-- unit size: bytes per chunk for `chunks`, chunks per group otherwise -/
def gOf (kind : String) (bs : Nat) : Nat := if kind == "chunks" then 1024 else 2 ^ bs

def loOf (g u : Nat) : Nat := u * g
def hiOf (g u : Nat) : Nat := min ((u + 1) * g) U64

def wantB (kind : String) (rs : List Nat) (g u : Nat) : Bool :=
  if kind == "full" then insideB rs (loOf g u) (hiOf g u) else meetsB rs (loOf g u) (hiOf g u)

def outHasB (kind : String) (out : List Nat) (g u : Nat) : Bool :=
  if kind == "chunks" then mem out u else insideB out (loOf g u) (hiOf g u)

def outAnyB (kind : String) (out : List Nat) (g u : Nat) : Bool :=
  if kind == "chunks" then mem out u else meetsB out (loOf g u) (hiOf g u)

def unitsOf (kind : String) (rs out : List Nat) (g : Nat) : List Nat :=
  let units := (rs ++ out.map (· * (if kind == "chunks" then 1024 else 1))).flatMap fun b =>
    let u := b / g
    [u - 1, u, u + 1]
  let lastUnit := (U64 - 1) / g
  (lastUnit :: units).filter (· ≤ lastUnit)

def roundCore (kind : String) (rs : List Nat) (bs : Nat) (out : List Nat) : Option String :=
  if !Ranges.WF out then some "not strictly sorted" else
  let g := gOf kind bs
  match (unitsOf kind rs out g).find? fun u =>
      wantB kind rs g u != outHasB kind out g u || outHasB kind out g u != outAnyB kind out g u with
  | none => none
  | some u =>
    some s!"unit {u}: want {wantB kind rs g u} got {outHasB kind out g u}/{outAnyB kind out g u}"

def roundVerdict (kind : String) (rs : List Nat) (bs : Nat) (impl : String) : Option String :=
  if impl == "panic" then some "panic" else
  match parseNatList impl with
  | none => some "malformed"
  | some out => roundCore kind rs bs out

/-- the named definitions ARE the `let`s of `opRound` -/
theorem opRound_eq (kind rs bs impl : String) (R : List Nat) (b : Nat)
    (h1 : parseNatList rs = some R) (h2 : bs.toNat? = some b) :
    (opRound [kind, rs, bs] impl).model = roundModel kind R b ∧
    (opRound [kind, rs, bs] impl).specFail = roundVerdict kind R b impl := by
  rw [opRound, h1, h2]
  exact ⟨rfl, rfl⟩

theorem le_last_of_mem_units {kind : String} {rs out : List Nat} {g u : Nat}
    (h : u ∈ unitsOf kind rs out g) : u ≤ (U64 - 1) / g := by
  unfold unitsOf at h
  simpa using (List.mem_filter.1 h).2

theorem roundCore_none (kind : String) (rs : List Nat) (bs : Nat) (out : List Nat)
    (hwf : Ranges.WF out = true)
    (hu : ∀ u, u ≤ (U64 - 1) / gOf kind bs →
      wantB kind rs (gOf kind bs) u = outHasB kind out (gOf kind bs) u ∧
      outHasB kind out (gOf kind bs) u = outAnyB kind out (gOf kind bs) u) :
    roundCore kind rs bs out = none := by
  unfold roundCore
  simp only [hwf, Bool.not_true, Bool.false_eq_true, if_false]
  rw [List.find?_eq_none.2]
  intro u hmem
  obtain ⟨e1, e2⟩ := hu u (le_last_of_mem_units hmem)
  rw [e1, e2]
  simp

theorem U64_eq : U64 = 2 ^ 64 := by decide

theorem unit_iff {p : Nat} (hp : 0 < p) (u : Nat) (hu : u ≤ (U64 - 1) / p) (x : Nat) :
    (x < 2 ^ 64 ∧ x / p = u) ↔ (loOf p u ≤ x ∧ x < hiOf p u) := by
  have h1 : u * p ≤ U64 - 1 := (le_div_iff' hp _ _).1 hu
  rw [Nat.div_eq_iff hp]
  unfold loOf hiOf
  rw [Nat.add_mul, Nat.one_mul, U64_eq] at *
  generalize u * p = m at *
  omega

theorem unit_facts {p : Nat} (hp : 0 < p) (u : Nat) (hu : u ≤ (U64 - 1) / p) :
    loOf p u < hiOf p u ∧ loOf p u / p = u := by
  have h1 : u * p ≤ U64 - 1 := (le_div_iff' hp _ _).1 hu
  refine ⟨?_, by unfold loOf; exact Nat.mul_div_cancel _ hp⟩
  unfold loOf hiOf
  rw [Nat.add_mul, Nat.one_mul, U64_eq] at *
  generalize u * p = m at *
  omega

theorem chunks_unit {R : List Nat} (h : WF R = true) (hN : C17.Bounded R) (u : Nat)
    (hu : u ≤ (U64 - 1) / 1024) :
    meetsB R (loOf 1024 u) (hiOf 1024 u) = mem (roundUpToChunks R) u := by
  have hlt := (unit_facts (p := 1024) (by omega) u hu).1
  rw [Bool.eq_iff_iff, meetsB_iff h hlt]
  show _ ↔ C17.Mem (roundUpToChunks R) u
  rw [C17.chunks h hN u]
  unfold loOf hiOf U64 at *
  exact exists_congr fun x => by
    rw [← and_assoc, ← and_assoc]
    exact and_congr_left' (by omega)

theorem meetsB_unit {R : List Nat} (h : WF R = true) {p : Nat} (hp : 0 < p) (u : Nat)
    (hu : u ≤ (U64 - 1) / p) :
    meetsB R (loOf p u) (hiOf p u) = true ↔ ∃ x, x < 2 ^ 64 ∧ x / p = u ∧ C17.Mem R x := by
  rw [meetsB_iff h (unit_facts hp u hu).1]
  exact exists_congr fun x => by rw [← and_assoc, ← and_assoc, unit_iff hp u hu]

theorem insideB_unit {R : List Nat} (h : WF R = true) {p : Nat} (hp : 0 < p) (u : Nat)
    (hu : u ≤ (U64 - 1) / p) :
    insideB R (loOf p u) (hiOf p u) = true ↔ ∀ x, x < 2 ^ 64 → x / p = u → C17.Mem R x := by
  rw [insideB_iff h (unit_facts hp u hu).1]
  exact forall_congr' fun x => by rw [← and_imp, ← and_imp, unit_iff hp u hu]

/-- a set `O` whose membership is constant (`↔ Q`) on the unit `u` passes both comparisons of the
verdict against a `want` test that answers `Q` -/
theorem unit_const {O : List Nat} (hw : WF O = true) {p : Nat} (hp : 0 < p) (u : Nat)
    (hu : u ≤ (U64 - 1) / p) {Q : Prop}
    (hQ : ∀ x, x < 2 ^ 64 → x / p = u → (C17.Mem O x ↔ Q)) {w : Bool} (hwant : w = true ↔ Q) :
    w = insideB O (loOf p u) (hiOf p u) ∧
    insideB O (loOf p u) (hiOf p u) = meetsB O (loOf p u) (hiOf p u) := by
  obtain ⟨hlt, hdiv⟩ := unit_facts hp u hu
  obtain ⟨hlo, -⟩ := (unit_iff hp u hu (loOf p u)).2 ⟨Nat.le_refl _, hlt⟩
  have t1 : insideB O (loOf p u) (hiOf p u) = true ↔ Q := by
    rw [insideB_unit hw hp u hu]
    exact ⟨fun hall => (hQ _ hlo hdiv).1 (hall _ hlo hdiv), fun q x hx hxu => (hQ x hx hxu).2 q⟩
  have t2 : meetsB O (loOf p u) (hiOf p u) = true ↔ Q := by
    rw [meetsB_unit hw hp u hu]
    exact ⟨fun ⟨x, hx, hxu, hm⟩ => (hQ x hx hxu).1 hm, fun q => ⟨_, hlo, hdiv, (hQ _ hlo hdiv).2 q⟩⟩
  exact ⟨by rw [Bool.eq_iff_iff, hwant, t1], by rw [Bool.eq_iff_iff, t1, t2]⟩

theorem groups_unit {R : List Nat} (b : Nat) (h : WF R = true) (hN : C17.Bounded R) (u : Nat)
    (hu : u ≤ (U64 - 1) / 2 ^ b) :
    meetsB R (loOf (2 ^ b) u) (hiOf (2 ^ b) u)
      = insideB (roundUpToChunkGroups R b) (loOf (2 ^ b) u) (hiOf (2 ^ b) u) ∧
    insideB (roundUpToChunkGroups R b) (loOf (2 ^ b) u) (hiOf (2 ^ b) u)
      = meetsB (roundUpToChunkGroups R b) (loOf (2 ^ b) u) (hiOf (2 ^ b) u) :=
  unit_const (C17.groups_wf b h hN).1 (Nat.two_pow_pos b) u hu
    (fun x hx hxu => by rw [C17.groups b h hN x hx, hxu])
    (meetsB_unit h (Nat.two_pow_pos b) u hu)

theorem full_unit {R : List Nat} (b : Nat) (hb : b ≤ 64) (h : WF R = true) (hN : C17.Bounded R)
    (u : Nat) (hu : u ≤ (U64 - 1) / 2 ^ b) :
    insideB R (loOf (2 ^ b) u) (hiOf (2 ^ b) u)
      = insideB (fullChunkGroups R b) (loOf (2 ^ b) u) (hiOf (2 ^ b) u) ∧
    insideB (fullChunkGroups R b) (loOf (2 ^ b) u) (hiOf (2 ^ b) u)
      = meetsB (fullChunkGroups R b) (loOf (2 ^ b) u) (hiOf (2 ^ b) u) :=
  unit_const (C17.full_wf b hb h hN).1 (Nat.two_pow_pos b) u hu
    (fun x hx hxu => by rw [C17.full b hb h hN x hx, hxu])
    (insideB_unit h (Nat.two_pow_pos b) u hu)

theorem parseNatList_bad : parseNatList "bad-kind" = none := by
  have hs : "bad-kind".splitOn "," = ["bad-kind"] := by
    rw [SpecIndex.splitOn_sep SpecTrunc.cm_toList]; rfl
  have hn : "bad-kind".toNat? = none := by
    apply String.toNat?_eq_none
    rw [Bool.eq_false_iff]
    intro h
    have := (String.isNat_iff.1 h).2.1 'b' (by decide)
    revert this
    decide
  unfold parseNatList
  rw [if_neg (by decide), hs]
  simp [List.mapM_cons, hn]

theorem roundModel_bad (kind : String) (R : List Nat) (b : Nat)
    (hk : ¬ (kind = "chunks" ∨ kind = "groups" ∨ kind = "full")) :
    roundModel kind R b = "bad-kind" := by
  unfold roundModel
  split
  · exact absurd (Or.inl rfl) hk
  · exact absurd (Or.inr (Or.inl rfl)) hk
  · exact absurd (Or.inr (Or.inr rfl)) hk
  · rfl

end Bao.SpecRound
