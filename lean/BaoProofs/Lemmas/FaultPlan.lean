import BaoProofs.Lemmas.FaultL
import BaoProofs.Lemmas.DecSim
import BaoProofs.Lemmas.PlanPreRefine

/-!
# C10 side condition: an empty leaf of a response plan is the leaf of the empty blob (offset 0)
-/

namespace Bao.FaultPlan

open Bao Bao.Spec Bao.Bits Bao.PlanPre Bao.FaultL

/-- an empty leaf of the plan of a whole tree starts at chunk 0: a leaf is `[s, e)` clipped to the
blob, and non-empty when it starts inside the blob (`leaf_shape`) -/
theorem plan_leaf_pos (size bs ml : Nat) (q : Ranges) (hs : size ≤ 2 ^ 63) (hbs : bs ≤ 10) :
    ∀ s z r x, Chunk.leaf s z r x ∈ plan ⟨size, bs⟩ ml q → z = 0 → s = 0 := by
  intro s z r x hm hz
  obtain ⟨e, hse, h0, rfl, -, -⟩ := leaf_shape (shifted_geo size bs hs hbs) hm
  exact h0.resolve_right fun h =>
    Nat.ne_of_gt (Nat.sub_pos_of_lt (Nat.lt_min.2 ⟨toBytes_lt hse, h⟩)) hz

variable {H : Type}

/-- an item of the decoder comes from the item `c` of its plan iterator, and the decoder moves on to
the iterator's next state; a leaf item has the start of `c` and the size of `c` as its length.
(The flavours differ in when the children are pushed, which an item does not show.) -/
theorem dec_next_item (hf : HashFns H) [BEq H] (fl : Flavour) (d d' : Dec H) (i : Item H)
    (h : d.next hf fl = .item i d') :
    ∃ c, d.iter.next = .item c d'.iter ∧ ∀ off data, i = .leaf off data →
      ∃ start isRoot rs, c = .leaf start data.length isRoot rs ∧ off = toBytes start := by
  obtain ⟨c, it, st', s', hr, hs, rfl⟩ := (DecSim.next_item_iff hf).1 h
  obtain ⟨hl, -, -, -, -, rfl, -, -⟩ := DecodeSpec.stepC_item hs
  unfold Response.next at hr
  cases hn : d.iter.next with
  | done => rw [hn] at hr; cases hr
  | panic => rw [hn] at hr; cases hr
  | item c0 it0 =>
    rw [hn] at hr
    cases hr
    refine ⟨c0, rfl, fun off data hi => ?_⟩
    cases c0 with
    | parent => cases hi
    | leaf start size isRoot rs =>
      cases hi
      exact ⟨start, isRoot, rs, by rw [List.length_take, Nat.min_eq_left hl]; rfl, rfl⟩

theorem run_item {fuel : Nat} {it it' : PrePartial} {c : Chunk} {p : List Chunk}
    (hc : it.next = .item c it') (hp : PrePartial.run (fuel + 1) it = some p) :
    ∃ p', PrePartial.run fuel it' = some p' ∧ p = c :: p' := by
  simp only [PrePartial.run, hc, Option.map_eq_some_iff] at hp
  obtain ⟨p', hrun, rfl⟩ := hp
  exact ⟨p', hrun, rfl⟩

theorem writes_in_plan (hf : HashFns H) [BEq H] (fl : Flavour) (tree : Tree) (fuel : Nat)
    (d : Dec H) (sink : Sink H) (p : List Chunk) (hp : PrePartial.run fuel d.iter = some p) :
    ∀ w ∈ (decodeRangesAux hf fl tree fuel d sink [] []).writes,
      ∃ s r x, Chunk.leaf s w.2 r x ∈ p ∧ w.1 = toBytes s := by
  induction fuel generalizing d sink p with
  | zero => exact fun _ hw => nomatch hw
  | succ fuel ih =>
    unfold decodeRangesAux
    cases hn : d.next hf fl with
    | done d' | err e d' | panic => exact fun _ hw => nomatch hw
    | item i d' =>
      obtain ⟨c, hc, hl⟩ := dec_next_item hf fl d d' i hn
      obtain ⟨p', hrun, rfl⟩ := run_item hc hp
      have ih' : ∀ sink' : Sink H, ∀ w ∈ (decodeRangesAux hf fl tree fuel d' sink' [] []).writes,
          ∃ s r x, Chunk.leaf s w.2 r x ∈ c :: p' ∧ w.1 = toBytes s := fun sink' w hw => by
        obtain ⟨s, r', x, h1, h2⟩ := ih d' sink' p' hrun w hw
        exact ⟨s, r', x, List.mem_cons_of_mem _ h1, h2⟩
      cases i with
      | parent node l r =>
        simp only
        split
        · split
          · rw [aux_acc]
            exact ih' _
          · exact fun _ hw => nomatch hw
          · exact fun _ hw => nomatch hw
        · exact ih' _
      | leaf off data =>
        obtain ⟨start, isRoot, rs, rfl, hoff⟩ := hl off data rfl
        simp only
        rw [aux_acc]
        simp only [List.reverse_cons, List.reverse_nil, List.nil_append, List.singleton_append]
        intro w hw
        rcases List.mem_cons.mp hw with rfl | hw
        · exact ⟨start, isRoot, rs, List.mem_cons_self, hoff⟩
        · exact ih' _ w hw

/-- the hypothesis of `no_fault_eq` holds for every blob size the crate supports -/
theorem decodeRanges_empty_writes (hf : HashFns H) [BEq H] (fl : Flavour) (s : List UInt8)
    (q : Ranges) (sink : Sink H) (hs : sink.ob.tree.size ≤ 2 ^ 63) :
    ∀ w ∈ (decodeRanges hf fl s q sink).writes, w.2 = 0 → w.1 = 0 := by
  intro w hw hz
  unfold decodeRanges at hw
  simp only at hw
  have hrun := new_run_eq sink.ob.tree.size 0 sink.ob.tree.bs
    (Ranges.truncate q sink.ob.tree.size) hs (by omega)
    (PrePartial.fuelFor ⟨sink.ob.tree.size, 0⟩ + 1)
    (by have := plan_length_le ⟨sink.ob.tree.size, 0⟩ sink.ob.tree.bs
          (Ranges.truncate q sink.ob.tree.size)
        unfold PrePartial.fuelFor; omega)
  have hfuel : PrePartial.fuelFor (Dec.new sink.ob.root sink.ob.tree q s).iter.tree =
      PrePartial.fuelFor ⟨sink.ob.tree.size, 0⟩ := by
    simp only [Dec.new, Response.new, PrePartial.new]
  rw [hfuel] at hw
  obtain ⟨st, r, x, hmem, hoff⟩ := writes_in_plan hf fl _ _ _ sink _
    (by simpa [Dec.new, Response.new] using hrun) w hw
  have := plan_leaf_pos sink.ob.tree.size 0 sink.ob.tree.bs _ hs (by omega) st w.2 r x hmem hz
  rw [hoff, this]; rfl

end Bao.FaultPlan
