import BaoProofs.Props.C06
import BaoProofs.Lemmas.SpecObL
import BaoProofs.Lemmas.PlanPreRefine
import BaoProofs.Lemmas.SpecTruncL
import BaoModel.Ops3

/-!
# Lemmas for `Props/C06SpecValid.lean`: the verdict of `valid` never rejects the model

The `let`s of `Ops.opValid` are given names (`opValid_eq` by `rfl`).  The verdict's notions are the
C06 notions: `Store.load` = `Ops.specLoad` on persisted nodes (`load_specLoad`), `ValidL.LinkedC` =
`Ops.verifiableBlock` (`linked_iff_vb`, `verifiable_iff`), `touchedB_iff`, `mem_want_iff`; with them
the C06 theorems give run = `⟨want, ok⟩` (`run_eq_want`) when the data file is not cut.  A data file
that ends early is outside the C06 theorems: `EndSpec`, `rec_end` (by `ValidL.rec_induction`),
`validRanges_end` (any store), `run_short`.  The rest is about strings: the output line
(`validModelStr_eq`, `split_model`), the verdict on it (`verdict_want`, `verdict_short`,
`verdict_run_data`), the corruptions (`applyCorruptionExt_len`, `applyCorruptionExt_td`).
-/

namespace Bao.SpecValid
open Bao Bao.Spec Bao.Ops Bao.Proto Bao.ValidL Bao.SpecIndex

/-! ## the `let`s of `opValid` as named definitions (identical source; `opValid_eq` by `rfl`) -/

/-- the store the validator runs on: the intact store with data and root replaced -/
def corrStore (kind : StoreKind) (d : List UInt8) (bs : Nat) (ob' root' : List UInt8) : Store HB :=
  let st0 := intactStore kind d bs
  { st0 with data := ob', root := root' }

/-- `run` of `opValid` -/
def validRun (fl : Flavour) (kind : StoreKind) (d : List UInt8) (bs : Nat) (ranges : List Nat)
    (d' ob' root' : List UInt8) (withData : Bool) : ValRun :=
  let st := corrStore kind d bs ob' root'
  if withData then validRanges hf fl st d' ranges else validOutboardRanges hf fl st ranges

/-- the model's output line -/
def validModelStr (run : ValRun) : String :=
  let ys := if run.yields.isEmpty then "-" else ",".intercalate (run.yields.map Proto.pair)
  let e := match run.terminal with | .ok => "ok" | .err e => s!"{ioErrStr e}@last" | .panic => "panic"
  s!"{ys} {e}"

/-- `touchedOf` of `opValid` -/
def touchedB (size bs : Nat) (ranges : List Nat) (i : Nat) : Bool :=
  let blocks := Spec.nBlocks size bs
  let n := (size + 1023) / 1024
  let g := 2 ^ bs
  let a := i * g
  let e := min ((i + 1) * g) n
  blocks == 1 || (List.range (max 1 (e - a))).any fun c => Spec.selected size ranges (a + c)

/-- `want` of `opValid` -/
def wantList (kind : StoreKind) (size bs : Nat) (ranges : List Nat) (d' ob' root' : List UInt8)
    (withData : Bool) : List (Nat × Nat) :=
  let blocks := Spec.nBlocks size bs
  let n := (size + 1023) / 1024
  let g := 2 ^ bs
  (List.range blocks).filterMap fun i =>
    let a := i * g
    let e := min ((i + 1) * g) n
    let touched := blocks == 1 || (List.range (max 1 (e - a))).any fun c => Spec.selected size ranges (a + c)
    if touched && verifiableBlock kind size bs d' ob' withData i (Spec.log2ceil 64 blocks) 0 root' true
    then some (a, e) else none

/-- `shortGroups` of `opValid` -/
def shortGroups (size bs : Nat) (ranges : List Nat) (d' : List UInt8) (withData : Bool) : List Nat :=
  let blocks := Spec.nBlocks size bs
  let g := 2 ^ bs
  if !withData then [] else
    (List.range blocks).filter fun i => touchedB size bs ranges i && min ((i + 1) * g * 1024) size > d'.length

/-- the verdict of `opValid` -/
def validVerdict (want : List (Nat × Nat)) (short : List Nat) (bs : Nat) (d' : List UInt8)
    (impl : String) : Option String :=
  let g := 2 ^ bs
  let wantS := if want.isEmpty then "-" else ",".intercalate (want.map Proto.pair)
  match impl.splitOn " " with
  | [iy, ie] =>
    if short.isEmpty then
      if ie != "ok" then some s!"validator error {ie}"
      else if iy != wantS then some s!"reported {iy}, verifiable and touched {wantS}"
      else none
    else
      let rep := if iy == "-" then [] else iy.splitOn ","
      let wantL := want.map Proto.pair
      let firstShort := short.head!
      let before := (want.filter fun (a, _) => a < firstShort * g).map Proto.pair
      if !(rep.all fun x => wantL.contains x) then
        some s!"reported {iy} with the data file cut at {d'.length}, verifiable and touched {wantS}"
      else if !(before.all fun x => rep.contains x) then
        some s!"reported {iy}, missing a verifiable group before the first short one; verifiable {wantS}"
      else if ie != "ok" && !(ie.startsWith "Io(UnexpectedEof") then some s!"validator error {ie} on a short data file"
      else none
  | _ => some "malformed"

theorem opValid_eq (a b c e f g m impl : String) (fl : Flavour) (kind : StoreKind)
    (d : List UInt8) (bs : Nat) (ranges : List Nat) (d' ob' root' : List UInt8)
    (h1 : flavour? a = some fl) (h2 : storeKind? b = some kind) (h3 : blob c = some d)
    (h4 : e.toNat? = some bs) (h5 : parseNatList f = some ranges)
    (h6 : applyCorruptionExt g d (intactStore kind d bs).data (intactStore kind d bs).root
      = some (d', ob', root')) :
    opValid [a, b, c, e, f, g, m] impl =
      { model := validModelStr (validRun fl kind d bs ranges d' ob' root' (m == "data")),
        specFail := validVerdict (wantList kind d.length bs ranges d' ob' root' (m == "data"))
          (shortGroups d.length bs ranges d' (m == "data")) bs d' impl,
        nontrivial := Spec.nBlocks d.length bs > 1 } := by
  unfold opValid
  simp only [h1, h2, h3, h4, h5, h6]
  rfl

theorem take32_take64 (l : List UInt8) : (l.take 64).take 32 = l.take 32 := by
  rw [List.take_take]; rfl

theorem take32_drop32_take64 (l : List UInt8) (a : Nat) :
    (((l.drop a).take 64).drop 32).take 32 = (l.drop (a + 32)).take 32 := by
  rw [List.drop_take, List.take_take, List.drop_drop]
  rfl

theorem load_specLoad (fl : Flavour) (kind : StoreKind) (root : HB) (size bs k M : Nat)
    (backing : List UInt8) (hs : size ≤ 2 ^ 63) (hbs : bs ≤ 10) (hM : bs ≤ M)
    (hm : Spec.midOf k M < Spec.nChunks size)
    (hdl : backing.length = Tree.outboardSize ⟨size, bs⟩) :
    ∃ p, specLoad kind size bs backing (Spec.nodeOf k M) = some p ∧
      Store.load hf fl (⟨kind, root, ⟨size, bs⟩, backing⟩ : Store HB) (Spec.nodeOf k M)
        = .ok (some p) := by
  have hL := Nat.le_of_lt (level_lt_64 hs hm)
  have hx : Spec.nodeOf k M < 2 ^ 64 := by
    have h1 : Spec.nodeOf k M + 1 = Spec.midOf k M := by rw [Bits.nodeOf_succ, Bits.midOf_eq]
    have h2 := Offsets.nChunks_le size hs
    omega
  have hin : Ops.inTree size bs (Spec.nodeOf k M) = true := by
    unfold Ops.inTree
    simp only [Bits.levelOf_nodeOf hL, Bits.indexOf_nodeOf hL, hm, decide_true, Bool.true_or]
  obtain ⟨i, hi⟩ : ∃ i, idxOf kind size bs (Spec.nodeOf k M) = some i := by
    unfold idxOf
    split
    · exact postIndex_isSome size bs k M hs hL hM hm
    · exact preIndex_isSome size bs k M hs hL hM hm
  by_cases hk : kind = .empty
  · subst hk
    refine ⟨(zeros32, zeros32), rfl, ?_⟩
    exact (store_some_empty hf fl root size bs _ i backing (zeros32, zeros32) hs hbs hx hin hi).1
  · have hlt := idxOf_lt kind size bs _ i hs hbs hx hi
    have hsz : Tree.outboardSize ⟨size, bs⟩ = (Tree.blocks ⟨size, bs⟩ - 1) * 64 := rfl
    have hinb : i * 64 + 64 ≤ backing.length := by omega
    have hsl := (slot_model kind root size bs _ backing hs hbs hx hin hk).trans hi
    have hld := C12Store.load_some hf fl (s := ⟨kind, root, ⟨size, bs⟩, backing⟩) hk hsl hinb
    refine ⟨_, ?_, hld⟩
    have hidx : (if isPostKind kind then Spec.postIndex size bs (Spec.nodeOf k M)
        else Spec.preIndex size bs (Spec.nodeOf k M)) = some i := hi
    unfold specLoad
    cases kind with
    | empty => exact absurd rfl hk
    | _ =>
      simp only [hidx, Option.map_some, parsePair, WriteAtL.blockAt, take32_take64,
        take32_drop32_take64]
      rfl

section linked
open PlanPre

theorem vb_zero (kind : StoreKind) (size bs : Nat) (data ob : List UInt8) (wd : Bool) (i j : Nat)
    (owed : HB) (isRoot : Bool) :
    verifiableBlock kind size bs data ob wd i 0 j owed isRoot =
      if !wd then true else
        hashSubtree hf (j * 2 ^ bs) ((data.drop (j * 2 ^ bs * 1024)).take (2 ^ bs * 1024)) isRoot
          == owed := rfl

theorem vb_succ (kind : StoreKind) (size bs : Nat) (data ob : List UInt8) (wd : Bool) (i hh j : Nat)
    (owed : HB) (isRoot : Bool) :
    verifiableBlock kind size bs data ob wd i (hh + 1) j owed isRoot =
      if j * 2 ^ (hh + 1) + 2 ^ hh ≥ Spec.nBlocks size bs then
        verifiableBlock kind size bs data ob wd i hh (2 * j) owed isRoot
      else
        match specLoad kind size bs ob (Spec.nodeOf j (hh + bs)) with
        | none => false
        | some (l, r) =>
          if hf.parentCv l r isRoot != owed then false
          else if i < j * 2 ^ (hh + 1) + 2 ^ hh then
            verifiableBlock kind size bs data ob wd i hh (2 * j) l false
          else verifiableBlock kind size bs data ob wd i hh (2 * j + 1) r false := rfl

theorem take_eq_of {α : Type} (l : List α) (n1 n2 : Nat)
    (h : n1 = n2 ∨ (l.length ≤ n1 ∧ l.length ≤ n2)) : l.take n1 = l.take n2 := by
  rcases h with h | ⟨h1, h2⟩
  · rw [h]
  · rw [List.take_of_length_le h1, List.take_of_length_le h2]

/-- the data check of chunk group `j`: the verdict hashes the `2^bs·1024` bytes from the group's
start (as many as the file has), the model's notion hashes the bytes up to the end of the group; the
same bytes when the data file is not longer than the blob -/
theorem leaf_iff (kind : StoreKind) (size bs : Nat) (data ob : List UInt8) (wd : Bool) (i j : Nat)
    (owed : HB) (isRoot : Bool) (hd : data.length ≤ size) :
    verifiableBlock kind size bs data ob wd i 0 j owed isRoot = true ↔
      LeafOk hf data wd (groupRange ⟨size, bs⟩ j).1 (toBytes (groupRange ⟨size, bs⟩ j).1)
        (min (toBytes (groupRange ⟨size, bs⟩ j).2) size) owed isRoot := by
  rw [vb_zero]
  unfold LeafOk
  cases wd with
  | false => simp
  | true =>
    simp only [Bool.not_true, Bool.false_eq_true, if_false, beq_iff_eq, forall_const]
    have : bytesAt data (toBytes (j * 2 ^ bs))
          (min (toBytes (min ((j + 1) * 2 ^ bs) (chunksOf size))) size)
        = (data.drop (j * 2 ^ bs * 1024)).take (2 ^ bs * 1024) := by
      have hC := le_toBytes_chunksOf size
      unfold bytesAt toBytes at *
      apply take_eq_of
      rw [List.length_drop, Nat.add_mul, Nat.one_mul]
      generalize j * 2 ^ bs = a at *
      generalize 2 ^ bs = g at *
      generalize chunksOf size = C at *
      omega
    exact this ▸ Iff.rfl

variable {size bs F : Nat}

theorem inner_exists_iff (g : Geo size bs F) (k L : Nat) :
    Spec.nodeOf k (L + 1) < F ↔ Spec.midOf k (L + 1) < Tree.blocks ⟨size, bs⟩ := by
  have h1 := Offsets.nodeOf_succ_odd k L
  have h2 := g.odd
  have h3 := g.le_blocks
  have h4 := g.ge_blocks
  have e : Spec.nodeOf k (L + 1) + 1 = Spec.midOf k (L + 1) := by
    rw [Bits.nodeOf_succ, Bits.midOf_eq]
  omega

theorem midOf_unfold (k L : Nat) : k * 2 ^ (L + 1) + 2 ^ L = Spec.midOf k L := rfl

/-- Both sides walk from `(k, L)` to group `i` and test the same things: the node exists iff its
mid is a block of the tree (`inner_exists_iff`), the two loads give the same pair
(`load_specLoad`), the group lies on the same side (`groupRange_lt_mid`); at the bottom the two
data checks hash the same bytes (`leaf_iff`). -/
theorem linked_iff_vb (fl : Flavour) (kind : StoreKind) (root : HB) (data backing : List UInt8)
    (wd : Bool) (g : Geo size bs F) (hs : size ≤ 2 ^ 63) (hbs : bs ≤ 10)
    (hdl : backing.length = Tree.outboardSize ⟨size, bs⟩) (hd : data.length ≤ size) :
    ∀ (L k i : Nat) (owed : HB) (isRoot : Bool), Spec.startOf k L < F → Spec.startOf k L ≤ i →
      i < Spec.endOf k L → i < Tree.blocks ⟨size, bs⟩ →
      (LinkedC hf (Store.load hf fl (⟨kind, root, ⟨size, bs⟩, backing⟩ : Store HB)) data wd
          ⟨size, bs⟩ F L k owed isRoot (groupRange ⟨size, bs⟩ i) ↔
        verifiableBlock kind size bs data backing wd i (L + 1) k owed isRoot = true) := by
  intro L
  induction L with
  | zero =>
    intro k i owed isRoot hF hlo hhi hib
    rw [Offsets.startOf_zero] at hF hlo
    rw [show Spec.endOf k 0 = 2 * k + 2 by simp [Spec.endOf]; omega] at hhi
    have hn : Spec.nodeOf k 0 < F := by rw [Offsets.nodeOf_zero]; exact hF
    have hsm := Bits.startOf_lt_midOf k bs
    simp only [LinkedC, hn, true_and]
    rw [vb_succ]
    simp only [Nat.zero_add, Nat.pow_zero, Nat.pow_one, ← Offsets.blocks_eq_nBlocks]
    by_cases hm : toBytes (Spec.midOf k bs) < size
    · obtain ⟨g0, g1, hb⟩ := groupRange_pair hm
      rw [if_pos hm, if_neg (by omega)]
      obtain ⟨⟨lh, rh⟩, hp1, hp2⟩ := load_specLoad fl kind root size bs k bs backing hs hbs
        (Nat.le_refl _) (lt_nChunks_of_toBytes_lt hm) hdl
      simp only [hp1, hp2]
      by_cases hpc : hf.parentCv lh rh isRoot = owed
      · simp only [hpc, bne_self_eq_false, Bool.false_eq_true, if_false, true_and]
        obtain rfl | rfl : i = 2 * k ∨ i = 2 * k + 1 := by omega
        · simp only [g0, hsm, if_true, true_and]
          rw [if_pos (by omega), leaf_iff kind size bs data backing wd _ _ lh false hd]
          simp only [g0, Nat.min_eq_left (Nat.le_of_lt hm)]
        · simp only [g1, Nat.lt_irrefl, if_false, true_and]
          rw [if_neg (by omega), leaf_iff kind size bs data backing wd _ _ rh false hd]
          simp only [g1, min_chunksOf_hi]
      · have hne : (hf.parentCv lh rh isRoot != owed) = true := by simpa using hpc
        simp only [hne, if_true, Bool.false_eq_true, iff_false]
        exact fun h => hpc h.1
    · obtain ⟨g0, hb⟩ := groupRange_half hm
      obtain rfl : i = 2 * k := by omega
      rw [if_neg hm, if_pos (by omega), leaf_iff kind size bs data backing wd _ _ owed isRoot hd]
      simp only [g0, true_and, min_chunksOf_hi]
  | succ L ih =>
    intro k i owed isRoot hF hlo hhi hib
    have hex := inner_exists_iff g k L
    simp only [LinkedC]
    rw [vb_succ, midOf_unfold, ← Offsets.blocks_eq_nBlocks]
    by_cases hk : Spec.nodeOf k (L + 1) < F
    · have hmb := hex.1 hk
      rw [if_pos hk, if_neg (by omega)]
      obtain ⟨p, hp1, hp2⟩ := load_specLoad fl kind root size bs k (L + 1 + bs) backing hs hbs
        (by omega) (g.mid_lt_nChunks hk) hdl
      obtain ⟨lh, rh⟩ := p
      simp only [hp1, hp2]
      by_cases hpc : hf.parentCv lh rh isRoot = owed
      · have hne : (hf.parentCv lh rh isRoot != owed) = false := by simp [hpc]
        simp only [hne, Bool.false_eq_true, if_false]
        refine Iff.trans (and_iff_right hpc) ?_
        simp only [groupRange_lt_mid size bs i k (L + 1)]
        by_cases hi : i < Spec.midOf k (L + 1)
        · rw [if_pos hi, if_pos hi]
          exact ih (2 * k) i lh false (by rw [Bits.startOf_left]; exact hF)
            (by rw [Bits.startOf_left]; exact hlo) (by rw [Bits.endOf_left]; exact hi) hib
        · rw [if_neg hi, if_neg hi]
          exact ih (2 * k + 1) i rh false (g.right_exists hk)
            (by rw [Bits.startOf_right]; omega) (by rw [Bits.endOf_right]; exact hhi) hib
      · have hne : (hf.parentCv lh rh isRoot != owed) = true := by simp [hpc]
        simp only [hne, if_true, Bool.false_eq_true, iff_false]
        exact fun h => hpc h.1
    · have hmb : ¬ Spec.midOf k (L + 1) < Tree.blocks ⟨size, bs⟩ := fun h => hk (hex.2 h)
      rw [if_neg hk, if_pos (by omega)]
      exact ih (2 * k) i owed isRoot (by rw [Bits.startOf_left]; exact hF)
        (by rw [Bits.startOf_left]; exact hlo) (by rw [Bits.endOf_left]; omega) hib

end linked

section top
open PlanPre

/-- (same statement as `log2ceil_min` in `Lemmas/DecodeBridge.lean`, which this file does not
import) -/
theorem log2ceil_min' (f n : Nat) : Spec.log2ceil f n = 0 ∨ 2 ^ (Spec.log2ceil f n - 1) < n := by
  induction f generalizing n with
  | zero => left; rfl
  | succ f ih =>
    unfold Spec.log2ceil
    by_cases h1 : n ≤ 1
    · left; simp [h1]
    · rw [if_neg h1]
      right
      simp only [Nat.add_sub_cancel]
      rcases ih ((n + 1) / 2) with h0 | h0
      · rw [h0]; simp; omega
      · generalize Spec.log2ceil f ((n + 1) / 2) = l at h0 ⊢
        cases l with
        | zero => simp at h0 ⊢; omega
        | succ l => simp only [Nat.add_sub_cancel] at h0; rw [Nat.pow_succ]; omega

theorem log2ceil_blocks (size bs : Nat) (hs : size ≤ 2 ^ 63) (hb : Tree.blocks ⟨size, bs⟩ ≠ 1) :
    Spec.log2ceil 64 (Spec.nBlocks size bs) = rootLevel ⟨size, bs⟩ + 1 := by
  rw [← Offsets.blocks_eq_nBlocks]
  have hpos := Offsets.blocks_pos size bs
  have hle := Offsets.blocks_le size bs hs
  have h1 := Offsets.log2ceil_spec 64 (Tree.blocks ⟨size, bs⟩) (by omega)
  have h2 := log2ceil_min' 64 (Tree.blocks ⟨size, bs⟩)
  obtain ⟨h3, h4⟩ := rootLevel_char size bs hs
  generalize Spec.log2ceil 64 (Tree.blocks ⟨size, bs⟩) = a at *
  generalize rootLevel ⟨size, bs⟩ = r at *
  generalize Tree.blocks ⟨size, bs⟩ = n at *
  have ha : a ≠ 0 := by
    rintro rfl; simp at h1; omega
  rcases h2 with h2 | h2
  · exact absurd h2 ha
  have hle : a - 1 < r + 1 :=
    (Nat.pow_lt_pow_iff_right (a := 2) (by decide)).1 (Nat.lt_of_lt_of_le h2 h3)
  rcases h4 with h4 | h4
  · omega
  · have : r < a := (Nat.pow_lt_pow_iff_right (a := 2) (by decide)).1 (Nat.lt_of_lt_of_le h4 h1)
    omega

/-- A single group: the one data check (`leaf_iff`).  Otherwise `linked_iff_vb` at the shifted
root, whose level + 1 is the height the verdict starts at (`log2ceil_blocks`), for the groups of
the tree (`group_iff_top`). -/
theorem verifiable_iff (fl : Flavour) (kind : StoreKind) (root : HB) (size bs : Nat)
    (data backing : List UInt8) (wd : Bool) (hs : size ≤ 2 ^ 63) (hbs : bs ≤ 10)
    (hdl : backing.length = Tree.outboardSize ⟨size, bs⟩) (hd : data.length ≤ size)
    (g : Nat × Nat) :
    Verifiable hf fl (⟨kind, root, ⟨size, bs⟩, backing⟩ : Store HB) data wd g ↔
      ∃ i, i < Tree.blocks ⟨size, bs⟩ ∧ g = groupRange ⟨size, bs⟩ i ∧
        verifiableBlock kind size bs data backing wd i (Spec.log2ceil 64 (Spec.nBlocks size bs)) 0
          root true = true := by
  have hp := Nat.two_pow_pos bs
  by_cases hb : Tree.blocks ⟨size, bs⟩ = 1
  · have hnb : Spec.nBlocks size bs = 1 := by rw [← Offsets.blocks_eq_nBlocks]; exact hb
    have h0 : Spec.log2ceil 64 1 = 0 := rfl
    obtain ⟨-, hg0⟩ := groupRange_single hb
    have hleaf := leaf_iff kind size bs data backing wd 0 0 root true hd
    have hbytes : bytesAt data (toBytes 0) (min (toBytes (chunksOf size)) size) = data.take size := by
      rw [Nat.min_eq_right (le_toBytes_chunksOf size)]
      simp [bytesAt, toBytes]
    unfold LeafOk at hleaf
    rw [hg0, hbytes] at hleaf
    unfold Verifiable
    simp only [hb, if_true, hnb, h0]
    constructor
    · rintro ⟨rfl, hh⟩
      exact ⟨0, by omega, hg0.symm, hleaf.2 hh⟩
    · rintro ⟨i, hi, rfl, hv⟩
      obtain rfl : i = 0 := by omega
      exact ⟨hg0, hleaf.1 hv⟩
  · have geo := tree_geo ⟨size, bs⟩ hs hbs
    obtain ⟨hr1, -, hr3⟩ := root_facts ⟨size, bs⟩ hs
    obtain ⟨h, hh, e, _, hbl⟩ := shifted_root size bs hs
    have hL : rootLevel ⟨size, bs⟩ = h := by
      unfold rootLevel; rw [e, Bits.levelOf_nodeOf (by omega)]
    have h0 : Spec.startOf 0 (rootLevel ⟨size, bs⟩) < (Tree.shifted ⟨size, bs⟩).2 := by
      rw [startOf_zero_left]; omega
    have key := fun i (hi : i < Tree.blocks ⟨size, bs⟩) =>
      linked_iff_vb fl kind root data backing wd geo hs hbs hdl hd (rootLevel ⟨size, bs⟩) 0 i root true
        h0 (by rw [startOf_zero_left]; omega)
        (by rw [hL, Offsets.endOf_zero_left]; exact Nat.lt_of_lt_of_le hi hbl) hi
    rw [log2ceil_blocks size bs hs hb]
    constructor
    · intro hv
      obtain ⟨i, hi, rfl⟩ := (group_iff_top ⟨size, bs⟩ hs hbs g).1 (Verifiable.group hb hv)
      refine ⟨i, hi, rfl, (key i hi).1 ?_⟩
      unfold Verifiable at hv
      rw [if_neg hb] at hv
      unfold Linked at hv
      rw [hr3, root_level] at hv
      exact hv
    · rintro ⟨i, hi, rfl, hv⟩
      unfold Verifiable
      rw [if_neg hb]
      unfold Linked
      rw [hr3, root_level]
      exact (key i hi).2 hv

end top

theorem groupRange_eq (size bs i : Nat) :
    groupRange ⟨size, bs⟩ i = (i * 2 ^ bs, min ((i + 1) * 2 ^ bs) ((size + 1023) / 1024)) := by
  unfold groupRange; rw [Ranges.chunksOf_eq_div]

theorem group_nonempty (size bs i : Nat) (hb : Tree.blocks ⟨size, bs⟩ ≠ 1)
    (hi : i < Tree.blocks ⟨size, bs⟩) :
    i * 2 ^ bs < min ((i + 1) * 2 ^ bs) ((size + 1023) / 1024) := by
  have hp := Nat.two_pow_pos bs
  have hsz := size_pos_of_blocks ⟨size, bs⟩ hb
  simp only at hsz
  have h1 : i * 2 ^ bs < (i + 1) * 2 ^ bs := (Nat.mul_lt_mul_right hp).2 (by omega)
  have h2 : i * 2 ^ bs * 1024 < size ∨ i = 0 := by
    by_cases h0 : i = 0
    · exact .inr h0
    · have := (Offsets.lt_blocks_iff size bs i (by omega)).1 hi
      rw [Nat.pow_add, ← Nat.mul_assoc] at this
      exact .inl this
  rcases h2 with h2 | rfl
  · generalize i * 2 ^ bs = a at *
    omega
  · omega

theorem touchedB_iff (size bs : Nat) (q : List Nat) (i : Nat) (hi : i < Tree.blocks ⟨size, bs⟩) :
    touchedB size bs q i = true ↔
      (Tree.blocks ⟨size, bs⟩ = 1 ∨ Touched size q (groupRange ⟨size, bs⟩ i)) := by
  unfold touchedB
  simp only [← Offsets.blocks_eq_nBlocks, Bool.or_eq_true, beq_iff_eq]
  by_cases hb : Tree.blocks ⟨size, bs⟩ = 1
  · simp [hb]
  · have hne := group_nonempty size bs i hb hi
    rw [groupRange_eq]
    unfold Touched
    simp only [hb, false_or, List.any_eq_true, List.mem_range]
    rw [Nat.max_eq_right (by omega)]
    constructor
    · rintro ⟨c, hc, hsel⟩
      exact ⟨i * 2 ^ bs + c, by omega, by omega, hsel⟩
    · rintro ⟨c, h1, h2, hsel⟩
      refine ⟨c - i * 2 ^ bs, by omega, ?_⟩
      rw [show i * 2 ^ bs + (c - i * 2 ^ bs) = c by omega]
      exact hsel

theorem mem_wantList (kind : StoreKind) (size bs : Nat) (q : List Nat) (d' ob' root' : List UInt8)
    (wd : Bool) (g : Nat × Nat) :
    g ∈ wantList kind size bs q d' ob' root' wd ↔
      ∃ i, i < Tree.blocks ⟨size, bs⟩ ∧ g = groupRange ⟨size, bs⟩ i ∧ touchedB size bs q i = true ∧
        verifiableBlock kind size bs d' ob' wd i (Spec.log2ceil 64 (Spec.nBlocks size bs)) 0 root' true
          = true := by
  unfold wantList
  simp only [List.mem_filterMap, List.mem_range, ← Offsets.blocks_eq_nBlocks]
  constructor
  · rintro ⟨i, hi, h⟩
    split at h
    · rename_i hc
      rw [Bool.and_eq_true] at hc
      cases h
      refine ⟨i, hi, (groupRange_eq size bs i).symm, ?_, hc.2⟩
      unfold touchedB
      simp only [← Offsets.blocks_eq_nBlocks]
      exact hc.1
    · cases h
  · rintro ⟨i, hi, rfl, ht, hv⟩
    refine ⟨i, hi, ?_⟩
    have ht' : touchedB size bs q i = true := ht
    unfold touchedB at ht'
    simp only [← Offsets.blocks_eq_nBlocks] at ht'
    rw [if_pos (by rw [Bool.and_eq_true]; exact ⟨ht', hv⟩), groupRange_eq]

theorem wantList_sorted (kind : StoreKind) (size bs : Nat) (q : List Nat) (d' ob' root' : List UInt8)
    (wd : Bool) : (wantList kind size bs q d' ob' root' wd).Pairwise (fun a b => a.1 < b.1) := by
  unfold wantList
  refine List.Pairwise.filterMap _ ?_ List.pairwise_lt_range
  intro i j hij a ha b hb
  have hp := Nat.two_pow_pos bs
  simp only at ha hb
  split at ha <;> cases ha
  split at hb <;> cases hb
  exact (Nat.mul_lt_mul_right hp).2 hij

theorem eq_of_sorted_of_mem : ∀ (l1 l2 : List (Nat × Nat)),
    l1.Pairwise (fun a b => a.1 < b.1) → l2.Pairwise (fun a b => a.1 < b.1) →
    (∀ g, g ∈ l1 ↔ g ∈ l2) → l1 = l2
  | [], [], _, _, _ => rfl
  | [], b :: l2, _, _, hm => absurd ((hm b).2 (List.mem_cons_self ..)) (by simp)
  | a :: l1, [], _, _, hm => absurd ((hm a).1 (List.mem_cons_self ..)) (by simp)
  | a :: l1, b :: l2, h1, h2, hm => by
    rw [List.pairwise_cons] at h1 h2
    have hab : a = b := by
      have ha := (hm a).1 (List.mem_cons_self ..)
      have hb := (hm b).2 (List.mem_cons_self ..)
      rw [List.mem_cons] at ha hb
      rcases ha with ha | ha
      · exact ha
      · rcases hb with hb | hb
        · exact hb.symm
        · have := h1.1 b hb
          have := h2.1 a ha
          omega
    subst hab
    rw [eq_of_sorted_of_mem l1 l2 h1.2 h2.2 (fun g => ?_)]
    constructor
    · intro hg
      have := (hm g).1 (List.mem_cons_of_mem _ hg)
      rw [List.mem_cons] at this
      rcases this with rfl | h
      · exact absurd (h1.1 g hg) (Nat.lt_irrefl _)
      · exact h
    · intro hg
      have := (hm g).2 (List.mem_cons_of_mem _ hg)
      rw [List.mem_cons] at this
      rcases this with rfl | h
      · exact absurd (h2.1 g hg) (Nat.lt_irrefl _)
      · exact h

theorem corrStore_eq (kind : StoreKind) (d : List UInt8) (bs : Nat) (ob' root' : List UInt8) :
    corrStore kind d bs ob' root' = ⟨kind, root', ⟨d.length, bs⟩, ob'⟩ := by
  unfold corrStore intactStore
  split <;> rfl

theorem noIo_full (fl : Flavour) (kind : StoreKind) (root : HB) (size bs : Nat)
    (data backing : List UInt8) (wd : Bool) (hs : size ≤ 2 ^ 63) (hbs : bs ≤ 10)
    (hdl : backing.length = Tree.outboardSize ⟨size, bs⟩) (hd : wd = true → size ≤ data.length) :
    NoIo hf fl (⟨kind, root, ⟨size, bs⟩, backing⟩ : Store HB) data wd :=
  noIo_of_load (ob := ⟨kind, root, ⟨size, bs⟩, backing⟩) hs hbs (fun k M hM hm => by
    obtain ⟨p, -, h⟩ := load_specLoad fl kind root size bs k M backing hs hbs hM hm hdl
    exact ⟨_, h⟩) hd

theorem mem_want_iff (fl : Flavour) (kind : StoreKind) (root : HB) (size bs : Nat) (q : List Nat)
    (data backing : List UInt8) (wd : Bool) (hs : size ≤ 2 ^ 63) (hbs : bs ≤ 10)
    (hdl : backing.length = Tree.outboardSize ⟨size, bs⟩) (hd : data.length ≤ size)
    (g : Nat × Nat) :
    g ∈ wantList kind size bs q data backing root wd ↔
      Verifiable hf fl (⟨kind, root, ⟨size, bs⟩, backing⟩ : Store HB) data wd g ∧
        (Tree.blocks ⟨size, bs⟩ = 1 ∨ Touched size q g) := by
  rw [mem_wantList, verifiable_iff fl kind root size bs data backing wd hs hbs hdl hd g]
  constructor
  · rintro ⟨i, hi, rfl, ht, hv⟩
    exact ⟨⟨i, hi, rfl, hv⟩, (touchedB_iff size bs q i hi).1 ht⟩
  · rintro ⟨⟨i, hi, rfl, hv⟩, ht⟩
    exact ⟨i, hi, rfl, (touchedB_iff size bs q i hi).2 ht, hv⟩

theorem valRun_eta (r : ValRun) : r = ⟨r.yields, r.terminal⟩ := rfl

theorem valRun_ext (r : ValRun) (l : List (Nat × Nat)) (h1 : r.yields = l) (h2 : r.terminal = .ok) :
    r = ⟨l, .ok⟩ := by
  cases r; simp only at h1 h2; rw [h1, h2]

theorem _root_.Bao.ValidL.Exact.run_eq {r : ValRun} {V : Nat × Nat → Prop} {noio : Prop} (h : Exact r V noio)
    (hno : noio) {l : List (Nat × Nat)} (hl : l.Pairwise (fun a b => a.1 < b.1))
    (hm : ∀ g, g ∈ l ↔ V g) : r = ⟨l, .ok⟩ :=
  valRun_ext _ _ (eq_of_sorted_of_mem _ _ (h.sorted.imp fun h => h.2) hl fun g =>
    ⟨fun hg => (hm g).2 (h.sound g hg), fun hg => h.complete (h.ok hno) g ((hm g).1 hg)⟩) (h.ok hno)

theorem run_eq_want (fl : Flavour) (kind : StoreKind) (d : List UInt8) (bs : Nat) (q : List Nat)
    (d' ob' root' : List UInt8) (wd : Bool) (hs : d.length ≤ 2 ^ 63) (hbs : bs ≤ 10)
    (hq : Ranges.WF q = true) (hdl : ob'.length = Tree.outboardSize ⟨d.length, bs⟩)
    (hd1 : d'.length ≤ d.length) (hd2 : wd = true → d.length ≤ d'.length) :
    validRun fl kind d bs q d' ob' root' wd
      = ⟨wantList kind d.length bs q d' ob' root' wd, .ok⟩ := by
  unfold validRun
  rw [corrStore_eq]
  have hsort := wantList_sorted kind d.length bs q d' ob' root' wd
  have hmem := mem_want_iff fl kind root' d.length bs q d' ob' wd hs hbs hdl hd1
  cases wd with
  | true =>
    simp only [if_true]
    have h := validRanges_touched hf fl ⟨kind, root', ⟨d.length, bs⟩, ob'⟩ d' hs hbs q hq
    exact h.run_eq (noIo_full fl kind root' d.length bs d' ob' true hs hbs hdl hd2) hsort hmem
  | false =>
    simp only [Bool.false_eq_true, if_false]
    have h := validOutboardRanges_touched hf fl ⟨kind, root', ⟨d.length, bs⟩, ob'⟩ hs hbs q hq
    refine h.run_eq (noIo_full fl kind root' d.length bs [] ob' false hs hbs hdl nofun) hsort
      fun g => ?_
    rw [hmem, ← Verifiable_false_data hf fl _ [] d' g]

theorem foldlM_inv {α β : Type} (P : β → Prop) (f : β → α → Option β)
    (hstep : ∀ acc c acc', f acc c = some acc' → P acc → P acc') :
    ∀ (l : List α) (init r : β), l.foldlM f init = some r → P init → P r := by
  intro l
  induction l with
  | nil =>
    intro init r h hP
    simp only [List.foldlM_nil] at h
    cases h; exact hP
  | cons a l ih =>
    intro init r h hP
    rw [List.foldlM_cons] at h
    cases hfa : f init a with
    | none => rw [hfa] at h; cases h
    | some b =>
      rw [hfa] at h
      exact ih b r h (hstep _ _ _ hfa hP)

theorem length_flip (l : List UInt8) (pos : Nat) (v : UInt8) :
    (if pos < l.length then l.set pos v else l).length = l.length := by
  split
  · rw [List.length_set]
  · rfl

theorem applyCorruption_len (spec : String) (d ob d' ob' : List UInt8)
    (h : applyCorruption spec d ob = some (d', ob')) :
    d'.length ≤ d.length ∧ ob'.length = ob.length := by
  unfold applyCorruption at h
  by_cases hd : (spec == "-") = true
  · rw [if_pos hd] at h
    cases h; exact ⟨Nat.le_refl _, rfl⟩
  · rw [if_neg hd] at h
    refine foldlM_inv (fun acc : List UInt8 × List UInt8 =>
      acc.1.length ≤ d.length ∧ acc.2.length = ob.length) _ ?_ _ _ _ h ⟨Nat.le_refl _, rfl⟩
    intro acc c acc' hs hP
    by_cases hTd : c.startsWith "Td" = true
    · rw [if_pos hTd] at hs
      obtain ⟨len, -, rfl⟩ := Option.map_eq_some_iff.1 hs
      exact ⟨Nat.le_trans (List.length_take_le' _ _) hP.1, hP.2⟩
    · rw [if_neg hTd] at hs
      simp only at hs
      split at hs
      · split at hs <;> cases hs
        · exact ⟨by simp only [length_flip]; exact hP.1, hP.2⟩
        · exact ⟨hP.1, by simp only [length_flip]; exact hP.2⟩
      · cases hs

theorem applyCorruptionExt_len (spec : String) (d ob root d' ob' root' : List UInt8)
    (h : applyCorruptionExt spec d ob root = some (d', ob', root')) :
    d'.length ≤ d.length ∧ ob'.length = ob.length := by
  unfold applyCorruptionExt at h
  by_cases hd : (spec == "-") = true
  · rw [if_pos hd] at h
    cases h; exact ⟨Nat.le_refl _, rfl⟩
  · rw [if_neg hd] at h
    refine foldlM_inv (fun acc : List UInt8 × List UInt8 × List UInt8 =>
      acc.1.length ≤ d.length ∧ acc.2.1.length = ob.length) _ ?_ _ _ _ h ⟨Nat.le_refl _, rfl⟩
    intro acc c acc' hs hP
    obtain ⟨d1, ob1, root1⟩ := acc
    simp only at hs hP
    by_cases hTd : c.startsWith "Td" = true
    · rw [if_pos hTd] at hs
      obtain ⟨len, -, rfl⟩ := Option.map_eq_some_iff.1 hs
      exact ⟨Nat.le_trans (List.length_take_le' _ _) hP.1, hP.2⟩
    rw [if_neg hTd] at hs
    by_cases hZ : c.startsWith "Z" = true
    · rw [if_pos hZ] at hs
      split at hs
      · split at hs <;> cases hs
        · exact ⟨by simpa using hP.1, hP.2⟩
        · exact ⟨hP.1, by simpa using hP.2⟩
      · cases hs
    rw [if_neg hZ] at hs
    by_cases hr : c.startsWith "r" = true
    · rw [if_pos hr] at hs
      split at hs
      · cases hs; exact hP
      · cases hs
    · rw [if_neg hr] at hs
      obtain ⟨⟨d2, ob2⟩, hc, rfl⟩ := Option.map_eq_some_iff.1 hs
      have := applyCorruption_len c d1 ob1 d2 ob2 hc
      exact ⟨by simp only; omega, by simp only; omega⟩

theorem intactStore_data_length (kind : StoreKind) (d : List UInt8) (bs : Nat)
    (hs : d.length ≤ 2 ^ 63) (hbs : bs ≤ 10) :
    (intactStore kind d bs).data.length = Tree.outboardSize ⟨d.length, bs⟩ := by
  have hsz : Tree.outboardSize ⟨d.length, bs⟩ = (Tree.blocks ⟨d.length, bs⟩ - 1) * 64 := rfl
  unfold intactStore
  split
  · simp only
    rw [OutboardL.writer_run hf d bs hs hbs]
    exact SpecOb.postOutboard_length' hf SpecOb.hf_outLen d bs hs hbs
  · simp only
    have := SpecOb.outboard_run_pre' hf SpecOb.hf_outLen d bs hs hbs
      { kind := .preMem, root := [], tree := ⟨d.length, bs⟩,
        data := zerosN (Tree.outboardSize ⟨d.length, bs⟩) } rfl
      (.inr ⟨rfl, SpecOb.length_zerosN _⟩)
    simp only at this
    rw [this]
    exact SpecOb.preOutboard_length' hf SpecOb.hf_outLen d bs hs hbs

theorem noSp_pair (p : Nat × Nat) : NoSp (Proto.pair p) := by
  unfold Proto.pair
  exact noSp_append (noSp_append (noSp_nat _) (noSp_lit ":" (by decide))) (noSp_nat _)

theorem noSp_intercalate (sep : String) (hsep : NoSp sep) :
    ∀ (l : List String), (∀ t ∈ l, NoSp t) → NoSp (sep.intercalate l)
  | [], _ => noSp_lit "" (by decide)
  | [a], h => by
    rw [String.intercalate_singleton]; exact h a (List.mem_cons_self ..)
  | a :: b :: l, h => by
    rw [String.intercalate_cons_cons]
    exact noSp_append (noSp_append (h a (List.mem_cons_self ..)) hsep)
      (noSp_intercalate sep hsep (b :: l) (fun t ht => h t (List.mem_cons_of_mem _ ht)))

/-- the first token of the output line: the reported ranges -/
def rangesStr (l : List (Nat × Nat)) : String :=
  if l.isEmpty then "-" else ",".intercalate (l.map Proto.pair)

theorem noSp_rangesStr (l : List (Nat × Nat)) : NoSp (rangesStr l) := by
  unfold rangesStr
  split
  · exact noSp_lit "-" (by decide)
  · apply noSp_intercalate "," (noSp_lit "," (by decide))
    intro t ht
    obtain ⟨p, _, rfl⟩ := List.mem_map.1 ht
    exact noSp_pair p

/-- the second token of the output line -/
def termStr : ValEnd → String
  | .ok => "ok"
  | .err e => s!"{ioErrStr e}@last"
  | .panic => "panic"

theorem validModelStr_eq (r : ValRun) :
    validModelStr r = " ".intercalate [rangesStr r.yields, termStr r.terminal] := by
  simp only [String.intercalate_cons_cons, String.intercalate_singleton]
  obtain ⟨ys, t⟩ := r
  cases t <;> rfl

theorem split_two {a b : String} (ha : NoSp a) (hb : NoSp b) :
    (" ".intercalate [a, b]).splitOn " " = [a, b] := by
  apply splitOn_intercalate _ (by simp)
  intro t ht
  simp only [List.mem_cons, List.not_mem_nil, or_false] at ht
  rcases ht with rfl | rfl
  · exact ha
  · exact hb

theorem split_model (r : ValRun) (h : NoSp (termStr r.terminal)) :
    (validModelStr r).splitOn " " = [rangesStr r.yields, termStr r.terminal] := by
  rw [validModelStr_eq, split_two (noSp_rangesStr _) h]

theorem shortGroups_nil (size bs : Nat) (q : List Nat) (d' : List UInt8) (wd : Bool)
    (h : wd = true → size ≤ d'.length) : shortGroups size bs q d' wd = [] := by
  unfold shortGroups
  cases wd with
  | false => rfl
  | true =>
    have := h rfl
    simp only [Bool.not_true, Bool.false_eq_true, if_false, List.filter_eq_nil_iff,
      Bool.and_eq_true, decide_eq_true_eq, not_and]
    intro i _ _
    omega

theorem verdict_want (want : List (Nat × Nat)) (bs : Nat) (d' : List UInt8) :
    validVerdict want [] bs d' (validModelStr ⟨want, .ok⟩) = none := by
  unfold validVerdict
  simp only [split_model ⟨want, .ok⟩ (noSp_lit "ok" (by decide))]
  simp [rangesStr, termStr]

/-! ## a data file that ends early (`Td<len>`): how a run of `validate_rec` ends

Not covered by the C06 theorems (their exactness half assumes `NoIo`, which contains
`size ≤ data.length`): if every load succeeds, a run ends `ok`, or it ends with `UnexpectedEof` at a
group `gs` that is linked (data check left out), reached by the query and whose stored bytes are
not all there – and then everything in front of `gs` has been reported. -/

section short
open PlanPre
variable {H : Type} [BEq H] [LawfulBEq H]

/-- the error of `read_exact_at` on a short file -/
def eofErr : IoErr := ⟨.unexpectedEof, false⟩

/-- the data file ends before the last stored byte of group `g` -/
def ShortG (data : List UInt8) (size : Nat) (g : Nat × Nat) : Prop :=
  data.length < min (toBytes g.2) size

/-- the end of a run: `ok`, or `UnexpectedEof` at a `Q`-group `gs` inside `[lo, hi)` with every
`P`-group in front of `gs` reported -/
def EndSpec (r : ValRun) (P Q : Nat × Nat → Prop) (lo hi : Nat) : Prop :=
  r.terminal = .ok ∨ (r.terminal = .err eofErr ∧
    ∃ gs, Q gs ∧ lo ≤ gs.1 ∧ gs.1 < hi ∧ ∀ g, P g → g.1 < gs.1 → g ∈ r.yields)

theorem EndSpec.congr {r : ValRun} {P P' Q Q' : Nat × Nat → Prop} {lo hi : Nat}
    (h : EndSpec r P Q lo hi) (hp : ∀ g, P' g → P g) (hq : ∀ g, Q g → Q' g) :
    EndSpec r P' Q' lo hi := by
  rcases h with h | ⟨h, gs, h1, h2, h3, h4⟩
  · exact .inl h
  · exact .inr ⟨h, gs, hq _ h1, h2, h3, fun g hg => h4 g (hp g hg)⟩

theorem EndSpec.mono_hi {r : ValRun} {P Q : Nat × Nat → Prop} {lo hi hi' : Nat}
    (h : EndSpec r P Q lo hi) (hh : hi ≤ hi') : EndSpec r P Q lo hi' := by
  rcases h with h | ⟨h, gs, h1, h2, h3, h4⟩
  · exact .inl h
  · exact .inr ⟨h, gs, h1, h2, by omega, h4⟩

theorem EndSpec.andThen {a : ValRun} {b : Unit → ValRun} {P P1 P2 Q Q1 Q2 : Nat × Nat → Prop}
    {lo mid hi : Nat} (ha : RunSpec a P1 lo mid) (ea : EndSpec a P1 Q1 lo mid)
    (eb : EndSpec (b ()) P2 Q2 mid hi) (hlm : lo ≤ mid) (hmh : mid ≤ hi)
    (hP : ∀ g, P g ↔ if g.1 < mid then P1 g else P2 g)
    (hQ : ∀ g, Q g ↔ if g.1 < mid then Q1 g else Q2 g) : EndSpec (a.andThen b) P Q lo hi := by
  rcases ea with ea | ⟨ea, gs, h1, h2, h3, h4⟩
  · have hy := andThen_yields a b
    rw [if_pos ea] at hy
    rcases eb with eb | ⟨eb, gs, h1, h2, h3, h4⟩
    · exact .inl ((andThen_terminal a b).2 ⟨ea, eb⟩)
    · refine .inr ⟨?_, gs, ?_, by omega, h3, fun g hg hlt => ?_⟩
      · unfold ValRun.andThen; rw [ea]; exact eb
      · rw [hQ, if_neg (by omega)]; exact h1
      · rw [hy, List.mem_append]
        rw [hP] at hg
        split at hg
        · exact .inl (ha.complete ea g hg)
        · exact .inr (h4 g hg hlt)
  · have he : a.andThen b = a := by
      unfold ValRun.andThen; rw [ea]
    rw [he]
    refine .inr ⟨ea, gs, ?_, h2, by omega, fun g hg hlt => ?_⟩
    · rw [hQ, if_pos h3]; exact h1
    · rw [hP, if_pos (by omega)] at hg
      exact h4 g hg hlt

theorem readExactAt_err {data : List UInt8} {s e : Nat} {err : IoErr}
    (h : readExactAt data s (e - s) = .error err) : err = eofErr ∧ data.length < e := by
  unfold readExactAt at h
  split at h
  · cases h
  · split at h
    · cases h
    · cases h
      exact ⟨rfl, by omega⟩

omit [LawfulBEq H] in
theorem yieldRange_end (hf : HashFns H) (wd : Bool) (data : List UInt8) (c e : Nat) (h : H)
    (root : Bool) {lo hi : Nat} (h1 : lo ≤ c) (h2 : c < hi) :
    EndSpec (yieldRange hf wd data (toBytes c) e h root)
      (fun g => g = (c, chunksOf e) ∧ LeafOk hf data wd c (toBytes c) e h root)
      (fun g => g = (c, chunksOf e) ∧ data.length < e) lo hi := by
  unfold yieldRange
  cases wd with
  | false => exact .inl rfl
  | true =>
    simp only [if_true, yieldIfValid]
    cases hr : readExactAt data (toBytes c) (e - toBytes c) with
    | error err =>
      obtain ⟨rfl, hlt⟩ := readExactAt_err hr
      exact .inr ⟨rfl, (c, chunksOf e), ⟨rfl, hlt⟩, h1, h2,
        fun g hg hlt => absurd hlt (by rw [hg.1]; exact Nat.lt_irrefl _)⟩
    | ok tmp =>
      by_cases hq : (hashSubtree hf (fullChunksOf (toBytes c)) tmp root == h) = true
      · simp only [hq, if_true]; exact .inl rfl
      · simp only [hq, Bool.false_eq_true, if_false]; exact .inl rfl

variable (hf : HashFns H) (fl : Flavour) (wd : Bool) (ob : Store H) (data : List UInt8) (F : Nat)

/-- what is known about the group at which a run stops -/
def Stop (L k : Nat) (owed : H) (isRoot : Bool) (rs : Ranges) (g : Nat × Nat) : Prop :=
  Want hf fl false ob data F L k owed isRoot rs g ∧ ShortG data ob.tree.size g

/-- every load of an existing relevant node succeeds (first half of `NoIoErr`) -/
def LoadsOk : Prop :=
  ∀ x, x < F → ob.tree.isRelevant (Node.subBs x ob.tree.bs) = true →
    ∃ p, ob.load hf fl (Node.subBs x ob.tree.bs) = .ok p

omit [LawfulBEq H] in
theorem ite_yieldRange_end (l : Ranges) (s e : Nat) (h : H) (root : Bool) {lo hi : Nat}
    (h1 : lo ≤ s) (h2 : s < hi) :
    EndSpec (if !l.isEmpty then yieldRange hf wd data (toBytes s) e h root else ⟨[], .ok⟩)
      (fun g => l ≠ [] ∧ g = (s, chunksOf e) ∧ LeafOk hf data wd s (toBytes s) e h root)
      (fun g => l ≠ [] ∧ g = (s, chunksOf e) ∧ data.length < e) lo hi := by
  cases l with
  | nil => exact .inl rfl
  | cons a l =>
    exact (yieldRange_end hf wd data s e h root h1 h2).congr (fun g hg => hg.2)
      (fun g hg => ⟨nofun, hg⟩)

theorem EndSpec.checked {ld : Res IoErr (Option (H × H))} {owed : H} {isRoot : Bool}
    {k : H → H → ValRun} {P Q : Nat × Nat → Prop} {lo hi : Nat} (hld : ∃ p, ld = .ok p)
    (hk : ∀ lh rh, ld = .ok (some (lh, rh)) → hf.parentCv lh rh isRoot = owed →
      EndSpec (k lh rh) P Q lo hi) :
    EndSpec (ValidL.checked hf ld owed isRoot k) P Q lo hi := by
  obtain ⟨p, rfl⟩ := hld
  rcases p with _ | ⟨lh, rh⟩
  · exact .inl rfl
  · by_cases hp : (hf.parentCv lh rh isRoot != owed) = true
    · simp only [ValidL.checked, hp, if_true]
      exact .inl rfl
    · simp only [ValidL.checked, hp, Bool.false_eq_true, if_false]
      exact hk lh rh rfl (by simpa using hp)

omit [BEq H] [LawfulBEq H] in
theorem short_leaf {size : Nat} (c e : Nat) (h : H) (root : Bool) (g : Nat × Nat)
    (he : min (toBytes (chunksOf e)) size = e) :
    (g = (c, chunksOf e) ∧ LeafOk hf data false c (toBytes c) e h root) ∧ ShortG data size g ↔
      g = (c, chunksOf e) ∧ data.length < e := by
  unfold ShortG
  constructor
  · rintro ⟨⟨rfl, -⟩, h3⟩
    exact ⟨rfl, he ▸ h3⟩
  · rintro ⟨rfl, h3⟩
    exact ⟨⟨rfl, nofun⟩, he.symm ▸ h3⟩

/-- `validate_rec` at an existing shifted node `(k, L)` when every load succeeds: the run ends
`ok`, or with `UnexpectedEof` at a linked, reached group whose bytes are not all there, everything
in front of it reported -/
theorem rec_end (g : Geo ob.tree.size ob.tree.bs F) (hld : LoadsOk hf fl ob F) :
    ∀ L, L ≤ 63 → ∀ k, Spec.nodeOf k L < F → ∀ fuel, L < fuel → ∀ owed isRoot rs,
      EndSpec (validateRec hf fl wd ob data F fuel owed (Spec.nodeOf k L) isRoot rs)
        (Want hf fl wd ob data F L k owed isRoot rs) (Stop hf fl ob data F L k owed isRoot rs)
        (Spec.startOf k (L + ob.tree.bs)) (Spec.endOf k (L + ob.tree.bs)) := by
  refine rec_induction F g (fun k fuel hk owed isRoot rs => ?_)
    (fun L k fuel hL hfu hk ihl ihr owed isRoot rs => ?_)
  · have hsm := Bits.startOf_lt_midOf k ob.tree.bs
    have hme := Bits.midOf_lt_endOf k ob.tree.bs
    have hce := chunksOf_hi_le k ob.tree.bs ob.tree.size
    have hhi := min_chunksOf_hi (Spec.endOf k ob.tree.bs) ob.tree.size
    by_cases hrs : rs = []
    · subst hrs
      exact .inl rfl
    rw [validateRec_leaf hf fl wd ob data F g hk fuel owed isRoot hrs, Nat.zero_add]
    split
    · rename_i hm
      have hl0 := load_ok_node hf fl ob F hld g hk fun _ => hm
      rw [Nat.zero_add] at hl0
      refine EndSpec.checked hf hl0 fun lh rh hl hp => ?_
      have hsA := ite_yieldRange_spec hf wd data (Ranges.splitNode rs (Spec.nodeOf k ob.tree.bs)).1
        (Spec.startOf k ob.tree.bs) (toBytes (Spec.midOf k ob.tree.bs)) lh false (Nat.le_refl _) hsm
        (by rw [chunksOf_toBytes]; exact Nat.le_refl _)
      have heA := ite_yieldRange_end hf wd data (Ranges.splitNode rs (Spec.nodeOf k ob.tree.bs)).1
        (Spec.startOf k ob.tree.bs) (toBytes (Spec.midOf k ob.tree.bs)) lh false (Nat.le_refl _) hsm
      have hlo := short_leaf hf data (size := ob.tree.size) (Spec.startOf k ob.tree.bs)
        (toBytes (Spec.midOf k ob.tree.bs)) lh false
      rw [chunksOf_toBytes] at hsA heA hlo
      refine EndSpec.andThen hsA heA
        (ite_yieldRange_end hf wd data (Ranges.splitNode rs (Spec.nodeOf k ob.tree.bs)).2
          (Spec.midOf k ob.tree.bs) _ rh false (Nat.le_refl _) hme)
        (Nat.le_of_lt hsm) (Nat.le_of_lt hme) (want_zero_full hf fl wd ob data F hk hrs hm hl hp)
        fun gr => ?_
      unfold Stop
      rw [want_zero_full hf fl false ob data F hk hrs hm hl hp]
      split
      · rw [and_assoc]
        exact and_congr_right fun _ => hlo gr (Nat.min_eq_left (Nat.le_of_lt hm))
      · rw [and_assoc]
        exact and_congr_right fun _ => short_leaf hf data _ _ rh false gr hhi
    · rename_i hm
      refine (yieldRange_end hf wd data (Spec.startOf k ob.tree.bs) _ owed isRoot (Nat.le_refl _)
        (Nat.lt_trans hsm hme)).congr
        (fun gr hg => (want_zero_half hf fl wd ob data F hk hrs hm gr).1 hg) fun gr hg => ?_
      unfold Stop
      rw [want_zero_half hf fl false ob data F hk hrs hm]
      exact (short_leaf hf data _ _ owed isRoot gr hhi).2 hg
  · have hsm := Bits.startOf_lt_midOf k (L + 1 + ob.tree.bs)
    have hme := Bits.midOf_lt_endOf k (L + 1 + ob.tree.bs)
    by_cases hrs : rs = []
    · subst hrs
      exact .inl rfl
    rw [validateRec_inner hf fl wd ob data F g hL hk fuel owed isRoot hrs]
    refine EndSpec.checked hf (load_ok_node hf fl ob F hld g hk nofun) fun lh rh hl hp => ?_
    have hl' := rec_spec hf fl wd ob data F g L (by omega) (2 * k)
      (Nat.lt_trans (NodeIterL.leftChild_lt k L) hk) fuel hfu lh false
      (Ranges.splitNode rs (Spec.nodeOf k (L + 1 + ob.tree.bs))).1
    have el' := ihl lh false (Ranges.splitNode rs (Spec.nodeOf k (L + 1 + ob.tree.bs))).1
    have er' := ihr rh false (Ranges.splitNode rs (Spec.nodeOf k (L + 1 + ob.tree.bs))).2
    rw [PlanPre.child_ls, PlanPre.child_le] at hl' el'
    rw [dl_start, PlanPre.child_rs] at er'
    have hde := dl_end_le F ob.tree.bs L (2 * k + 1)
    rw [PlanPre.child_re] at hde
    refine EndSpec.andThen hl' el' (er'.mono_hi hde) (Nat.le_of_lt hsm) (Nat.le_of_lt hme)
      (want_succ hf fl wd ob data F hk hrs hl hp) fun gr => ?_
    unfold Stop
    rw [want_succ hf fl false ob data F hk hrs hl hp]
    split <;> exact Iff.rfl

/-- the data validator on any store whose loads succeed, any data file: the run ends `ok`, or with
`UnexpectedEof` at a group `gs` that is verifiable with the data check left out, touched by the
query and not all there, and every verifiable touched group in front of `gs` has been reported -/
theorem validRanges_end (hs : ob.tree.size ≤ 2 ^ 63) (hbs : ob.tree.bs ≤ 10) (q : Ranges)
    (hq : Ranges.WF q = true) (hld : LoadsOk hf fl ob ob.tree.shifted.2) :
    (validRanges hf fl ob data q).terminal = .ok ∨
      ((validRanges hf fl ob data q).terminal = .err eofErr ∧ ∃ gs,
        Verifiable hf fl ob data false gs ∧ (ob.tree.blocks = 1 ∨ Touched ob.tree.size q gs) ∧
        ShortG data ob.tree.size gs ∧
        ∀ g, Verifiable hf fl ob data true g → (ob.tree.blocks = 1 ∨ Touched ob.tree.size q g) →
          g.1 < gs.1 → g ∈ (validRanges hf fl ob data q).yields) := by
  by_cases hb : ob.tree.blocks = 1
  · -- a single group: one read of the whole file
    by_cases hlen : ob.tree.size ≤ data.length
    · exact .inl ((validRanges_one hf fl ob data hb q).2 hlen)
    · have hc : ob.tree.size ≤ toBytes ob.tree.chunks := le_toBytes_chunksOf _
      refine .inr ⟨?_, (0, ob.tree.chunks), ?_, .inl hb, ?_,
        fun g _ _ h => absurd h (Nat.not_lt_zero _)⟩
      · unfold validRanges
        have : (ob.tree.blocks == 1) = true := by simpa using hb
        simp only [this, if_true]
        cases hr : readExactAt data 0 ob.tree.size with
        | error e => rw [(readExactAt_err (s := 0) (e := ob.tree.size) (err := e) hr).1]
        | ok tmp =>
          unfold readExactAt at hr
          split at hr
          · omega
          · split at hr
            · omega
            · cases hr
      · unfold Verifiable
        rw [if_pos hb]
        exact ⟨rfl, nofun⟩
      · unfold ShortG
        rw [Nat.min_eq_right hc]
        omega
  · rw [validRanges_many hf fl ob data hb q]
    obtain ⟨hr1, -, -⟩ := root_facts ob.tree hs
    obtain ⟨hc, hL⟩ := shifted_coords ob.tree hs hbs hr1
    have hend := rec_end hf fl true ob data ob.tree.shifted.2 (tree_geo ob.tree hs hbs) hld
      (Spec.levelOf ob.tree.shifted.1) hL (Spec.indexOf ob.tree.shifted.1) (by rw [← hc]; exact hr1)
      65 (by omega) ob.root true (Ranges.truncate q ob.tree.size)
    rw [← hc] at hend
    -- at the coordinates of the shifted root `Want` is "verifiable and touched"
    have hW : ∀ wd g, Want hf fl wd ob data ob.tree.shifted.2 (Spec.levelOf ob.tree.shifted.1)
        (Spec.indexOf ob.tree.shifted.1) ob.root true (Ranges.truncate q ob.tree.size) g ↔
        Verifiable hf fl ob data wd g ∧ (ob.tree.blocks = 1 ∨ Touched ob.tree.size q g) := by
      intro wd g
      have hv : Verifiable hf fl ob data wd g ↔
          Linked hf fl ob data wd ob.root ob.tree.shifted.1 true g := by
        unfold Verifiable
        rw [if_neg hb]
      rw [hv]
      refine and_congr_right fun hl => ?_
      have := reach_or_iff_touched ob.tree hs hbs q hq (g := g) fun _ => (hv.2 hl).group hb
      simpa only [hb, false_or, Reach] using this
    rcases hend with hok | ⟨herr, gs, ⟨hw, hshort⟩, -, -, hpre⟩
    · exact .inl hok
    · obtain ⟨hv, ht⟩ := (hW false gs).1 hw
      exact .inr ⟨herr, gs, hv, ht, hshort, fun g hv ht hlt => hpre g ((hW true g).2 ⟨hv, ht⟩) hlt⟩

end short

section shortTop
open PlanPre

theorem mem_shortGroups (size bs : Nat) (q : List Nat) (d' : List UInt8) (i : Nat) :
    i ∈ shortGroups size bs q d' true ↔
      i < Tree.blocks ⟨size, bs⟩ ∧ touchedB size bs q i = true ∧
        d'.length < min ((i + 1) * 2 ^ bs * 1024) size := by
  unfold shortGroups
  simp only [Bool.not_true, Bool.false_eq_true, if_false, List.mem_filter, List.mem_range,
    Bool.and_eq_true, decide_eq_true_eq, ← Offsets.blocks_eq_nBlocks]

theorem groupRange_byte_end (size bs i : Nat) :
    min (toBytes (groupRange ⟨size, bs⟩ i).2) size = min ((i + 1) * 2 ^ bs * 1024) size := by
  rw [groupRange_eq]
  unfold toBytes
  simp only
  generalize (i + 1) * 2 ^ bs = a
  omega

theorem run_short (fl : Flavour) (kind : StoreKind) (d : List UInt8) (bs : Nat) (q : List Nat)
    (d' ob' root' : List UInt8) (hs : d.length ≤ 2 ^ 63) (hbs : bs ≤ 10)
    (hq : Ranges.WF q = true) (hdl : ob'.length = Tree.outboardSize ⟨d.length, bs⟩)
    (hd1 : d'.length ≤ d.length) :
    (∀ g ∈ (validRun fl kind d bs q d' ob' root' true).yields,
      g ∈ wantList kind d.length bs q d' ob' root' true) ∧
    (validRun fl kind d bs q d' ob' root' true).yields.Pairwise (fun a b => a.1 < b.1) ∧
    (((validRun fl kind d bs q d' ob' root' true).terminal = .ok ∧
        ∀ g ∈ wantList kind d.length bs q d' ob' root' true,
          g ∈ (validRun fl kind d bs q d' ob' root' true).yields) ∨
      ((validRun fl kind d bs q d' ob' root' true).terminal = .err eofErr ∧
        ∃ i, i ∈ shortGroups d.length bs q d' true ∧
          ∀ g ∈ wantList kind d.length bs q d' ob' root' true, g.1 < i * 2 ^ bs →
            g ∈ (validRun fl kind d bs q d' ob' root' true).yields)) := by
  unfold validRun
  rw [corrStore_eq]
  simp only [if_true]
  have hT := validRanges_touched hf fl (⟨kind, root', ⟨d.length, bs⟩, ob'⟩ : Store HB) d' hs hbs q hq
  have hmem := mem_want_iff fl kind root' d.length bs q d' ob' true hs hbs hdl hd1
  refine ⟨fun g hg => (hmem g).2 (hT.sound g hg), hT.sorted.imp (fun h => h.2), ?_⟩
  have hld := (noIo_full fl kind root' d.length bs [] ob' false hs hbs hdl nofun).1
  rcases validRanges_end hf fl _ d' hs hbs q hq hld with hok | ⟨herr, gs, hv, ht, hshort, hpre⟩
  · exact .inl ⟨hok, fun g hg => hT.complete hok g ((hmem g).1 hg)⟩
  · -- the group at which the run stopped is a chunk group of the tree
    obtain ⟨i, hi, rfl, -⟩ :=
      (verifiable_iff fl kind root' d.length bs d' ob' false hs hbs hdl hd1 gs).1 hv
    refine .inr ⟨herr, i, (mem_shortGroups _ _ _ _ _).2
      ⟨hi, (touchedB_iff d.length bs q i hi).2 ht, ?_⟩, fun g hg hlt => ?_⟩
    · rw [← groupRange_byte_end]
      exact hshort
    · obtain ⟨hv', ht'⟩ := (hmem g).1 hg
      exact hpre g hv' ht' (by rw [groupRange_eq]; exact hlt)

end shortTop

theorem termStr_eof : termStr (.err eofErr) = "Io(UnexpectedEof)@last" := by rfl

theorem mem_pair_toList (p : Nat × Nat) {c : Char} (h : c ∈ (Proto.pair p).toList) :
    c = ':' ∨ c.isDigit = true := by
  have e : Proto.pair p = toString p.1 ++ ":" ++ toString p.2 := rfl
  rw [e, String.toList_append, String.toList_append, List.mem_append, List.mem_append] at h
  rcases h with (h | h) | h
  · exact .inr (SpecTrunc.isDigit_of_mem_toString _ h)
  · left
    have : (":" : String).toList = [':'] := rfl
    rw [this] at h
    simpa using h
  · exact .inr (SpecTrunc.isDigit_of_mem_toString _ h)

theorem noComma_pair (p : Nat × Nat) : ',' ∉ (Proto.pair p).toList := by
  intro h
  rcases mem_pair_toList p h with h | h
  · exact absurd h (by decide)
  · exact absurd h (by decide)

theorem colon_mem_pair (p : Nat × Nat) : ':' ∈ (Proto.pair p).toList := by
  have e : Proto.pair p = toString p.1 ++ ":" ++ toString p.2 := rfl
  rw [e, String.toList_append, String.toList_append, List.mem_append, List.mem_append]
  exact .inl (.inr (by decide))

theorem rep_eq (ys : List (Nat × Nat)) :
    (if rangesStr ys == "-" then [] else (rangesStr ys).splitOn ",") = ys.map Proto.pair := by
  cases ys with
  | nil => rfl
  | cons a l =>
    have e : rangesStr (a :: l) = ",".intercalate ((a :: l).map Proto.pair) := rfl
    have hne : (rangesStr (a :: l) == "-") = false := by
      rw [beq_eq_false_iff_ne]
      intro h
      have hm : ':' ∈ (rangesStr (a :: l)).toList := by
        rw [e, List.map_cons, SpecTrunc.toList_intercalate_cm, List.mem_append]
        exact .inl (colon_mem_pair a)
      rw [h] at hm
      exact absurd hm (by decide)
    rw [hne]
    simp only [Bool.false_eq_true, if_false]
    rw [e, SpecTrunc.splitOn_intercalate_comma _ (by simp)]
    intro t ht
    obtain ⟨p, _, rfl⟩ := List.mem_map.1 ht
    exact noComma_pair p

theorem startsWith_eof : ("Io(UnexpectedEof)@last".startsWith "Io(UnexpectedEof") = true := by
  rw [String.startsWith_string_iff]
  exact ⟨")@last".toList, by decide +kernel⟩

theorem verdict_short (want ys : List (Nat × Nat)) (short : List Nat) (bs : Nat) (d' : List UInt8)
    (t : ValEnd) (hshort : short ≠ []) (h1 : ∀ g ∈ ys, g ∈ want)
    (h2 : ∀ g ∈ want, g.1 < short.head! * 2 ^ bs → g ∈ ys) (ht : t = .ok ∨ t = .err eofErr) :
    validVerdict want short bs d' (validModelStr ⟨ys, t⟩) = none := by
  have hsp : NoSp (termStr t) := by
    rcases ht with rfl | rfl
    · exact noSp_lit "ok" (by decide)
    · rw [termStr_eof]; exact noSp_lit _ (by decide)
  have hA : ((ys.map Proto.pair).all fun x => (want.map Proto.pair).contains x) = true := by
    rw [List.all_eq_true]
    intro x hx
    obtain ⟨g, hg, rfl⟩ := List.mem_map.1 hx
    rw [List.contains_iff_mem]
    exact List.mem_map_of_mem (h1 g hg)
  have hB : (((want.filter fun (a, _) => a < short.head! * 2 ^ bs).map Proto.pair).all
      fun x => (ys.map Proto.pair).contains x) = true := by
    rw [List.all_eq_true]
    intro x hx
    obtain ⟨g, hg, rfl⟩ := List.mem_map.1 hx
    rw [List.mem_filter] at hg
    obtain ⟨a, b⟩ := g
    rw [List.contains_iff_mem]
    exact List.mem_map_of_mem (h2 (a, b) hg.1 (by simpa using hg.2))
  have hC : (termStr t != "ok" && !((termStr t).startsWith "Io(UnexpectedEof")) = false := by
    rcases ht with rfl | rfl
    · rfl
    · rw [termStr_eof, startsWith_eof]; rfl
  have hse : short.isEmpty = false := List.isEmpty_eq_false_iff.2 hshort
  unfold validVerdict
  simp only [split_model ⟨ys, t⟩ hsp, hse, Bool.false_eq_true, if_false, rep_eq, hA, hB, hC,
    Bool.not_true]

theorem head_le_of_sorted : ∀ (l : List Nat), l.Pairwise (· < ·) → ∀ i ∈ l, l.head! ≤ i
  | [], _, _, h => by cases h
  | a :: l, hp, i, h => by
    rw [List.pairwise_cons] at hp
    rw [List.mem_cons] at h
    show a ≤ i
    rcases h with rfl | h
    · exact Nat.le_refl _
    · exact Nat.le_of_lt (hp.1 i h)

theorem shortGroups_sorted (size bs : Nat) (q : List Nat) (d' : List UInt8) (wd : Bool) :
    (shortGroups size bs q d' wd).Pairwise (· < ·) := by
  unfold shortGroups
  split
  · exact List.Pairwise.nil
  · exact List.Pairwise.filter _ List.pairwise_lt_range

theorem run_eq_want_of_no_short (fl : Flavour) (kind : StoreKind) (d : List UInt8) (bs : Nat)
    (q : List Nat) (d' ob' root' : List UInt8) (hs : d.length ≤ 2 ^ 63) (hbs : bs ≤ 10)
    (hq : Ranges.WF q = true) (hdl : ob'.length = Tree.outboardSize ⟨d.length, bs⟩)
    (hd1 : d'.length ≤ d.length) (hsg : shortGroups d.length bs q d' true = []) :
    validRun fl kind d bs q d' ob' root' true
      = ⟨wantList kind d.length bs q d' ob' root' true, .ok⟩ := by
  obtain ⟨hsound, hsorted, hcase⟩ := run_short fl kind d bs q d' ob' root' hs hbs hq hdl hd1
  rcases hcase with ⟨hok, hall⟩ | ⟨-, i, hi, -⟩
  · exact valRun_ext _ _ (eq_of_sorted_of_mem _ _ hsorted
      (wantList_sorted kind d.length bs q d' ob' root' true) (fun g => ⟨hsound g, hall g⟩)) hok
  · rw [hsg] at hi; cases hi

theorem verdict_run_data (fl : Flavour) (kind : StoreKind) (d : List UInt8) (bs : Nat) (q : List Nat)
    (d' ob' root' : List UInt8) (hs : d.length ≤ 2 ^ 63) (hbs : bs ≤ 10)
    (hq : Ranges.WF q = true) (hdl : ob'.length = Tree.outboardSize ⟨d.length, bs⟩)
    (hd1 : d'.length ≤ d.length) :
    validVerdict (wantList kind d.length bs q d' ob' root' true)
      (shortGroups d.length bs q d' true) bs d'
      (validModelStr (validRun fl kind d bs q d' ob' root' true)) = none := by
  by_cases hsg : shortGroups d.length bs q d' true = []
  · rw [run_eq_want_of_no_short fl kind d bs q d' ob' root' hs hbs hq hdl hd1 hsg, hsg]
    exact verdict_want _ bs d'
  · obtain ⟨hsound, -, hcase⟩ := run_short fl kind d bs q d' ob' root' hs hbs hq hdl hd1
    rw [valRun_eta (validRun fl kind d bs q d' ob' root' true)]
    rcases hcase with ⟨hok, hall⟩ | ⟨herr, i, hi, hpre⟩
    · exact verdict_short _ _ _ bs d' _ hsg hsound (fun g hg _ => hall g hg) (.inl hok)
    · refine verdict_short _ _ _ bs d' _ hsg hsound (fun g hg hlt => hpre g hg ?_) (.inr herr)
      have hle := head_le_of_sorted _ (shortGroups_sorted d.length bs q d' true) i hi
      have := Nat.mul_le_mul_right (2 ^ bs) hle
      omega

theorem drop2_td (k : String) : (("Td" ++ k).drop 2).toString = k := by
  rw [String.Slice.toString_eq]
  apply String.toList_injective
  rw [String.toList_copy_drop, String.toList_append]
  rfl

theorem startsWith_td (k : String) : ("Td" ++ k).startsWith "Td" = true := by
  rw [String.startsWith_string_iff]
  exact ⟨k.toList, by rw [String.toList_append]⟩

theorem noComma_td (len : Nat) : ',' ∉ ("Td" ++ toString len).toList := by
  rw [String.toList_append, List.mem_append]
  rintro (h | h)
  · exact absurd h (by decide)
  · exact SpecTrunc.noComma_nat len h

theorem td_ne_dash (len : Nat) : (("Td" ++ toString len) == "-") = false := by
  rw [beq_eq_false_iff_ne]
  intro h
  have : 'T' ∈ ("Td" ++ toString len).toList := by
    rw [String.toList_append, List.mem_append]; exact .inl (by decide)
  rw [h] at this
  exact absurd this (by decide)

theorem applyCorruptionExt_td (len : Nat) (d ob root : List UInt8) :
    applyCorruptionExt ("Td" ++ toString len) d ob root = some (d.take len, ob, root) := by
  unfold applyCorruptionExt
  rw [td_ne_dash]
  simp only [Bool.false_eq_true, if_false]
  have hs : ("Td" ++ toString len).splitOn "," = ["Td" ++ toString len] := by
    have := SpecTrunc.splitOn_intercalate_comma ["Td" ++ toString len] (by simp) (by
      intro t ht
      rw [List.mem_singleton] at ht
      rw [ht]; exact noComma_td len)
    rwa [String.intercalate_singleton] at this
  rw [hs]
  simp only [List.foldlM_cons, List.foldlM_nil, startsWith_td, if_true, drop2_td, toNat?_toString,
    Option.map_some]
  rfl

end Bao.SpecValid
