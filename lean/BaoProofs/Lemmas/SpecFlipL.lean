import BaoProofs.Lemmas.CopyL
import BaoProofs.Lemmas.SpecIndexL
import BaoProofs.Lemmas.SpecObL
import BaoProofs.Lemmas.C13BytesL
import BaoProofs.Props.C03
import BaoModel.Ops3

/-!
# Lemmas for `Props/C12SpecFlip.lean`: the `flipx`, `obpre`, `flip` verdicts never reject the model

* part A – `copy` / `flip` (closed forms of `Lemmas/CopyL.lean`) WITHOUT the hypothesis
  `hlen : ∀ h, (toBytes h).length = 32`, which is false of the driver's instance `realHash`
  (a hash IS its byte list there).  The only use of `hlen` in `CopyL` is `reenc_length`; the records
  that a copy re-encodes are 64-byte blocks of the source, and under the byte round trip
  `hbt : toBytes (ofBytes b) = b` for 32-byte `b` (true of `realHash`: both maps are `id`) they are
  copied verbatim, so their length is 64 anyway: `CopyL.copy_run_of_len` asks only for that length,
  `copy_run'` supplies it from `hbt`;
* part B – `Spec.indexOfNode` on the layout list of a store is the store's slot function;
* part C – the `let`s of `Ops.opFlipX` as named definitions (`opFlipX_eq`, by `rfl`) and the model's
  four results;
* part D – `obpre`: the `let`s of `Ops.opObPre` as named definitions (`opObPre_eq`), the stable
  counts, the common-prefix counter `lcp`, the C13 byte statement under `OutLen` (outputs only),
  the five tokens of the output line;
* part E – `flip`: `copy` of a store holding a specification outboard under `OutLen` + `ByteRT`
  (`copy_spec'`), the two intact stores, the `let`s of `Ops.opFlip` (`opFlip_eq`).
-/

namespace Bao.SpecFlip
open Bao Bao.Spec Bao.WriteAtL Bao.OutboardL Bao.NodeIterL Bao.CopyL Bao.Ops Bao.Proto

/-! ## A. `copy` / `flip` under the byte round trip alone -/

section gen
variable {H : Type} (hf : HashFns H)

/-- the byte round trip: parsing 32 bytes and serialising the hash gives the 32 bytes back -/
def ByteRT : Prop := ∀ b : List UInt8, b.length = 32 → hf.toBytes (hf.ofBytes b) = b

/-- the copied data, under the byte round trip: the source's own blocks in the target's order -/
def moved (src : Store H) (k : StoreKind) (size bs : Nat) : List UInt8 :=
  (plist k size bs).flatMap fun x => blockAt src.data (slotD src x)

theorem block_length (src : Store H) (hsk : src.kind ≠ .empty) (k : StoreKind) (size bs : Nat)
    (hs : size ≤ 2 ^ 63) (hbs : bs ≤ 10) (hst : src.tree = ⟨size, bs⟩)
    (hsd : (Tree.blocks ⟨size, bs⟩ - 1) * 64 ≤ src.data.length) (x : Nat)
    (hx : x ∈ plist k size bs) : (blockAt src.data (slotD src x)).length = 64 := by
  obtain ⟨_, h2⟩ := slot_persisted src hsk size bs hs hbs hst x ((plist_perm k size bs hs).mem_iff.mp hx)
  exact length_blockAt _ _ (by omega)

/-- `CopyL.copy_run` with `hbt` instead of `hlen`, and the data in the verbatim form -/
theorem copy_run' (hbt : ByteRT hf) (size bs : Nat) (hs : size ≤ 2 ^ 63)
    (hbs : bs ≤ 10) (fl : Flavour) (src dst : Store H)
    (hst : src.tree = ⟨size, bs⟩) (hdt : dst.tree = ⟨size, bs⟩)
    (hsk : src.kind ≠ .empty) (hsd : (Tree.blocks ⟨size, bs⟩ - 1) * 64 ≤ src.data.length)
    (hdk : ((dst.kind = .preIo ∨ dst.kind = .postIo) ∧
              dst.data.length ≤ (Tree.blocks ⟨size, bs⟩ - 1) * 64) ∨
           ((dst.kind = .preMem ∨ dst.kind = .postMem) ∧
              dst.data.length = (Tree.blocks ⟨size, bs⟩ - 1) * 64)) :
    copy hf fl src dst = .ok { dst with data := moved src dst.kind size bs } := by
  rw [show moved src dst.kind size bs = copied hf src dst.kind size bs from
    (copied_hbt hf hbt src hsk _ size bs hs hbs hst hsd).symm]
  refine copy_run_of_len hf size bs hs hbs fl src dst hst hdt hsk hsd hdk fun x hx => ?_
  -- under the byte round trip a 64-byte record is copied verbatim
  have hb := block_length src hsk .preMem size bs hs hbs hst hsd x hx
  rw [reenc_id hf hbt _ hb, hb]

theorem moved_length (src : Store H) (hsk : src.kind ≠ .empty) (k : StoreKind) (size bs : Nat)
    (hs : size ≤ 2 ^ 63) (hbs : bs ≤ 10) (hst : src.tree = ⟨size, bs⟩)
    (hsd : (Tree.blocks ⟨size, bs⟩ - 1) * 64 ≤ src.data.length) :
    (moved src k size bs).length = (Tree.blocks ⟨size, bs⟩ - 1) * 64 := by
  unfold moved
  rw [length_flatMap64 _ _ (block_length src hsk k size bs hs hbs hst hsd),
    plist_length k size bs hs hbs]

/-- `CopyL.flip_run` with `hbt` instead of `hlen` -/
theorem flip_run' (hbt : ByteRT hf) (size bs : Nat) (hs : size ≤ 2 ^ 63)
    (hbs : bs ≤ 10) (s : Store H) (hst : s.tree = ⟨size, bs⟩) (hsk : s.kind ≠ .empty)
    (hsd : (Tree.blocks ⟨size, bs⟩ - 1) * 64 ≤ s.data.length) :
    flip hf s = .ok ⟨flipKind s.kind, s.root, s.tree, moved s (flipKind s.kind) size bs⟩ := by
  have h := copy_run' hf hbt size bs hs hbs .sync s
    ⟨flipKind s.kind, s.root, s.tree, List.replicate s.tree.outboardSize 0⟩ hst hst hsk hsd
    (.inr ⟨flipKind_mem s.kind, by rw [hst, List.length_replicate]; rfl⟩)
  unfold flip
  simp only
  change (match copy hf .sync s ⟨flipKind s.kind, s.root, s.tree,
      List.replicate s.tree.outboardSize 0⟩ with | .ok t => Res.ok t | _ => Res.panic) = _
  rw [h]

theorem blockAt_moved (src t : Store H) (size bs : Nat) (hs : size ≤ 2 ^ 63) (hbs : bs ≤ 10)
    (hsk : src.kind ≠ .empty) (hst : src.tree = ⟨size, bs⟩)
    (hsd : (Tree.blocks ⟨size, bs⟩ - 1) * 64 ≤ src.data.length)
    (htk : t.kind ≠ .empty) (htt : t.tree = ⟨size, bs⟩) (x : Nat) (hx : x ∈ persistedPre size bs) :
    blockAt (moved src t.kind size bs) (slotD t x) = blockAt src.data (slotD src x) := by
  obtain ⟨hi, e⟩ := plist_slotD t htk size bs hs hbs htt x hx
  unfold moved
  rw [blockAt_flatMap _ _ (block_length src hsk t.kind size bs hs hbs hst hsd) _ hi, e]

theorem moved_moved (size bs : Nat) (hs : size ≤ 2 ^ 63) (hbs : bs ≤ 10) (s t : Store H)
    (hst : s.tree = ⟨size, bs⟩) (hsk : s.kind ≠ .empty)
    (hsd : s.data.length = (Tree.blocks ⟨size, bs⟩ - 1) * 64)
    (htt : t.tree = ⟨size, bs⟩) (htk : t.kind ≠ .empty)
    (htd : t.data = moved s t.kind size bs) :
    moved t s.kind size bs = s.data := by
  have e : moved t s.kind size bs
      = (plist s.kind size bs).flatMap fun x => blockAt s.data (slotD s x) := by
    unfold moved
    apply flatMap_congr'
    intro x hx
    have hx' := (plist_perm s.kind size bs hs).mem_iff.mp hx
    rw [htd]
    exact blockAt_moved s t size bs hs hbs hsk hst (Nat.le_of_eq hsd.symm) htk htt x hx'
  rw [e, flatMap_blocks_eq_take _ _ _ (fun i h => slotD_plist s hsk size bs hs hbs hst i h)
    (by rw [plist_length s.kind size bs hs hbs]; omega)]
  exact List.take_of_length_le (by rw [plist_length s.kind size bs hs hbs]; omega)

/-! ## B. `Spec.indexOfNode` on the layout list is the slot function -/

theorem plist_injective (k : StoreKind) (size bs : Nat) (hs : size ≤ 2 ^ 63) (hbs : bs ≤ 10) :
    ∀ i j (hi : i < (plist k size bs).length) (hj : j < (plist k size bs).length),
      (plist k size bs)[i] = (plist k size bs)[j] → i = j := by
  cases k
  case postIo | postMem => exact C12.post_injective size bs hs hbs
  all_goals exact C12.pre_injective size bs hs hbs

theorem indexOfNode_plist (s : Store H) (hk : s.kind ≠ .empty) (size bs : Nat) (hs : size ≤ 2 ^ 63)
    (hbs : bs ≤ 10) (ht : s.tree = ⟨size, bs⟩) (x : Nat) (hx : x ∈ persistedPre size bs) :
    Spec.indexOfNode (plist s.kind size bs) x = some (slotD s x) := by
  obtain ⟨hi, e⟩ := plist_slotD s hk size bs hs hbs ht x hx
  refine (SpecIndex.indexOfNode_eq _ (plist_injective s.kind size bs hs hbs) x (some (slotD s x))
    (fun i h => ?_) (fun h => by cases h)).symm
  cases h
  rw [List.getElem?_eq_getElem hi, e]

/-- the verdict's re-ordering: the blocks of `data`, looked up by position in the list `P` of the
source order, concatenated along the list `Q` of the target order -/
def reorder (P Q : List Nat) (data : List UInt8) : List UInt8 :=
  Q.flatMap fun x => match Spec.indexOfNode P x with
    | some i => (data.drop (i * 64)).take 64
    | none => []

theorem moved_eq_reorder (s : Store H) (hk : s.kind ≠ .empty) (k : StoreKind) (size bs : Nat)
    (hs : size ≤ 2 ^ 63) (hbs : bs ≤ 10) (ht : s.tree = ⟨size, bs⟩) :
    moved s k size bs = reorder (plist s.kind size bs) (plist k size bs) s.data := by
  unfold moved reorder
  apply flatMap_congr'
  intro x hx
  rw [indexOfNode_plist s hk size bs hs hbs ht x ((plist_perm k size bs hs).mem_iff.mp hx)]
  rfl

/-- `C12.flip_flip` with `hbt` alone: an arbitrary memory store of exactly `outboardSize` bytes flips
to the store of the other kind holding its records re-ordered, and back -/
theorem flip_flip' (hbt : ByteRT hf) (s : Store H) (size bs : Nat) (hs : size ≤ 2 ^ 63)
    (hbs : bs ≤ 10) (ht : s.tree = ⟨size, bs⟩) (hk : s.kind = .preMem ∨ s.kind = .postMem)
    (hd : s.data.length = (Tree.blocks ⟨size, bs⟩ - 1) * 64) :
    flip hf s = .ok ⟨flipKind s.kind, s.root, s.tree,
      reorder (plist s.kind size bs) (plist (flipKind s.kind) size bs) s.data⟩ ∧
    flip hf ⟨flipKind s.kind, s.root, s.tree,
      reorder (plist s.kind size bs) (plist (flipKind s.kind) size bs) s.data⟩ = .ok s := by
  have hsk : s.kind ≠ .empty := by rcases hk with h | h <;> simp [h]
  have hfk : flipKind (flipKind s.kind) = s.kind := by
    rcases hk with h | h <;> rw [h] <;> rfl
  have htk : flipKind s.kind ≠ .empty := by
    rcases flipKind_mem s.kind with h | h <;> simp [h]
  rw [← moved_eq_reorder s hsk _ size bs hs hbs ht]
  refine ⟨flip_run' hf hbt size bs hs hbs s ht hsk (Nat.le_of_eq hd.symm), ?_⟩
  rw [flip_run' hf hbt size bs hs hbs
    ⟨flipKind s.kind, s.root, s.tree, moved s (flipKind s.kind) size bs⟩ ht htk
    (by simp only [moved_length s hsk _ size bs hs hbs ht (Nat.le_of_eq hd.symm)]
        exact Nat.le_refl _)]
  simp only [hfk]
  rw [moved_moved size bs hs hbs s
    ⟨flipKind s.kind, s.root, s.tree, moved s (flipKind s.kind) size bs⟩ ht hsk hd ht htk rfl]

end gen

/-! ## C. `opFlipX`: the `let`s as named definitions, the model's four results -/

theorem real_byteRT : ByteRT Ops.hf := fun _ _ => rfl

/-- `str` of `opFlipX` -/
def fxStr (r : Res IoErr (Store HB)) : String :=
  match r with
  | .ok s => s!"{kindStr s.kind}:{dig s.root}:{dig s.data}"
  | .err e => ioErrStr e
  | .panic => "panic"

/-- `bind` of `opFlipX` -/
def fxBind (r : Res IoErr (Store HB)) (f : Store HB → Res IoErr (Store HB)) :=
  match r with | .ok s => f s | x => x

/-- the random root of `opFlipX` -/
def fxRoot (seed size bs : Nat) : List UInt8 :=
  (randBytes seed (Tree.outboardSize ⟨size, bs⟩ + 32)).take 32

/-- the random backing of `opFlipX` -/
def fxData (seed size bs : Nat) : List UInt8 :=
  (randBytes seed (Tree.outboardSize ⟨size, bs⟩ + 32)).drop 32

/-- the two stores `opFlipX` flips -/
def fxPre (seed size bs : Nat) : Store HB := ⟨.preMem, fxRoot seed size bs, ⟨size, bs⟩, fxData seed size bs⟩
def fxPost (seed size bs : Nat) : Store HB := ⟨.postMem, fxRoot seed size bs, ⟨size, bs⟩, fxData seed size bs⟩

/-- the output line for four results -/
def fxFmt (a a2 b b2 : Res IoErr (Store HB)) : String :=
  s!"{fxStr a} {fxStr a2} {fxStr b} {fxStr b2}"

/-- `m` of `opFlipX` -/
def fxModel (seed size bs : Nat) : String :=
  fxFmt (flip hf (fxPre seed size bs)) (fxBind (flip hf (fxPre seed size bs)) (flip hf))
    (flip hf (fxPost seed size bs)) (fxBind (flip hf (fxPost seed size bs)) (flip hf))

/-- `toPost` of `opFlipX` -/
def fxToPost (seed size bs : Nat) : List UInt8 :=
  reorder (Spec.persistedPre size bs) (Spec.persistedPost size bs) (fxData seed size bs)

/-- `toPre` of `opFlipX` -/
def fxToPre (seed size bs : Nat) : List UInt8 :=
  reorder (Spec.persistedPost size bs) (Spec.persistedPre size bs) (fxData seed size bs)

/-- `spec` of `opFlipX` -/
def fxSpec (seed size bs : Nat) : String :=
  s!"postMem:{dig (fxRoot seed size bs)}:{dig (fxToPost seed size bs)} preMem:{dig (fxRoot seed size bs)}:{dig (fxData seed size bs)} preMem:{dig (fxRoot seed size bs)}:{dig (fxToPre seed size bs)} postMem:{dig (fxRoot seed size bs)}:{dig (fxData seed size bs)}"

/-- the verdict of `opFlipX` -/
def fxVerdict (seed size bs : Nat) (impl : String) : Option String :=
  if impl == fxSpec seed size bs then none
  else some s!"flip of arbitrary contents is not the re-ordering of its records ({fxSpec seed size bs})"

theorem verdict_iff (impl spec msg : String) :
    (if impl == spec then none else some msg) = none ↔ impl = spec := by
  by_cases e : impl = spec
  · simp [e]
  · simp [e]

theorem opFlipX_eq (args : List String) (impl : String) (seed size bs : Nat)
    (h : args.mapM (·.toNat?) = some [seed, size, bs]) :
    (opFlipX args impl).model = fxModel seed size bs ∧
    (opFlipX args impl).specFail = fxVerdict seed size bs impl := by
  rw [opFlipX, h]
  -- the named copies are unfolded first: comparing them folded with the `let`s is slow
  constructor
  · unfold fxModel fxFmt fxStr fxBind fxPre fxPost fxRoot fxData
    rfl
  · unfold fxVerdict fxSpec fxToPost fxToPre reorder fxRoot fxData
    rfl

theorem fxData_length (seed size bs : Nat) :
    (fxData seed size bs).length = (Tree.blocks ⟨size, bs⟩ - 1) * 64 := by
  unfold fxData
  rw [List.length_drop, SpecIndex.randBytes_length]
  show (Tree.blocks ⟨size, bs⟩ - 1) * 64 + 32 - 32 = _
  omega

theorem fxRoot_length (seed size bs : Nat) : (fxRoot seed size bs).length = 32 := by
  unfold fxRoot
  rw [List.length_take, SpecIndex.randBytes_length]
  omega

theorem postMem_colon (x : String) : "postMem" ++ (":" ++ x) = "postMem:" ++ x := by
  rw [← String.append_assoc]; rfl
theorem space_preMem_colon (x : String) : " " ++ ("preMem" ++ (":" ++ x)) = " preMem:" ++ x := by
  rw [← String.append_assoc, ← String.append_assoc]; rfl
theorem space_postMem_colon (x : String) : " " ++ ("postMem:" ++ x) = " postMem:" ++ x := by
  rw [← String.append_assoc]; rfl

theorem fxFmt_ok (r d1 d2 d3 d4 : List UInt8) (t : Tree) :
    fxFmt (.ok ⟨.postMem, r, t, d1⟩) (.ok ⟨.preMem, r, t, d2⟩) (.ok ⟨.preMem, r, t, d3⟩)
      (.ok ⟨.postMem, r, t, d4⟩)
    = s!"postMem:{dig r}:{dig d1} preMem:{dig r}:{dig d2} preMem:{dig r}:{dig d3} postMem:{dig r}:{dig d4}" := by
  simp only [fxFmt, fxStr, kindStr, toString, String.append_assoc, postMem_colon,
    space_preMem_colon, space_postMem_colon]

theorem fxModel_eq_spec (seed size bs : Nat) (hs : size ≤ 2 ^ 63) (hbs : bs ≤ 10) :
    fxModel seed size bs = fxSpec seed size bs := by
  obtain ⟨h1, h2⟩ := flip_flip' hf real_byteRT (fxPre seed size bs) size bs hs hbs rfl (.inl rfl)
    (fxData_length seed size bs)
  obtain ⟨h3, h4⟩ := flip_flip' hf real_byteRT (fxPost seed size bs) size bs hs hbs rfl (.inr rfl)
    (fxData_length seed size bs)
  unfold fxModel
  rw [h1, h3]
  simp only [fxBind]
  rw [h2, h4]
  exact fxFmt_ok _ _ _ _ _ _

/-! ## D. `opObPre` -/

/-- `stable` / `stable2` of `opObPre`: the nodes of the post-order iterator classified stable -/
def opStable (size bs : Nat) : Nat :=
  ((Tree.postOrderNodesIter ⟨size, bs⟩).filter fun x =>
    match Tree.postOrderOffset ⟨size, bs⟩ x with | some (.stable _) => true | _ => false).length

/-- `specStable` / `specStable2` of `opObPre`: persisted nodes whose subtree lies inside the blob -/
def opSpecStable (size bs : Nat) : Nat :=
  ((Spec.persistedPost size bs).filter fun x =>
    Spec.endOf (Spec.indexOf x) (Spec.levelOf x) * 1024 ≤ size).length

/-- `a` of `opObPre`: what the post-order writer emits for the first `n` bytes -/
def opA (ext : List UInt8) (n bs : Nat) : List UInt8 :=
  (outboardPostOrder hf (ext.take n) ⟨n, bs⟩).sink

/-- `b` of `opObPre`: what the post-order writer emits for the extension -/
def opB (ext : List UInt8) (bs : Nat) : List UInt8 :=
  (outboardPostOrder hf ext ⟨ext.length, bs⟩).sink

/-- `l` of `opObPre`: number of common leading 64-byte pairs -/
def opL (ext : List UInt8) (n bs : Nat) : Nat :=
  opObPre.lcp ((opA ext n bs).length / 64 + 1) (opA ext n bs) (opB ext bs) 0

/-- the model's five numbers -/
def opNums (ext : List UInt8) (n bs : Nat) : List Nat :=
  [(opA ext n bs).length / 64, opStable n bs, opL ext n bs, (opB ext bs).length / 64,
    opStable ext.length bs]

/-- `m` of `opObPre` -/
def opModel (ext : List UInt8) (n bs : Nat) : String :=
  s!"{(opA ext n bs).length / 64} {opStable n bs} {opL ext n bs} {(opB ext bs).length / 64} {opStable ext.length bs}"

/-- the verdict of `opObPre` on five parsed numbers -/
def opVerdictNums (ext : List UInt8) (n bs : Nat) (nums : Option (List Nat)) : Option String :=
  match nums with
  | some [pairs, st, l, g, st2] =>
    if pairs != Spec.nBlocks n bs - 1 then some "number of pairs"
    else if st != opSpecStable n bs then some s!"stable count {st}, spec {opSpecStable n bs}"
    else if l < st then some s!"stable prefix of {st} pairs is not a prefix of the extension's outboard (common prefix {l})"
    else if st2 != opSpecStable ext.length bs then some s!"stable count of the extension {st2}, spec {opSpecStable ext.length bs}"
    else if g < st2 then some s!"the extension's outboard (grown in place) has only {g} of its {st2} stable pairs right: cut after them it is not a prefix of the outboards of further extensions"
    else none
  | _ => some "malformed"

/-- the verdict of `opObPre` -/
def opVerdict (ext : List UInt8) (n bs : Nat) (impl : String) : Option String :=
  opVerdictNums ext n bs ((impl.splitOn " ").mapM (·.toNat?))

theorem opObPre_eq (pat seed n m' bs fl impl : String) (ext : List UInt8) (nn bsn : Nat)
    (h1 : blob s!"{pat}:{seed}:{m'}" = some ext) (h2 : n.toNat? = some nn)
    (h3 : bs.toNat? = some bsn) :
    (opObPre [pat, seed, n, m', bs, fl] impl).model = opModel ext nn bsn ∧
    (opObPre [pat, seed, n, m', bs, fl] impl).specFail = opVerdict ext nn bsn impl := by
  rw [opObPre, h1, h2, h3]
  exact ⟨rfl, rfl⟩

theorem isStable_fun (t : Tree) :
    (fun x => match Tree.postOrderOffset t x with | some (.stable _) => true | _ => false)
      = Offsets.isStable t := by
  funext x
  unfold Offsets.isStable
  rfl

theorem not_stable_halfLeaf (size bs : Nat) (hs : size ≤ 2 ^ 63) (hbs : bs ≤ 10) (x : Nat)
    (hx : x ∈ halfLeaf ⟨size, bs⟩) : Offsets.isStable ⟨size, bs⟩ x = false := by
  unfold halfLeaf at hx
  by_cases hb : Tree.blocks ⟨size, bs⟩ % 2 = 1
  · rw [if_pos hb] at hx
    simp only [List.mem_singleton] at hx
    subst hx
    unfold Offsets.isStable
    rw [(C12.post_none size bs hs hbs).2 hb]
  · rw [if_neg hb] at hx
    cases hx

theorem filter_stable_iter (size bs : Nat) (hs : size ≤ 2 ^ 63) (hbs : bs ≤ 10) :
    (Tree.postOrderNodesIter ⟨size, bs⟩).filter (Offsets.isStable ⟨size, bs⟩)
      = (Spec.persistedPost size bs).filter (Offsets.isStable ⟨size, bs⟩) := by
  rw [← postIter_filter size bs hs hbs, List.filter_filter]
  apply List.filter_congr
  intro x _
  by_cases hx : x ∈ halfLeaf ⟨size, bs⟩
  · rw [not_stable_halfLeaf size bs hs hbs x hx]
    rfl
  · have : (halfLeaf ⟨size, bs⟩).contains x = false := by
      rw [List.contains_eq_mem]; simpa using hx
    rw [this]
    simp

theorem isStable_eq_end (size bs x : Nat) (hs : size ≤ 2 ^ 63)
    (hx : x ∈ Spec.persistedPost size bs) :
    Offsets.isStable ⟨size, bs⟩ x
      = decide (Spec.endOf (Spec.indexOf x) (Spec.levelOf x) * 1024 ≤ size) := by
  rw [Bool.eq_iff_iff, decide_eq_true_iff]
  constructor
  · exact fun h => C13L.stable_end hs hx h
  · intro h
    obtain ⟨k, L, rfl, hL, hL53, _⟩ := C13L.mem_persistedPost_coords hs hx
    rw [Bits.indexOf_nodeOf (by omega), Bits.levelOf_nodeOf (by omega)] at h
    exact (Offsets.isStable_iff _ _).mpr
      ⟨_, (Offsets.stable_iff_coord size bs k L hs hL _).mpr ⟨h, rfl⟩⟩

theorem opStable_eq (size bs : Nat) (hs : size ≤ 2 ^ 63) (hbs : bs ≤ 10) :
    opStable size bs = opSpecStable size bs := by
  unfold opStable opSpecStable
  rw [isStable_fun, filter_stable_iter size bs hs hbs]
  exact congrArg List.length (List.filter_congr fun x hx => isStable_eq_end size bs x hs hx)

theorem opSpecStable_eq_count (size bs : Nat) (hs : size ≤ 2 ^ 63) (hbs : bs ≤ 10) :
    opSpecStable size bs
      = (Spec.persistedPost size bs).countP (Offsets.isStable ⟨size, bs⟩) := by
  rw [← opStable_eq size bs hs hbs, List.countP_eq_length_filter]
  unfold opStable
  rw [isStable_fun, filter_stable_iter size bs hs hbs]

theorem opA_eq (ext : List UInt8) (n bs : Nat) (hn : n ≤ ext.length) (hs : n ≤ 2 ^ 63)
    (hbs : bs ≤ 10) : opA ext n bs = Spec.postOutboard hf (ext.take n) bs := by
  have hl : (ext.take n).length = n := by rw [List.length_take]; omega
  unfold opA
  have h := C03.post_order_writer hf (ext.take n) bs (by omega) hbs
  rw [hl] at h
  rw [h]

theorem opB_eq (ext : List UInt8) (bs : Nat) (hs : ext.length ≤ 2 ^ 63) (hbs : bs ≤ 10) :
    opB ext bs = Spec.postOutboard hf ext bs := by
  unfold opB
  rw [C03.post_order_writer hf ext bs hs hbs]

theorem opA_length (ext : List UInt8) (n bs : Nat) (hn : n ≤ ext.length) (hs : n ≤ 2 ^ 63)
    (hbs : bs ≤ 10) : (opA ext n bs).length = (Spec.persistedPost n bs).length * 64 := by
  have hl : (ext.take n).length = n := by rw [List.length_take]; omega
  rw [opA_eq ext n bs hn hs hbs, SpecOb.postOutboard_length' hf SpecOb.hf_outLen _ bs (by omega) hbs,
    hl, (C12.post n bs hs hbs).1]

theorem opB_length (ext : List UInt8) (bs : Nat) (hs : ext.length ≤ 2 ^ 63) (hbs : bs ≤ 10) :
    (opB ext bs).length = (Spec.persistedPost ext.length bs).length * 64 := by
  rw [opB_eq ext bs hs hbs, SpecOb.postOutboard_length' hf SpecOb.hf_outLen _ bs hs hbs,
    (C12.post ext.length bs hs hbs).1]

/-- `C13L.postOutboard_stable_take` under `OutLen` (hash outputs are 32 bytes) -/
theorem postOutboard_stable_take' {H : Type} (hf : HashFns H) (hol : SpecOb.OutLen hf)
    (d e : List UInt8) (bs : Nat) (hs : (d ++ e).length ≤ 2 ^ 63) (hbs : bs ≤ 10) :
    (Spec.postOutboard hf d bs).take
        (64 * (Spec.persistedPost d.length bs).countP (Offsets.isStable ⟨d.length, bs⟩))
      = (Spec.postOutboard hf (d ++ e) bs).take
        (64 * (Spec.persistedPost d.length bs).countP (Offsets.isStable ⟨d.length, bs⟩)) := by
  have hle : d.length ≤ (d ++ e).length := by rw [List.length_append]; omega
  unfold Spec.postOutboard
  rw [C13L.take_flatMap64 _ _ (fun x _ => SpecOb.pairBytes_len hf hol d x),
    C13L.take_flatMap64 _ _ (fun x _ => SpecOb.pairBytes_len hf hol (d ++ e) x),
    ← C13L.take_stable_eq hle hs hbs]
  apply C13L.flatMap_congr'
  intro x hx
  obtain ⟨hxP, hst⟩ := C13L.mem_take_stable (by omega) hx
  exact (C13L.pairBytes_append hf d e x (C13L.stable_end (by omega) hxP hst)).symm

theorem opA_opB_take (ext : List UInt8) (n bs : Nat) (hn : n ≤ ext.length)
    (hs : ext.length ≤ 2 ^ 63) (hbs : bs ≤ 10) :
    (opA ext n bs).take (64 * opSpecStable n bs) = (opB ext bs).take (64 * opSpecStable n bs) := by
  have hl : (ext.take n).length = n := by rw [List.length_take]; omega
  have hsplit : ext.take n ++ ext.drop n = ext := List.take_append_drop n ext
  have h := postOutboard_stable_take' hf SpecOb.hf_outLen (ext.take n) (ext.drop n) bs
    (by rw [hsplit]; exact hs) hbs
  rw [hsplit, hl, ← opSpecStable_eq_count n bs (by omega) hbs] at h
  rw [opA_eq ext n bs hn (by omega) hbs, opB_eq ext bs hs hbs]
  exact h

theorem lcp_ge (fuel : Nat) (a b : List UInt8) (k : Nat) : k ≤ opObPre.lcp fuel a b k := by
  induction fuel generalizing a b k with
  | zero => exact Nat.le_refl _
  | succ f ih =>
    unfold opObPre.lcp
    split
    · exact Nat.le_trans (Nat.le_succ k) (ih _ _ _)
    · exact Nat.le_refl _

theorem lcp_of_take (S : Nat) : ∀ (fuel : Nat) (a b : List UInt8) (k : Nat), S ≤ fuel →
    a.take (64 * S) = b.take (64 * S) → 64 * S ≤ a.length → 64 * S ≤ b.length →
    k + S ≤ opObPre.lcp fuel a b k := by
  induction S with
  | zero => intro fuel a b k _ _ _ _; exact lcp_ge fuel a b k
  | succ S ih =>
    intro fuel a b k hf he ha hb
    obtain ⟨f, rfl⟩ : ∃ f, fuel = f + 1 := ⟨fuel - 1, by omega⟩
    have e64 : a.take 64 = b.take 64 := by
      have := congrArg (List.take 64) he
      rwa [List.take_take, List.take_take, Nat.min_eq_left (by omega)] at this
    have edrop : (a.drop 64).take (64 * S) = (b.drop 64).take (64 * S) := by
      have := congrArg (List.drop 64) he
      rwa [List.drop_take, List.drop_take, show 64 * (S + 1) - 64 = 64 * S by omega] at this
    unfold opObPre.lcp
    have hc : (decide (a.length ≥ 64) && decide (b.length ≥ 64) && a.take 64 == b.take 64) = true := by
      rw [e64]
      simp only [ge_iff_le, BEq.rfl, Bool.and_true, Bool.and_eq_true, decide_eq_true_eq]
      omega
    rw [if_pos hc]
    have := ih f (a.drop 64) (b.drop 64) (k + 1) (by omega) edrop
      (by rw [List.length_drop]; omega) (by rw [List.length_drop]; omega)
    omega

theorem opModel_eq (ext : List UInt8) (n bs : Nat) :
    opModel ext n bs = " ".intercalate ((opNums ext n bs).map toString) := by
  simp only [opModel, opNums, List.map_cons, List.map_nil, String.intercalate_cons_cons,
    String.intercalate_singleton, toString, String.append_assoc]

theorem opModel_parse (ext : List UInt8) (n bs : Nat) :
    ((opModel ext n bs).splitOn " ").mapM (·.toNat?) = some (opNums ext n bs) := by
  rw [opModel_eq, SpecIndex.splitOn_intercalate _ (by simp [opNums])
    (fun t ht => by
      obtain ⟨k, _, rfl⟩ := List.mem_map.1 ht
      exact SpecIndex.noSp_nat k)]
  exact SpecIndex.mapM_toNat?_toString _

/-! ## E. `opFlip` -/

section gen2
variable {H : Type} (hf : HashFns H)

/-- `CopyL.copied_spec` for the verbatim form, under `OutLen` instead of `hlen` -/
theorem moved_spec (hol : SpecOb.OutLen hf) (d : List UInt8) (bs : Nat) (hs : d.length ≤ 2 ^ 63)
    (hbs : bs ≤ 10) (src : Store H) (hsk : src.kind ≠ .empty) (hst : src.tree = ⟨d.length, bs⟩)
    (hsd : src.data = specData hf d src.kind bs) (k : StoreKind) :
    moved src k d.length bs = specData hf d k bs := by
  unfold moved specData
  apply flatMap_congr'
  intro x hx
  have hx' := (plist_perm k d.length bs hs).mem_iff.mp hx
  obtain ⟨hi, e⟩ := plist_slotD src hsk d.length bs hs hbs hst x hx'
  rw [hsd]
  unfold specData
  rw [blockAt_flatMap _ _ (fun x _ => SpecOb.pairBytes_len hf hol d x) _ hi, e]

theorem specData_length' (hol : SpecOb.OutLen hf) (d : List UInt8) (k : StoreKind) (bs : Nat)
    (hs : d.length ≤ 2 ^ 63) (hbs : bs ≤ 10) :
    (specData hf d k bs).length = (Tree.blocks ⟨d.length, bs⟩ - 1) * 64 := by
  unfold specData
  rw [length_flatMap64 _ _ (fun x _ => SpecOb.pairBytes_len hf hol d x), plist_length k _ bs hs hbs]

/-- `C12.copy_spec` under `OutLen` + `ByteRT` (both true of the driver's instance): copying a store
that holds the specification outboard of its order yields the one of the target's order -/
theorem copy_spec' (hol : SpecOb.OutLen hf) (hbt : ByteRT hf) (fl : Flavour) (d : List UInt8)
    (bs : Nat) (hs : d.length ≤ 2 ^ 63) (hbs : bs ≤ 10) (src dst : Store H)
    (hst : src.tree = ⟨d.length, bs⟩) (hdt : dst.tree = ⟨d.length, bs⟩)
    (hsk : src.kind ≠ .empty) (hsd : src.data = specData hf d src.kind bs)
    (hdk : ((dst.kind = .preIo ∨ dst.kind = .postIo) ∧
              dst.data.length ≤ (Tree.blocks ⟨d.length, bs⟩ - 1) * 64) ∨
           ((dst.kind = .preMem ∨ dst.kind = .postMem) ∧
              dst.data.length = (Tree.blocks ⟨d.length, bs⟩ - 1) * 64)) :
    copy hf fl src dst = .ok { dst with data := specData hf d dst.kind bs } := by
  have hl : (Tree.blocks ⟨d.length, bs⟩ - 1) * 64 ≤ src.data.length := by
    rw [hsd, specData_length' hf hol d _ bs hs hbs]
    exact Nat.le_refl _
  rw [copy_run' hf hbt d.length bs hs hbs fl src dst hst hdt hsk hl hdk,
    moved_spec hf hol d bs hs hbs src hsk hst hsd dst.kind]

end gen2

theorem intact_pre (d : List UInt8) (bs : Nat) (hs : d.length ≤ 2 ^ 63) (hbs : bs ≤ 10) :
    intactStore .preMem d bs = ⟨.preMem, Spec.root hf d, ⟨d.length, bs⟩, Spec.preOutboard hf d bs⟩ := by
  have h := SpecOb.outboard_run_pre' hf SpecOb.hf_outLen d bs hs hbs
    ⟨.preMem, [], ⟨d.length, bs⟩, zerosN (Tree.outboardSize ⟨d.length, bs⟩)⟩ rfl
    (.inr ⟨rfl, SpecOb.length_zerosN _⟩)
  simp only at h
  unfold intactStore
  simp only [isPostKind, Bool.false_eq_true, if_false]
  rw [h]

theorem intact_post (d : List UInt8) (bs : Nat) (hs : d.length ≤ 2 ^ 63) (hbs : bs ≤ 10) :
    intactStore .postMem d bs
      = ⟨.postMem, Spec.root hf d, ⟨d.length, bs⟩, Spec.postOutboard hf d bs⟩ := by
  unfold intactStore
  simp only [isPostKind, if_true]
  rw [C03.post_order_writer hf d bs hs hbs]

/-- `dataOf` of `opFlip` -/
def flDataOf (r : Res IoErr (Store HB)) : List UInt8 := match r with | .ok s => s.data | _ => []

def flZ (d : List UInt8) (bs : Nat) : List UInt8 := zerosN (Tree.outboardSize ⟨d.length, bs⟩)

/-- `a` of `opFlip`: pre → post (memory), sync -/
def flA (d : List UInt8) (bs : Nat) : List UInt8 :=
  flDataOf (copy hf .sync (intactStore .preMem d bs)
    { intactStore .preMem d bs with kind := .postMem, data := flZ d bs })

/-- `b'` of `opFlip`: post → pre (memory), sync -/
def flB (d : List UInt8) (bs : Nat) : List UInt8 :=
  flDataOf (copy hf .sync (intactStore .postMem d bs)
    { intactStore .postMem d bs with kind := .preMem, data := flZ d bs })

/-- `c` of `opFlip`: the result `a` copied back to pre-order -/
def flC (d : List UInt8) (bs : Nat) : List UInt8 :=
  flDataOf (copy hf .sync { intactStore .preMem d bs with kind := .postMem, data := flA d bs }
    { intactStore .preMem d bs with kind := .preMem, data := flZ d bs })

/-- `ioPost` of `opFlip`: pre (memory) → post (io, empty backing), fsm -/
def flIo (d : List UInt8) (bs : Nat) : List UInt8 :=
  flDataOf (copy hf .fsm (intactStore .preMem d bs)
    { intactStore .preMem d bs with kind := .postIo, data := [] })

/-- `back` of `opFlip`: that io store → pre (memory), fsm -/
def flBack (d : List UInt8) (bs : Nat) : List UInt8 :=
  flDataOf (copy hf .fsm { intactStore .preMem d bs with kind := .postIo, data := flIo d bs }
    { intactStore .preMem d bs with kind := .preMem, data := flZ d bs })

/-- the line for five byte strings -/
def flFmt (a b c i k : List UInt8) : String := s!"{dig a} {dig b} {dig c} {dig i} {dig k} 11"

/-- `m` of `opFlip` -/
def flModel (d : List UInt8) (bs : Nat) : String :=
  flFmt (flA d bs) (flB d bs) (flC d bs) (flIo d bs) (flBack d bs)

/-- `spec` of `opFlip` -/
def flSpec (d : List UInt8) (bs : Nat) : String :=
  s!"{dig (Spec.postOutboard hf d bs)} {dig (Spec.preOutboard hf d bs)} {dig (Spec.preOutboard hf d bs)} {dig (Spec.postOutboard hf d bs)} {dig (Spec.preOutboard hf d bs)} 11"

/-- the verdict of `opFlip` -/
def flVerdict (d : List UInt8) (bs : Nat) (impl : String) : Option String :=
  if impl == flSpec d bs then none
  else some s!"flip / copy result differs from the directly computed outboards ({flSpec d bs})"

theorem opFlip_eq (b bs impl : String) (d : List UInt8) (bsn : Nat)
    (h1 : blob b = some d) (h2 : bs.toNat? = some bsn) :
    (opFlip [b, bs] impl).model = flModel d bsn ∧
    (opFlip [b, bs] impl).specFail = flVerdict d bsn impl := by
  rw [opFlip, h1, h2]
  constructor
  · unfold flModel flFmt flA flB flC flIo flBack flDataOf flZ
    rfl
  · unfold flVerdict flSpec
    rfl

theorem flZ_length (d : List UInt8) (bs : Nat) :
    (flZ d bs).length = (Tree.blocks ⟨d.length, bs⟩ - 1) * 64 := SpecOb.length_zerosN _

section clauses
variable (d : List UInt8) (bs : Nat) (hs : d.length ≤ 2 ^ 63) (hbs : bs ≤ 10)
include hs hbs

theorem flDataOf_copy (fl : Flavour) (k k' : StoreKind) (r r' init : List UInt8) (hk : k ≠ .empty)
    (hdk : ((k' = .preIo ∨ k' = .postIo) ∧ init.length ≤ (Tree.blocks ⟨d.length, bs⟩ - 1) * 64) ∨
           ((k' = .preMem ∨ k' = .postMem) ∧ init.length = (Tree.blocks ⟨d.length, bs⟩ - 1) * 64)) :
    flDataOf (copy hf fl ⟨k, r, ⟨d.length, bs⟩, specData hf d k bs⟩ ⟨k', r', ⟨d.length, bs⟩, init⟩)
      = specData hf d k' bs := by
  rw [copy_spec' hf SpecOb.hf_outLen real_byteRT fl d bs hs hbs _ _ rfl rfl hk rfl hdk]
  rfl

theorem flA_eq : flA d bs = Spec.postOutboard hf d bs := by
  unfold flA
  rw [intact_pre d bs hs hbs]
  exact flDataOf_copy d bs hs hbs .sync .preMem .postMem _ _ _ nofun
    (.inr ⟨.inr rfl, flZ_length d bs⟩)

theorem flB_eq : flB d bs = Spec.preOutboard hf d bs := by
  unfold flB
  rw [intact_post d bs hs hbs]
  exact flDataOf_copy d bs hs hbs .sync .postMem .preMem _ _ _ nofun
    (.inr ⟨.inl rfl, flZ_length d bs⟩)

theorem flC_eq : flC d bs = Spec.preOutboard hf d bs := by
  unfold flC
  rw [flA_eq d bs hs hbs, intact_pre d bs hs hbs]
  exact flDataOf_copy d bs hs hbs .sync .postMem .preMem _ _ _ nofun
    (.inr ⟨.inl rfl, flZ_length d bs⟩)

theorem flIo_eq : flIo d bs = Spec.postOutboard hf d bs := by
  unfold flIo
  rw [intact_pre d bs hs hbs]
  exact flDataOf_copy d bs hs hbs .fsm .preMem .postIo _ _ _ nofun (.inl ⟨.inr rfl, Nat.zero_le _⟩)

theorem flBack_eq : flBack d bs = Spec.preOutboard hf d bs := by
  unfold flBack
  rw [flIo_eq d bs hs hbs, intact_pre d bs hs hbs]
  exact flDataOf_copy d bs hs hbs .fsm .postIo .preMem _ _ _ nofun
    (.inr ⟨.inl rfl, flZ_length d bs⟩)

theorem flModel_eq_spec : flModel d bs = flSpec d bs := by
  unfold flModel
  rw [flA_eq d bs hs hbs, flB_eq d bs hs hbs, flC_eq d bs hs hbs, flIo_eq d bs hs hbs,
    flBack_eq d bs hs hbs]
  rfl

end clauses

end Bao.SpecFlip
