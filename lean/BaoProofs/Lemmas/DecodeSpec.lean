import BaoProofs.Lemmas.DecodeBridge

/-!
# Decoding against the specification of the wire format (C02, C09, C16)

Built on `Lemmas/DecRunL.lean` (the decoder as a machine over the plan list), `Lemmas/QueryCanon.lean`
(canonical sub-queries), `Lemmas/ItemsEq.lean` (`Spec.itemsI` unfolded along the plan) and
`Lemmas/DecodeBridge.lean` (`plan_items`, `node_run`).

* `honest_run` – the run over the plan on the honest stream returns exactly `Spec.items` and consumes
  exactly the stream.
* `split_at_byte` – plan, items and honest run, decomposed at the item that contains a given byte of
  the honest stream (cut and altered streams, C09).
* `check_inj_local` – different bytes for an item give a different check value (needs that the hash
  inputs of the two checks do not collide).
* `decode_no_panic` – no stream, claimed size, query makes the decoder panic.
* `spans_of_skel`, `covered_iff_spans` – the chunk spans of the leaf items are those of the plan (C02:
  exactly the selected chunks are delivered).
-/

namespace Bao.DecodeSpec
open Bao Bao.Spec Bao.PlanPre Bao.Ranges Bao.Bits

variable {H : Type}

section honest
variable {hf : HashFns H} [BEq H] [LawfulBEq H]

theorem honest_run (hrt : ∀ h, hf.ofBytes (hf.toBytes h) = h)
    (hlen : ∀ h, (hf.toBytes h).length = 32) (d : List UInt8) (bs : Nat) (q : Ranges)
    (hd : d.length ≤ 2 ^ 63) (hwf : WF q = true) (y : List UInt8) :
    runL hf (plan ⟨d.length, 0⟩ bs (truncate q d.length)) [Spec.root hf d]
        (Spec.encode hf d bs q ++ y)
      = ⟨(Spec.items hf d bs q).map (toItem hf),
         .ok (if (truncate q d.length).isEmpty then [Spec.root hf d] else []) y⟩ := by
  have g := shifted_geo d.length 0 hd (by omega)
  obtain ⟨-, hroot, hlt⟩ := rootLevel_spec d.length 0 hd
  have hn := ninv_root hwf d.length hd
  have hcov := rootLevel_covers d.length 0 hd
  rw [Nat.add_zero] at hcov
  unfold Spec.encode
  rw [items_top hf d bs q hd]
  have := node_run (hf := hf) (B := bs) hrt hlen hd g hroot (by rw [hroot]; exact hlt)
    (rootLevel ⟨d.length, 0⟩) 0 (truncate q d.length) (Nat.le_refl _) hn
  unfold plan
  by_cases he : truncate q d.length = []
  · -- nothing is compared: the root hash stays on the stack
    rw [he] at this ⊢
    exact this [Spec.root hf d] y
  · rw [isEmpty_eq_false he, ← hroot, startOf_zero_left, beq_self_eq_true,
      Nat.min_eq_right hcov] at this
    rw [show List.isEmpty (truncate q d.length) = false from isEmpty_eq_false he]
    exact this [] y

end honest

/-- index of the item that contains byte `k` of the concatenated item bytes -/
def locate : List SItem → Nat → Nat
  | [], _ => 0
  | it :: I, k => if k < it.bytes.length then 0 else locate I (k - it.bytes.length) + 1

theorem locate_split (I : List SItem) (k : Nat) (hk : k < (I.flatMap SItem.bytes).length) :
    ∃ I1 it I2, I = I1 ++ it :: I2 ∧ I1.length = locate I k ∧
      (I1.flatMap SItem.bytes).length ≤ k ∧
      k < (I1.flatMap SItem.bytes).length + it.bytes.length := by
  induction I generalizing k with
  | nil => simp at hk
  | cons it I ih =>
    rw [flatMap_bytes_cons, List.length_append] at hk
    by_cases h : k < it.bytes.length
    · exact ⟨[], it, I, rfl, by simp [locate, h], by simp, by simpa using h⟩
    · obtain ⟨I1, it', I2, rfl, h1, h2, h3⟩ := ih (k - it.bytes.length) (by omega)
      refine ⟨it :: I1, it', I2, rfl, by simp [locate, h, h1], ?_, ?_⟩
      · rw [flatMap_bytes_cons, List.length_append]; omega
      · rw [flatMap_bytes_cons, List.length_append]; omega

def _root_.Bao.Spec.SItem.notFound : SItem → DecodeError
  | .parent node _ => .parentNotFound node
  | .leaf s _ => .leafNotFound s

def _root_.Bao.Spec.SItem.mismatch : SItem → DecodeError
  | .parent node _ => .parentHashMismatch node
  | .leaf s _ => .leafHashMismatch s

theorem match_notFound {hf : HashFns H} {d : List UInt8} {c : Chunk} {it : SItem}
    (h : Match hf d c it) : notFound c = it.notFound := by
  cases c <;> cases it <;> simp only [Match] at h
  · simp only [notFound, SItem.notFound, h.1]
  · simp only [notFound, SItem.notFound, h.1]

theorem match_mismatch {hf : HashFns H} {d : List UInt8} {c : Chunk} {it : SItem}
    (h : Match hf d c it) : mismatch c = it.mismatch := by
  cases c <;> cases it <;> simp only [Match] at h
  · simp only [mismatch, SItem.mismatch, h.1]
  · simp only [mismatch, SItem.mismatch, h.1]

theorem skel_psize {hf : HashFns H} {d : List UInt8} (hlen : ∀ h, (hf.toBytes h).length = 32)
    {P : List Chunk} {I : List SItem} (h : Skel (Match hf d) P I) :
    psize P = (I.flatMap SItem.bytes).length := by
  induction h with
  | nil => rfl
  | cons hm _ ih =>
    rw [psize_cons, flatMap_bytes_cons, List.length_append, ih, hm.size hlen]

section faults
variable {hf : HashFns H} [BEq H] [LawfulBEq H]

/-- the decomposition of plan, items and honest run at the item that contains byte `k` of the
honest stream -/
theorem split_at_byte (hrt : ∀ h, hf.ofBytes (hf.toBytes h) = h)
    (hlen : ∀ h, (hf.toBytes h).length = 32) (d : List UInt8) (bs : Nat)
    (q : Ranges) (hd : d.length ≤ 2 ^ 63) (hwf : WF q = true) (k : Nat)
    (hk : k < (Spec.encode hf d bs q).length) :
    ∃ (P1 : List Chunk) (c : Chunk) (P2 : List Chunk) (I1 : List SItem) (it : SItem)
      (I2 : List SItem), plan ⟨d.length, 0⟩ bs (truncate q d.length) = P1 ++ c :: P2 ∧
      Match hf d c it ∧ (Spec.items hf d bs q)[locate (Spec.items hf d bs q) k]? = some it ∧
      (Spec.items hf d bs q).take (locate (Spec.items hf d bs q) k) = I1 ∧
      psize P1 = (I1.flatMap SItem.bytes).length ∧ psize P1 ≤ k ∧ k < psize P1 + c.size ∧
      Spec.encode hf d bs q = I1.flatMap SItem.bytes ++ (it.bytes ++ I2.flatMap SItem.bytes) ∧
      (∃ st, (runL hf (P1 ++ c :: P2) [Spec.root hf d] (Spec.encode hf d bs q)).fin = .ok st []) ∧
      (runL hf (P1 ++ c :: P2) [Spec.root hf d] (Spec.encode hf d bs q)).items.take P1.length
        = I1.map (toItem hf) := by
  obtain ⟨I1, it, I2, hI, h1, h2, h3⟩ := locate_split (Spec.items hf d bs q) k hk
  have hsk := plan_items hf d bs q hd hwf
  have hrun := honest_run hrt hlen d bs q hd hwf []
  rw [hI] at hsk
  obtain ⟨P1, c, P2, hP, s1, hm, -⟩ := hsk.split_right
  have hps := skel_psize hlen s1
  rw [List.append_nil, hP] at hrun
  refine ⟨P1, c, P2, I1, it, I2, hP, hm, ?_, ?_, hps, by omega, by rw [← hm.size hlen]; omega,
    ?_, ⟨_, by rw [hrun]⟩, ?_⟩
  · rw [← h1, hI, List.getElem?_append_right (Nat.le_refl _), Nat.sub_self]; rfl
  · rw [← h1, hI]; exact List.take_left' rfl
  · unfold Spec.encode
    rw [hI, List.flatMap_append, flatMap_bytes_cons]
  · rw [hrun, hI, s1.length_eq, List.map_append, List.take_left' (List.length_map _)]

end faults

/-- **no stream, claimed size, block size or query makes a decoder panic** -/
theorem decode_no_panic (hf : HashFns H) [BEq H] (fl : Flavour) (root : H) (size bs : Nat)
    (q : Ranges) (s : List UInt8) (hs : size ≤ 2 ^ 63) :
    (decodeAll hf fl root ⟨size, bs⟩ q s).terminal ≠ .panic := by
  rw [decodeAll_eq_runL hf fl _ _ _ _ _ hs]
  simp only [Out.toRun]
  by_cases hq : truncate q size = []
  · rw [hq, plan_nil]; simp [End.terminal]
  · exact runL_no_panic hf _ 1 _ _ rfl
      (fun n => plan_stack_prefix size 0 bs (truncate q size) hs (by omega) hq n)

/-! ## altered streams

`CollisionFree hf` cannot be assumed together with a faithful 32-byte wire format
(`Lemmas/CFUnsat.lean`), so collision freedom is localised: `NoCollision hf S` for the finite list
`S` of the hash inputs of the honest and of the altered item. -/

/-- the hash inputs of the computation `cvLevel hf L c b r` (= `Bao.evalsOf`, `evalsOf_eq_hashInputs`) -/
def hashInputs (hf : HashFns H) : Nat → Nat → List UInt8 → Bool → List (HashIn H)
  | 0, c, b, r => [.chunk c b r]
  | L + 1, c, b, r =>
    if b.length ≤ 2 ^ L * chunkLen then hashInputs hf L c b r
    else
      .parent (cvLevel hf L c (b.take (2 ^ L * chunkLen)) false)
          (cvLevel hf L (c + 2 ^ L) (b.drop (2 ^ L * chunkLen)) false) r ::
        (hashInputs hf L c (b.take (2 ^ L * chunkLen)) false ++
          hashInputs hf L (c + 2 ^ L) (b.drop (2 ^ L * chunkLen)) false)

/-- `hashInputs` is the `evalsOf` of `Lemmas/HashCFLoc.lean` -/
theorem evalsOf_eq_hashInputs (hf : HashFns H) (L c : Nat) (b : List UInt8) (r : Bool) :
    evalsOf hf L c b r = hashInputs hf L c b r := by
  induction L generalizing c b r with
  | zero => rfl
  | succ L ih => simp only [evalsOf, hashInputs, ih]

theorem hashInputs_chunk (hf : HashFns H) (L c : Nat) (b : List UInt8) (r : Bool)
    (h : b.length ≤ 1024) : hashInputs hf L c b r = [.chunk c b r] := by
  rw [← evalsOf_eq_hashInputs, evalsOf_mono (L := 0) (by simpa using h) (Nat.zero_le L)]
  rfl

/-- no two different inputs of the list `S` hash to the same value: `CollisionFreeOn hf (· ∈ S)` of
`Lemmas/HashCFLoc.lean`, in the form the statement of C09 uses -/
def NoCollision (hf : HashFns H) (S : List (HashIn H)) : Prop :=
  ∀ x ∈ S, ∀ y ∈ S, hf.eval x = hf.eval y → x = y

theorem NoCollision.mono {hf : HashFns H} {S T : List (HashIn H)} (h : NoCollision hf T)
    (hst : ∀ x ∈ S, x ∈ T) : NoCollision hf S :=
  fun x hx y hy e => h x (hst x hx) y (hst y hy) e

theorem NoCollision.of_cf {hf : HashFns H} (cf : CollisionFree hf) (S : List (HashIn H)) :
    NoCollision hf S := fun x _ y _ e => cf x y e

theorem getElem?_drop_take {α : Type} (s : List α) {k a n : Nat} (h1 : a ≤ k) (h2 : k < a + n) :
    s[k]? = ((s.drop a).take n)[k - a]? := by
  rw [List.getElem?_take, if_pos (by omega), List.getElem?_drop, Nat.add_sub_cancel' h1]

/-- the hash inputs of the check of a plan item on the bytes `buf` (= `checkEvals` of
`Lemmas/SizeProofLoc.lean`, `checkEvals_eq_checkInputs`) -/
def checkInputs (hf : HashFns H) : Chunk → List UInt8 → List (HashIn H)
  | .parent _ isRoot _ _ _, buf => [.parent (parsePair hf buf).1 (parsePair hf buf).2 isRoot]
  | .leaf start _ isRoot _, buf => hashInputs hf 64 start buf isRoot

/-- the hash inputs of the check of a specification item (with root flag `f`) on the bytes `buf` -/
def itemInputs (hf : HashFns H) (f : Bool) : SItem → List UInt8 → List (HashIn H)
  | .parent _ _, buf => [.parent (parsePair hf buf).1 (parsePair hf buf).2 f]
  | .leaf s _, buf => hashInputs hf 64 s buf f

theorem match_inputs {hf : HashFns H} {d : List UInt8} {c : Chunk} {it : SItem}
    (h : Match hf d c it) (buf : List UInt8) :
    checkInputs hf c buf = itemInputs hf c.rootFlag it buf := by
  cases c <;> cases it <;> simp only [Match] at h
  · rfl
  · simp only [checkInputs, itemInputs, Chunk.rootFlag, h.1]

theorem check_inj_local {hf : HashFns H}
    (hinj : ∀ a b : List UInt8, a.length = 32 → b.length = 32 → hf.ofBytes a = hf.ofBytes b → a = b)
    (c : Chunk) (b b' : List UInt8) (hb : b.length = c.size) (hb' : b'.length = c.size)
    (hnc : ∀ x ∈ checkInputs hf c b, ∀ y ∈ checkInputs hf c b', hf.eval x = hf.eval y → x = y)
    (h : check hf c b = check hf c b') : b = b' := by
  cases c with
  | parent node isRoot lf rf x =>
    -- the two pairs are equal, and a pair determines its 64 bytes
    injection hnc _ (List.mem_singleton_self _) _ (List.mem_singleton_self _) h with e1 e2 _
    have hb : b.length = 64 := hb
    have hb' : b'.length = 64 := hb'
    have t1 := hinj _ _ (by rw [List.length_take, hb]; rfl) (by rw [List.length_take, hb']; rfl) e1
    have t2 := hinj _ _ (by rw [List.length_take, List.length_drop, hb]; rfl)
      (by rw [List.length_take, List.length_drop, hb']; rfl) e2
    rw [List.take_of_length_le (by rw [List.length_drop, hb]; decide),
      List.take_of_length_le (by rw [List.length_drop, hb']; decide)] at t2
    rw [← List.take_append_drop 32 b, ← List.take_append_drop 32 b', t1, t2]
  | leaf start size isRoot x =>
    refine (cvInjOn_all 64 start start b b' isRoot isRoot ?_ h).2.1
    rw [evalsOf_eq_hashInputs, evalsOf_eq_hashInputs]
    exact hnc

/-- the chunk spans `[off/1024, off/1024 + max 1 ⌈len/1024⌉)` of the leaf items a decoder returned -/
def itemSpans : List (Item H) → List (Nat × Nat)
  | [] => []
  | .leaf off b :: rest => (off / 1024, off / 1024 + max 1 (chunksOf b.length)) :: itemSpans rest
  | .parent .. :: rest => itemSpans rest

theorem spans_of_skel {hf : HashFns H} {d : List UInt8} {P : List Chunk} {I : List SItem}
    (h : Skel (Match hf d) P I) : itemSpans (I.map (toItem hf)) = leafSpans P := by
  induction h with
  | nil => rfl
  | @cons c it P I hm _ ih =>
    cases c <;> cases it <;> simp only [Match] at hm
    · simp only [List.map_cons, toItem, itemSpans, leafSpans, ih]
    · obtain ⟨rfl, rfl, -⟩ := hm
      simp only [List.map_cons, toItem, itemSpans, leafSpans, ih, Nat.mul_div_cancel _ (by decide : 0 < 1024)]

theorem covered_iff_spans (p : List Chunk) (c : Nat) :
    covered p c ↔ ∃ a ∈ leafSpans p, a.1 ≤ c ∧ c < a.2 := by
  induction p with
  | nil => simp [covered, leafSpans]
  | cons x p ih =>
    cases x with
    | parent n ir l r rs =>
      simp only [leafSpans, ← ih, covered, List.mem_cons, reduceCtorEq, false_or]
    | leaf s z ir rs =>
      simp only [leafSpans, List.mem_cons, exists_eq_or_imp, ← ih]
      simp only [covered, List.mem_cons, Chunk.leaf.injEq]
      constructor
      · rintro ⟨s', z', r', x', (⟨rfl, rfl, -, -⟩ | hm), h1, h2⟩
        · exact Or.inl ⟨h1, h2⟩
        · exact Or.inr ⟨s', z', r', x', hm, h1, h2⟩
      · rintro (⟨h1, h2⟩ | ⟨s', z', r', x', hm, h1, h2⟩)
        · exact ⟨s, z, ir, rs, Or.inl ⟨rfl, rfl, rfl, rfl⟩, h1, h2⟩
        · exact ⟨s', z', r', x', Or.inr hm, h1, h2⟩

theorem Skel.mem_right {α β : Type} {R : α → β → Prop} {a : List α} {b : List β}
    (h : Skel R a b) {y : β} (hy : y ∈ b) : ∃ x ∈ a, R x y := by
  induction h with
  | nil => simp at hy
  | cons hr _ ih =>
    rcases List.mem_cons.1 hy with rfl | hy
    · exact ⟨_, List.mem_cons_self .., hr⟩
    · obtain ⟨x, hx, hxy⟩ := ih hy
      exact ⟨x, List.mem_cons_of_mem _ hx, hxy⟩

end Bao.DecodeSpec
