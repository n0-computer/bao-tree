import BaoProofs.Lemmas.QueryCanon

/-!
# `Spec.itemsI` unfolded along the cases of the recursive plan

`NInv sel L k rs`: the sub-query `rs` handed to the (block-size-0) node `(k, L)` is canonical
(`QInv`), selects on the node's chunk interval exactly what `sel` selects, and the subtree exists.
Under `NInv` the specification `Spec.itemsI … (L + 1) k` takes the same branch as
`PlanPre.planPre size 0 B …  L k rs`; the equations below are one per branch.
-/

namespace Bao.DecodeSpec
open Bao Bao.Spec Bao.PlanPre Bao.Ranges Bao.Bits

variable {H : Type}

/-- what is known of the sub-query `rs` that the plan hands to node `(k, L)` of the block-size-0 tree:
`q` it is canonical for the node's chunk interval; `agree` on that interval it selects what the whole
query (`sel`) selects; `ex` the node's subtree exists (`filled` nodes of the shifted tree do) -/
structure NInv (size filled : Nat) (sel : Nat → Bool) (L k : Nat) (rs : Ranges) : Prop where
  q : QInv size rs (startOf k L) (endOf k L)
  agree : ∀ c, startOf k L ≤ c → c < endOf k L → sel c = Spec.selected size rs c
  ex : startOf k L < filled

theorem lq_zero (L k : Nat) (rs : Ranges) :
    lq 0 L k rs = (splitInner rs (startOf k L) (midOf k L)).1 := rfl

theorem rq_zero (L k : Nat) (rs : Ranges) :
    rq 0 L k rs = (splitInner rs (startOf k L) (midOf k L)).2 := rfl

theorem two_zero_geom (k : Nat) :
    startOf k 0 = 2 * k ∧ midOf k 0 = 2 * k + 1 ∧ endOf k 0 = 2 * k + 2 := by
  rw [startOf_eq, midOf_eq, endOf_eq]; simp

theorem QInv.single {size c : Nat} {rs : Ranges} (h : QInv size rs c (c + 1))
    (hc : c < nChunks size) : Spec.selected size rs c = !rs.isEmpty := by
  by_cases hl : rs = []
  · rw [hl, selected_nil]; rfl
  · obtain ⟨c', h1, h2, h3⟩ := h.witness hl (Nat.lt_succ_self c) hc
    have : c' = c := by omega
    rw [← this, h3, isEmpty_eq_false hl]; rfl

section
variable {size filled : Nat} {sel : Nat → Bool}

theorem NInv.start_lt (g : Geo size 0 filled) {L k : Nat} {rs : Ranges}
    (h : NInv size filled sel L k rs) : startOf k L < nChunks size :=
  g.start_lt_nChunks (L := L) h.ex

theorem NInv.node_lt {k : Nat} {rs : Ranges} (h : NInv size filled sel 0 k rs) :
    nodeOf k 0 < filled := by
  rw [Offsets.nodeOf_zero, ← Offsets.startOf_zero]; exact h.ex

theorem NInv.skip (g : Geo size 0 filled) {L k : Nat} {rs : Ranges}
    (h : NInv size filled sel (L + 1) k rs) (hge : filled ≤ nodeOf k (L + 1)) :
    NInv size filled sel L (2 * k) rs := by
  have hm : nChunks size ≤ midOf k (L + 1) := g.skip_mid_ge hge
  refine ⟨?_, ?_, ?_⟩
  · rw [startOf_left, endOf_left]; exact h.q.skip hm
  · intro c h1 h2
    rw [startOf_left] at h1; rw [endOf_left] at h2
    exact h.agree c h1 (Nat.lt_trans h2 (midOf_lt_endOf k (L + 1)))
  · rw [startOf_left]; exact h.ex

theorem NInv.left {L k : Nat} {rs : Ranges}
    (h : NInv size filled sel (L + 1) k rs) (hm : midOf k (L + 1) < nChunks size) :
    NInv size filled sel L (2 * k) (lq 0 (L + 1) k rs) := by
  have hsm := startOf_lt_midOf k (L + 1)
  refine ⟨?_, ?_, ?_⟩
  · rw [startOf_left, endOf_left, lq_zero]
    exact h.q.left (m := midOf k (L + 1)) (by omega)
  · intro c h1 h2
    rw [startOf_left] at h1; rw [endOf_left] at h2
    rw [h.agree c h1 (Nat.lt_trans h2 (midOf_lt_endOf k (L + 1))), lq_zero]
    exact (selected_left h.q.wf h1 h2 hm).symm
  · rw [startOf_left]; exact h.ex

theorem NInv.right (g : Geo size 0 filled) {L k : Nat} {rs : Ranges}
    (h : NInv size filled sel (L + 1) k rs) (hlt : nodeOf k (L + 1) < filled) :
    NInv size filled sel L (2 * k + 1) (rq 0 (L + 1) k rs) := by
  have hsm := startOf_lt_midOf k (L + 1)
  have hme := midOf_lt_endOf k (L + 1)
  refine ⟨?_, ?_, g.right_exists hlt⟩
  · rw [startOf_right, endOf_right, rq_zero]
    exact h.q.right (m := midOf k (L + 1)) (by omega)
  · intro c h1 h2
    rw [startOf_right] at h1; rw [endOf_right] at h2
    rw [h.agree c (by omega) h2, rq_zero]
    exact (selected_right h.q.wf h1).symm

theorem NInv.any (g : Geo size 0 filled) {L k : Nat} {rs : Ranges}
    (h : NInv size filled sel L k rs) (hne : rs ≠ []) :
    anySel sel (startOf k L) (min (endOf k L) (nChunks size)) = true := by
  obtain ⟨c, h1, h2, h3⟩ := h.q.witness hne (startOf_lt_endOf k L) (h.start_lt g)
  rw [anySel_eq_true_iff]
  exact ⟨c, h1, h2, by rw [h.agree c h1 (by omega)]; exact h3⟩

theorem NInv.none {L k : Nat} (h : NInv size filled sel L k []) :
    anySel sel (startOf k L) (min (endOf k L) (nChunks size)) = false := by
  rw [anySel_eq_false_iff]
  intro c h1 h2
  rw [h.agree c h1 (by omega), selected_nil]

/-- `is_all` on the canonical sub-query is "every chunk of the node is selected" -/
theorem NInv.all_iff {L k : Nat} {rs : Ranges}
    (h : NInv size filled sel L k rs) (hm : midOf k L < nChunks size) :
    allSel sel (startOf k L) (min (endOf k L) (nChunks size)) = true ↔ rs = [0] := by
  have hsm := startOf_lt_midOf k L
  rw [allSel_eq_true_iff]
  constructor
  · intro hall
    refine h.q.all_of_selected (by omega) (startOf_lt_endOf k L) (fun c h1 h2 => ?_)
    rw [← h.agree c h1 (by omega)]; exact hall c h1 h2
  · rintro rfl c h1 h2
    rw [h.agree c h1 (by omega), selected_all]
    simp only [decide_eq_true_eq]; omega

end

section eqs
variable (hf : HashFns H) (d : List UInt8) (B : Nat) (sel : Nat → Bool)

/-- what `Spec.itemsI` emits for the parent `(k, L)`: the node and the hashes of its two halves -/
def parentItem (k L : Nat) : SItem :=
  .parent (nodeOf k L)
    (hf.toBytes (cv hf d (startOf k L) (midOf k L) false) ++
      hf.toBytes (cv hf d (midOf k L) (min (endOf k L) (nChunks d.length)) false))

/-- what `Spec.itemsI` emits when the whole node `(k, L)` is one leaf: its chunks, clipped to the blob -/
def wholeLeaf (k L : Nat) : SItem :=
  .leaf (startOf k L) (slice d (startOf k L) (min (endOf k L) (nChunks d.length)))

theorem itemsI_succ (L k : Nat) :
    itemsI hf d (nChunks d.length) B sel (L + 1) k =
      if (!anySel sel (startOf k L) (min (endOf k L) (nChunks d.length))) = true then []
      else if midOf k L ≥ nChunks d.length then itemsI hf d (nChunks d.length) B sel L (2 * k)
      else if (allSel sel (startOf k L) (min (endOf k L) (nChunks d.length))
          && decide (L + 1 ≤ B)) = true then [wholeLeaf d k L]
      else parentItem hf d k L ::
        (itemsI hf d (nChunks d.length) B sel L (2 * k) ++
          itemsI hf d (nChunks d.length) B sel L (2 * k + 1)) := rfl

theorem itemsI_zero (j : Nat) :
    itemsI hf d (nChunks d.length) B sel 0 j =
      if sel j = true then [.leaf j (slice d j (j + 1))] else [] := rfl

variable {hf d B sel} {filled : Nat}

theorem items_nil {L k : Nat} (h : NInv d.length filled sel L k []) :
    itemsI hf d (nChunks d.length) B sel (L + 1) k = [] := by
  rw [itemsI_succ, h.none]; rfl

theorem items_skip (g : Geo d.length 0 filled) {L k : Nat} {rs : Ranges}
    (h : NInv d.length filled sel (L + 1) k rs) (hne : rs ≠ [])
    (hge : filled ≤ nodeOf k (L + 1)) :
    itemsI hf d (nChunks d.length) B sel (L + 1 + 1) k
      = itemsI hf d (nChunks d.length) B sel (L + 1) (2 * k) := by
  have hm : nChunks d.length ≤ midOf k (L + 1) := g.skip_mid_ge hge
  rw [itemsI_succ, h.any g hne, if_neg (by simp), if_pos hm]

theorem items_single (g : Geo d.length 0 filled) {k : Nat} {rs : Ranges}
    (h : NInv d.length filled sel 0 k rs) (hne : rs ≠ [])
    (hm : nChunks d.length ≤ midOf k 0) :
    itemsI hf d (nChunks d.length) B sel 1 k = [wholeLeaf d k 0] := by
  have hany := h.any g hne
  obtain ⟨e1, e2, e3⟩ := two_zero_geom k
  have hn : nChunks d.length = 2 * k + 1 := Nat.le_antisymm (e2 ▸ hm) (e1 ▸ h.start_lt g)
  have hmin : min (endOf k 0) (nChunks d.length) = 2 * k + 1 := by
    rw [e3, hn]; exact Nat.min_eq_right (Nat.le_succ _)
  rw [itemsI_succ, hany, if_neg (by simp), if_pos hm, itemsI_zero]
  rw [anySel_eq_true_iff, hmin, e1] at hany
  obtain ⟨c, h1, h2, h3⟩ := hany
  cases Nat.le_antisymm (Nat.le_of_lt_succ h2) h1
  rw [if_pos h3, wholeLeaf, e1, hmin]

theorem items_all (g : Geo d.length 0 filled) {L k : Nat}
    (h : NInv d.length filled sel L k [0]) (hm : midOf k L < nChunks d.length) (hL : L < B) :
    itemsI hf d (nChunks d.length) B sel (L + 1) k = [wholeLeaf d k L] := by
  rw [itemsI_succ, h.any g (List.cons_ne_nil _ _), if_neg (by simp), if_neg (Nat.not_le.2 hm),
    (h.all_iff hm).2 rfl, if_pos (by simp; omega)]

theorem items_parent (g : Geo d.length 0 filled) {L k : Nat} {rs : Ranges}
    (h : NInv d.length filled sel L k rs) (hne : rs ≠ [])
    (hm : midOf k L < nChunks d.length) (hq : queryLeaf 0 B L rs = false) :
    itemsI hf d (nChunks d.length) B sel (L + 1) k =
      parentItem hf d k L ::
        (itemsI hf d (nChunks d.length) B sel L (2 * k) ++
          itemsI hf d (nChunks d.length) B sel L (2 * k + 1)) := by
  rw [itemsI_succ, h.any g hne, if_neg (by simp), if_neg (by omega), if_neg]
  intro hc
  simp only [Bool.and_eq_true, decide_eq_true_eq] at hc
  have hrs := (h.all_iff hm).1 hc.1
  subst hrs
  unfold queryLeaf at hq
  simp [Ranges.isAll] at hq
  omega

theorem items_queryLeaf (g : Geo d.length 0 filled) {L k : Nat} {rs : Ranges}
    (h : NInv d.length filled sel L k rs) (hne : rs ≠ []) (hlt : nodeOf k L < filled)
    (hq : queryLeaf 0 B L rs = true) :
    itemsI hf d (nChunks d.length) B sel (L + 1) k = [wholeLeaf d k L] := by
  have hLB := queryLeaf_lt hq
  cases queryLeaf_all hq
  by_cases hm : midOf k L < nChunks d.length
  · exact items_all g h hm (by omega)
  · cases L with
    | succ L => exact absurd (g.mid_lt_nChunks hlt) hm
    | zero => exact items_single g h hne (by omega)

theorem items_half (g : Geo d.length 0 filled) {k : Nat} {rs : Ranges}
    (h : NInv d.length filled sel 0 k rs) (hne : rs ≠ []) (hh : d.length ≤ toBytes (midOf k 0)) :
    itemsI hf d (nChunks d.length) B sel 1 k = [wholeLeaf d k 0] :=
  items_single g h hne
    (nChunks_le_of_le_toBytes (Nat.lt_of_le_of_lt (Nat.zero_le _) (startOf_lt_midOf k 0)) hh)

theorem sel_left_chunk {k : Nat} {rs : Ranges}
    (h : NInv d.length filled sel 0 k rs) (hm : midOf k 0 < nChunks d.length) :
    sel (2 * k) = !(lq 0 0 k rs).isEmpty := by
  obtain ⟨e1, e2, e3⟩ := two_zero_geom k
  have hq := h.q.left (m := midOf k 0) (Nat.zero_lt_of_lt (startOf_lt_midOf k 0))
  rw [e1, e2] at hq
  rw [e2] at hm
  rw [h.agree (2 * k) (Nat.le_of_eq e1) (e3 ▸ Nat.lt_add_of_pos_right (Nat.zero_lt_succ 1)),
    lq_zero, e1, e2, ← selected_left h.q.wf (Nat.le_refl _) (Nat.lt_succ_self _) hm]
  exact hq.single (Nat.lt_of_succ_lt hm)

theorem sel_right_chunk {k : Nat} {rs : Ranges}
    (h : NInv d.length filled sel 0 k rs) (hm : midOf k 0 < nChunks d.length) :
    sel (2 * k + 1) = !(rq 0 0 k rs).isEmpty := by
  obtain ⟨e1, e2, e3⟩ := two_zero_geom k
  have hq := h.q.right (m := midOf k 0) (Nat.zero_lt_of_lt (startOf_lt_endOf k 0))
  rw [e2, e3] at hq
  rw [e2] at hm
  rw [h.agree (2 * k + 1) (e1 ▸ Nat.le_succ _) (e3 ▸ Nat.lt_succ_self _), rq_zero, e1, e2,
    ← selected_right h.q.wf (Nat.le_refl _)]
  exact hq.single hm

end eqs

end Bao.DecodeSpec
