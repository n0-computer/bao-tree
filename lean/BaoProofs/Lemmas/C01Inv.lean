import BaoModel.Codec
import BaoModel.Spec
import BaoProofs.Lemmas.HashCFLoc
import BaoProofs.Lemmas.WriteAtL
import BaoProofs.Lemmas.DecSim

/-!
# The decoder invariant behind C01

Every hash on the decoder's stack is the chaining value of a *subtree interval of the true blob*
(`TrueCv`).  Under `CollisionFree hf` one decoder step (either flavour, ANY plan iterator state,
ANY stream) that yields an item

* yields, for a leaf, exactly the bytes of a subtree interval of the true blob at its true offset
  (`TrueLeaf`),
* yields, for a parent, exactly the stored pair `Spec.pair hf d k L` of an existing node `(k, L)`
  of the true tree (`TruePair`),

and leaves only `TrueCv` hashes on the stack (`next_sound`).

The parent check is proved once, for an interval hashed with any root flag and a hash that is
collision free on a set holding the inputs involved (`parent_check_on`); `Lemmas/C01InvLoc.lean`
uses it with the honest flags.  Both decoders are "pull a plan item, read its bytes, `post`"
(`next_eq`, for the decoder with a failing read of `Lemmas/ReadFaultL.lean`); what a step that yields
an item has done is `DecSim.next_item_iff` with `DecodeSpec.stepC_item`.
-/

namespace Bao.C01

open Bao.Spec

variable {H : Type}

/-- `[c, e)` is the chunk interval of a subtree of the BLAKE3 tree of `d`: `c` is a multiple of
some `2^M`, the interval is `[c, c + 2^M)` clipped to the blob, and it is not empty -/
def Sub (d : List UInt8) (c e : Nat) : Prop :=
  ∃ M, 2 ^ M ∣ c ∧ e = min (c + 2 ^ M) (nChunks d.length) ∧ c < nChunks d.length

/-- `h` is the chaining value of a subtree of the true blob (root or not) -/
def TrueCv (hf : HashFns H) (d : List UInt8) (h : H) : Prop :=
  ∃ c e f, Sub d c e ∧ h = Spec.cv hf d c e f

/-- `bytes` are the bytes of a subtree interval of the true blob and `off` is where they live -/
def TrueLeaf (d : List UInt8) (off : Nat) (bytes : List UInt8) : Prop :=
  ∃ c e, Sub d c e ∧ off = c * 1024 ∧ bytes = Spec.slice d c e

/-- `(l, r)` is the hash pair of an existing node `(k, L)` of the true tree of `d`; their parent
hash is the chaining value of that node's interval -/
def TruePair (hf : HashFns H) (d : List UInt8) (l r : H) : Prop :=
  ∃ k L, L < 64 ∧ midOf k L < nChunks d.length ∧ (l, r) = Spec.pair hf d k L ∧
    ∀ f, hf.parentCv l r f =
      Spec.cv hf d (startOf k L) (min (endOf k L) (nChunks d.length)) f

/-- soundness of one yielded item (nothing is claimed about the `node` label of a parent: with a
wrong claimed size it need not be a node of the true tree) -/
def ItemOk (hf : HashFns H) (d : List UInt8) : Item H → Prop
  | .leaf off bytes => TrueLeaf d off bytes
  | .parent _ l r => TruePair hf d l r

def StackOk (hf : HashFns H) (d : List UInt8) (st : List H) : Prop := ∀ h ∈ st, TrueCv hf d h

theorem nChunks_pos (len : Nat) : 1 ≤ nChunks len := by simp [nChunks]; omega

theorem nChunks_ge (len : Nat) : len ≤ nChunks len * 1024 := by simp [nChunks]; omega

theorem nChunks_lt {len : Nat} (h : 0 < len) : (nChunks len - 1) * 1024 < len := by
  simp [nChunks]; omega

theorem slice_length (d : List UInt8) (a b : Nat) :
    (slice d a b).length = min ((b - a) * 1024) (d.length - a * 1024) := by
  simp [slice, List.length_take, List.length_drop]

theorem slice_full (d : List UInt8) : slice d 0 (nChunks d.length) = d := by
  have := nChunks_ge d.length
  simp only [slice, Nat.zero_mul, List.drop_zero, Nat.sub_zero]
  exact List.take_of_length_le this

theorem slice_take {d : List UInt8} {c e p : Nat} (h : c + p ≤ e) :
    (slice d c e).take (p * 1024) = slice d c (c + p) := by
  simp only [slice, List.take_take]
  rw [Nat.add_sub_cancel_left,
    Nat.min_eq_left (Nat.mul_le_mul_right _ (Nat.le_sub_of_add_le' h))]

theorem slice_drop {d : List UInt8} {c e p : Nat} (_ : c + p ≤ e) :
    (slice d c e).drop (p * 1024) = slice d (c + p) e := by
  simp only [slice, List.drop_take, List.drop_drop]
  rw [← Nat.sub_mul, ← Nat.sub_add_eq, ← Nat.add_mul]

theorem Sub.root (d : List UInt8) : Sub d 0 (nChunks d.length) := by
  refine ⟨nChunks d.length, Nat.dvd_zero _, ?_, nChunks_pos _⟩
  have : nChunks d.length < 2 ^ nChunks d.length := Nat.lt_two_pow_self
  omega

theorem Sub.start_le {d : List UInt8} {c e : Nat} (h : Sub d c e) : c * 1024 ≤ d.length := by
  obtain ⟨M, -, -, hc⟩ := h
  by_cases h0 : 0 < d.length
  · have := nChunks_lt h0; omega
  · have : d.length = 0 := by omega
    simp [nChunks, this] at hc
    omega

theorem TrueLeaf.spec {d : List UInt8} {off : Nat} {bytes : List UInt8} (h : TrueLeaf d off bytes) :
    off % 1024 = 0 ∧ off + bytes.length ≤ d.length ∧ bytes = (d.drop off).take bytes.length := by
  obtain ⟨c, e, hs, rfl, rfl⟩ := h
  refine ⟨Nat.mul_mod_left c 1024, ?_, ?_⟩
  · rw [slice_length]
    exact Nat.le_trans (Nat.add_le_add_left (Nat.min_le_right ..) _)
      (Nat.le_of_eq (Nat.add_sub_cancel' hs.start_le))
  · unfold slice
    rw [List.take_eq_take_iff, List.length_take, Nat.min_assoc, Nat.min_self]

theorem slice_length_le (d : List UInt8) (a b : Nat) : (slice d a b).length ≤ d.length := by
  rw [slice_length]; omega

/-- only the last chunk of a (non-empty) blob can be short -/
theorem slice_chunks {d : List UInt8} {c e : Nat} (hpos : 0 < d.length) (hce : c < e)
    (he : e ≤ nChunks d.length) :
    (e - c - 1) * 1024 < (slice d c e).length ∧ (slice d c e).length ≤ (e - c) * 1024 := by
  have := nChunks_lt hpos
  rw [slice_length]
  omega

theorem slice_level {d : List UInt8} {c e p : Nat} (hpos : 0 < d.length)
    (he : e ≤ nChunks d.length) (h1 : c + p < e) (h2 : e ≤ c + (p + p)) :
    p * 1024 < (slice d c e).length ∧ (slice d c e).length ≤ (p + p) * 1024 := by
  obtain ⟨lo, hi⟩ := slice_chunks hpos (Nat.lt_of_le_of_lt (Nat.le_add_right c p) h1) he
  omega

-- two arithmetic facts for `Sub.split`, stated apart so that `omega` sees only these hypotheses
private theorem level_chunks {x k p P : Nat} (lo : (k - 1) * 1024 < x) (hi : x ≤ k * 1024)
    (h1 : p * 1024 < x) (h2 : x ≤ P * 1024) : p < k ∧ k ≤ P := by omega

private theorem split_end {c e n p Q : Nat} (he : e = min (c + Q) n) (hlo : p < e - c)
    (hhi : e - c ≤ p + p) (hPQ : p + p ≤ Q) : e = min (c + (p + p)) n := by omega

theorem Sub.split {d : List UInt8} {c e L : Nat} (h : Sub d c e)
    (h1 : 2 ^ L * 1024 < (slice d c e).length) (h2 : (slice d c e).length ≤ 2 ^ (L + 1) * 1024) :
    Sub d c (c + 2 ^ L) ∧ Sub d (c + 2 ^ L) e ∧ c + 2 ^ L < e ∧ c + 2 ^ L < nChunks d.length ∧
      2 ^ (L + 1) ∣ c ∧ e = min (c + 2 ^ (L + 1)) (nChunks d.length) := by
  obtain ⟨M, hdvd, he, hc⟩ := h
  have hpos : 0 < d.length := Nat.lt_of_lt_of_le (Nat.zero_lt_of_lt h1) (slice_length_le d c e)
  have hen : e ≤ nChunks d.length := he ▸ Nat.min_le_right ..
  have hce : c < e := he ▸ Nat.lt_min.2 ⟨Nat.lt_add_of_pos_right (Nat.two_pow_pos M), hc⟩
  obtain ⟨lo, hi⟩ := slice_chunks hpos hce hen
  -- in chunks the level bounds read `2^L < e - c ≤ 2^(L+1)`
  obtain ⟨hlo, hhi⟩ := level_chunks lo hi h1 h2
  have hlt : c + 2 ^ L < e := Nat.add_lt_of_lt_sub' hlo
  have hmid : c + 2 ^ L < nChunks d.length := Nat.lt_of_lt_of_le hlt hen
  have hLM : L < M := (Nat.pow_lt_pow_iff_right (a := 2) (by decide)).1
    (Nat.lt_of_add_lt_add_left (Nat.lt_of_lt_of_le hlt (he ▸ Nat.min_le_left ..)))
  have hd1 : 2 ^ (L + 1) ∣ c := Nat.dvd_trans (Nat.pow_dvd_pow 2 hLM) hdvd
  have hd0 : 2 ^ L ∣ c := Nat.dvd_trans (Nat.pow_dvd_pow 2 (Nat.le_succ L)) hd1
  have hP : 2 ^ (L + 1) = 2 ^ L + 2 ^ L := by rw [Nat.pow_succ, Nat.mul_two]
  rw [hP] at hhi ⊢
  have he' := split_end he hlo hhi (hP ▸ Nat.pow_le_pow_right (by decide) hLM)
  exact ⟨⟨L, hd0, (Nat.min_eq_left (Nat.le_of_lt hmid)).symm, hc⟩,
    ⟨L, Nat.dvd_add hd0 (Nat.dvd_refl _), by rw [Nat.add_assoc]; exact he', hmid⟩,
    hlt, hmid, hP ▸ hd1, he'⟩

section
variable {hf : HashFns H} {d : List UInt8}

theorem TrueCv.root (hf : HashFns H) (d : List UInt8) : TrueCv hf d (Spec.root hf d) :=
  ⟨0, _, true, Sub.root d, rfl⟩

/-- the chaining value of a subtree interval `[c, e)` of the true blob (any root flag `f`) that
equals a parent hash: the pair is the true pair of a node of the true tree, and its halves are the
chaining values of the two child intervals.  Injectivity is used for two inputs only: the top input
of the hashing of that interval and the parent input `.parent l r isRoot`. -/
theorem parent_check_on {S : HashIn H → Prop} (cf : CollisionFreeOn hf S)
    (hd : d.length ≤ 2 ^ 64 * 1024) {c e : Nat} {f : Bool} (hs : Sub d c e)
    (hE : ∀ x ∈ hashEvals hf c (slice d c e) f, S x) {l r : H} {isRoot : Bool}
    (hS : S (.parent l r isRoot)) (heq : Spec.cv hf d c e f = hf.parentCv l r isRoot) :
    TruePair hf d l r ∧ ∃ m, c < m ∧ m < nChunks d.length ∧ Sub d c m ∧ Sub d m e ∧
      l = Spec.cv hf d c m false ∧ r = Spec.cv hf d m e false := by
  unfold Spec.cv at heq
  have hlen : (slice d c e).length ≤ 2 ^ 64 * 1024 := Nat.le_trans (slice_length_le d c e) hd
  rcases hashEvals_shape (hf := hf) hlen c f with ⟨_, e1, ee⟩ | ⟨L, hL, ha, hb, e1, ee⟩
  · rw [e1] at heq
    exact (cf.chunk_ne_parent (hE _ (by rw [ee]; exact List.mem_singleton_self _)) hS heq).elim
  · rw [e1] at heq
    obtain ⟨hl, hr, -⟩ :=
      cf.parent_inj hS (hE _ (by rw [ee]; exact List.mem_cons_self ..)) heq.symm
    obtain ⟨s1, s2, hce, hmid, ⟨k, hk⟩, he⟩ := hs.split ha hb
    have hce := Nat.le_of_lt hce
    rw [slice_take hce] at hl
    rw [slice_drop hce] at hr
    have hstart : startOf k L = c := by rw [startOf, hk, Nat.mul_comm]
    have hmidOf : midOf k L = c + 2 ^ L := by rw [midOf, hk, Nat.mul_comm]
    have hend : endOf k L = c + 2 ^ (L + 1) := by rw [endOf, hk, Nat.add_mul, Nat.mul_comm]; omega
    refine ⟨⟨k, L, hL, by omega, ?_, ?_⟩, c + 2 ^ L, Nat.lt_add_of_pos_right (Nat.two_pow_pos L),
      hmid, s1, s2, hl, hr⟩
    · simp only [Spec.pair, hstart, hmidOf, hend, ← he]
      rw [hl, hr]; rfl
    · intro f'
      rw [hstart, hend, ← he, hl, hr]
      unfold Spec.cv
      rw [hashSubtree_parent ha hb hL, slice_take hce, slice_drop hce]

theorem parent_check (cf : CollisionFree hf) (hd : d.length ≤ 2 ^ 64 * 1024) {h l r : H}
    {isRoot : Bool} (ht : TrueCv hf d h) (heq : h = hf.parentCv l r isRoot) :
    TruePair hf d l r ∧ TrueCv hf d l ∧ TrueCv hf d r := by
  obtain ⟨c, e, f, hs, rfl⟩ := ht
  obtain ⟨hp, m, -, -, s1, s2, hl, hr⟩ :=
    parent_check_on (cf.on fun _ => True) hd hs (fun _ _ => trivial) trivial heq
  exact ⟨hp, ⟨c, m, false, s1, hl⟩, ⟨m, e, false, s2, hr⟩⟩

/-- a hash of the true tree that passes the leaf check: the bytes read from the stream are the
bytes of that subtree of the true blob, at the right offset -/
theorem leaf_check (cf : CollisionFree hf) {h : H} {start : Nat} {buf : List UInt8}
    {isRoot : Bool} (ht : TrueCv hf d h) (heq : h = hashSubtree hf start buf isRoot) :
    TrueLeaf d (toBytes start) buf := by
  obtain ⟨c, e, f, hs, rfl⟩ := ht
  obtain ⟨hc, hb, _⟩ := cv_inj cf heq
  exact ⟨c, e, hs, by rw [toBytes, hc], hb.symm⟩

theorem forall_mem_push2 {P : H → Prop} {st : List H} {l r : H} (hs : ∀ h ∈ st, P h) (hl : P l)
    (hr : P r) (left right : Bool) :
    ∀ h ∈ (if left then l :: (if right then r :: st else st) else (if right then r :: st else st)),
      P h := by
  have hr' : ∀ h ∈ (if right then r :: st else st), P h := by
    cases right
    · exact hs
    · exact List.forall_mem_cons.2 ⟨hr, hs⟩
  cases left
  · exact hr'
  · exact List.forall_mem_cons.2 ⟨hl, hr'⟩

theorem StackOk.push2 {st : List H} {l r : H} (hs : StackOk hf d st) (hl : TrueCv hf d l)
    (hr : TrueCv hf d r) (left right : Bool) :
    StackOk hf d (if left then l :: (if right then r :: st else st)
      else (if right then r :: st else st)) :=
  forall_mem_push2 hs hl hr left right

/-- the error a failed read of the plan item `c` is reported as (`maybe_parent_not_found` /
`maybe_leaf_not_found` in `src/io/error.rs`: the not-found variant for `UnexpectedEof`, `Io` else) -/
def failOf (c : Chunk) (e : IoErr) : DecodeError :=
  match c with
  | .parent node .. => DecodeError.maybeParentNotFound e node
  | .leaf start .. => DecodeError.maybeLeafNotFound e start

/-- the part of a decoder step after the read of the item's bytes, in the uniform view of a plan
item of `Lemmas/DecSim.lean` (`check`, `itemOf`, `push`).  The two flavours differ only in the
(dead) stack handed back with a hash mismatch. -/
def post (hf : HashFns H) [BEq H] (fl : Flavour) (c : Chunk) (it : PrePartial) (d : Dec H) :
    Except IoErr (List UInt8 × List UInt8) → DecNext H (Dec H)
  | .error e => .err (failOf c e) { d with iter := it }
  | .ok (buf, rest) =>
    match d.stack with
    | [] => .panic
    | top :: stack =>
      if top != DecodeSpec.check hf c buf then
        .err (DecodeSpec.mismatch c)
          { d with iter := it, encoded := rest,
                   stack := (match fl with | .sync => stack | .fsm => DecodeSpec.push hf c buf stack) }
      else
        .item (DecodeSpec.itemOf hf c buf)
          { d with iter := it, stack := DecodeSpec.push hf c buf stack, encoded := rest }

variable [BEq H]

theorem next_eq (hf : HashFns H) (fl : Flavour) (d : Dec H) :
    d.next hf fl =
      match Response.next d.iter with
      | .done => .done d
      | .panic => .panic
      | .item c it => post hf fl c it d (readExact d.encoded c.size) := by
  cases hn : Response.next d.iter with
  | done => cases fl <;> simp only [Dec.next, Dec.nextSync, Dec.nextFsm, hn]
  | panic => cases fl <;> simp only [Dec.next, Dec.nextSync, Dec.nextFsm, hn]
  | item c it =>
    -- the same walk for both kinds of item and both flavours
    cases c <;> cases fl
    all_goals
      simp only [Dec.next, Dec.nextSync, Dec.nextFsm, hn, Chunk.size]
      cases readExact d.encoded _ with
      | error e => rfl
      | ok p =>
        simp only [post]
        cases d.stack with
        | nil => rfl
        | cons top st => rfl

theorem next_item_flavour {fl : Flavour} (fl' : Flavour) {d : Dec H} {i : Item H} {d' : Dec H}
    (h : d.next hf fl = .item i d') : d.next hf fl' = .item i d' :=
  (DecSim.next_item_iff hf).2 ((DecSim.next_item_iff hf).1 h)

variable [LawfulBEq H]

theorem eq_of_bne_false {a b : H} (h : (a != b) = false) : a = b := by simpa using h

/-- **step invariant**: a step on a stack of hashes of the true tree that yields an item yields a
true one and leaves a stack of hashes of the true tree -/
theorem next_sound (cf : CollisionFree hf) (hd : d.length ≤ 2 ^ 64 * 1024) (fl : Flavour)
    (dec : Dec H) (hs : StackOk hf d dec.stack) {i : Item H} {dec' : Dec H}
    (h : dec.next hf fl = .item i dec') : ItemOk hf d i ∧ StackOk hf d dec'.stack := by
  obtain ⟨c, it, st', s', -, hsc, rfl⟩ := (DecSim.next_item_iff hf).1 h
  obtain ⟨-, top, st, hst, hne, rfl, rfl, -⟩ := DecodeSpec.stepC_item hsc
  rw [hst] at hs
  have htop := hs top (List.mem_cons_self ..)
  have hrest : StackOk hf d st := fun x hx => hs x (List.mem_cons_of_mem _ hx)
  cases c with
  | parent node isRoot left right rs =>
    obtain ⟨hp, hl, hr⟩ := parent_check cf hd htop (eq_of_bne_false hne)
    exact ⟨hp, StackOk.push2 hrest hl hr _ _⟩
  | leaf start size isRoot rs => exact ⟨leaf_check cf htop (eq_of_bne_false hne), hrest⟩

/-- the target after a list of positioned writes -/
def applyWrites (t : List UInt8) (ws : List (Nat × List UInt8)) : List UInt8 :=
  ws.foldl (fun t w => writeAt t w.1 w.2) t

/-- the outboard after a list of successful `save`s -/
def applySaves (hf : HashFns H) (ob : Store H) (ps : List (Nat × H × H)) : Store H :=
  ps.foldl (fun ob p => match ob.save hf p.1 p.2 with | .ok ob' => ob' | _ => ob) ob

end

/-- every position of `t` holds the byte of `t₀` or the byte of `d` -/
def Mixed (d t₀ t : List UInt8) : Prop :=
  t.length = d.length ∧ ∀ i : Nat, t[i]? = t₀[i]? ∨ t[i]? = d[i]?

theorem writeAt_getElem? {t bytes : List UInt8} {off : Nat} (h : off ≤ t.length) (i : Nat) :
    (writeAt t off bytes)[i]? =
      if i < off then t[i]? else if i < off + bytes.length then bytes[i - off]? else t[i]? := by
  rw [WriteAtL.getElem?_writeAt]
  by_cases c1 : i < off
  · rw [if_pos c1, if_pos c1, if_pos (Nat.lt_of_lt_of_le c1 h)]
  · rw [if_neg c1, if_neg c1]

theorem writeAt_length {t bytes : List UInt8} {off : Nat} (h : off + bytes.length ≤ t.length) :
    (writeAt t off bytes).length = t.length := by
  rw [WriteAtL.length_writeAt, Nat.max_eq_left h]

theorem Mixed.writeAt {d t₀ t : List UInt8} {off : Nat} {bytes : List UInt8} (h : Mixed d t₀ t)
    (hl : TrueLeaf d off bytes) : Mixed d t₀ (writeAt t off bytes) := by
  obtain ⟨_, h2, h3⟩ := hl.spec
  obtain ⟨hlen, hpos⟩ := h
  refine ⟨by rw [writeAt_length (by omega), hlen], fun i => ?_⟩
  rw [writeAt_getElem? (by omega)]
  by_cases c1 : i < off
  · simp only [c1, if_true]; exact hpos i
  · by_cases c2 : i < off + bytes.length
    · simp only [c1, c2, if_true, if_false]
      right
      have hlt : i - off < bytes.length := by omega
      have hb : bytes[i - off]? = ((d.drop off).take bytes.length)[i - off]? :=
        congrArg (·[i - off]?) h3
      rw [hb, List.getElem?_take, List.getElem?_drop]
      simp only [hlt, if_true]
      congr 1; omega
    · simp only [c1, c2, if_false]; exact hpos i

theorem Mixed.applyWrites {d t₀ : List UInt8} : ∀ (wl : List (Nat × List UInt8)) (t : List UInt8),
    Mixed d t₀ t → (∀ w ∈ wl, TrueLeaf d w.1 w.2) → Mixed d t₀ (applyWrites t wl) := by
  intro wl
  induction wl with
  | nil => intro t h _; exact h
  | cons w wl ih =>
    intro t h hw
    simp only [C01.applyWrites, List.foldl_cons]
    exact ih _ (h.writeAt (hw w (List.mem_cons_self ..))) (fun w' h' => hw w' (List.mem_cons_of_mem _ h'))

end Bao.C01
