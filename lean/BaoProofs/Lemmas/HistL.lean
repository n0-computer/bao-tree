import BaoProofs.Lemmas.C01InvLoc
import BaoProofs.Lemmas.FaultL

/-!
# Histories of `decode_ranges` calls into one sink (C07)

A history is a list of fault-injected calls (`Op`, `step`, `run`).  `Effect hf d s s'` says that `s'`
is `s` after positioned writes of true leaves and successful saves of true pairs: this is what one
call does (`decodeRangesFAux_effect`, the C01 invariant for the fault-injected driver), and it
composes (`run_rel`, the induction over a history).  The hash hypothesis is `CollisionFreeOn hf S`
for a set `S` containing the inputs of the honest hashing of the blob and of the FAULT-FREE decoder
run of every call (a fault-injected call stops earlier and evaluates a prefix of them);
`S := fun _ => True` is the case `CollisionFree hf`.

Namespaces: this file is `Bao.C07` (shared with `Props/C07.lean`, `Props/C07Conv.lean`); the lemma
files on the labelled run, `HistLabelL` to `HistValidL`, are `Bao.C07L`; `C07LocL` and
`Props/C07Loc.lean` are `Bao.C07Loc`.
-/

namespace Bao.C07

open Bao.Spec Bao.C01

variable {H : Type}

theorem save_root (hf : HashFns H) (s s' : Store H) (node : Nat) (p : H × H)
    (h : s.save hf node p = .ok s') : s'.root = s.root ∧ s'.tree = s.tree ∧ s'.kind = s.kind := by
  unfold Store.save at h
  simp only at h
  repeat' split at h
  all_goals first | (cases h; exact ⟨rfl, rfl, rfl⟩) | cases h

theorem applySaves_root (hf : HashFns H) : ∀ (pl : List (Nat × H × H)) (s : Store H),
    (applySaves hf s pl).root = s.root ∧ (applySaves hf s pl).tree = s.tree ∧
      (applySaves hf s pl).kind = s.kind := by
  intro pl
  induction pl with
  | nil => intro s; exact ⟨rfl, rfl, rfl⟩
  | cons p pl ih =>
    intro s
    simp only [applySaves, List.foldl_cons]
    split
    · rename_i ob' hsave
      obtain ⟨h1, h2, h3⟩ := save_root hf s ob' p.1 p.2 hsave
      obtain ⟨g1, g2, g3⟩ := ih ob'
      simp only [applySaves] at g1 g2 g3
      exact ⟨g1.trans h1, g2.trans h2, g3.trans h3⟩
    · exact ih s

theorem applyWrites_append (t : List UInt8) (a b : List (Nat × List UInt8)) :
    applyWrites t (a ++ b) = applyWrites (applyWrites t a) b := by
  simp [applyWrites, List.foldl_append]

theorem applySaves_append (hf : HashFns H) (s : Store H) (a b : List (Nat × H × H)) :
    applySaves hf s (a ++ b) = applySaves hf (applySaves hf s a) b := by
  simp [applySaves, List.foldl_append]

section
variable {hf : HashFns H} {d : List UInt8}

/-- what a (possibly interrupted) `decode_ranges` did to its sink: a list of writes of true leaves
and a list of successful saves of true pairs -/
def Effect (hf : HashFns H) (d : List UInt8) (s s' : Sink H) : Prop :=
  ∃ (wl : List (Nat × List UInt8)) (pl : List (Nat × H × H)),
    (∀ w ∈ wl, TrueLeaf d w.1 w.2) ∧ (∀ p ∈ pl, TruePair hf d p.2.1 p.2.2) ∧
    s'.target = applyWrites s.target wl ∧ s'.ob = applySaves hf s.ob pl

theorem Effect.refl (s : Sink H) : Effect hf d s s :=
  ⟨[], [], by simp, by simp, rfl, rfl⟩

theorem Effect.trans {s₁ s₂ s₃ : Sink H} (h₁ : Effect hf d s₁ s₂) (h₂ : Effect hf d s₂ s₃) :
    Effect hf d s₁ s₃ := by
  obtain ⟨w1, p1, hw1, hp1, ht1, ho1⟩ := h₁
  obtain ⟨w2, p2, hw2, hp2, ht2, ho2⟩ := h₂
  refine ⟨w1 ++ w2, p1 ++ p2, ?_, ?_, ?_, ?_⟩
  · intro w hw
    rcases List.mem_append.1 hw with h | h
    · exact hw1 w h
    · exact hw2 w h
  · intro p hp
    rcases List.mem_append.1 hp with h | h
    · exact hp1 p h
    · exact hp2 p h
  · rw [applyWrites_append, ← ht1, ht2]
  · rw [applySaves_append, ← ho1, ho2]

theorem Effect.write {s : Sink H} {off : Nat} {data : List UInt8} (h : TrueLeaf d off data) :
    Effect hf d s { s with target := writeAt s.target off data } :=
  ⟨[(off, data)], [], by simpa using h, by simp, rfl, rfl⟩

theorem Effect.save {s : Sink H} {node : Nat} {l r : H} {ob : Store H} (h : TruePair hf d l r)
    (hs : s.ob.save hf node (l, r) = .ok ob) : Effect hf d s { s with ob } :=
  ⟨[], [(node, l, r)], by simp, by simpa using h, rfl, by
    simp only [applySaves, List.foldl_cons, List.foldl_nil, hs]⟩

theorem decodeRangesFAux_effect [BEq H] [LawfulBEq H] {S : HashIn H → Prop}
    (cf : CollisionFreeOn hf S) (hT : ∀ x ∈ trueEvals hf d, S x) (hd : d.length ≤ 2 ^ 64 * 1024)
    (fl : Flavour) (tree : Tree) (fw fs : Option Nat) :
    ∀ (fuel : Nat) (dec : Dec H) (sink : Sink H) (nw ns : Nat),
      (∀ x ∈ runEvalsAux hf fl fuel dec, S x) → StackOkL hf d dec.stack →
      Effect hf d sink (decodeRangesFAux hf fl tree fw fs fuel dec sink nw ns).1 := by
  intro fuel
  induction fuel with
  | zero => intro dec sink nw ns _ _; exact Effect.refl sink
  | succ fuel ih =>
    intro dec sink nw ns hE hs
    have step : ∀ {i : Item H} {dec' : Dec H}, dec.next hf fl = .item i dec' →
        ItemOk hf d i ∧ (∀ x ∈ runEvalsAux hf fl fuel dec', S x) ∧ StackOkL hf d dec'.stack := by
      intro i dec' hnext
      obtain ⟨hit, hs'⟩ := next_sound_loc cf hT hd fl dec
        (fun x hx => hE x (runEvalsAux_step fl fuel dec x hx)) hs hnext
      exact ⟨hit, fun x hx => hE x (runEvalsAux_next fl fuel dec hnext x hx), hs'⟩
    unfold decodeRangesFAux
    split
    · exact Effect.refl sink
    · exact Effect.refl sink
    · exact Effect.refl sink
    · rename_i node l r dec' hnext
      obtain ⟨hit, hE', hs'⟩ := step hnext
      split
      · split
        · exact Effect.refl sink
        · split
          · rename_i ob hsave
            exact (Effect.save hit hsave).trans (ih dec' { sink with ob } nw (ns + 1) hE' hs')
          · exact Effect.refl sink
          · exact Effect.refl sink
      · exact ih dec' sink nw ns hE' hs'
    · rename_i off data dec' hnext
      obtain ⟨hit, hE', hs'⟩ := step hnext
      split
      · exact ih dec' sink nw ns hE' hs'
      · split
        · exact Effect.refl sink
        · exact (Effect.write hit).trans (ih dec' _ (nw + 1) ns hE' hs')

/-- one `decode_ranges` call of a history: flavour, the stream presented (arbitrary: honest,
truncated or tampered), the query, and the optional injected failure of the `fw`-th target write /
`fs`-th outboard save of this call -/
structure Op where
  fl : Flavour
  stream : List UInt8
  ranges : Ranges
  fw : Option Nat
  fs : Option Nat

/-- apply one call to the sink (the terminal is dropped: the caller just goes on) -/
def step (hf : HashFns H) [BEq H] (sink : Sink H) (op : Op) : Sink H :=
  (decodeRangesF hf op.fl op.stream op.ranges sink op.fw op.fs).1

def run (hf : HashFns H) [BEq H] (ops : List Op) (sink : Sink H) : Sink H := ops.foldl (step hf) sink

theorem run_append (hf : HashFns H) [BEq H] (a b : List Op) (sink : Sink H) :
    run hf (a ++ b) sink = run hf b (run hf a sink) := by simp [run, List.foldl_append]

theorem Effect.root {s s' : Sink H} (h : Effect hf d s s') :
    s'.ob.root = s.ob.root ∧ s'.ob.tree = s.ob.tree ∧ s'.ob.kind = s.ob.kind := by
  obtain ⟨_, pl, _, _, _, ho⟩ := h
  rw [ho]
  exact applySaves_root hf pl s.ob

end

section
variable (hf : HashFns H) [BEq H]

/-- a (possibly interrupted) call is the application of a list of completed writes and saves
(`FaultL.faux_eq`), and those keep root, tree and kind -/
theorem step_root (sink : Sink H) (op : Op) :
    (step hf sink op).ob.root = sink.ob.root ∧ (step hf sink op).ob.tree = sink.ob.tree ∧
      (step hf sink op).ob.kind = sink.ob.kind := by
  have h : ∃ es, step hf sink op = FaultL.applyEvs hf sink es := by
    unfold step decodeRangesF
    rw [FaultL.faux_eq]
    split
    · exact ⟨_, rfl⟩
    · exact ⟨_, rfl⟩
  obtain ⟨es, h⟩ := h
  rw [h, FaultL.applyEvs_ob]
  exact applySaves_root hf (FaultL.saves es) sink.ob

theorem run_rel {R : Sink H → Sink H → Prop} (refl : ∀ s, R s s)
    (trans : ∀ {a b c}, R a b → R b c → R a c) (root : H) (tree : Tree) :
    ∀ (ops : List Op) (sink : Sink H), sink.ob.root = root → sink.ob.tree = tree →
      (∀ op ∈ ops, ∀ s : Sink H, s.ob.root = root → s.ob.tree = tree → R s (step hf s op)) →
      R sink (run hf ops sink) := by
  intro ops
  induction ops with
  | nil => intro sink _ _ _; exact refl sink
  | cons op ops ih =>
    intro sink hr ht h
    obtain ⟨r1, r2, -⟩ := step_root hf sink op
    exact trans (h op List.mem_cons_self sink hr ht)
      (ih _ (r1.trans hr) (r2.trans ht) (fun op' hop => h op' (List.mem_cons_of_mem _ hop)))

theorem run_root (ops : List Op) (sink : Sink H) :
    (run hf ops sink).ob.root = sink.ob.root ∧ (run hf ops sink).ob.tree = sink.ob.tree ∧
      (run hf ops sink).ob.kind = sink.ob.kind :=
  run_rel hf
    (R := fun s s' => s'.ob.root = s.ob.root ∧ s'.ob.tree = s.ob.tree ∧ s'.ob.kind = s.ob.kind)
    (fun _ => ⟨rfl, rfl, rfl⟩) (fun h g => ⟨g.1.trans h.1, g.2.1.trans h.2.1, g.2.2.trans h.2.2⟩)
    _ _ ops sink rfl rfl (fun op _ s _ _ => step_root hf s op)

end

section
variable {hf : HashFns H} {d : List UInt8} [BEq H] [LawfulBEq H]

theorem run_effect_on {S : HashIn H → Prop} (cf : CollisionFreeOn hf S)
    (hT : ∀ x ∈ trueEvals hf d, S x) (hd : d.length ≤ 2 ^ 64 * 1024) (root : H) (tree : Tree)
    (hroot : root = Spec.root hf d) (ops : List Op) (sink : Sink H) (hr : sink.ob.root = root)
    (ht : sink.ob.tree = tree)
    (hE : ∀ op ∈ ops, ∀ x ∈ runEvals hf op.fl root tree op.ranges op.stream, S x) :
    Effect hf d sink (run hf ops sink) :=
  run_rel hf Effect.refl Effect.trans root tree ops sink hr ht fun op hop s hr ht =>
    decodeRangesFAux_effect cf hT hd op.fl _ op.fw op.fs _ _ s 0 0
      (by rw [hr, ht]; exact hE op hop)
      (by
        intro h hh
        simp only [Dec.new, List.mem_singleton] at hh
        rw [hh, hr, hroot]
        exact TrueCvL.root hf d)

theorem run_effect (cf : CollisionFree hf) (hd : d.length ≤ 2 ^ 64 * 1024)
    (ops : List Op) (sink : Sink H) (hroot : sink.ob.root = Spec.root hf d) :
    Effect hf d sink (run hf ops sink) :=
  run_effect_on (cf.on fun _ => True) (fun _ _ => trivial) hd _ _ hroot ops sink rfl rfl
    (fun _ _ _ _ => trivial)

end

/-- byte position `i` is covered by some write of `wl` -/
def Cov (wl : List (Nat × List UInt8)) (i : Nat) : Prop :=
  ∃ w ∈ wl, w.1 ≤ i ∧ i < w.1 + w.2.length

theorem cov_cons (w : Nat × List UInt8) (wl : List (Nat × List UInt8)) (i : Nat) :
    Cov (w :: wl) i ↔ (w.1 ≤ i ∧ i < w.1 + w.2.length) ∨ Cov wl i := by
  simp [Cov]

theorem cov_append (a b : List (Nat × List UInt8)) (i : Nat) :
    Cov (a ++ b) i ↔ Cov a i ∨ Cov b i := by
  simp only [Cov, List.mem_append]
  constructor
  · rintro ⟨w, hw | hw, h⟩
    · exact .inl ⟨w, hw, h⟩
    · exact .inr ⟨w, hw, h⟩
  · rintro (⟨w, hw, h⟩ | ⟨w, hw, h⟩)
    · exact ⟨w, .inl hw, h⟩
    · exact ⟨w, .inr hw, h⟩

theorem writeAt_trueLeaf {d t : List UInt8} {off : Nat} {bytes : List UInt8}
    (hlen : t.length = d.length) (hl : TrueLeaf d off bytes) :
    (writeAt t off bytes).length = d.length ∧
    ∀ i : Nat, (off ≤ i ∧ i < off + bytes.length → (writeAt t off bytes)[i]? = d[i]?) ∧
      (¬ (off ≤ i ∧ i < off + bytes.length) → (writeAt t off bytes)[i]? = t[i]?) := by
  obtain ⟨_, h2, h3⟩ := hl.spec
  refine ⟨by rw [writeAt_length (by omega), hlen], fun i => ?_⟩
  have key := writeAt_getElem? (t := t) (bytes := bytes) (off := off) (by omega) i
  by_cases c1 : i < off
  · simp only [c1, if_true] at key
    exact ⟨fun h => by omega, fun _ => key⟩
  · by_cases c2 : i < off + bytes.length
    · simp only [c1, c2, if_true, if_false] at key
      refine ⟨fun _ => ?_, fun h => by omega⟩
      rw [key]
      have hlt : i - off < bytes.length := by omega
      have hb : bytes[i - off]? = ((d.drop off).take bytes.length)[i - off]? :=
        congrArg (·[i - off]?) h3
      rw [hb, List.getElem?_take, List.getElem?_drop]
      simp only [hlt, if_true]
      congr 1; omega
    · simp only [c1, c2, if_false] at key
      exact ⟨fun h => by omega, fun _ => key⟩

theorem applyWrites_spec {d : List UInt8} : ∀ (wl : List (Nat × List UInt8)) (t : List UInt8),
    t.length = d.length → (∀ w ∈ wl, TrueLeaf d w.1 w.2) →
    (applyWrites t wl).length = d.length ∧
    ∀ i : Nat, (Cov wl i → (applyWrites t wl)[i]? = d[i]?) ∧
      (¬ Cov wl i → (applyWrites t wl)[i]? = t[i]?) := by
  intro wl
  induction wl with
  | nil =>
    intro t hlen _
    refine ⟨hlen, fun i => ⟨fun h => ?_, fun _ => rfl⟩⟩
    obtain ⟨w, hw, _⟩ := h
    cases hw
  | cons w wl ih =>
    intro t hlen hw
    obtain ⟨hl1, hg1⟩ := writeAt_trueLeaf hlen (hw w (List.mem_cons_self ..))
    obtain ⟨hl2, hg2⟩ := ih (writeAt t w.1 w.2) hl1 (fun w' h' => hw w' (List.mem_cons_of_mem _ h'))
    have e : applyWrites t (w :: wl) = applyWrites (writeAt t w.1 w.2) wl := by
      simp only [applyWrites, List.foldl_cons]
    rw [e]
    refine ⟨hl2, fun i => ⟨fun hc => ?_, fun hc => ?_⟩⟩
    · by_cases c : Cov wl i
      · exact (hg2 i).1 c
      · rw [(hg2 i).2 c]
        rcases (cov_cons w wl i).1 hc with h | h
        · exact (hg1 i).1 h
        · exact (c h).elim
    · have c1 : ¬ Cov wl i := fun h => hc ((cov_cons w wl i).2 (.inr h))
      have c2 : ¬ (w.1 ≤ i ∧ i < w.1 + w.2.length) := fun h => hc ((cov_cons w wl i).2 (.inl h))
      rw [(hg2 i).2 c1, (hg1 i).2 c2]

theorem applyWrites_full {d : List UInt8} (wl : List (Nat × List UInt8)) (t : List UInt8)
    (hlen : t.length = d.length) (hw : ∀ w ∈ wl, TrueLeaf d w.1 w.2)
    (hall : ∀ i, i < d.length → Cov wl i) : applyWrites t wl = d := by
  obtain ⟨hl, hg⟩ := applyWrites_spec wl t hlen hw
  apply List.ext_getElem?
  intro i
  by_cases hi : i < d.length
  · exact (hg i).1 (hall i hi)
  · rw [List.getElem?_eq_none (by omega), List.getElem?_eq_none (by omega)]

theorem applyWrites_whole (t : List UInt8) : applyWrites t [(0, t)] = t := by
  simp [applyWrites, writeAt]

theorem Cov.lt {d : List UInt8} {wl : List (Nat × List UInt8)} {i : Nat}
    (hw : ∀ w ∈ wl, TrueLeaf d w.1 w.2) (h : Cov wl i) : i < d.length := by
  obtain ⟨w, hmem, h1, h2⟩ := h
  obtain ⟨_, h3, _⟩ := (hw w hmem).spec
  omega

section
variable {hf : HashFns H} {d : List UInt8} {s s' s'' : Sink H}

theorem Effect.inv (h : Effect hf d s s') :
    ∃ wl : List (Nat × List UInt8),
      (∀ w ∈ wl, TrueLeaf d w.1 w.2) ∧
      s'.target = applyWrites s.target wl ∧
      (s.target.length = d.length →
        s'.target.length = d.length ∧
        ∀ i : Nat,
          (¬ Cov wl i → s'.target[i]? = s.target[i]?) ∧
          (Cov wl i → s'.target[i]? = d[i]? ∧ i < d.length) ∧
          (s'.target[i]? = s.target[i]? ∨ s'.target[i]? = d[i]?)) := by
  obtain ⟨wl, _, hw, _, ht, _⟩ := h
  refine ⟨wl, hw, ht, fun hlen => ?_⟩
  obtain ⟨hl, hg⟩ := applyWrites_spec wl s.target hlen hw
  rw [ht]
  refine ⟨hl, fun i => ⟨(hg i).2, fun hc => ⟨(hg i).1 hc, hc.lt hw⟩, ?_⟩⟩
  by_cases hc : Cov wl i
  · exact .inr ((hg i).1 hc)
  · exact .inl ((hg i).2 hc)

theorem Effect.extend (h₁ : Effect hf d s s') (h₂ : Effect hf d s' s'') :
    ∃ wl wl' : List (Nat × List UInt8),
      (∀ w ∈ wl ++ wl', TrueLeaf d w.1 w.2) ∧
      s'.target = applyWrites s.target wl ∧
      s''.target = applyWrites s.target (wl ++ wl') ∧
      ∀ i, Cov wl i → Cov (wl ++ wl') i := by
  obtain ⟨wl, _, hw, _, ht, _⟩ := h₁
  obtain ⟨wl', _, hw', _, ht', _⟩ := h₂
  refine ⟨wl, wl', ?_, ht, ?_, fun i h => (cov_append wl wl' i).2 (.inl h)⟩
  · intro w hmem
    rcases List.mem_append.1 hmem with h | h
    · exact hw w h
    · exact hw' w h
  · rw [ht', ht, applyWrites_append]

end

end Bao.C07
