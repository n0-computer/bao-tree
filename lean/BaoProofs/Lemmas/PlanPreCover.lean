import BaoProofs.Lemmas.PlanPre
import BaoProofs.Props.C14

/-!
# The recursive pre-order plan: the leaves cover exactly the selected chunks

`covered p c`: chunk `c` lies in the chunk span `[s, s + max 1 (chunksOf z))` of a leaf item
`.leaf s z _ _` of the plan `p` (an empty blob has one empty chunk).

* `cover_complete` (A): every selected chunk of the range of node `(k, L)` is covered by a leaf
  of `planPre … L k rs`.
* `cover_sound` (B): every leaf of `planPre … L k rs` contains a selected chunk, provided the
  sub-query is `Tight` (all boundaries but the first lie behind the start of the node) and
  `Bounded` (the node reaches the end of the blob, or all boundaries lie in front of its end);
  both invariants hold at the root and are preserved by `split_inner`.  `SubQuery` collects what
  the sub-query of a node below inherits; `leaf_query` says what the ranges attached to a leaf are.
* `plan_cover_complete`, `plan_cover_sound` (C): the two statements for the public `plan`.
-/

namespace Bao.PlanPre
open Bao Bao.Spec Bao.Bits

/-- chunk `c` lies in the span of a leaf item of `p`; `max 1`: the empty blob has one empty chunk -/
def covered (p : List Chunk) (c : Nat) : Prop :=
  ∃ s z r x, Chunk.leaf s z r x ∈ p ∧ s ≤ c ∧ c < s + max 1 (chunksOf z)

/-- `split_inner` hands a node starting at `s` only boundaries behind `s`, except the first, which
may be the start of a range that began earlier -/
def Tight (rs : Ranges) (s : Nat) : Prop := ∀ b ∈ rs.tail, s < b

/-- the boundaries lie in front of the node's end `e`, unless the node reaches the end of the blob
(the query is not truncated there).  Not to be confused with `C17.Bounded` (every boundary a
`u64`). -/
def Bounded (size : Nat) (rs : Ranges) (e : Nat) : Prop :=
  Spec.nChunks size ≤ e ∨ ∀ b ∈ rs, b < e

theorem covered_of_mem {p : List Chunk} {s z : Nat} {r : Bool} {x : Ranges} {c : Nat}
    (hm : Chunk.leaf s z r x ∈ p) (hlo : s ≤ c) (hhi : c < s + max 1 (chunksOf z)) :
    covered p c := ⟨s, z, r, x, hm, hlo, hhi⟩

theorem covered_subset {p p' : List Chunk} (h : ∀ i ∈ p, i ∈ p') {c : Nat} (hc : covered p c) :
    covered p' c := by
  obtain ⟨s, z, r, x, hm, h1, h2⟩ := hc
  exact ⟨s, z, r, x, h _ hm, h1, h2⟩

theorem covered_split {par : Chunk} {pl pr : List Chunk} {m c : Nat} (hl : c < m → covered pl c)
    (hr : m ≤ c → covered pr c) : covered (par :: (pl ++ pr)) c := by
  by_cases hc : c < m
  · exact covered_subset
      (fun _ h => List.mem_cons_of_mem _ (List.mem_append_left _ h)) (hl hc)
  · exact covered_subset
      (fun _ h => List.mem_cons_of_mem _ (List.mem_append_right _ h)) (hr (Nat.le_of_not_lt hc))

theorem covered_ite_leaf {size : Nat} {x : Ranges} {s z c : Nat}
    (hsel : Spec.selected size x c = true) (hlo : s ≤ c) (hhi : c < s + max 1 (chunksOf z)) :
    covered (if x.isEmpty then [] else [Chunk.leaf s z false x]) c := by
  cases x with
  | nil => rw [Ranges.selected_nil] at hsel; cases hsel
  | cons a t => exact covered_of_mem (List.mem_singleton.2 rfl) hlo hhi

section ranges
open Bao.Ranges

theorem reachesPast_iff_exists {q : List Nat} (h : WF q = true) (m : Nat) :
    reachesPast q m = true ↔ ∃ y, m ≤ y ∧ contains q y = true := by
  fun_induction reachesPast q m with
  | case1 => simp [contains_nil]
  | case2 a m =>
    simp only [contains_singleton, decide_eq_true_eq, true_iff]
    exact ⟨max m a, by omega, by omega⟩
  | case3 a b rest m ih =>
    have hab := (WF_cons_cons.1 h).1
    have ih := ih (WF_tail (WF_tail h))
    simp only [Bool.or_eq_true, decide_eq_true_eq, ih, contains_cons_cons h,
      Bool.and_eq_true]
    constructor
    · rintro (hb | ⟨y, hy, hc⟩)
      · exact ⟨max m a, by omega, Or.inl ⟨by omega, by omega⟩⟩
      · exact ⟨y, hy, Or.inr hc⟩
    · rintro ⟨y, hy, (⟨_, h2⟩ | hc)⟩
      · left; omega
      · exact Or.inr ⟨y, hy, hc⟩

theorem selected_lt {size : Nat} {q : List Nat} {c : Nat} (h : Spec.selected size q c = true) :
    c < Spec.nChunks size := by
  rw [selected_eq_reachesPast] at h
  simp only [Bool.and_eq_true, decide_eq_true_eq] at h
  exact h.1

theorem selected_of_lt_mid {size : Nat} (q : List Nat) {c m : Nat} (hc : c < m)
    (hm : m < Spec.nChunks size) : Spec.selected size q c = contains q c := by
  rw [selected_eq_reachesPast]
  have h1 : decide (c < Spec.nChunks size) = true := by simp; omega
  have h2 : (c == Spec.nChunks size - 1) = false := by simp; omega
  rw [h1, h2]; simp

theorem selected_left {size : Nat} {q : List Nat} {s m c : Nat} (h : WF q = true) (hs : s ≤ c)
    (hc : c < m) (hm : m < Spec.nChunks size) :
    Spec.selected size (splitInner q s m).1 c = Spec.selected size q c := by
  rw [selected_of_lt_mid _ hc hm, selected_of_lt_mid _ hc hm, C14.splitInner_left_mem h hs hc]

theorem selected_right {size : Nat} {q : List Nat} {s m c : Nat} (h : WF q = true) (hc : m ≤ c) :
    Spec.selected size (splitInner q s m).2 c = Spec.selected size q c := by
  have hwf := (C14.splitInner_wf s m h).2
  rw [selected_eq_reachesPast, selected_eq_reachesPast, C14.splitInner_right_mem h hc]
  by_cases hl : c = Spec.nChunks size - 1
  · have : reachesPast (splitInner q s m).2 (Spec.nChunks size - 1) =
        reachesPast q (Spec.nChunks size - 1) := by
      rw [Bool.eq_iff_iff, reachesPast_iff_exists hwf, reachesPast_iff_exists h]
      constructor
      · rintro ⟨y, hy, hcy⟩
        exact ⟨y, hy, by rwa [C14.splitInner_right_mem h (by omega)] at hcy⟩
      · rintro ⟨y, hy, hcy⟩
        exact ⟨y, hy, by rwa [C14.splitInner_right_mem h (by omega)]⟩
    rw [this]
  · have h2 : (c == Spec.nChunks size - 1) = false := by simpa using hl
    rw [h2]; simp only [Bool.false_and]

theorem ne_nil_of_selected {size : Nat} {q : List Nat} {c : Nat}
    (h : Spec.selected size q c = true) : q ≠ [] := by
  rintro rfl
  rw [selected_nil] at h; cases h

theorem ne_nil_of_contains {q : List Nat} {c : Nat} (h : contains q c = true) : q ≠ [] := by
  rintro rfl
  rw [contains_nil] at h; cases h

theorem fixAll_mem (l : List Nat) (s : Nat) : ∀ b ∈ fixAll l s, b = 0 ∨ b ∈ l := by
  unfold fixAll
  split
  · split
    · intro b hb; left; simpa using hb
    · intro b hb; exact Or.inr hb
  · intro b hb; exact Or.inr hb

theorem fixAll_tail_mem (l : List Nat) (s : Nat) : ∀ b ∈ (fixAll l s).tail, b ∈ l.tail := by
  unfold fixAll
  split
  · split
    · intro b hb; simp at hb
    · intro b hb; exact hb
  · intro b hb; exact hb

theorem gt_of_mem_drop_countLe {q : List Nat} (h : WF q = true) (x : Nat) :
    ∀ b ∈ q.drop (countLe q x), x < b := by
  induction q with
  | nil => intro b hb; simp at hb
  | cons c rest ih =>
    intro b hb
    simp only [countLe] at hb
    split at hb
    · simp only [List.drop_succ_cons] at hb
      exact ih (WF_tail h) b hb
    · simp only [List.drop_zero, List.mem_cons] at hb
      rcases hb with rfl | hb
      · omega
      · have := WF_head_lt h b hb; omega

theorem mem_drop_of_le {l : List Nat} {i j : Nat} (hij : i ≤ j) {b : Nat} (hb : b ∈ l.drop j) :
    b ∈ l.drop i := by
  obtain ⟨d, rfl⟩ := Nat.exists_eq_add_of_le hij
  rw [← List.drop_drop] at hb
  exact List.mem_of_mem_drop hb

theorem split_snd_drop {q : List Nat} (h : WF q = true) (m : Nat) :
    ∃ j, (split q m).2 = q.drop j ∧ j % 2 = 0 ∧ countLe q m ≤ j + 1 := by
  have h1 := countLe_le_countLt_succ h m
  have h2 := countLt_le_countLe q m
  rw [split_eq h]
  refine ⟨_, rfl, ?_⟩
  repeat' split
  all_goals omega

theorem split_snd_tail_gt {q : List Nat} (h : WF q = true) (m : Nat) :
    ∀ b ∈ (split q m).2.tail, m < b := by
  obtain ⟨j, e, -, hj⟩ := split_snd_drop h m
  intro b hb
  rw [e, List.tail_drop] at hb
  exact gt_of_mem_drop_countLe h m b (mem_drop_of_le hj hb)

theorem mem_tail_take {l : List Nat} {n b : Nat} (hb : b ∈ (l.take n).tail) : b ∈ l.tail := by
  cases l with
  | nil => simp at hb
  | cons a t =>
    cases n with
    | zero => simp at hb
    | succ n =>
      simp only [List.take_succ_cons, List.tail_cons] at hb ⊢
      exact List.mem_of_mem_take hb

theorem tight_left {q : List Nat} {s : Nat} (m : Nat) (ht : Tight q s) :
    Tight (splitInner q s m).1 s := by
  intro b hb
  rw [splitInner_eq] at hb
  have hb := fixAll_tail_mem _ _ b hb
  rw [split_fst] at hb
  exact ht b (mem_tail_take hb)

theorem tight_right {q : List Nat} (h : WF q = true) (s m : Nat) :
    Tight (splitInner q s m).2 m := by
  intro b hb
  rw [splitInner_eq] at hb
  exact split_snd_tail_gt h m b (fixAll_tail_mem _ _ b hb)

theorem left_lt_mid (q : List Nat) (s : Nat) {m : Nat} (hm : 0 < m) :
    ∀ b ∈ (splitInner q s m).1, b < m := by
  intro b hb
  rw [splitInner_eq] at hb
  rcases fixAll_mem _ _ b hb with rfl | hb
  · exact hm
  · exact C14.split_left_bounded q m b hb

theorem split_snd_mem {q : List Nat} (h : WF q = true) (m : Nat) : ∀ b ∈ (split q m).2, b ∈ q := by
  intro b hb
  rw [split_eq h] at hb
  exact List.mem_of_mem_drop hb

theorem bounded_right {size : Nat} {q : List Nat} (h : WF q = true) (s m : Nat) {e : Nat}
    (he : 0 < e) (hb : Bounded size q e) : Bounded size (splitInner q s m).2 e := by
  rcases hb with hb | hb
  · exact Or.inl hb
  · right
    intro b hm
    rw [splitInner_eq] at hm
    rcases fixAll_mem _ _ b hm with rfl | hm
    · exact he
    · exact hb b (split_snd_mem h m b hm)

theorem tight_witness {a : Nat} {t : List Nat} {s : Nat} (h : WF (a :: t) = true)
    (ht : Tight (a :: t) s) : contains (a :: t) (max s a) = true := by
  cases t with
  | nil => rw [contains_singleton]; simp; omega
  | cons b rest =>
    have hab := (WF_cons_cons.1 h).1
    have hsb : s < b := ht b (by simp)
    rw [contains_cons_cons h]
    simp only [Bool.or_eq_true, Bool.and_eq_true, decide_eq_true_eq]
    left; omega

end ranges

variable {size bs ml filled root : Nat}

theorem covered_nodeLeaf (g : Geo size bs filled) {L k : Nat} (rs : Ranges)
    (hlt : nodeOf k L < filled) {c : Nat} (hlo : startOf k (L + bs) ≤ c)
    (hhi : c < endOf k (L + bs)) (hN : c < nChunks size) :
    covered [nodeLeaf size bs root L k rs] c := by
  refine covered_of_mem (List.mem_singleton.2 rfl) hlo ?_
  rw [span_eq (g.start_strict (start_lt hlt)) (startOf_lt_endOf k (L + bs))]
  exact Nat.lt_min.2 ⟨hhi, hN⟩

theorem cover_complete (g : Geo size bs filled) (L k : Nat) (rs : Ranges) :
    Ranges.WF rs = true → ∀ c, startOf k (L + bs) ≤ c → c < endOf k (L + bs) →
      Spec.selected size rs c = true → covered (planPre size bs ml filled root L k rs) c := by
  refine planPre_induct
    (P := fun L k rs p => Ranges.WF rs = true → ∀ c, startOf k (L + bs) ≤ c →
      c < endOf k (L + bs) → Spec.selected size rs c = true → covered p c)
    ?nil ?gone ?skip ?qleaf ?half ?group ?inner L k rs
  case nil =>
    intro L k _ c _ _ hsel
    rw [Ranges.selected_nil] at hsel; cases hsel
  case gone =>
    intro k rs _ hge _ c hlo _ hsel
    have := g.sub_exists (k := k) (L := 0) (Nat.lt_of_le_of_lt hlo (selected_lt hsel))
    rw [Offsets.startOf_zero] at this
    rw [Offsets.nodeOf_zero] at hge
    exact absurd this (Nat.not_lt.2 hge)
  case skip =>
    intro L k rs _ hge ih hwf c hlo _ hsel
    exact ih hwf c (by rw [child_ls]; exact hlo)
      (by rw [child_le]; exact Nat.lt_of_lt_of_le (selected_lt hsel) (g.skip_mid_ge hge)) hsel
  case qleaf =>
    intro L k rs _ hlt _ _ c hlo hhi hsel
    exact covered_nodeLeaf g rs hlt hlo hhi (selected_lt hsel)
  case half =>
    intro k rs _ hlt _ _ _ c hlo hhi hsel
    exact covered_nodeLeaf g rs hlt hlo hhi (selected_lt hsel)
  case group =>
    intro k rs _ hlt _ hh hwf c hlo hhi hsel
    have hN := selected_lt hsel
    have hmN : midOf k bs < nChunks size := lt_nChunks_of_toBytes_lt hh
    rw [Nat.zero_add] at hlo hhi
    refine covered_split (m := midOf k bs) (fun hc => ?_) (fun hc => ?_)
    · refine covered_ite_leaf (size := size) ?_ hlo
        (by rw [span_full (startOf_lt_midOf k bs)]; exact hc)
      unfold lq; rw [Nat.zero_add, selected_left hwf hlo hc hmN]; exact hsel
    · refine covered_ite_leaf (size := size) ?_ hc ?_
      · unfold rq; rw [Nat.zero_add, selected_right hwf hc]; exact hsel
      · rw [span_eq (Or.inr hh) (midOf_lt_endOf k bs)]; exact Nat.lt_min.2 ⟨hhi, hN⟩
  case inner =>
    intro L k rs _ hlt _ ihl ihr hwf c hlo hhi hsel
    have hmN := g.mid_lt_nChunks hlt
    have hwfs := C14.splitInner_wf (startOf k (L + 1 + bs)) (midOf k (L + 1 + bs)) hwf
    refine covered_split (m := midOf k (L + 1 + bs)) (fun hc => ?_) (fun hc => ?_)
    · refine ihl hwfs.1 c (by rw [child_ls]; exact hlo) (by rw [child_le]; exact hc) ?_
      unfold lq; rw [selected_left hwf hlo hc hmN]; exact hsel
    · refine ihr hwfs.2 c (by rw [child_rs]; exact hc) (by rw [child_re]; exact hhi) ?_
      unfold rq; rw [selected_right hwf hc]; exact hsel

theorem leaf_witness {size : Nat} {rs : Ranges} {s e : Nat} (hwf : Ranges.WF rs = true)
    (hne : rs ≠ []) (ht : Tight rs s) (hb : Bounded size rs e) (hse : s < e)
    (hsN : s < nChunks size) :
    ∃ c, s ≤ c ∧ c < min e (nChunks size) ∧ Spec.selected size rs c = true := by
  cases rs with
  | nil => exact absurd rfl hne
  | cons a t =>
    -- `y = max s a` belongs to the set; the witness is `y`, or the last chunk if `y` lies behind it
    have hy := tight_witness hwf ht
    have hsy : s ≤ max s a := Nat.le_max_left s a
    have hye : max s a < e ∨ nChunks size ≤ e :=
      hb.symm.imp (fun hb => Nat.max_lt.2 ⟨hse, hb a (List.mem_cons_self ..)⟩) id
    generalize max s a = y at hy hsy hye
    by_cases hyN : y < nChunks size
    · refine ⟨y, hsy, by omega, ?_⟩
      rw [Ranges.selected_eq_reachesPast, hy]
      simp only [Bool.true_or, Bool.and_true, decide_eq_true_eq]
      exact hyN
    · refine ⟨nChunks size - 1, by omega, by omega, ?_⟩
      have hr : Ranges.reachesPast (a :: t) (nChunks size - 1) = true :=
        (reachesPast_iff_exists hwf _).2 ⟨y, by omega, hy⟩
      rw [Ranges.selected_eq_reachesPast, hr]
      simp only [beq_self_eq_true, Bool.and_true, Bool.or_true, decide_eq_true_eq]
      omega

theorem tight_zero {q : Ranges} (h : Ranges.WF q = true) : Tight q 0 := by
  cases q with
  | nil => intro b hb; simp at hb
  | cons a t =>
    intro b hb
    have := Ranges.WF_head_lt h b hb
    omega

/-- the sub-query `rs` of node `(k, L)` comes from the query `rs0` of node `(k0, L0)` above it:
it is well-formed, `Tight`, `Bounded`, and selects the same chunks of the node's range -/
structure SubQuery (size bs L0 k0 : Nat) (rs0 : Ranges) (L k : Nat) (rs : Ranges) : Prop where
  wf : Ranges.WF rs = true
  tight : Tight rs (startOf k (L + bs))
  bounded : Bounded size rs (endOf k (L + bs))
  lo : startOf k0 (L0 + bs) ≤ startOf k (L + bs)
  hi : endOf k (L + bs) ≤ endOf k0 (L0 + bs)
  sel : ∀ c, startOf k (L + bs) ≤ c → c < endOf k (L + bs) →
    Spec.selected size rs c = Spec.selected size rs0 c

variable {L0 k0 : Nat} {rs0 : Ranges}

theorem SubQuery.skip (g : Geo size bs filled) {L k : Nat} {rs : Ranges}
    (hge : filled ≤ nodeOf k (L + 1)) (h : SubQuery size bs L0 k0 rs0 (L + 1) k rs) :
    SubQuery size bs L0 k0 rs0 L (2 * k) rs := by
  have hme := midOf_lt_endOf k (L + 1 + bs)
  refine ⟨h.wf, ?_, Or.inl ?_, ?_, ?_, fun c h1 h2 => h.sel c ?_ ?_⟩
  · rw [child_ls]; exact h.tight
  · rw [child_le]; exact g.skip_mid_ge hge
  · rw [child_ls]; exact h.lo
  · rw [child_le]; exact Nat.le_trans (Nat.le_of_lt hme) h.hi
  · rw [child_ls] at h1; exact h1
  · rw [child_le] at h2; exact Nat.lt_trans h2 hme

theorem SubQuery.left (g : Geo size bs filled) {L k : Nat} {rs : Ranges}
    (hlt : nodeOf k (L + 1) < filled) (h : SubQuery size bs L0 k0 rs0 (L + 1) k rs) :
    SubQuery size bs L0 k0 rs0 L (2 * k) (lq bs (L + 1) k rs) := by
  have hsm := startOf_lt_midOf k (L + 1 + bs)
  have hme := midOf_lt_endOf k (L + 1 + bs)
  refine ⟨(C14.splitInner_wf _ _ h.wf).1, ?_, Or.inr ?_, ?_, ?_, fun c h1 h2 => ?_⟩
  · rw [child_ls]; exact tight_left _ h.tight
  · rw [child_le]; exact left_lt_mid rs _ (Nat.zero_lt_of_lt hsm)
  · rw [child_ls]; exact h.lo
  · rw [child_le]; exact Nat.le_trans (Nat.le_of_lt hme) h.hi
  · rw [child_ls] at h1; rw [child_le] at h2
    rw [← h.sel c h1 (Nat.lt_trans h2 hme)]
    exact selected_left h.wf h1 h2 (g.mid_lt_nChunks hlt)

theorem SubQuery.right {L k : Nat} {rs : Ranges} (h : SubQuery size bs L0 k0 rs0 (L + 1) k rs) :
    SubQuery size bs L0 k0 rs0 L (2 * k + 1) (rq bs (L + 1) k rs) := by
  have hsm := startOf_lt_midOf k (L + 1 + bs)
  have hme := midOf_lt_endOf k (L + 1 + bs)
  refine ⟨(C14.splitInner_wf _ _ h.wf).2, ?_, ?_, ?_, ?_, fun c h1 h2 => ?_⟩
  · rw [child_rs]; exact tight_right h.wf _ _
  · rw [child_re]; exact bounded_right h.wf _ _ (Nat.zero_lt_of_lt hme) h.bounded
  · rw [child_rs]; exact Nat.le_trans h.lo (Nat.le_of_lt hsm)
  · rw [child_re]; exact h.hi
  · rw [child_rs] at h1; rw [child_re] at h2
    rw [← h.sel c (Nat.le_trans (Nat.le_of_lt hsm) h1) h2]
    exact selected_right h.wf h1

theorem item_sub (g : Geo size bs filled) (hwf : Ranges.WF rs0 = true)
    (ht : Tight rs0 (startOf k0 (L0 + bs))) (hb : Bounded size rs0 (endOf k0 (L0 + bs)))
    {c : Chunk} (hc : c ∈ planPre size bs ml filled root L0 k0 rs0) :
    ∃ L k rs, SubQuery size bs L0 k0 rs0 L k rs ∧ rs ≠ [] ∧ nodeOf k L < filled ∧
      OwnItem size bs ml root L k rs c :=
  item_node (I := SubQuery size bs L0 k0 rs0) (fun _ _ _ => SubQuery.skip g)
    (fun _ _ _ => SubQuery.left g) (fun _ _ _ _ => SubQuery.right) L0 k0 rs0
    ⟨hwf, ht, hb, Nat.le_refl _, Nat.le_refl _, fun _ _ _ => rfl⟩ c hc

/-- **The query attached to a leaf.**  A leaf `.leaf s z _ x` of the plan of a well-formed, tight
and bounded query `rs0` spans `[s, min e N)`, and its ranges `x` are
non-empty, well-formed, tight at `s`, bounded at `e`, and select the same chunks of `[s, e)` as
`rs0`. -/
theorem leaf_query (g : Geo size bs filled) (hwf : Ranges.WF rs0 = true)
    (ht : Tight rs0 (startOf k0 (L0 + bs))) (hb : Bounded size rs0 (endOf k0 (L0 + bs)))
    {s z : Nat} {r : Bool} {x : Ranges}
    (hm : Chunk.leaf s z r x ∈ planPre size bs ml filled root L0 k0 rs0) :
    x ≠ [] ∧ Ranges.WF x = true ∧ ∃ e, s < e ∧
      s + max 1 (chunksOf z) = min e (nChunks size) ∧
      Tight x s ∧ Bounded size x e ∧
      ∀ c, s ≤ c → c < e → Spec.selected size x c = Spec.selected size rs0 c := by
  obtain ⟨L, k, rs, hS, hne, hlt, hown⟩ := item_sub g hwf ht hb hm
  have h := hown.leafAt
  have h0 := g.start_strict (start_lt hlt)
  rcases h with ⟨rfl, rfl, rfl, -⟩ | ⟨rfl, hh, h⟩
  · exact ⟨hne, hS.wf, _, startOf_lt_endOf k (L + bs), span_eq h0 (startOf_lt_endOf k (L + bs)),
      hS.tight, hS.bounded, hS.sel⟩
  · obtain ⟨hwf', ht', hb', -, -, hsel⟩ := hS
    rw [Nat.zero_add] at ht' hb' hsel
    have hsm := startOf_lt_midOf k bs
    have hme := midOf_lt_endOf k bs
    have hmN := lt_nChunks_of_toBytes_lt hh
    have hwfs := C14.splitInner_wf (startOf k bs) (midOf k bs) hwf'
    rcases h with ⟨rfl, rfl, rfl, hl⟩ | ⟨rfl, rfl, rfl, hr⟩
    · refine ⟨hl, hwfs.1, _, hsm, ?_, tight_left _ ht',
        Or.inr (left_lt_mid rs _ (Nat.zero_lt_of_lt hsm)), fun c h1 h2 => ?_⟩
      · rw [span_full hsm, Nat.min_eq_left (Nat.le_of_lt hmN)]
      · rw [selected_left hwf' h1 h2 hmN]; exact hsel c h1 (Nat.lt_trans h2 hme)
    · refine ⟨hr, hwfs.2, _, hme, span_eq (Or.inr hh) hme, tight_right hwf' _ _,
        bounded_right hwf' _ _ (Nat.zero_lt_of_lt hme) hb', fun c h1 h2 => ?_⟩
      rw [selected_right hwf' h1]; exact hsel c (Nat.le_trans (Nat.le_of_lt hsm) h1) h2

theorem cover_sound (g : Geo size bs filled) (L k : Nat) (rs : Ranges)
    (hwf : Ranges.WF rs = true) (ht : Tight rs (startOf k (L + bs)))
    (hb : Bounded size rs (endOf k (L + bs))) :
    ∀ s z r x, Chunk.leaf s z r x ∈ planPre size bs ml filled root L k rs →
      ∃ c, s ≤ c ∧ c < s + max 1 (chunksOf z) ∧ Spec.selected size rs c = true := by
  intro s z r x hm
  obtain ⟨hne, hwfx, e, hse, hspan, htx, hbx, hsel⟩ := leaf_query g hwf ht hb hm
  obtain ⟨c, h1, h2, h3⟩ := leaf_witness hwfx hne htx hbx hse (by omega)
  exact ⟨c, h1, by omega, by rw [← hsel c h1 (by omega)]; exact h3⟩

theorem plan_cover_complete (size bs ml : Nat) (hs : size ≤ 2 ^ 63) (hbs : bs ≤ 10) (q : Ranges)
    (hwf : Ranges.WF q = true) (c : Nat) (hsel : Spec.selected size q c = true) :
    covered (plan ⟨size, bs⟩ ml q) c := by
  have hN := selected_lt hsel
  have hcov := rootLevel_covers size bs hs
  exact cover_complete (shifted_geo size bs hs hbs) (rootLevel ⟨size, bs⟩) 0 q hwf c
    (by rw [startOf_zero_left]; omega) (by omega) hsel

theorem plan_cover_sound (size bs ml : Nat) (hs : size ≤ 2 ^ 63) (hbs : bs ≤ 10) (q : Ranges)
    (hwf : Ranges.WF q = true) :
    ∀ s z r x, Chunk.leaf s z r x ∈ plan ⟨size, bs⟩ ml q →
      ∃ c, s ≤ c ∧ c < s + max 1 (chunksOf z) ∧ Spec.selected size q c = true :=
  cover_sound (shifted_geo size bs hs hbs) (rootLevel ⟨size, bs⟩) 0 q hwf
    (by rw [startOf_zero_left]; exact tight_zero hwf)
    (Or.inl (rootLevel_covers size bs hs))

/-- non-vacuity: a well-formed query on a 3000 byte blob that selects chunk 2 (and the
hypotheses `size ≤ 2^63`, `bs ≤ 10` of the corollaries are met by `size = 3000`, `bs = 0`) -/
example : Ranges.WF [1] = true ∧ Spec.selected 3000 [1] 2 = true ∧ (3000 : Nat) ≤ 2 ^ 63 := by
  decide

/-- non-vacuity of `Tight` / `Bounded` below the root: the right half of `split_inner` -/
example : Tight (Ranges.splitInner [1, 3, 5] 0 2).2 2 ∧ Bounded 3000 [1, 3] 4 := by
  refine ⟨tight_right (by decide) 0 2, Or.inr ?_⟩
  intro b hb; simp at hb; omega

end Bao.PlanPre
