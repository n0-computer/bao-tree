import BaoProofs.Lemmas.C01Inv

/-!
# The decoder invariant behind C01, with a LOCAL collision freedom hypothesis

The invariant of `Lemmas/C01Inv.lean` under `CollisionFreeOn hf S`, for a set `S` of hash inputs
that contains

* `trueEvals hf d` – the inputs evaluated by the honest hashing of the whole blob
  (`Spec.root hf d`), and
* the inputs the decoder evaluates in the steps under consideration (`Dec.stepEvals`,
  `runEvalsAux`, `runEvals`).

The invariant is sharpened from `TrueCv` (any root flag) to `TrueCvL`: the flag is the one the
honest hashing uses for that interval (`true` for the root interval `[0, n)`, `false` for every
other), because only those evaluations are in `trueEvals` (`trueEvals_sub`).  The drivers
(`runAux_sound_loc`, `decodeRangesAux_sound_loc`) are proved in this form only: the theorems under
the global hypothesis are their instances at `CollisionFree.on`.
-/

namespace Bao

variable {H : Type}

/-- the hash inputs evaluated by one `Dec.nextSync` step (nothing when the plan is exhausted, the
read fails, or – for a parent – the stack is empty, which panics before hashing) -/
def Dec.evalsSync (hf : HashFns H) (d : Dec H) : List (HashIn H) :=
  match Response.next d.iter with
  | .done => []
  | .panic => []
  | .item (.parent _ isRoot _ _ _) _ =>
    match readExact d.encoded 64 with
    | .error _ => []
    | .ok (buf, _) =>
      match d.stack with
      | [] => []
      | _ :: _ => [.parent (parsePair hf buf).1 (parsePair hf buf).2 isRoot]
  | .item (.leaf start size isRoot _) _ =>
    match readExact d.encoded size with
    | .error _ => []
    | .ok (buf, _) => hashEvals hf start buf isRoot

/-- the hash inputs evaluated by one `Dec.nextFsm` step (the fsm decoder pops before hashing a
leaf) -/
def Dec.evalsFsm (hf : HashFns H) (d : Dec H) : List (HashIn H) :=
  match Response.next d.iter with
  | .done => []
  | .panic => []
  | .item (.parent _ isRoot _ _ _) _ =>
    match readExact d.encoded 64 with
    | .error _ => []
    | .ok (buf, _) =>
      match d.stack with
      | [] => []
      | _ :: _ => [.parent (parsePair hf buf).1 (parsePair hf buf).2 isRoot]
  | .item (.leaf start size isRoot _) _ =>
    match readExact d.encoded size with
    | .error _ => []
    | .ok (buf, _) =>
      match d.stack with
      | [] => []
      | _ :: _ => hashEvals hf start buf isRoot

def Dec.stepEvals (hf : HashFns H) (fl : Flavour) (d : Dec H) : List (HashIn H) :=
  match fl with
  | .sync => d.evalsSync hf
  | .fsm => d.evalsFsm hf

/-- twin of `Dec.runAux`: all hash inputs evaluated by the run, including those of the final step
(the one that reports an error, if any) -/
def runEvalsAux (hf : HashFns H) [BEq H] (fl : Flavour) : Nat → Dec H → List (HashIn H)
  | 0, _ => []
  | fuel + 1, d =>
    d.stepEvals hf fl ++
      match d.next hf fl with
      | .item _ d' => runEvalsAux hf fl fuel d'
      | _ => []

def Dec.runEvals (hf : HashFns H) [BEq H] (fl : Flavour) (d : Dec H) : List (HashIn H) :=
  runEvalsAux hf fl (PrePartial.fuelFor d.iter.tree + 1) d

/-- twin of `decodeAll` (and of the decoder inside `decodeRanges`): every hash input the decoder
evaluates on `stream`, when set up with `root`, the claimed geometry `tree` and the query `q` -/
def runEvals (hf : HashFns H) [BEq H] (fl : Flavour) (root : H) (tree : Tree) (q : Ranges)
    (stream : List UInt8) : List (HashIn H) :=
  (Dec.new root tree q stream).runEvals hf fl

end Bao

namespace Bao.C01

open Bao.Spec

variable {H : Type}

/-- the inputs evaluated by the honest hashing of the whole blob, `Spec.root hf d` -/
def trueEvals (hf : HashFns H) (d : List UInt8) : List (HashIn H) :=
  hashEvals hf 0 (slice d 0 (nChunks d.length)) true

theorem trueEvals_eq (hf : HashFns H) (d : List UInt8) : trueEvals hf d = hashEvals hf 0 d true := by
  rw [trueEvals, slice_full]

/-- the root flag the honest hashing uses for the chunk interval `[c, e)` -/
def isRootIv (d : List UInt8) (c e : Nat) : Bool := decide (c = 0 ∧ e = nChunks d.length)

/-- `h` is the chaining value of a subtree of the true blob, with the honest root flag -/
def TrueCvL (hf : HashFns H) (d : List UInt8) (h : H) : Prop :=
  ∃ c e, Sub d c e ∧ h = Spec.cv hf d c e (isRootIv d c e)

theorem TrueCvL.toTrueCv {hf : HashFns H} {d : List UInt8} {h : H} (ht : TrueCvL hf d h) :
    TrueCv hf d h := by
  obtain ⟨c, e, hs, he⟩ := ht
  exact ⟨c, e, _, hs, he⟩

def StackOkL (hf : HashFns H) (d : List UInt8) (st : List H) : Prop := ∀ h ∈ st, TrueCvL hf d h

theorem TrueCvL.root (hf : HashFns H) (d : List UInt8) : TrueCvL hf d (Spec.root hf d) :=
  ⟨0, _, Sub.root d, by simp [isRootIv, Spec.root]⟩

theorem StackOkL.new (hf : HashFns H) (d : List UInt8) (tree : Tree) (q : Ranges) (s : List UInt8) :
    StackOkL hf d (Dec.new (Spec.root hf d) tree q s).stack := by
  intro h hh
  rw [Dec.new, List.mem_singleton] at hh
  exact hh ▸ TrueCvL.root hf d

section
variable {hf : HashFns H} {d : List UInt8}

private theorem eq_of_dvd_between {p c c' : Nat} (hc : p ∣ c) (hc' : p ∣ c') (h1 : c ≤ c')
    (h2 : c' < c + p) : c' = c := by
  have hd : p ∣ c' - c := Nat.dvd_sub hc' hc
  have : c' - c = 0 := Nat.eq_zero_of_dvd_of_lt hd (by omega)
  omega

/-- the honest hashing evaluates the interval of the node `(c, M)`, clipped to the blob, with the
honest root flag -/
private def Hashed (hf : HashFns H) (d : List UInt8) (c M : Nat) : Prop :=
  ∀ x ∈ hashEvals hf c (slice d c (min (c + 2 ^ M) (nChunks d.length)))
      (isRootIv d c (min (c + 2 ^ M) (nChunks d.length))), x ∈ trueEvals hf d

private theorem evals_node (hd : d.length ≤ 2 ^ 64 * 1024) {M c : Nat} (f : Bool)
    (hmid : c + 2 ^ M < nChunks d.length) :
    ∃ p, hashEvals hf c (slice d c (min (c + 2 ^ (M + 1)) (nChunks d.length))) f =
      p :: (hashEvals hf c (slice d c (c + 2 ^ M)) false ++
        hashEvals hf (c + 2 ^ M)
          (slice d (c + 2 ^ M) (min (c + 2 ^ (M + 1)) (nChunks d.length))) false) := by
  have hP : 2 ^ (M + 1) = 2 ^ M + 2 ^ M := by rw [Nat.pow_succ, Nat.mul_two]
  have hpos : 0 < d.length := Nat.pos_of_ne_zero fun h0 => by
    have := Nat.two_pow_pos M
    rw [h0] at hmid; simp only [nChunks] at hmid; omega
  have hlt : c + 2 ^ M < min (c + 2 ^ (M + 1)) (nChunks d.length) :=
    Nat.lt_min.2 ⟨by rw [hP, ← Nat.add_assoc]; exact Nat.lt_add_of_pos_right (Nat.two_pow_pos M),
      hmid⟩
  obtain ⟨ha, hb⟩ := slice_level hpos (Nat.min_le_right ..) hlt (hP ▸ Nat.min_le_left ..)
  rw [← hP] at hb
  have hM : M < 64 := (Nat.pow_lt_pow_iff_right (a := 2) (by decide)).1 (by
    have := slice_length_le d c (min (c + 2 ^ (M + 1)) (nChunks d.length)); omega)
  have h := evalsOf_parent (hf := hf) (M := 64) (N := 64) ha hb hM (Nat.le_of_lt hM) c f
  rw [slice_take (Nat.le_of_lt hlt), slice_drop (Nat.le_of_lt hlt)] at h
  exact ⟨_, h⟩

/-- below a hashed interval every subtree interval is hashed: descend from the node `(c, M)` to the
node `(c', M')` inside it, at each existing node into the half that contains `c'` -/
private theorem hashed_below (hd : d.length ≤ 2 ^ 64 * 1024) :
    ∀ (M c : Nat), 2 ^ M ∣ c → c < nChunks d.length → Hashed hf d c M →
      ∀ (M' c' : Nat), M' ≤ M → 2 ^ M' ∣ c' → c ≤ c' → c' < c + 2 ^ M → c' < nChunks d.length →
        Hashed hf d c' M' := by
  intro M
  induction M with
  | zero =>
    intro c _ _ hT M' c' hM' _ h1 h2 _
    obtain rfl : M' = 0 := Nat.le_zero.1 hM'
    obtain rfl : c' = c := Nat.le_antisymm (Nat.le_of_lt_succ h2) h1
    exact hT
  | succ M ih =>
    intro c hdvd hcn hT M' c' hM' hdvd' h1 h2 hcn'
    have hP : 2 ^ (M + 1) = 2 ^ M + 2 ^ M := by rw [Nat.pow_succ, Nat.mul_two]
    have hdvdM : 2 ^ M ∣ c := Nat.dvd_trans (Nat.pow_dvd_pow 2 (Nat.le_succ M)) hdvd
    by_cases htop : M' = M + 1
    · subst htop
      obtain rfl : c' = c := eq_of_dvd_between hdvd hdvd' h1 h2
      exact hT
    · have hM'' : M' ≤ M := Nat.le_of_lt_succ (Nat.lt_of_le_of_ne hM' htop)
      unfold Hashed at hT
      by_cases hmid : c + 2 ^ M < nChunks d.length
      · -- the node exists: both children are hashed, with flag `false`, the honest one for them
        obtain ⟨p, hev⟩ := evals_node (hf := hf) hd (isRootIv d c _) hmid
        rw [hev] at hT
        by_cases hleft : c' < c + 2 ^ M
        · refine ih c hdvdM hcn ?_ M' c' hM'' hdvd' h1 hleft hcn'
          intro x hx
          rw [Nat.min_eq_left (Nat.le_of_lt hmid),
            show isRootIv d c (c + 2 ^ M) = false from
              decide_eq_false fun h => Nat.ne_of_lt hmid h.2] at hx
          exact hT x (List.mem_cons_of_mem _ (List.mem_append_left _ hx))
        · refine ih (c + 2 ^ M) (Nat.dvd_add hdvdM (Nat.dvd_refl _)) hmid ?_ M' c' hM'' hdvd'
            (Nat.le_of_not_lt hleft) (by rw [Nat.add_assoc, ← hP]; exact h2) hcn'
          intro x hx
          rw [Nat.add_assoc, ← hP,
            show isRootIv d (c + 2 ^ M) (min (c + 2 ^ (M + 1)) (nChunks d.length)) = false from
              decide_eq_false fun h =>
                Nat.ne_of_gt (Nat.add_pos_right c (Nat.two_pow_pos M)) h.1] at hx
          exact hT x (List.mem_cons_of_mem _ (List.mem_append_right _ hx))
      · -- the node does not exist: the interval is the interval of its left child
        have hn : nChunks d.length ≤ c + 2 ^ M := Nat.le_of_not_lt hmid
        rw [Nat.min_eq_right (Nat.le_trans hn (Nat.add_le_add_left
          (Nat.pow_le_pow_right (by decide) (Nat.le_succ M)) c)),
          ← Nat.min_eq_right hn] at hT
        exact ih c hdvdM hcn hT M' c' hM'' hdvd' h1 (Nat.lt_of_lt_of_le hcn' hn) hcn'

/-- **every subtree interval of the true tree is hashed by the honest hashing of the blob**, with
the honest root flag: its evaluation list is part of `trueEvals` -/
theorem trueEvals_sub (hd : d.length ≤ 2 ^ 64 * 1024) {c e : Nat} (hs : Sub d c e) :
    ∀ x ∈ hashEvals hf c (slice d c e) (isRootIv d c e), x ∈ trueEvals hf d := by
  obtain ⟨M', hdvd, he, hc⟩ := hs
  -- the root interval is the interval of the node `(0, N)` for `N = M' + n`, since `n < 2^N`
  have hlt : nChunks d.length < 0 + 2 ^ (M' + nChunks d.length) :=
    (Nat.zero_add _).symm ▸ Nat.lt_of_lt_of_le Nat.lt_two_pow_self
      (Nat.pow_le_pow_right (by decide) (Nat.le_add_left ..))
  have hroot : Hashed hf d 0 (M' + nChunks d.length) := by
    unfold Hashed
    rw [Nat.min_eq_right (Nat.le_of_lt hlt),
      show isRootIv d 0 (nChunks d.length) = true by simp [isRootIv]]
    exact fun x hx => hx
  rw [he]
  exact hashed_below hd _ 0 (Nat.dvd_zero _) (nChunks_pos _) hroot M' c (Nat.le_add_right ..) hdvd
    (Nat.zero_le c) (Nat.lt_trans hc hlt) hc

/-- a hash of the true tree that passes the parent check: the pair read from the stream is the
true pair of a node of the true tree, and both children are hashes of the true tree.  Injectivity
is used for two inputs only: the top input of the honest hashing of that subtree, and the parent
input the decoder evaluates. -/
theorem parent_check_loc {S : HashIn H → Prop} (cf : CollisionFreeOn hf S)
    (hT : ∀ x ∈ trueEvals hf d, S x) (hd : d.length ≤ 2 ^ 64 * 1024) {h l r : H}
    {isRoot : Bool} (ht : TrueCvL hf d h) (hS : S (.parent l r isRoot))
    (heq : h = hf.parentCv l r isRoot) :
    TruePair hf d l r ∧ TrueCvL hf d l ∧ TrueCvL hf d r := by
  obtain ⟨c, e, hs, rfl⟩ := ht
  obtain ⟨hp, m, hcm, hmn, s1, s2, hl, hr⟩ :=
    parent_check_on cf hd hs (fun x hx => hT x (trueEvals_sub hd hs x hx)) hS heq
  -- neither child interval is the root interval
  have hf1 : isRootIv d c m = false := by
    simp only [isRootIv, decide_eq_false_iff_not]; omega
  have hf2 : isRootIv d m e = false := by
    simp only [isRootIv, decide_eq_false_iff_not]; omega
  exact ⟨hp, ⟨c, m, s1, hf1 ▸ hl⟩, ⟨m, e, s2, hf2 ▸ hr⟩⟩

/-- a hash of the true tree that passes the leaf check: the bytes read from the stream are the
bytes of that subtree of the true blob, at the right offset.  Injectivity is used only on the
inputs of the honest hashing of that subtree and of the decoder's `hash_subtree` call. -/
theorem leaf_check_loc {S : HashIn H → Prop} (cf : CollisionFreeOn hf S)
    (hT : ∀ x ∈ trueEvals hf d, S x) (hd : d.length ≤ 2 ^ 64 * 1024) {h : H} {start : Nat}
    {buf : List UInt8} {isRoot : Bool} (ht : TrueCvL hf d h)
    (hS : ∀ x ∈ hashEvals hf start buf isRoot, S x)
    (heq : h = hashSubtree hf start buf isRoot) : TrueLeaf d (toBytes start) buf := by
  obtain ⟨c, e, hs, rfl⟩ := ht
  have hsub := trueEvals_sub (hf := hf) hd hs
  obtain ⟨hc, hb, _⟩ := cv_inj_on' cf (fun x hx => hT x (hsub x hx)) hS heq
  exact ⟨c, e, hs, by rw [toBytes, hc], hb.symm⟩

theorem StackOkL.push2 {st : List H} {l r : H} (hs : StackOkL hf d st) (hl : TrueCvL hf d l)
    (hr : TrueCvL hf d r) (left right : Bool) :
    StackOkL hf d (if left then l :: (if right then r :: st else st)
      else (if right then r :: st else st)) :=
  forall_mem_push2 hs hl hr left right

theorem stepEvals_eq (fl : Flavour) {dec : Dec H} {c : Chunk} {it : PrePartial}
    {buf rest : List UInt8} {top : H} {st : List H} (hn : Response.next dec.iter = .item c it)
    (hr : readExact dec.encoded c.size = .ok (buf, rest)) (hst : dec.stack = top :: st) :
    dec.stepEvals hf fl =
      match c with
      | .parent _ isRoot _ _ _ => [.parent (parsePair hf buf).1 (parsePair hf buf).2 isRoot]
      | .leaf start _ isRoot _ => hashEvals hf start buf isRoot := by
  cases c <;> simp only [Chunk.size] at hr <;> cases fl <;>
    simp only [Dec.stepEvals, Dec.evalsSync, Dec.evalsFsm, hn, hr, hst]

/-- the fsm decoder evaluates nothing the sync decoder does not (it pops before hashing a leaf) -/
theorem stepEvals_fsm_sub (dec : Dec H) :
    ∀ x ∈ dec.stepEvals hf .fsm, x ∈ dec.stepEvals hf .sync := by
  simp only [Dec.stepEvals, Dec.evalsSync, Dec.evalsFsm]
  cases Response.next dec.iter with
  | done => exact fun _ hx => hx
  | panic => exact fun _ hx => hx
  | item c it =>
    cases c with
    | parent node isRoot left right rs => exact fun _ hx => hx
    | leaf start size isRoot rs =>
      dsimp only
      cases readExact dec.encoded size with
      | error e => exact fun _ hx => hx
      | ok p =>
        cases dec.stack with
        | nil => exact fun _ hx => nomatch hx
        | cons top st => exact fun _ hx => hx

variable [BEq H]

theorem runEvalsAux_fsm_sub : ∀ (fuel : Nat) (dec : Dec H),
    ∀ x ∈ runEvalsAux hf .fsm fuel dec, x ∈ runEvalsAux hf .sync fuel dec := by
  intro fuel
  induction fuel with
  | zero => exact fun _ _ hx => nomatch hx
  | succ fuel ih =>
    intro dec x hx
    unfold runEvalsAux at hx ⊢
    rw [List.mem_append] at hx ⊢
    rcases hx with hx | hx
    · exact .inl (stepEvals_fsm_sub dec x hx)
    · cases hn : dec.next hf .fsm with
      | item i dec' =>
        rw [hn] at hx
        rw [next_item_flavour .sync hn]
        exact .inr (ih dec' x hx)
      | err e dec' => rw [hn] at hx; exact nomatch hx
      | done dec' => rw [hn] at hx; exact nomatch hx
      | panic => rw [hn] at hx; exact nomatch hx

theorem runEvals_fsm_sub (root : H) (tree : Tree) (q : Ranges) (s : List UInt8) :
    ∀ x ∈ runEvals hf .fsm root tree q s, x ∈ runEvals hf .sync root tree q s :=
  runEvalsAux_fsm_sub _ _

variable [LawfulBEq H]

/-- **step invariant, local form**: both flavours, any iterator state, any stream.  `hf` has to be
collision free only on a set containing `trueEvals hf d` and the inputs this step evaluates. -/
theorem next_sound_loc {S : HashIn H → Prop} (cf : CollisionFreeOn hf S)
    (hT : ∀ x ∈ trueEvals hf d, S x) (hd : d.length ≤ 2 ^ 64 * 1024) (fl : Flavour)
    (dec : Dec H) (hE : ∀ x ∈ dec.stepEvals hf fl, S x) (hs : StackOkL hf d dec.stack)
    {i : Item H} {dec' : Dec H} (h : dec.next hf fl = .item i dec') :
    ItemOk hf d i ∧ StackOkL hf d dec'.stack := by
  obtain ⟨c, it, st', s', hn, hsc, rfl⟩ := (DecSim.next_item_iff hf).1 h
  obtain ⟨hl, top, st, hst, hne, rfl, rfl, -⟩ := DecodeSpec.stepC_item hsc
  rw [stepEvals_eq fl hn (if_pos hl) hst] at hE
  rw [hst] at hs
  have htop := hs top (List.mem_cons_self ..)
  have hrest : StackOkL hf d st := fun x hx => hs x (List.mem_cons_of_mem _ hx)
  cases c with
  | parent node isRoot left right rs =>
    obtain ⟨hp, hl, hr⟩ := parent_check_loc cf hT hd htop (hE _ (List.mem_singleton_self _))
      (eq_of_bne_false hne)
    exact ⟨hp, StackOkL.push2 hrest hl hr _ _⟩
  | leaf start size isRoot rs =>
    exact ⟨leaf_check_loc cf hT hd htop hE (eq_of_bne_false hne), hrest⟩

omit [LawfulBEq H] in
theorem runEvalsAux_step (fl : Flavour) (fuel : Nat) (dec : Dec H) :
    ∀ x ∈ dec.stepEvals hf fl, x ∈ runEvalsAux hf fl (fuel + 1) dec := by
  intro x hx
  unfold runEvalsAux
  exact List.mem_append_left _ hx

omit [LawfulBEq H] in
theorem runEvalsAux_next (fl : Flavour) (fuel : Nat) (dec : Dec H) {i : Item H} {dec' : Dec H}
    (h : dec.next hf fl = .item i dec') :
    ∀ x ∈ runEvalsAux hf fl fuel dec', x ∈ runEvalsAux hf fl (fuel + 1) dec := by
  intro x hx
  unfold runEvalsAux
  rw [h]
  exact List.mem_append_right _ hx

theorem next_sound_run (hd : d.length ≤ 2 ^ 64 * 1024) (fl : Flavour) (fuel : Nat) (dec : Dec H)
    (cf : CollisionFreeOn hf
      (fun x => x ∈ trueEvals hf d ∨ x ∈ runEvalsAux hf fl (fuel + 1) dec))
    (hs : StackOkL hf d dec.stack) {i : Item H} {dec' : Dec H}
    (h : dec.next hf fl = .item i dec') :
    ItemOk hf d i ∧ StackOkL hf d dec'.stack ∧
      CollisionFreeOn hf (fun x => x ∈ trueEvals hf d ∨ x ∈ runEvalsAux hf fl fuel dec') := by
  obtain ⟨hit, hs'⟩ := next_sound_loc cf (fun x hx => .inl hx) hd fl dec
    (fun x hx => .inr (runEvalsAux_step fl fuel dec x hx)) hs h
  exact ⟨hit, hs', cf.mono fun x hx => hx.imp id (runEvalsAux_next fl fuel dec h x)⟩

theorem runAux_sound_loc (hd : d.length ≤ 2 ^ 64 * 1024) (fl : Flavour) :
    ∀ (fuel : Nat) (dec : Dec H),
      CollisionFreeOn hf (fun x => x ∈ trueEvals hf d ∨ x ∈ runEvalsAux hf fl fuel dec) →
      StackOkL hf d dec.stack →
      ∀ i ∈ (Dec.runAux hf fl fuel dec).items, ItemOk hf d i := by
  intro fuel
  induction fuel with
  | zero => intro dec _ _ i hi; simp [Dec.runAux] at hi
  | succ fuel ih =>
    intro dec cf hs i hi
    unfold Dec.runAux at hi
    split at hi
    · simp at hi
    · simp at hi
    · simp at hi
    · rename_i it dec' hnext
      obtain ⟨hit, hs', cf'⟩ := next_sound_run hd fl fuel dec cf hs hnext
      simp only [List.mem_cons] at hi
      rcases hi with rfl | hi
      · exact hit
      · exact ih dec' cf' hs' i hi

theorem decodeRangesAux_sound_loc (hd : d.length ≤ 2 ^ 64 * 1024) (fl : Flavour) (tree : Tree) :
    ∀ (fuel : Nat) (dec : Dec H) (sink : Sink H) (ws : List (Nat × Nat)) (ss : List Nat),
      CollisionFreeOn hf (fun x => x ∈ trueEvals hf d ∨ x ∈ runEvalsAux hf fl fuel dec) →
      StackOkL hf d dec.stack →
      ∃ (wl : List (Nat × List UInt8)) (pl : List (Nat × H × H)),
        (∀ w ∈ wl, TrueLeaf d w.1 w.2) ∧ (∀ p ∈ pl, TruePair hf d p.2.1 p.2.2) ∧
        (decodeRangesAux hf fl tree fuel dec sink ws ss).sink.target = applyWrites sink.target wl ∧
        (decodeRangesAux hf fl tree fuel dec sink ws ss).sink.ob = applySaves hf sink.ob pl := by
  have stop : ∀ sink : Sink H, ∃ (wl : List (Nat × List UInt8)) (pl : List (Nat × H × H)),
      (∀ w ∈ wl, TrueLeaf d w.1 w.2) ∧ (∀ p ∈ pl, TruePair hf d p.2.1 p.2.2) ∧
      sink.target = applyWrites sink.target wl ∧ sink.ob = applySaves hf sink.ob pl :=
    fun _ => ⟨[], [], nofun, nofun, rfl, rfl⟩
  intro fuel
  induction fuel with
  | zero => intro dec sink ws ss _ _; exact stop sink
  | succ fuel ih =>
    intro dec sink ws ss cf hs
    unfold decodeRangesAux
    split
    · exact stop sink
    · exact stop sink
    · exact stop sink
    · rename_i node l r dec' hnext
      obtain ⟨hit, hs', cf'⟩ := next_sound_run hd fl fuel dec cf hs hnext
      split
      · split
        · rename_i ob hsave
          obtain ⟨wl, pl, hw, hp, ht, ho⟩ := ih dec' { sink with ob } ws (node :: ss) cf' hs'
          refine ⟨wl, (node, l, r) :: pl, hw, List.forall_mem_cons.2 ⟨hit, hp⟩, ht, ?_⟩
          rw [ho]
          simp only [applySaves, List.foldl_cons, hsave]
        · exact stop sink
        · exact stop sink
      · exact ih dec' sink ws ss cf' hs'
    · rename_i off data dec' hnext
      obtain ⟨hit, hs', cf'⟩ := next_sound_run hd fl fuel dec cf hs hnext
      obtain ⟨wl, pl, hw, hp, ht, ho⟩ :=
        ih dec' { sink with target := writeAt sink.target off data } ((off, data.length) :: ws) ss
          cf' hs'
      exact ⟨(off, data) :: wl, pl, List.forall_mem_cons.2 ⟨hit, hw⟩, hp, by rw [ht]; rfl, ho⟩

end

end Bao.C01
