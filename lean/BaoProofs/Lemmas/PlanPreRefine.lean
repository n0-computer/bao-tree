import BaoProofs.Lemmas.PlanPre

/-!
# The explicit-stack iterator computes the recursive plan (C15, pre-order half)
-/

namespace Bao.PlanPre
open Bao Bao.Spec Bao.Bits

variable {size bs ml filled root : Nat}

/-- the plan behind a stack entry: the iterator keeps shifted ids, the recursion coordinates; the
coordinates are recovered from the id -/
def planId (size bs ml filled root : Nat) (e : Nat × Ranges) : List Chunk :=
  planPre size bs ml filled root (levelOf e.1) (indexOf e.1) e.2

theorem planId_nodeOf (g : Geo size bs filled) {k L : Nat} (h : nodeOf k L < filled) (rs : Ranges) :
    planId size bs ml filled root (nodeOf k L, rs) = planPre size bs ml filled root L k rs := by
  have hL := g.level_le h
  unfold planId
  simp only
  rw [levelOf_nodeOf (by omega), indexOf_nodeOf (by omega)]

/-- `right_descendant`'s loop finds the node that `planPre` reaches by skipping -/
theorem descendLeft_plan (g : Geo size bs filled) (fuel k L : Nat) (hL : L ≤ 64) (hf : L < fuel)
    (hs : startOf k L < filled) :
    ∃ r, Node.descendLeft fuel (nodeOf k L) filled = some r ∧ r < filled ∧
      ∀ rs, planId size bs ml filled root (r, rs) = planPre size bs ml filled root L k rs := by
  induction fuel generalizing k L with
  | zero => omega
  | succ f ih =>
    simp only [Node.descendLeft]
    by_cases hge : nodeOf k L ≥ filled
    · rw [if_pos hge]
      cases L with
      | zero =>
        have : startOf k 0 = nodeOf k 0 := by rw [Offsets.startOf_zero, Offsets.nodeOf_zero]
        omega
      | succ n =>
        simp only [C18.leftChild_spec hL]
        obtain ⟨r, h1, h2, h3⟩ := ih (2 * k) n (by omega) (by omega)
          (by rw [Bits.startOf_left]; exact hs)
        exact ⟨r, h1, h2, fun rs => by rw [h3, planPre_skip hge]⟩
    · rw [if_neg hge]
      exact ⟨nodeOf k L, rfl, by omega, fun rs => planId_nodeOf g (by omega) rs⟩

/-- an iterator state with the fixed fields of one run; only stack and buffer move -/
def st (size bs ml filled root : Nat) (stack : List (Nat × Ranges)) (buffer : List Chunk) :
    PrePartial :=
  ⟨⟨size, bs⟩, ml, stack, filled, root, buffer⟩

/-- what the iterator's `debug_assert!` / `unwrap()` need of a stack entry -/
def Valid (filled : Nat) (e : Nat × Ranges) : Prop := e.1 < filled ∧ e.2 ≠ []

theorem flatMap_push (n : Nat) (r : Ranges) (stack : List (Nat × Ranges)) :
    (if r.isEmpty then stack else (n, r) :: stack).flatMap (planId size bs ml filled root) =
      planId size bs ml filled root (n, r) ++ stack.flatMap (planId size bs ml filled root) := by
  cases r with
  | nil => simp [planId]
  | cons a t => rfl

theorem valid_push {n : Nat} (r : Ranges) {stack : List (Nat × Ranges)} (hn : n < filled)
    (hv : ∀ e ∈ stack, Valid filled e) :
    ∀ e ∈ (if r.isEmpty then stack else (n, r) :: stack), Valid filled e := by
  cases r with
  | nil => exact hv
  | cons a t =>
    intro e he
    rcases List.mem_cons.1 he with rfl | he
    · exact ⟨hn, List.cons_ne_nil a t⟩
    · exact hv e he

/-- **The central step**: one `next` on a state with empty buffer emits the first item of the top
entry's plan and leaves buffer and stack holding exactly the rest of that plan (no panic branch). -/
theorem next_step (g : Geo size bs filled) {k L : Nat} {rs : Ranges} {stack : List (Nat × Ranges)}
    (hlt : nodeOf k L < filled) (hne : rs ≠ []) (hv : ∀ e ∈ stack, Valid filled e) :
    ∃ c stack' buf',
      (st size bs ml filled root ((nodeOf k L, rs) :: stack) []).next
        = .item c (st size bs ml filled root stack' buf') ∧
      (∀ e ∈ stack', Valid filled e) ∧
      c :: (buf' ++ stack'.flatMap (planId size bs ml filled root))
        = planPre size bs ml filled root L k rs ++ stack.flatMap (planId size bs ml filled root) := by
  have hreal := g.real_lt hlt
  have hL := g.level_le hlt
  have hsub : Node.subBs (nodeOf k L) bs = nodeOf k (L + bs) := C18.subBs_spec hreal
  have hlev : Node.level (nodeOf k (L + bs)) = L + bs := C18.level_nodeOf hL
  have hcr : Node.chunkRange (nodeOf k (L + bs)) = (startOf k (L + bs), endOf k (L + bs)) :=
    C18.chunkRange_spec hL
  have hmid : Node.mid (nodeOf k (L + bs)) = midOf k (L + bs) := C18.mid_spec _ _
  have hleaf : Node.isLeaf (nodeOf k L) = decide (L = 0) := C18.isLeaf_spec _ _
  have hsplit := splitNode_eq (k := k) bs rs hL
  have hemp := isEmpty_eq_false hne
  simp only [PrePartial.next, st, hemp, hsub, hlev, hcr, hmid, hleaf, hsplit, Tree.byteRange]
  by_cases hq : queryLeaf bs ml L rs = true
  ·
    rw [planPre_queryLeaf hne hlt hq]
    unfold queryLeaf at hq
    simp only [hq, if_true, Bool.false_eq_true, if_false]
    exact ⟨_, stack, [], rfl, hv, rfl⟩
  have hq : queryLeaf bs ml L rs = false := by simpa using hq
  have hq' : (Ranges.isAll rs && decide (L + bs < ml)) = false := hq
  simp only [hq', Bool.false_eq_true, if_false]
  cases L with
  | succ n =>
    -- inner node: push right descendant, then left child
    rw [planPre_succ hne hlt hq]
    have hL64 : n + 1 ≤ 64 := Nat.le_trans (Nat.le_add_right _ _) hL
    obtain ⟨rd, hrd, hrdlt, hrdplan⟩ := descendLeft_plan (ml := ml) (root := root) g 65 (2 * k + 1) n
      (by omega) (by omega) (g.right_exists hlt)
    have hright : Node.rightDescendant (nodeOf k (n + 1)) filled = some rd := by
      simp only [Node.rightDescendant, C18.rightChild_spec hL64, hrd]
    have hleft : Node.leftChild (nodeOf k (n + 1)) = some (nodeOf (2 * k) n) :=
      C18.leftChild_spec hL64
    have hlclt : nodeOf (2 * k) n < filled := by
      have hp := two_pow_pos' n
      have := Bits.nodeOf_sub_half k n
      omega
    have hlplan := planId_nodeOf (ml := ml) (root := root) g hlclt
    simp only [Nat.succ_ne_zero, decide_false, Bool.not_false,
      if_true, hright, hleft, Option.map_some, ← apply_ite some]
    refine ⟨_, _, [], rfl, valid_push _ hlclt (valid_push _ hrdlt hv), ?_⟩
    rw [List.nil_append, flatMap_push, flatMap_push, hlplan, hrdplan, List.cons_append,
      List.append_assoc]
    rfl
  | zero =>
    simp only [decide_true, Bool.not_true, Bool.false_eq_true, if_false, Nat.zero_add, ge_iff_le]
    by_cases hh : size ≤ toBytes (midOf k bs)
    · rw [planPre_zero_half hne hlt hq hh]
      simp only [hh, if_true]
      exact ⟨_, stack, [], rfl, hv, by simp [nodeLeaf]⟩
    · rw [planPre_zero_parent hne hlt hq (Nat.lt_of_not_le hh)]
      simp only [hh, if_false]
      refine ⟨_, stack, _, rfl, hv, ?_⟩
      have hnp : nodeParent bs root 0 k rs = Chunk.parent (nodeOf k bs)
          (nodeOf k 0 == root) (!(lq bs 0 k rs).isEmpty) (!(rq bs 0 k rs).isEmpty) rs := by
        simp only [nodeParent, lq, rq, Nat.zero_add]
      rw [hnp]
      simp only [leftLeaf, rightLeaf]
      generalize lq bs 0 k rs = l
      generalize rq bs 0 k rs = r
      cases l <;> cases r <;> simp
/-- **Refinement, generalised over the pending stack and buffer**: with enough fuel the iterator
yields the buffered leaves followed by the recursive plans of the stack entries (top first), and
never reaches a `panic` branch. -/
theorem run_eq (g : Geo size bs filled) (fuel : Nat) (stack : List (Nat × Ranges))
    (buffer : List Chunk) (hv : ∀ e ∈ stack, Valid filled e)
    (hf : (buffer ++ stack.flatMap (planId size bs ml filled root)).length ≤ fuel) :
    PrePartial.run fuel (st size bs ml filled root stack buffer)
      = some (buffer ++ stack.flatMap (planId size bs ml filled root)) := by
  induction fuel generalizing stack buffer with
  | zero =>
    have : buffer ++ stack.flatMap (planId size bs ml filled root) = [] :=
      List.eq_nil_of_length_eq_zero (by omega)
    rw [this]; rfl
  | succ f ih =>
    cases buffer with
    | cons c rest =>
      have hnext : (st size bs ml filled root stack (c :: rest)).next
          = .item c (st size bs ml filled root stack rest) := rfl
      simp only [PrePartial.run, hnext]
      rw [ih stack rest hv (by simp only [List.cons_append, List.length_cons] at hf; omega)]
      rfl
    | nil =>
      cases stack with
      | nil => rfl
      | cons e stack =>
        obtain ⟨sh, rs⟩ := e
        obtain ⟨k, L, rfl⟩ := C18.coords_exist sh
        obtain ⟨hlt, hne⟩ := hv _ (List.mem_cons_self)
        have hv' : ∀ e ∈ stack, Valid filled e := fun e he => hv e (List.mem_cons_of_mem _ he)
        obtain ⟨c, stack', buf', hnext, hv'', heq⟩ :=
          next_step (ml := ml) (root := root) g hlt hne hv'
        have hplan := planId_nodeOf (ml := ml) (root := root) g hlt rs
        simp only [List.nil_append, List.flatMap_cons, hplan] at hf ⊢
        rw [← heq] at hf ⊢
        simp only [PrePartial.run, hnext]
        rw [ih stack' buf' hv'' (by simp only [List.length_cons] at hf; omega)]
        rfl

/-- At most three items per node: fewer than `3 · 2^(L+1)` for the complete subtree `(k, L)`, and at
most `3 · (filled - start)` when the subtree starts at an existing id.  (The left subtree of an
existing inner node is complete, the right one starts at an existing id.) -/
theorem planPre_length (L k : Nat) (rs : Ranges) :
    (planPre size bs ml filled root L k rs).length + 3 ≤ 3 * 2 ^ (L + 1) ∧
    (startOf k L ≤ filled →
      (planPre size bs ml filled root L k rs).length + 3 * startOf k L ≤ 3 * filled) := by
  refine planPre_induct
    (P := fun L k _ p => p.length + 3 ≤ 3 * 2 ^ (L + 1) ∧
      (startOf k L ≤ filled → p.length + 3 * startOf k L ≤ 3 * filled))
    ?nil ?gone ?skip ?qleaf ?half ?group ?inner L k rs
  case nil =>
    intro L k
    have hp := two_pow_pos' (L + 1)
    exact ⟨by rw [List.length_nil]; omega, fun h => by rw [List.length_nil]; omega⟩
  case gone =>
    intro k rs _ _
    exact ⟨by rw [List.length_nil]; omega, fun h => by rw [List.length_nil]; omega⟩
  case skip =>
    intro L k rs _ _ ih
    rw [Offsets.startOf_left] at ih
    exact ⟨by rw [Nat.pow_succ 2 (L + 1)]; omega, ih.2⟩
  case qleaf =>
    intro L k rs _ hlt _
    have hp := two_pow_pos' L
    rw [Offsets.nodeOf_start] at hlt
    rw [List.length_singleton, Nat.pow_succ]
    exact ⟨by omega, fun _ => by omega⟩
  case half =>
    intro k rs _ hlt _ _
    rw [Offsets.nodeOf_start] at hlt
    rw [List.length_singleton]
    exact ⟨by omega, fun _ => by omega⟩
  case group =>
    intro k rs _ hlt _ _
    rw [Offsets.nodeOf_start] at hlt
    rw [List.length_cons, List.length_append]
    have hl : ((if (lq bs 0 k rs).isEmpty then [] else [leftLeaf bs k rs]) : List Chunk).length
        ≤ 1 := by
      split <;> simp
    have hr : ((if (rq bs 0 k rs).isEmpty then [] else [rightLeaf size bs k rs]) : List Chunk).length
        ≤ 1 := by
      split <;> simp
    exact ⟨by omega, fun _ => by omega⟩
  case inner =>
    intro L k rs _ hlt _ ihl ihr
    rw [Offsets.nodeOf_start] at hlt
    rw [Offsets.startOf_right] at ihr
    rw [List.length_cons, List.length_append, Nat.pow_succ 2 (L + 1)]
    exact ⟨by omega, fun _ => by omega⟩

/-- the iterator started on a query yields the recursive plan with ANY fuel that is at least the
length of the plan; it never reaches the `debug_assert!` / `unwrap()` panics -/
theorem new_run_eq (size bs ml : Nat) (q : Ranges) (hs : size ≤ 2 ^ 63) (hbs : bs ≤ 10)
    (fuel : Nat) (hf : (plan ⟨size, bs⟩ ml q).length ≤ fuel) :
    PrePartial.run fuel (PrePartial.new ⟨size, bs⟩ q ml) = some (plan ⟨size, bs⟩ ml q) := by
  have g := shifted_geo size bs hs hbs
  obtain ⟨hh, hroot, hlt⟩ := rootLevel_spec size bs hs
  -- the start stack holds the root, unless the query is empty
  have hp : planId size bs ml (Tree.shifted ⟨size, bs⟩).2 (Tree.shifted ⟨size, bs⟩).1
      ((Tree.shifted ⟨size, bs⟩).1, q) = plan ⟨size, bs⟩ ml q := by
    have hidx : indexOf (Tree.shifted ⟨size, bs⟩).1 = 0 := by
      rw [hroot, indexOf_nodeOf (by omega)]
    unfold planId plan rootLevel
    rw [hidx]
  have h := run_eq (ml := ml) (root := (Tree.shifted ⟨size, bs⟩).1) g fuel
    (if q.isEmpty then [] else [((Tree.shifted ⟨size, bs⟩).1, q)]) []
    (valid_push q (hroot ▸ hlt) (fun _ h => nomatch h))
    (by rw [List.nil_append, flatMap_push, hp, List.flatMap_nil, List.append_nil]; exact hf)
  rw [List.nil_append, flatMap_push, hp, List.flatMap_nil, List.append_nil] at h
  unfold PrePartial.new
  exact h

theorem plan_length_le (t : Tree) (ml : Nat) (q : Ranges) :
    (plan t ml q).length ≤ 3 * t.shifted.2 := by
  have h := (planPre_length (size := t.size) (bs := t.bs) (ml := ml) (filled := t.shifted.2)
    (root := t.shifted.1) (rootLevel t) 0 q).2
  rw [startOf_zero_left] at h
  exact Nat.le_trans (Nat.le_add_right _ _) (h (Nat.zero_le _))

/-- **C15 refinement**: the explicit-stack iterator `ranges_pre_order_chunks_iter_ref` yields
exactly the recursive plan; in particular it never reaches the `debug_assert!` / `unwrap()`
panics and `PrePartial.fuelFor` calls of `next` exhaust it. -/
theorem planPre_refines (size bs ml : Nat) (q : Ranges) (hs : size ≤ 2 ^ 63) (hbs : bs ≤ 10) :
    Tree.prePartialChunks ⟨size, bs⟩ q ml = some (plan ⟨size, bs⟩ ml q) := by
  unfold Tree.prePartialChunks
  apply new_run_eq size bs ml q hs hbs
  have := plan_length_le ⟨size, bs⟩ ml q
  unfold PrePartial.fuelFor
  omega

/-- the response plan (`ResponseIter`): block size 0 tree, `min_full_level = bs`, ranges erased -/
theorem response_refines (size bs : Nat) (q : Ranges) (hs : size ≤ 2 ^ 63) :
    Tree.responseChunks ⟨size, bs⟩ q
      = some ((plan ⟨size, 0⟩ bs q).map Chunk.withoutRanges) := by
  have := planPre_refines size 0 bs q hs (Nat.zero_le _)
  unfold Tree.prePartialChunks at this
  unfold Tree.responseChunks Response.new
  simp only
  rw [this]
  rfl

end Bao.PlanPre
