import BaoModel.FaultMixed
import BaoProofs.Lemmas.CallSplit

/-!
# Lemmas for C10 (item-stream traversal `mixed::traverse_ranges_validated`)

`BaoModel/FaultMixed.lean` defines `traverseRangesValidatedF`: the traversal with an injected fault,
call counters and the log of io calls.  Here every run is shown to be the *replay* of the fault-free
log (same method as `Lemmas/OpsFaultL.lean`, for the objects data / outboard / sender):

* `replay fault log nd no ns` – replay a log against a fault: the counters are the numbers of calls
  made so far on data / outboard / sender, the first call whose counter is hit fails (it is logged,
  nothing follows); result: calls made, and the object and error of the failing call (if any);
* `finish r t0` – what `traverse_ranges_validated` makes of a replay: not cut: terminal `t0`; cut at a
  `send`: `sendErr`; cut at a `read_bytes_at` / `load`: one more call `send(Error(io e))`, terminal
  `errItem (io e)`;
* `splitNth (isOn o) n log` – the log split at the `n`-th call on `o` (`replay_some`: closed form).
-/

namespace Bao.MixedFaultL

open Bao Bao.CallSplit

variable {H : Type}

theorem beq_obj (a b : MObj) : (a == b) = decide (a = b) := by
  cases a <;> cases b <;> rfl

instance : LawfulBEq MObj where
  eq_of_beq {a b} h := by rw [beq_obj] at h; exact of_decide_eq_true h
  rfl {a} := by rw [beq_obj]; exact decide_eq_true rfl

theorem hits_none (o : MObj) (n : Nat) : MFault.hits none o n = none := rfl

theorem hits_some (obj : MObj) (k : Nat) (kind : IoKind) (o : MObj) (n : Nat) :
    MFault.hits (some ⟨obj, k, kind⟩) o n =
      if obj = o ∧ k = n then some ⟨kind, true⟩ else none := by
  simp [MFault.hits]

theorem hits_eq_some {fault : Option MFault} {o : MObj} {n : Nat} {err : IoErr}
    (h : MFault.hits fault o n = some err) :
    ∃ kind, fault = some ⟨o, n, kind⟩ ∧ err = ⟨kind, true⟩ := by
  cases fault with
  | none => cases h
  | some f =>
    obtain ⟨obj, k, kind⟩ := f
    rw [hits_some] at h
    by_cases hc : obj = o ∧ k = n
    · rw [if_pos hc] at h
      obtain ⟨rfl, rfl⟩ := hc
      exact ⟨kind, rfl, (Option.some.inj h).symm⟩
    · rw [if_neg hc] at h; cases h

theorem hits_other {o o' : MObj} {k : Nat} {kind : IoKind} (h : o ≠ o') (n : Nat) :
    MFault.hits (some ⟨o, k, kind⟩) o' n = none := by
  rw [hits_some, if_neg]
  rintro ⟨rfl, _⟩
  exact h rfl

def sel (o : MObj) (nd no ns : Nat) : Nat :=
  match o with
  | .data => nd
  | .ob => no
  | .s => ns

def delta (o : MObj) (e : MEv H) : Nat := if e.obj = o then 1 else 0

def ncalls (o : MObj) : List (MEv H) → Nat
  | [] => 0
  | e :: es => delta o e + ncalls o es

theorem ncalls_append (o : MObj) (a b : List (MEv H)) :
    ncalls o (a ++ b) = ncalls o a + ncalls o b := by
  induction a with
  | nil => simp [ncalls]
  | cons e a ih => simp only [List.cons_append, ncalls, ih]; omega

theorem ncalls_eq_count (o : MObj) (es : List (MEv H)) :
    ncalls o es = (es.map MEv.obj).count o := by
  induction es with
  | nil => rfl
  | cons e es ih =>
    simp only [ncalls, delta, List.map_cons, List.count_cons, ih, beq_iff_eq]
    omega

def isOn (o : MObj) (e : MEv H) : Bool := e.obj == o

theorem isOn_iff {o : MObj} {e : MEv H} : isOn o e = true ↔ e.obj = o := beq_iff_eq

theorem ncalls_eq_countP (o : MObj) (es : List (MEv H)) : ncalls o es = es.countP (isOn o) := by
  rw [ncalls_eq_count, count_map]
  rfl

theorem ncalls_sends (items : List (EncodedItem H)) :
    ncalls .s (items.map MEv.send) = items.length := by
  induction items with
  | nil => rfl
  | cons it items ih =>
    simp only [List.map_cons, ncalls, ih, List.length_cons, delta, MEv.obj, if_true]; omega

theorem ncalls_sends_data (items : List (EncodedItem H)) :
    ncalls .data (items.map MEv.send) = 0 := by
  induction items with
  | nil => rfl
  | cons it items ih => simp [ncalls, ih, delta, MEv.obj]

theorem ncalls_sends_ob (items : List (EncodedItem H)) :
    ncalls .ob (items.map MEv.send) = 0 := by
  induction items with
  | nil => rfl
  | cons it items ih => simp [ncalls, ih, delta, MEv.obj]

/-- replay a call log against a fault; a call that fails is logged and ends the replay with its
object and error, every other entry bumps the counter of its object -/
def replay (fault : Option MFault) :
    List (MEv H) → Nat → Nat → Nat → List (MEv H) × Option (MObj × IoErr)
  | [], _, _, _ => ([], none)
  | e :: es, nd, no, ns =>
    match MFault.hits fault e.obj (sel e.obj nd no ns) with
    | some err => ([e], some (e.obj, err))
    | none =>
      let r := replay fault es (nd + delta .data e) (no + delta .ob e) (ns + delta .s e)
      (e :: r.1, r.2)

theorem replay_cons (fault : Option MFault) (e : MEv H) (es : List (MEv H)) (nd no ns : Nat) :
    replay fault (e :: es) nd no ns =
      match MFault.hits fault e.obj (sel e.obj nd no ns) with
      | some err => ([e], some (e.obj, err))
      | none =>
        (e :: (replay fault es (nd + delta .data e) (no + delta .ob e) (ns + delta .s e)).1,
          (replay fault es (nd + delta .data e) (no + delta .ob e) (ns + delta .s e)).2) := rfl

theorem sel_bump (o : MObj) (e : MEv H) (nd no ns : Nat) :
    sel o (nd + delta .data e) (no + delta .ob e) (ns + delta .s e) = sel o nd no ns + delta o e := by
  cases o <;> rfl

theorem replay_none (es : List (MEv H)) :
    ∀ (nd no ns : Nat), replay none es nd no ns = (es, none) := by
  intro nd no ns
  fun_induction replay none es nd no ns <;> simp_all +zetaDelta [hits_none]

theorem replay_not_cut {fault : Option MFault} {es : List (MEv H)} :
    ∀ {nd no ns : Nat}, (replay fault es nd no ns).2 = none → (replay fault es nd no ns).1 = es := by
  intro nd no ns
  fun_induction replay fault es nd no ns <;> simp_all +zetaDelta

theorem replay_cut_fault {fault : Option MFault} {es : List (MEv H)} :
    ∀ {nd no ns : Nat} {o : MObj} {err : IoErr}, (replay fault es nd no ns).2 = some (o, err) →
      ∃ k kind, fault = some ⟨o, k, kind⟩ ∧ err = ⟨kind, true⟩ := by
  induction es with
  | nil => intro nd no ns o err h; cases h
  | cons e es ih =>
    intro nd no ns o err h
    unfold replay at h
    cases hh : MFault.hits fault e.obj (sel e.obj nd no ns) with
    | some err' =>
      rw [hh] at h
      simp only [Option.some.injEq, Prod.mk.injEq] at h
      obtain ⟨rfl, rfl⟩ := h
      obtain ⟨kind, h1, h2⟩ := hits_eq_some hh
      exact ⟨_, kind, h1, h2⟩
    | none =>
      rw [hh] at h
      exact ih h

theorem replay_append (fault : Option MFault) (a b : List (MEv H)) :
    ∀ (nd no ns : Nat), replay fault (a ++ b) nd no ns =
      match (replay fault a nd no ns).2 with
      | some x => ((replay fault a nd no ns).1, some x)
      | none =>
        (a ++ (replay fault b (nd + ncalls .data a) (no + ncalls .ob a) (ns + ncalls .s a)).1,
          (replay fault b (nd + ncalls .data a) (no + ncalls .ob a) (ns + ncalls .s a)).2) := by
  induction a with
  | nil => intro nd no ns; simp [replay, ncalls]
  | cons e a ih =>
    intro nd no ns
    simp only [List.cons_append, replay_cons]
    cases hh : MFault.hits fault e.obj (sel e.obj nd no ns) with
    | some err => rfl
    | none =>
      simp only []
      rw [ih]
      cases (replay fault a (nd + delta .data e) (no + delta .ob e) (ns + delta .s e)).2 with
      | some x => rfl
      | none => simp only [ncalls, Nat.add_assoc]

theorem replay_some (o : MObj) (k : Nat) (kind : IoKind) (es : List (MEv H)) :
    ∀ (nd no ns j : Nat), k = sel o nd no ns + j →
    replay (some ⟨o, k, kind⟩) es nd no ns =
      match splitNth (isOn o) j es with
      | some (pre, e, _) => (pre ++ [e], some (o, ⟨kind, true⟩))
      | none => (es, none) := by
  induction es with
  | nil => intros; rfl
  | cons e es ih =>
    intro nd no ns j h
    rw [replay_cons]
    by_cases he : e.obj = o
    · have hq : isOn o e = true := isOn_iff.mpr he
      have hd : delta o e = 1 := if_pos he
      simp only [he, hits_some, true_and]
      cases j with
      | zero => rw [if_pos (by omega), splitNth_cons_zero hq]; rfl
      | succ j =>
        rw [if_neg (by omega), splitNth_cons_succ hq, ih _ _ _ j (by rw [sel_bump, hd]; omega)]
        cases splitNth (isOn o) j es <;> rfl
    · have hq : isOn o e = false := by rw [isOn]; exact beq_false_of_ne he
      have hd : delta o e = 0 := if_neg he
      rw [hits_other (fun h => he h.symm), splitNth_cons_neg hq,
        ih _ _ _ j (by rw [sel_bump, hd]; omega)]
      cases splitNth (isOn o) j es <;> rfl

theorem sel_zero (o : MObj) : sel o 0 0 0 = 0 := by cases o <;> rfl

theorem decomp_unique (obj : MObj) (k : Nat) (log : List (MEv H))
    (pre pre' post post' : List (MEv H)) (e e' : MEv H)
    (h : log = pre ++ e :: post) (he : e.obj = obj) (hc : ncalls obj pre = k)
    (h' : log = pre' ++ e' :: post') (he' : e'.obj = obj) (hc' : ncalls obj pre' = k) :
    pre = pre' ∧ e = e' ∧ post = post' :=
  split_unique h (isOn_iff.mpr he) h' (isOn_iff.mpr he')
    (by rw [← ncalls_eq_countP, ← ncalls_eq_countP, hc, hc'])

section steps

variable (fault : Option MFault) (es : List (MEv H)) (nd no ns : Nat)

theorem replay_readAt (a z : Nat) :
    replay fault (.readAt a z :: es) nd no ns =
      match MFault.hits fault .data nd with
      | some err => ([.readAt a z], some (.data, err))
      | none =>
        (.readAt a z :: (replay fault es (nd + 1) no ns).1, (replay fault es (nd + 1) no ns).2) := rfl

theorem replay_load (n : Nat) :
    replay fault (.load n :: es) nd no ns =
      match MFault.hits fault .ob no with
      | some err => ([.load n], some (.ob, err))
      | none =>
        (.load n :: (replay fault es nd (no + 1) ns).1, (replay fault es nd (no + 1) ns).2) := rfl

theorem replay_send (it : EncodedItem H) :
    replay fault (.send it :: es) nd no ns =
      match MFault.hits fault .s ns with
      | some err => ([.send it], some (.s, err))
      | none =>
        (.send it :: (replay fault es nd no (ns + 1)).1, (replay fault es nd no (ns + 1)).2) := rfl

theorem replay_nil : replay fault ([] : List (MEv H)) nd no ns = ([], none) := rfl

end steps

theorem sendAll_none (items : List (EncodedItem H)) :
    ∀ ns, sendAllF none items ns = (items.map MEv.send, none, ns + items.length) := by
  intro ns
  fun_induction sendAllF none items ns <;> simp_all +zetaDelta [hits_none] <;> omega

theorem sendAll_ok {fault : Option MFault} {items : List (EncodedItem H)} :
    ∀ {ns}, (sendAllF fault items ns).2.1 = none →
      sendAllF fault items ns = (items.map MEv.send, none, ns + items.length) := by
  intro ns
  fun_induction sendAllF fault items ns <;> simp_all +zetaDelta <;> omega

theorem sendAll_ns (fault : Option MFault) (items : List (EncodedItem H)) :
    ∀ ns, (sendAllF fault items ns).2.2 = ns + ncalls .s (sendAllF fault items ns).1 := by
  intro ns
  fun_induction sendAllF fault items ns <;>
    simp_all +zetaDelta [ncalls, delta, MEv.obj] <;> omega

theorem replay_sends (fault : Option MFault) (items : List (EncodedItem H)) (es : List (MEv H)) :
    ∀ (nd no ns : Nat), replay fault (items.map MEv.send ++ es) nd no ns =
      match (sendAllF fault items ns).2.1 with
      | some err => ((sendAllF fault items ns).1, some (.s, err))
      | none =>
        (items.map MEv.send ++ (replay fault es nd no (ns + items.length)).1,
          (replay fault es nd no (ns + items.length)).2) := by
  induction items with
  | nil => intro nd no ns; rfl
  | cons it items ih =>
    intro nd no ns
    simp only [List.map_cons, List.cons_append, replay_send]
    unfold sendAllF
    cases MFault.hits fault .s ns with
    | some e => rfl
    | none =>
      simp only []
      rw [ih]
      cases (sendAllF fault items (ns + 1)).2.1 with
      | some e => rfl
      | none =>
        simp only [List.length_cons]
        rw [Nat.add_assoc, Nat.add_comm 1]

def asmL (r : List (MEv H) × Option (MObj × IoErr)) (res0 : MixInner) (ns : Nat) : MixLoop H :=
  ⟨r.1,
    match r.2 with
    | none => res0
    | some (.s, _) => .sendErr
    | some (_, err) => .cause (.io err),
    ns + ncalls .s r.1⟩

theorem asmL_pre (pre : List (MEv H)) (r : List (MEv H) × Option (MObj × IoErr)) (res0 : MixInner)
    (ns : Nat) :
    asmL (pre ++ r.1, r.2) res0 ns =
      ⟨pre ++ (asmL r res0 (ns + ncalls .s pre)).log, (asmL r res0 (ns + ncalls .s pre)).res,
        (asmL r res0 (ns + ncalls .s pre)).ns⟩ := by
  simp only [asmL, ncalls_append, Nat.add_assoc]

theorem mixLoop_eta (r : MixLoop H) : r = ⟨r.log, r.res, r.ns⟩ := rfl

/-- the loop is `asmL` of the replay of its fault-free log: induction on the plan; `asmL_pre` puts the
calls of one item in front of the induction hypothesis, `replay_sends` replays the sends of a leaf -/
theorem loop_replay (hf : HashFns H) [BEq H] (data : List UInt8) (ob : Store H)
    (fault : Option MFault) (plan : List Chunk) :
    ∀ (stack : List H) (nd no ns : Nat),
    traverseLoopF hf data ob fault plan stack nd no ns =
      asmL (replay fault (traverseLoopF hf data ob none plan stack nd no ns).log nd no ns)
        (traverseLoopF hf data ob none plan stack nd no ns).res ns := by
  induction plan with
  | nil => intro stack nd no ns; rfl
  | cons c plan ih =>
    intro stack nd no ns
    cases c with
    | parent node isRoot left right rs =>
      simp only [traverseLoopF, hits_none]
      cases hl : ob.load hf .sync node with
      | err e | panic =>
        simp only [replay_load, replay_nil]
        cases MFault.hits fault .ob no <;> rfl
      | ok p =>
        cases p with
        | none =>
          simp only [replay_load, replay_nil]
          cases MFault.hits fault .ob no <;> rfl
        | some lr =>
          obtain ⟨l, r⟩ := lr
          cases stack with
          | nil =>
            simp only [replay_load, replay_nil]
            cases MFault.hits fault .ob no <;> rfl
          | cons expected stack =>
            simp only []
            by_cases hm : (hf.parentCv l r isRoot != expected) = true
            · simp only [if_pos hm, replay_load, replay_nil]
              cases MFault.hits fault .ob no <;> rfl
            · simp only [if_neg hm, replay_load, replay_send]
              cases MFault.hits fault .ob no with
              | some e => rfl
              | none =>
                simp only []
                cases MFault.hits fault .s ns with
                | some e => rfl
                | none =>
                  simp only []
                  rw [ih]
                  exact (asmL_pre [.load node, .send (.parent node l r)] _ _ ns).symm
    | leaf start size isRoot rs =>
      cases stack with
      | nil => rfl
      | cons expected stack =>
        simp only [traverseLoopF, hits_none]
        cases hr : readExactAt data (toBytes start) size with
        | error e =>
          simp only [replay_readAt, replay_nil]
          cases MFault.hits fault .data nd <;> rfl
        | ok buf =>
          simp only []
          generalize hai : (if (!Ranges.isAll rs) = true then
              ((traverseSelectedRec hf recFuel start buf isRoot rs ob.tree.bs true).1,
                (traverseSelectedRec hf recFuel start buf isRoot rs ob.tree.bs true).2.map
                  Item.toEncoded)
            else (hashSubtree hf start buf isRoot, [EncodedItem.leaf (toBytes start) buf])) = ai
          obtain ⟨actual, items⟩ := ai
          simp only []
          by_cases hm : (actual != expected) = true
          · simp only [if_pos hm, replay_readAt, replay_nil]
            cases MFault.hits fault .data nd <;> rfl
          · simp only [if_neg hm, sendAll_none, replay_readAt]
            cases MFault.hits fault .data nd with
            | some e => rfl
            | none =>
              simp only []
              rw [replay_sends]
              cases hs : (sendAllF fault items ns).2.1 with
              | some e =>
                simp only []
                rw [sendAll_ns]
                simp [asmL, ncalls, delta, MEv.obj]
              | none =>
                simp only []
                rw [sendAll_ok hs, ih]
                simp only []
                have h := asmL_pre (.readAt (toBytes start) size :: items.map MEv.send)
                  (replay fault (traverseLoopF hf data ob none plan stack (nd + 1) no
                    (ns + items.length)).log (nd + 1) no (ns + items.length))
                  (traverseLoopF hf data ob none plan stack (nd + 1) no (ns + items.length)).res ns
                have hn : ncalls .s (MEv.readAt (H := H) (toBytes start) size :: items.map MEv.send)
                    = items.length := by
                  simp only [ncalls, ncalls_sends, delta, MEv.obj]
                  simp
                rw [hn] at h
                exact h.symm

theorem impl_replay (hf : HashFns H) [BEq H] (data : List UInt8) (ob : Store H) (q : Ranges)
    (fault : Option MFault) (ns : Nat) :
    traverseImplF hf data ob q fault ns =
      asmL (replay fault (traverseImplF hf data ob q none ns).log 0 0 ns)
        (traverseImplF hf data ob q none ns).res ns := by
  unfold traverseImplF
  by_cases he : q.isEmpty = true
  · simp only [he, if_true]; rfl
  · simp only [he]
    cases Tree.prePartialChunks ob.tree (Ranges.truncate q ob.tree.size) 0 with
    | none => rfl
    | some plan => exact loop_replay ..

/-- what `traverse_ranges_validated` makes of a replay: not cut: the terminal `t0`; cut at a `send`:
`sendErr`; cut at a `read_bytes_at` / `load`: one more call `send(Error(io e))`, terminal
`errItem (io e)` -/
def finish (r : List (MEv H) × Option (MObj × IoErr)) (t0 : MixEnd) : List (MEv H) × MixEnd :=
  match r.2 with
  | none => (r.1, t0)
  | some (.s, _) => (r.1, .sendErr)
  | some (_, err) => (r.1 ++ [.send (.error (.io err))], .errItem (.io err))

/-- `traverse_ranges_validated` after `send(Size)`, as a function of the run of the inner function -/
def topOf (fault : Option MFault) (sz : Nat) (r : MixLoop H) : List (MEv H) × MixEnd :=
  let first : MEv H := .send (.size sz)
  let fin (item : EncodedItem H) (t : MixEnd) : List (MEv H) × MixEnd :=
    match MFault.hits fault .s r.ns with
    | some _ => (first :: (r.log ++ [.send item]), .sendErr)
    | none => (first :: (r.log ++ [.send item]), t)
  match r.res with
  | .done => fin .done .ok
  | .cause e => fin (.error e) (.errItem e)
  | .sendErr => (first :: r.log, .sendErr)
  | .panic => (first :: r.log, .panic)

theorem top_eq (hf : HashFns H) [BEq H] (data : List UInt8) (ob : Store H) (q : Ranges)
    (fault : Option MFault) :
    traverseRangesValidatedF hf data ob q fault =
      match MFault.hits fault .s 0 with
      | some _ => ([.send (.size ob.tree.size)], .sendErr)
      | none => topOf fault ob.tree.size (traverseImplF hf data ob q fault 1) := rfl

/-- `traverse_ranges_validated` around the inner run (`Size` in front, `Done` / `Error` behind): the case
split is on where the replay of the inner log is cut - nowhere, at a `send`, at a read or load - and on
how the inner run ended -/
theorem top_aux (fault : Option MFault) (sz : Nat) (log0 : List (MEv H)) (res0 : MixInner)
    (hf0 : MFault.hits fault .s 0 = none) :
    topOf fault sz (asmL (replay fault log0 0 0 1) res0 1) =
      finish (replay fault (topOf none sz ⟨log0, res0, 1 + ncalls .s log0⟩).1 0 0 0)
        (topOf none sz ⟨log0, res0, 1 + ncalls .s log0⟩).2 := by
  cases hR : replay fault log0 0 0 1 with
  | mk c x =>
  cases x with
  | none =>
    have hc : c = log0 := by
      have h := replay_not_cut (fault := fault) (es := log0) (nd := 0) (no := 0) (ns := 1)
        (by rw [hR])
      rw [hR] at h
      exact h
    subst hc
    cases res0 with
    | done =>
      simp only [topOf, asmL, hits_none, replay_send, hf0, Nat.zero_add, replay_append, hR, replay_nil]
      cases MFault.hits fault .s (1 + ncalls .s c) <;> rfl
    | cause e =>
      simp only [topOf, asmL, hits_none, replay_send, hf0, Nat.zero_add, replay_append, hR, replay_nil]
      cases MFault.hits fault .s (1 + ncalls .s c) <;> rfl
    | sendErr =>
      simp only [topOf, asmL, replay_send, hf0, Nat.zero_add, hR]
      rfl
    | panic =>
      simp only [topOf, asmL, replay_send, hf0, Nat.zero_add, hR]
      rfl
  | some oe =>
    obtain ⟨o, err⟩ := oe
    obtain ⟨k, kind, rfl, rfl⟩ := replay_cut_fault (fault := fault) (es := log0) (nd := 0) (no := 0)
      (ns := 1) (o := o) (err := err) (by rw [hR])
    have hn : o ≠ .s → ∀ n, MFault.hits (some ⟨o, k, kind⟩) .s n = none :=
      fun h n => hits_other h n
    cases o with
    | s =>
      cases res0 <;>
        simp only [topOf, asmL, hits_none, replay_send, hf0, Nat.zero_add, replay_append, hR] <;> rfl
    | data | ob =>
      have hn := hn (by decide)
      cases res0 <;>
        simp only [topOf, asmL, hits_none, replay_send, hn, Nat.zero_add, replay_append, hR] <;> rfl

theorem top_replay (hf : HashFns H) [BEq H] (data : List UInt8) (ob : Store H) (q : Ranges)
    (fault : Option MFault) :
    traverseRangesValidatedF hf data ob q fault =
      finish (replay fault (traverseRangesValidatedF hf data ob q none).1 0 0 0)
        (traverseRangesValidatedF hf data ob q none).2 := by
  rw [top_eq hf data ob q none, top_eq hf data ob q fault]
  simp only [hits_none]
  cases h0 : MFault.hits fault .s 0 with
  | some e =>
    simp only [topOf, hits_none]
    cases (traverseImplF hf data ob q none 1).res <;>
      simp only [replay_send, h0] <;> rfl
  | none =>
    simp only []
    have hi := impl_replay hf data ob q none 1
    rw [replay_none] at hi
    rw [impl_replay hf data ob q fault 1, top_aux fault _ _ _ h0]
    have he : (⟨(traverseImplF hf data ob q none 1).log, (traverseImplF hf data ob q none 1).res,
        1 + ncalls .s (traverseImplF hf data ob q none 1).log⟩ : MixLoop H) =
        traverseImplF hf data ob q none 1 := by
      conv => rhs; rw [hi]
      rfl
    rw [he]

/-- the run cut after the calls `pre ++ [e]` by a fault of kind `kind` on `obj` (`e` the failing call):
sender: nothing more, `sendErr`; data / outboard: the call `send(Error(io ⟨kind, true⟩))`, terminal
`errItem (io ⟨kind, true⟩)` -/
def cutRun (obj : MObj) (kind : IoKind) (pre : List (MEv H)) (e : MEv H) : List (MEv H) × MixEnd :=
  match obj with
  | .s => (pre ++ [e], .sendErr)
  | _ => (pre ++ [e, .send (.error (.io ⟨kind, true⟩))], .errItem (.io ⟨kind, true⟩))

section generic

variable (V : Option MFault → List (MEv H) × MixEnd)
  (hrep : ∀ fault, V fault = finish (replay fault (V none).1 0 0 0) (V none).2)

include hrep

theorem gen_some (obj : MObj) (k : Nat) (kind : IoKind) :
    V (some ⟨obj, k, kind⟩) =
      match splitNth (isOn obj) k (V none).1 with
      | some (pre, e, _) => cutRun obj kind pre e
      | none => V none := by
  rw [hrep (some ⟨obj, k, kind⟩), replay_some obj k kind _ 0 0 0 k (by rw [sel_zero, Nat.zero_add])]
  cases splitNth (isOn obj) k (V none).1 with
  | none => rfl
  | some p =>
    cases obj <;> simp [finish, cutRun]

theorem gen_cut (obj : MObj) (k : Nat) (kind : IoKind) (hk : k < ncalls obj (V none).1) :
    ∃ pre e post, (V none).1 = pre ++ e :: post ∧ e.obj = obj ∧ ncalls obj pre = k ∧
      V (some ⟨obj, k, kind⟩) = cutRun obj kind pre e := by
  rw [ncalls_eq_countP] at hk
  cases hs : splitNth (isOn obj) k (V none).1 with
  | none => exact absurd (splitNth_none.mp hs) (Nat.not_le.mpr hk)
  | some p =>
    obtain ⟨pre, e, post⟩ := p
    obtain ⟨h1, h2, h3⟩ := splitNth_some hs
    have hr := gen_some V hrep obj k kind
    rw [hs] at hr
    exact ⟨pre, e, post, h1, isOn_iff.mp h2, (ncalls_eq_countP obj pre).trans h3, hr⟩

theorem gen_unreached (obj : MObj) (k : Nat) (kind : IoKind) (hk : ncalls obj (V none).1 ≤ k) :
    V (some ⟨obj, k, kind⟩) = V none := by
  have hr := gen_some V hrep obj k kind
  rw [splitNth_none.mpr (ncalls_eq_countP obj _ ▸ hk)] at hr
  exact hr

theorem gen_dichotomy (fault : Option MFault) :
    (∃ obj k kind pre e post, fault = some ⟨obj, k, kind⟩ ∧ (V none).1 = pre ++ e :: post ∧
      e.obj = obj ∧ ncalls obj pre = k ∧ V fault = cutRun obj kind pre e) ∨
    V fault = V none := by
  cases fault with
  | none => exact Or.inr rfl
  | some f =>
    obtain ⟨obj, k, kind⟩ := f
    by_cases hk : k < ncalls obj (V none).1
    · obtain ⟨pre, e, post, h1, h2, h3, h4⟩ := gen_cut V hrep obj k kind hk
      exact Or.inl ⟨obj, k, kind, pre, e, post, rfl, h1, h2, h3, h4⟩
    · exact Or.inr (gen_unreached V hrep obj k kind (Nat.le_of_not_lt hk))

end generic

theorem cutRun_terminal (obj : MObj) (kind : IoKind) (pre : List (MEv H)) (e : MEv H) :
    (cutRun obj kind pre e).2 =
      match obj with
      | .s => .sendErr
      | _ => .errItem (.io ⟨kind, true⟩) := by
  cases obj <;> rfl

theorem sends_append (a b : List (MEv H)) : MEv.sends (a ++ b) = MEv.sends a ++ MEv.sends b := by
  induction a with
  | nil => rfl
  | cons e a ih => cases e <;> simp [MEv.sends, ih]

theorem sends_map_send (items : List (EncodedItem H)) : MEv.sends (items.map MEv.send) = items := by
  induction items with
  | nil => rfl
  | cons it items ih => simp [MEv.sends, ih]

theorem sends_not_s {e : MEv H} (h : e.obj ≠ .s) : MEv.sends [e] = [] := by
  cases e <;> first | rfl | exact absurd rfl h

theorem sends_s {e : MEv H} (h : e.obj = .s) : ∃ it, e = .send it := by
  cases e with
  | send it => exact ⟨it, rfl⟩
  | readAt a b => cases h
  | load n => cases h

theorem delivered_cutRun (obj : MObj) (kind : IoKind) (pre : List (MEv H)) (e : MEv H)
    (he : e.obj = obj) :
    deliveredOf (cutRun obj kind pre e) =
      match obj with
      | .s => MEv.sends pre
      | _ => MEv.sends pre ++ [.error (.io ⟨kind, true⟩)] := by
  cases obj with
  | s => simp [cutRun, deliveredOf]
  | data | ob =>
    have h : MEv.sends [e] = [] := sends_not_s (by rw [he]; decide)
    have h2 : pre ++ [e, MEv.send (.error (.io ⟨kind, true⟩))] =
        pre ++ ([e] ++ [MEv.send (.error (.io ⟨kind, true⟩))]) := rfl
    simp only [cutRun, deliveredOf, h2, sends_append, h, MEv.sends, List.nil_append]

def ofEnc : EncEnd → MixInner
  | .ok => .done
  | .err e => .cause e
  | .panic => .panic

theorem loop_none (hf : HashFns H) [BEq H] (data : List UInt8) (ob : Store H) (plan : List Chunk) :
    ∀ (stack : List H) (out : List (EncodedItem H)) (nd no ns : Nat),
    (traverseLoop hf data ob plan stack out).1 =
        out ++ MEv.sends (traverseLoopF hf data ob none plan stack nd no ns).log ∧
      (traverseLoopF hf data ob none plan stack nd no ns).res =
        ofEnc (traverseLoop hf data ob plan stack out).2 := by
  intro stack out nd no ns
  -- by the recursion of `traverseLoop`: where it returns both sides are evaluated, where it goes on
  -- (a parent, a whole leaf, a selected leaf) the items sent are those of the induction hypothesis
  fun_induction traverseLoop hf data ob plan stack out generalizing nd no ns <;>
    simp_all +zetaDelta [traverseLoopF, hits_none, MEv.sends, ofEnc, sendAll_none, sends_append]
  case case7 ih => exact (ih ..).1
  case case11 ih => rw [← List.map_map, sends_map_send]; exact (ih ..).1
  case case13 ih => exact (ih ..).1

theorem getLast_frame {α : Type} (a x : α) (l : List α) : (a :: (l ++ [x])).getLast? = some x := by
  rw [← List.cons_append, List.getLast?_concat]

theorem top_none (hf : HashFns H) [BEq H] (data : List UInt8) (ob : Store H) (q : Ranges) :
    match traverseRangesValidated hf data ob q with
    | some items =>
      MEv.sends (traverseRangesValidatedF hf data ob q none).1 = items ∧
      (((traverseRangesValidatedF hf data ob q none).2 = .ok ∧ items.getLast? = some .done) ∨
        ∃ e, (traverseRangesValidatedF hf data ob q none).2 = .errItem e ∧
          items.getLast? = some (.error e))
    | none => (traverseRangesValidatedF hf data ob q none).2 = .panic := by
  unfold traverseRangesValidated traverseRangesValidatedF traverseImplF
  simp only [hits_none]
  by_cases he : q.isEmpty = true
  · simp [he, MEv.sends]
  · simp only [he]
    cases hp : Tree.prePartialChunks ob.tree (Ranges.truncate q ob.tree.size) 0 with
    | none => simp
    | some plan =>
      obtain ⟨h1, h2⟩ := loop_none hf data ob plan [ob.root] [] 0 0 1
      simp only []
      cases ht : traverseLoop hf data ob plan [ob.root] [] with
      | mk items t =>
        rw [ht] at h1 h2
        simp only [List.nil_append] at h1
        cases t with
        | ok =>
          simp only [ofEnc] at h2
          simp [h2, MEv.sends, sends_append, ← h1, getLast_frame]
        | err e =>
          simp only [ofEnc] at h2
          simp [h2, MEv.sends, sends_append, ← h1, getLast_frame]
        | panic =>
          simp only [ofEnc] at h2
          simp [h2]

/-! ## three runs, evaluated together

On the test vector of `CallSplit` (`zeroHash`, `ones`, `zeroOb`), query `[0]`: the fault-free run
`r0`, the run `r1` whose second read fails and the run `r2` whose third send fails - the runs the
examples of `Props/C10Mixed.lean` speak about.  Evaluated in one statement, so that what the runs
share (the reads, the leaf data) is evaluated once; stated for any `r` equal to the run, so that it
applies to the run however its arguments are spelt. -/

theorem mixed_runs (r0 r1 r2 : List (MEv Nat) × MixEnd)
    (h0 : r0 = traverseRangesValidatedF zeroHash ones zeroOb [0] none)
    (h1 : r1 = traverseRangesValidatedF zeroHash ones zeroOb [0] (some ⟨.data, 1, .other⟩))
    (h2 : r2 = traverseRangesValidatedF zeroHash ones zeroOb [0] (some ⟨.s, 2, .other⟩)) :
    r0 = ([.send (.size 1500), .load 0, .send (.parent 0 0 0), .readAt 0 1024,
      .send (.leaf 0 (List.replicate 1024 1)), .readAt 1024 476,
      .send (.leaf 1024 (List.replicate 476 1)), .send .done], .ok) ∧
    r1 = ([.send (.size 1500), .load 0, .send (.parent 0 0 0), .readAt 0 1024,
      .send (.leaf 0 (List.replicate 1024 1)), .readAt 1024 476,
      .send (.error (.io ⟨.other, true⟩))], .errItem (.io ⟨.other, true⟩)) ∧
    r2 = ([.send (.size 1500), .load 0, .send (.parent 0 0 0), .readAt 0 1024,
      .send (.leaf 0 (List.replicate 1024 1))], .sendErr) := by
  rw [h0, h1, h2]
  decide +kernel

end Bao.MixedFaultL
