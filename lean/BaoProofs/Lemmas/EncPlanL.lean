import BaoProofs.Lemmas.EncL
import BaoProofs.Lemmas.PlanPreTop

/-!
# The plan of the validating encoder, from the C15 plan lemmas (C05)

For trees with `size ≤ 2^63`, `bs ≤ 10` (the range covered by `PlanPre*`): the plan iterator
does not panic, the pending-hash stack never underflows along the plan, and every leaf of the plan
lies inside the first `tree.size` bytes.
-/

namespace Bao.C05

theorem heightRun_eq_stackRun : ∀ (p : List Chunk) (h : Nat),
    heightRun h p = PlanPre.stackRun h p := by
  intro p
  induction p with
  | nil => intro h; rfl
  | cons c p ih =>
    intro h
    cases c <;> simp only [heightRun, PlanPre.stackRun, ih]

variable {H : Type}

theorem planOf_facts (ob : Store H) (hs : ob.tree.size ≤ 2 ^ 63) (hbs : ob.tree.bs ≤ 10)
    (q : Ranges) :
    ∃ plan, planOf ob q = some plan ∧ heightRun 1 plan ≠ none ∧
      ∀ start size ir rs, Chunk.leaf start size ir rs ∈ plan → toBytes start + size ≤ ob.tree.size := by
  rcases hte : ob.tree with ⟨size, bs⟩
  rw [hte] at hs hbs
  simp only at hs hbs
  simp only
  refine ⟨PlanPre.plan ⟨size, bs⟩ 0 (Ranges.truncate q size), ?_, ?_, ?_⟩
  · simp only [planOf, hte]
    exact PlanPre.planPre_refines size bs 0 _ hs hbs
  · rw [heightRun_eq_stackRun]
    by_cases hq : Ranges.truncate q size = []
    · rw [hq, PlanPre.plan_nil]
      simp [PlanPre.stackRun]
    · rw [PlanPre.plan_stack size bs 0 _ hs hbs hq]
      simp
  · exact PlanPre.plan_leaf_in_blob size bs 0 _ hs hbs

theorem validated_kind_tree (hf : HashFns H) [BEq H] (fl : Flavour) (data : List UInt8)
    (ob : Store H) (q : Ranges) (hs : ob.tree.size ≤ 2 ^ 63) (hbs : ob.tree.bs ≤ 10)
    (hio : ∀ node e, ob.load hf fl node ≠ .err e) (hlen : ob.tree.size ≤ data.length) :
    ∃ plan, planOf ob q = some plan ∧
      ((encodeRangesValidated hf fl data ob q).terminal = .ok ∨
       (∃ node ir lf rf rs, Chunk.parent node ir lf rf rs ∈ plan ∧
         (encodeRangesValidated hf fl data ob q).terminal = .err (.parentHashMismatch node)) ∨
       (∃ start size ir rs, Chunk.leaf start size ir rs ∈ plan ∧
         (encodeRangesValidated hf fl data ob q).terminal = .err (.leafHashMismatch start)) ∨
       ((encodeRangesValidated hf fl data ob q).terminal = .panic ∧
         ∃ node ir lf rf rs, Chunk.parent node ir lf rf rs ∈ plan ∧
           (ob.load hf fl node = .panic ∨ ob.load hf fl node = .ok none))) := by
  obtain ⟨plan, hp, hh, hleaf⟩ := planOf_facts ob hs hbs q
  refine ⟨plan, hp, ?_⟩
  have hdata : ∀ plan', planOf ob q = some plan' → ∀ start size ir rs,
      Chunk.leaf start size ir rs ∈ plan' → toBytes start + size ≤ data.length := by
    intro plan' hp' start size ir rs hm
    rw [hp] at hp'
    cases hp'
    exact Nat.le_trans (hleaf start size ir rs hm) hlen
  rcases validated_kind hf fl data ob q hio hdata with h | ⟨p, n, ir, lf, rf, rs, hp', hm, h⟩ |
      ⟨p, s, z, ir, rs, hp', hm, h⟩ | ⟨h, hc⟩
  · exact .inl h
  · rw [hp] at hp'; cases hp'
    exact .inr (.inl ⟨n, ir, lf, rf, rs, hm, h⟩)
  · rw [hp] at hp'; cases hp'
    exact .inr (.inr (.inl ⟨s, z, ir, rs, hm, h⟩))
  · rcases hc with hn | ⟨p, hp', hu⟩ | ⟨p, n, ir, lf, rf, rs, hp', hm, hl⟩
    · rw [hp] at hn; cases hn
    · rw [hp] at hp'; cases hp'
      exact (hh hu).elim
    · rw [hp] at hp'; cases hp'
      exact .inr (.inr (.inr ⟨h, n, ir, lf, rf, rs, hm, hl⟩))

end Bao.C05
