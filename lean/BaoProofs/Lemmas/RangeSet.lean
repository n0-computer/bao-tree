import BaoProofs.Lemmas.RangeList

/-!
# Range sets as boundary lists: semantic lemmas

`contains` on a strictly sorted boundary list is the parity of the number of
boundaries `≤ x` (`par`).  `union` is a merge that realises "or" on that parity.
* items: membership is membership in one item of `iter()` (`contains_iff_items`); an interval inside
  the set lies in a single item (`interval_in_item`).
* `foldl_sem`: a fold whose steps add `P it` to the set, under an invariant (`WFBelow`: sorted,
  boundaries bounded, i.e. no overflow).
* group arithmetic relative to the group start `c / p * p` (`same_group_iff`, `ceil_le_iff`,
  `lt_floor_iff`, `floor_le_iff`, `lt_ceil_iff`).
* the three rounding helpers of `src/io/mod.rs` as such folds: per item, what the step adds
  (`chunksP`, `groupsP`, `fullP` with their `_range` / `_from` forms, `*Step_sem`), then the set
  equalities `roundUpToChunks_sem`, `roundUpToChunkGroups_sem`, `fullChunkGroups_sem`.
* `ceilGroup?` / `chunkGroupEnd?`: the same function, defined exactly when Rust's `checked_add`
  succeeds (`chunkGroupEnd?_eq_ceilGroup?`, `ceilGroup?_isSome_iff`).
-/

namespace Bao.Ranges

/-- parity of the number of boundaries `≤ x`; unlike `countLe` it looks at the whole list, so its
equation for `a :: l` needs no sortedness -/
def par : List Nat → Nat → Bool
  | [], _ => false
  | a :: l, x => xor (decide (a ≤ x)) (par l x)

theorem par_eq_false_of_lt {l : List Nat} {x : Nat} (h : ∀ y ∈ l, x < y) : par l x = false := by
  induction l with
  | nil => rfl
  | cons a l ih =>
    obtain ⟨h1, h2⟩ := List.forall_mem_cons.1 h
    simp [par, ih h2, Nat.not_le.2 h1]

theorem contains_eq_par {l : List Nat} (h : WF l = true) (x : Nat) : contains l x = par l x := by
  rw [contains_eq h]
  induction l with
  | nil => rfl
  | cons a l ih =>
    by_cases ha : a ≤ x
    · rw [par, ← ih (WF_tail h), countLe, if_pos ha, decide_eq_true ha, Bool.true_xor,
        Bool.eq_iff_iff]
      simp only [Bool.not_eq_true', decide_eq_true_eq, decide_eq_false_iff_not]
      omega
    · have hl : ∀ y ∈ l, x < y := fun y hy => Nat.lt_trans (Nat.lt_of_not_le ha) (WF_head_lt h y hy)
      rw [par, par_eq_false_of_lt hl, countLe, if_neg ha, decide_eq_false ha]
      rfl

theorem mem_unionAux (fuel : Nat) (A B : List Nat) (ia ib : Bool) :
    ∀ y ∈ unionAux fuel A B ia ib, y ∈ A ∨ y ∈ B := by
  fun_induction unionAux fuel A B ia ib <;> grind

theorem unionAux_lb (m : Nat) (fuel : Nat) (A B : List Nat) (ia ib : Bool)
    (hA : ∀ y ∈ A, m < y) (hB : ∀ y ∈ B, m < y) : ∀ y ∈ unionAux fuel A B ia ib, m < y :=
  fun y hy => (mem_unionAux fuel A B ia ib y hy).elim (hA y) (hB y)

theorem lt_of_lt_head {m a : Nat} {l : List Nat} (h : WF (a :: l) = true) (hm : m < a) :
    ∀ y ∈ a :: l, m < y :=
  List.forall_mem_cons.2 ⟨hm, fun y hy => Nat.lt_trans hm (WF_head_lt h y hy)⟩

theorem WF_emit {x : Nat} {r : List Nat} (c : Bool) (hlt : ∀ y ∈ r, x < y) (hr : WF r = true) :
    WF (if c then x :: r else r) = true := by
  cases c
  · exact hr
  · exact (WF_cons_iff x r).2 ⟨hlt, hr⟩

theorem unionAux_wf (fuel : Nat) (A B : List Nat) (ia ib : Bool)
    (hA : WF A = true) (hB : WF B = true) : WF (unionAux fuel A B ia ib) = true := by
  induction fuel generalizing A B ia ib with
  | zero => rfl
  | succ fuel ih =>
    match A, B, hA, hB with
    | [], [], _, _ => rfl
    | x :: a, [], hA, hB =>
      rw [unionAux]
      exact WF_emit _ (unionAux_lb _ _ _ _ _ _ (WF_head_lt hA) (by simp))
        (ih _ _ _ _ (WF_tail hA) hB)
    | [], y :: b, hA, hB =>
      rw [unionAux]
      exact WF_emit _ (unionAux_lb _ _ _ _ _ _ (by simp) (WF_head_lt hB))
        (ih _ _ _ _ hA (WF_tail hB))
    | x :: a, y :: b, hA, hB =>
      rw [unionAux]
      by_cases hxy : x < y
      · rw [if_pos hxy]
        exact WF_emit _ (unionAux_lb _ _ _ _ _ _ (WF_head_lt hA) (lt_of_lt_head hB hxy))
          (ih _ _ _ _ (WF_tail hA) hB)
      · rw [if_neg hxy]
        by_cases hyx : y < x
        · rw [if_pos hyx]
          exact WF_emit _ (unionAux_lb _ _ _ _ _ _ (lt_of_lt_head hA hyx) (WF_head_lt hB))
            (ih _ _ _ _ hA (WF_tail hB))
        · rw [if_neg hyx]
          have e : y = x := by omega
          subst e
          exact WF_emit _ (unionAux_lb _ _ _ _ _ _ (WF_head_lt hA) (WF_head_lt hB))
            (ih _ _ _ _ (WF_tail hA) (WF_tail hB))

/-- one merge step at a boundary `x ≤ z`: `x` is emitted iff the state of the union changes -/
theorem par_emit {x z : Nat} (hz : x ≤ z) (s s' : Bool) (r : List Nat) :
    xor s (par (if (s != s') then x :: r else r) z) = xor s' (par r z) := by
  cases s <;> cases s' <;> simp [par, hz]

theorem par_advance {x z : Nat} (hz : x ≤ z) (i : Bool) (a : List Nat) :
    xor i (par (x :: a) z) = xor (!i) (par a z) := by
  cases i <;> simp [par, hz]

theorem unionAux_par_below (fuel : Nat) (A B : List Nat) (ia ib : Bool) {z : Nat}
    (hA : ∀ y ∈ A, z < y) (hB : ∀ y ∈ B, z < y) :
    xor (ia || ib) (par (unionAux fuel A B ia ib) z) = (xor ia (par A z) || xor ib (par B z)) := by
  rw [par_eq_false_of_lt (unionAux_lb z fuel A B ia ib hA hB), par_eq_false_of_lt hA,
    par_eq_false_of_lt hB]
  simp

/-- the merge realises "or": `ia`, `ib` say whether the points below the remaining boundaries of
`A`, `B` are members.  At `z` at or behind the next boundary `x` the step lemmas `par_emit`,
`par_advance` reduce the claim to the induction hypothesis. -/
theorem unionAux_par (fuel : Nat) (A B : List Nat) (ia ib : Bool)
    (hA : WF A = true) (hB : WF B = true) (hf : A.length + B.length ≤ fuel) (z : Nat) :
    xor (ia || ib) (par (unionAux fuel A B ia ib) z)
      = (xor ia (par A z) || xor ib (par B z)) := by
  induction fuel generalizing A B ia ib with
  | zero =>
    have h1 : A = [] := List.eq_nil_of_length_eq_zero (by omega)
    have h2 : B = [] := List.eq_nil_of_length_eq_zero (by omega)
    subst h1 h2
    cases ia <;> cases ib <;> rfl
  | succ fuel ih =>
    match A, B, hA, hB, hf with
    | [], [], _, _, _ => cases ia <;> cases ib <;> rfl
    | x :: a, [], hA, hB, hf =>
      by_cases hz : x ≤ z
      · rw [unionAux, par_emit hz, par_advance hz]
        exact ih _ _ _ _ (WF_tail hA) hB (by simp only [List.length_cons] at hf ⊢; omega)
      · exact unionAux_par_below _ _ _ _ _ (lt_of_lt_head hA (Nat.lt_of_not_le hz)) (by simp)
    | [], y :: b, hA, hB, hf =>
      by_cases hz : y ≤ z
      · rw [unionAux, par_emit hz, par_advance hz]
        exact ih _ _ _ _ hA (WF_tail hB) (by simp only [List.length_cons] at hf ⊢; omega)
      · exact unionAux_par_below _ _ _ _ _ (by simp) (lt_of_lt_head hB (Nat.lt_of_not_le hz))
    | x :: a, y :: b, hA, hB, hf =>
      by_cases hz : x ≤ z ∨ y ≤ z
      · rw [unionAux]
        by_cases hxy : x < y
        · have hx : x ≤ z := by omega
          rw [if_pos hxy, par_emit hx, par_advance hx]
          exact ih _ _ _ _ (WF_tail hA) hB (by simp only [List.length_cons] at hf ⊢; omega)
        · rw [if_neg hxy]
          by_cases hyx : y < x
          · have hy : y ≤ z := by omega
            rw [if_pos hyx, par_emit hy, par_advance hy ib]
            exact ih _ _ _ _ hA (WF_tail hB) (by simp only [List.length_cons] at hf ⊢; omega)
          · have e : y = x := by omega
            subst e
            have hy : y ≤ z := by omega
            rw [if_neg hyx, par_emit hy, par_advance hy ia, par_advance hy ib]
            exact ih _ _ _ _ (WF_tail hA) (WF_tail hB)
              (by simp only [List.length_cons] at hf ⊢; omega)
      · exact unionAux_par_below _ _ _ _ _ (lt_of_lt_head hA (by omega))
          (lt_of_lt_head hB (by omega))

theorem union_wf {A B : List Nat} (hA : WF A = true) (hB : WF B = true) :
    WF (union A B) = true :=
  unionAux_wf _ _ _ _ _ hA hB

theorem union_contains {A B : List Nat} (hA : WF A = true) (hB : WF B = true) (x : Nat) :
    contains (union A B) x = (contains A x || contains B x) := by
  rw [contains_eq_par (union_wf hA hB), contains_eq_par hA, contains_eq_par hB]
  have := unionAux_par (A.length + B.length + 1) A B false false hA hB (by omega) x
  simpa [union] using this

theorem union_mem {A B : List Nat} (hA : WF A = true) (hB : WF B = true) (x : Nat) :
    contains (union A B) x = true ↔ contains A x = true ∨ contains B x = true := by
  rw [union_contains hA hB, Bool.or_eq_true]

theorem mem_union {A B : List Nat} {y : Nat} (h : y ∈ union A B) : y ∈ A ∨ y ∈ B :=
  mem_unionAux _ _ _ _ _ y h

theorem contains_eq_false_of_lt {l : List Nat} {x : Nat} (hwf : WF l = true) (h : ∀ y ∈ l, x < y) :
    contains l x = false := by
  rw [contains_eq_par hwf, par_eq_false_of_lt h]

/-- membership in one item of `iter()` -/
def Item.has : Item → Nat → Prop
  | .range a b, x => a ≤ x ∧ x < b
  | .from_ a, x => a ≤ x

/-- an item of a well-formed set with boundaries below `N` -/
def Item.ok (N : Nat) : Item → Prop
  | .range a b => a < b ∧ b < N
  | .from_ a => a < N

theorem contains_iff_items {R : List Nat} (h : WF R = true) (x : Nat) :
    contains R x = true ↔ ∃ it ∈ items R, it.has x := by
  fun_induction items R
  case case1 => simp [contains_nil]
  case case2 a => simp [contains_singleton, Item.has]
  case case3 a b rest ih =>
    rw [contains_cons_cons h, Bool.or_eq_true, ih (WF_tail (WF_tail h))]
    simp [Item.has]

theorem items_ok {R : List Nat} {N : Nat} (h : WF R = true) (hN : ∀ y ∈ R, y < N) :
    ∀ it ∈ items R, it.ok N := by
  fun_induction items R
  case case1 => simp
  case case2 a => simp [Item.ok] at hN ⊢; exact hN
  case case3 a b rest ih =>
    exact List.forall_mem_cons.2 ⟨⟨(WF_cons_cons.1 h).1, hN b (by simp)⟩,
      ih (WF_tail (WF_tail h)) fun y hy => hN y (by simp [hy])⟩

/-- an interval inside the set lies inside a single item (items are separated by gaps) -/
theorem interval_in_item {R : List Nat} (h : WF R = true) {lo hi : Nat} (hle : lo ≤ hi)
    (hall : ∀ x, lo ≤ x → x ≤ hi → contains R x = true) :
    ∃ it ∈ items R, ∀ x, lo ≤ x → x ≤ hi → it.has x := by
  fun_induction items R
  case case1 => simpa [contains_nil] using hall lo (Nat.le_refl _) hle
  case case2 a =>
    have := hall lo (Nat.le_refl _) hle
    simp [contains_singleton] at this
    exact ⟨_, List.mem_singleton.2 rfl, fun x h1 _ => Nat.le_trans this h1⟩
  case case3 a b rest ih =>
    have hwr : WF rest = true := WF_tail (WF_tail h)
    have hrest : ∀ x, x ≤ b → contains rest x = false := fun x hx =>
      contains_eq_false_of_lt hwr fun y hy => Nat.lt_of_le_of_lt hx (WF_head_lt (WF_tail h) y hy)
    by_cases hlob : lo < b
    · -- `lo` lies in `[a, b)`, and `b` is not in the set
      have hlo := hall lo (Nat.le_refl _) hle
      rw [contains_cons_cons h, hrest lo (Nat.le_of_lt hlob)] at hlo
      have hhi : hi < b := Nat.lt_of_not_le fun hbh => by
        have := hall b (Nat.le_of_lt hlob) hbh
        rw [contains_cons_cons h, hrest b (Nat.le_refl _)] at this
        simp at this
      simp only [Bool.or_false, Bool.and_eq_true, decide_eq_true_eq] at hlo
      exact ⟨_, List.mem_cons_self .., fun x h1 h2 =>
        ⟨Nat.le_trans hlo.1 h1, Nat.lt_of_le_of_lt h2 hhi⟩⟩
    · obtain ⟨it, hit, hh⟩ := ih hwr fun x h1 h2 => by
        have := hall x h1 h2
        rw [contains_cons_cons h] at this
        simpa [show ¬ x < b by omega] using this
      exact ⟨it, List.mem_cons_of_mem _ hit, hh⟩

theorem ofRange_wf (a b : Nat) : WF (ofRange a b) = true := by
  unfold ofRange; split <;> simp [WF, *]

theorem ofRange_contains (a b x : Nat) : contains (ofRange a b) x = true ↔ a ≤ x ∧ x < b := by
  unfold ofRange; split
  · rename_i h
    rw [contains_cons_cons (by simp [WF, h])]; simp [contains_nil]
  · simp [contains_nil]; omega

theorem ofFrom_wf (a : Nat) : WF (ofFrom a) = true := rfl

theorem ofFrom_contains (a x : Nat) : contains (ofFrom a) x = true ↔ a ≤ x := by
  simp [ofFrom, contains_singleton]

theorem mem_ofRange {a b y : Nat} (h : y ∈ ofRange a b) : y = a ∨ y = b := by
  unfold ofRange at h; split at h <;> simp at h; exact h

/-- fold of a step function that adds `P it` to the set, under an invariant `I` -/
theorem foldl_sem (s : List Nat → Item → List Nat) (P : Item → Nat → Prop) (D : Nat → Prop)
    (good : Item → Prop) (I : List Nat → Prop)
    (hs : ∀ res it, good it → I res →
      I (s res it) ∧ ∀ x, D x → (contains (s res it) x = true ↔ contains res x = true ∨ P it x))
    (its : List Item) (hg : ∀ it ∈ its, good it) (init : List Nat) (hinit : I init) :
    I (its.foldl s init) ∧
      ∀ x, D x → (contains (its.foldl s init) x = true ↔
        contains init x = true ∨ ∃ it ∈ its, P it x) := by
  induction its generalizing init with
  | nil => simp [hinit]
  | cons it its ih =>
    obtain ⟨hg1, hg2⟩ := List.forall_mem_cons.1 hg
    have h1 := hs init it hg1 hinit
    have h2 := ih hg2 (s init it) h1.1
    refine ⟨h2.1, fun x hx => ?_⟩
    rw [List.foldl_cons, h2.2 x hx, h1.2 x hx]
    simp only [List.mem_cons, exists_eq_or_imp]
    exact or_assoc

theorem div_le_iff' {p : Nat} (hp : 0 < p) (y g : Nat) : y / p ≤ g ↔ y < g * p + p := by
  rw [← Nat.lt_succ_iff, Nat.div_lt_iff_lt_mul hp, Nat.succ_mul]

theorem le_div_iff' {p : Nat} (hp : 0 < p) (y g : Nat) : g ≤ y / p ↔ g * p ≤ y :=
  Nat.le_div_iff_mul_le hp

theorem group_bounds {p : Nat} (hp : 0 < p) (c : Nat) : c / p * p ≤ c ∧ c < c / p * p + p :=
  ⟨(le_div_iff' hp c _).1 (Nat.le_refl _), (div_le_iff' hp c _).1 (Nat.le_refl _)⟩

theorem same_group_iff {p : Nat} (hp : 0 < p) (x c : Nat) :
    x / p = c / p ↔ c / p * p ≤ x ∧ x < c / p * p + p := by
  rw [← le_div_iff' hp, ← div_le_iff' hp]; omega

theorem ceil_le_iff {p : Nat} (hp : 0 < p) (a c : Nat) :
    (a + p - 1) / p * p ≤ c ↔ a ≤ c / p * p := by
  rw [← le_div_iff' hp, div_le_iff' hp]; omega

theorem lt_floor_iff {p : Nat} (hp : 0 < p) (b c : Nat) :
    c < b / p * p ↔ c / p * p + p ≤ b := by
  rw [← Nat.succ_mul, ← le_div_iff' hp, ← Nat.not_le, ← le_div_iff' hp]; omega

theorem floor_le_iff {p : Nat} (hp : 0 < p) (a c : Nat) :
    a / p * p ≤ c ↔ a < c / p * p + p := by
  rw [← le_div_iff' hp, div_le_iff' hp]

/-- not to be confused with `Offsets.lt_ceil_iff` (another spelling of the rounding) -/
theorem lt_ceil_iff {p : Nat} (hp : 0 < p) (b c : Nat) :
    c < (b / p + (if b % p ≠ 0 then 1 else 0)) * p ↔ c / p * p < b := by
  rw [← Nat.not_le, ← le_div_iff' hp]
  by_cases h : b % p = 0
  · have hb : b = b / p * p := by
      have := Nat.div_add_mod b p; rw [h, Nat.mul_comm] at this; omega
    have : c / p * p < b ↔ c / p * p < b / p * p := by rw [← hb]
    rw [this, Nat.mul_lt_mul_right hp]; simp [h]
  · have h1 : c / p * p < b ↔ c / p * p ≤ b := by
      constructor
      · omega
      · intro hle
        rcases Nat.lt_or_eq_of_le hle with h2 | h2
        · exact h2
        · exact absurd (by rw [← h2, Nat.mul_mod_left]) h
    rw [h1, ← le_div_iff' hp]; simp [h]; omega

def chunksStep (res : List Nat) (it : Item) : List Nat :=
  match it with
  | .from_ a => union res (ofFrom (fullChunksOf a))
  | .range a b => union res (ofRange (fullChunksOf a) (chunksOf b))

theorem roundUpToChunks_eq (R : List Nat) :
    roundUpToChunks R = (items R).foldl chunksStep [] := rfl

/-- some byte of chunk `c` lies in the item -/
def chunksP (it : Item) (c : Nat) : Prop :=
  ∃ x, 1024 * c ≤ x ∧ x < 1024 * c + 1024 ∧ it.has x

def WFBelow (B : Nat) (res : List Nat) : Prop := WF res = true ∧ ∀ y ∈ res, y ≤ B

theorem WFBelow_nil (B : Nat) : WFBelow B [] := ⟨rfl, by simp⟩

theorem union_range_sem {B : Nat} {res : List Nat} (h : WFBelow B res) {lo hi : Nat}
    (hlo : lo ≤ B) (hhi : hi ≤ B) :
    WFBelow B (union res (ofRange lo hi)) ∧
      ∀ c, contains (union res (ofRange lo hi)) c = true ↔
        contains res c = true ∨ (lo ≤ c ∧ c < hi) := by
  refine ⟨⟨union_wf h.1 (ofRange_wf lo hi), fun y hy => ?_⟩, fun c => ?_⟩
  · rcases mem_union hy with h1 | h1
    · exact h.2 y h1
    · rcases mem_ofRange h1 with rfl | rfl
      · exact hlo
      · exact hhi
  · rw [union_mem h.1 (ofRange_wf _ _), ofRange_contains]

theorem union_from_sem {B : Nat} {res : List Nat} (h : WFBelow B res) {lo : Nat} (hb : lo ≤ B) :
    WFBelow B (union res (ofFrom lo)) ∧
      ∀ c, contains (union res (ofFrom lo)) c = true ↔ contains res c = true ∨ lo ≤ c := by
  refine ⟨⟨union_wf h.1 (ofFrom_wf lo), fun y hy => ?_⟩, fun c => ?_⟩
  · rcases mem_union hy with h1 | h1
    · exact h.2 y h1
    · simp [ofFrom] at h1; omega
  · rw [union_mem h.1 (ofFrom_wf _), ofFrom_contains]

theorem chunksP_range {a b : Nat} (hab : a < b) (c : Nat) :
    chunksP (.range a b) c ↔ fullChunksOf a ≤ c ∧ c < chunksOf b := by
  simp only [chunksP, Item.has, fullChunksOf, chunksOf_eq_div]
  constructor
  · rintro ⟨x, hx⟩
    omega
  · intro hc
    exact ⟨max a (1024 * c), by omega⟩

theorem chunksP_from (a c : Nat) : chunksP (.from_ a) c ↔ fullChunksOf a ≤ c := by
  simp only [chunksP, Item.has, fullChunksOf]
  constructor
  · rintro ⟨x, hx⟩
    omega
  · intro hc
    exact ⟨max a (1024 * c), by omega⟩

theorem chunksStep_sem (res : List Nat) (it : Item) (hok : it.ok (2 ^ 64)) (h : WFBelow (2 ^ 54) res) :
    WFBelow (2 ^ 54) (chunksStep res it) ∧
      ∀ c, True → (contains (chunksStep res it) c = true ↔ contains res c = true ∨ chunksP it c) := by
  cases it with
  | range a b =>
    have hok : a < b ∧ b < 2 ^ 64 := hok
    have := union_range_sem h (lo := fullChunksOf a) (hi := chunksOf b)
      (by unfold fullChunksOf; omega) (by rw [chunksOf_eq_div]; omega)
    exact ⟨this.1, fun c _ => by rw [chunksP_range hok.1]; exact this.2 c⟩
  | from_ a =>
    have hok : a < 2 ^ 64 := hok
    have := union_from_sem h (lo := fullChunksOf a) (by unfold fullChunksOf; omega)
    exact ⟨this.1, fun c _ => by rw [chunksP_from]; exact this.2 c⟩

theorem roundUpToChunks_sem {R : List Nat} (h : WF R = true) (hN : ∀ y ∈ R, y < 2 ^ 64) :
    WFBelow (2 ^ 54) (roundUpToChunks R) ∧
      ∀ c, contains (roundUpToChunks R) c = true ↔
        ∃ x, 1024 * c ≤ x ∧ x < 1024 * c + 1024 ∧ contains R x = true := by
  have := foldl_sem chunksStep chunksP (fun _ => True) (Item.ok (2 ^ 64)) (WFBelow (2 ^ 54))
    chunksStep_sem (items R) (items_ok h hN) [] (WFBelow_nil _)
  refine ⟨this.1, fun c => ?_⟩
  rw [roundUpToChunks_eq, this.2 c trivial]
  simp only [contains_nil, false_or, chunksP, contains_iff_items h, Bool.false_eq_true]
  exact ⟨fun ⟨it, hit, x, h1, h2, h3⟩ => ⟨x, h1, h2, it, hit, h3⟩,
    fun ⟨x, h1, h2, it, hit, h3⟩ => ⟨it, hit, x, h1, h2, h3⟩⟩

def groupsStep (bs : Nat) (res : List Nat) (it : Item) : List Nat :=
  match it with
  | .from_ a => union res (ofFrom (chunkGroupStart a bs))
  | .range a b =>
    match chunkGroupEnd? b bs with
    | some e => union res (ofRange (chunkGroupStart a bs) e)
    | none => union res (ofFrom (chunkGroupStart a bs))

theorem roundUpToChunkGroups_eq (R : List Nat) (bs : Nat) :
    roundUpToChunkGroups R bs = (items R).foldl (groupsStep bs) [] := rfl

/-- some chunk (a u64) of the chunk group of `c` lies in the item -/
def groupsP (bs : Nat) (it : Item) (c : Nat) : Prop :=
  ∃ x, x < 2 ^ 64 ∧ x / 2 ^ bs = c / 2 ^ bs ∧ it.has x

theorem chunkGroupEnd?_eq (e bs : Nat) : chunkGroupEnd? e bs =
    if (e / 2 ^ bs + (if e % 2 ^ bs ≠ 0 then 1 else 0)) * 2 ^ bs < 2 ^ 64
    then some ((e / 2 ^ bs + (if e % 2 ^ bs ≠ 0 then 1 else 0)) * 2 ^ bs) else none := rfl

theorem groupsP_range {bs a b : Nat} (hab : a < b) (hb : b < 2 ^ 64) (c : Nat) :
    groupsP bs (.range a b) c ↔ a / 2 ^ bs * 2 ^ bs ≤ c ∧ c / 2 ^ bs * 2 ^ bs < b := by
  have hp : 0 < 2 ^ bs := Nat.two_pow_pos bs
  simp only [groupsP, Item.has, floor_le_iff hp]
  simp only [same_group_iff hp]
  generalize c / 2 ^ bs * 2 ^ bs = G
  constructor
  · rintro ⟨x, hx⟩
    omega
  · intro hh
    exact ⟨max a G, by omega⟩

theorem groupsP_from {bs a c : Nat} (ha : a < 2 ^ 64) (hc : c < 2 ^ 64) :
    groupsP bs (.from_ a) c ↔ a / 2 ^ bs * 2 ^ bs ≤ c := by
  have hp : 0 < 2 ^ bs := Nat.two_pow_pos bs
  have hG := group_bounds hp c
  simp only [groupsP, Item.has, floor_le_iff hp]
  simp only [same_group_iff hp]
  generalize c / 2 ^ bs * 2 ^ bs = G at *
  constructor
  · rintro ⟨x, hx⟩
    omega
  · intro hh
    exact ⟨max a G, by omega⟩

theorem groupsStep_sem (bs : Nat) (res : List Nat) (it : Item) (hok : it.ok (2 ^ 64))
    (h : WFBelow (2 ^ 64 - 1) res) :
    WFBelow (2 ^ 64 - 1) (groupsStep bs res it) ∧
      ∀ c, c < 2 ^ 64 →
        (contains (groupsStep bs res it) c = true ↔ contains res c = true ∨ groupsP bs it c) := by
  have hp : 0 < 2 ^ bs := Nat.two_pow_pos bs
  cases it with
  | range a b =>
    have hok : a < b ∧ b < 2 ^ 64 := hok
    have hfl : a / 2 ^ bs * 2 ^ bs ≤ a := Nat.div_mul_le_self a _
    have hP := fun c => groupsP_range (bs := bs) hok.1 hok.2 c
    have hL := fun c => lt_ceil_iff hp b c
    simp only [groupsStep, chunkGroupEnd?_eq, chunkGroupStart]
    generalize (b / 2 ^ bs + (if b % 2 ^ bs ≠ 0 then 1 else 0)) * 2 ^ bs = e at *
    generalize a / 2 ^ bs * 2 ^ bs = s at *
    by_cases hlt : e < 2 ^ 64
    · rw [if_pos hlt]
      have := union_range_sem h (lo := s) (hi := e) (by omega) (by omega)
      exact ⟨this.1, fun c _ => by rw [hP, ← hL]; exact this.2 c⟩
    · -- the rounded end lies beyond every u64
      rw [if_neg hlt]
      have := union_from_sem h (lo := s) (by omega)
      exact ⟨this.1, fun c hc => by
        rw [hP, and_iff_left ((hL c).1 (by omega))]; exact this.2 c⟩
  | from_ a =>
    have hok : a < 2 ^ 64 := hok
    have hfl : a / 2 ^ bs * 2 ^ bs ≤ a := Nat.div_mul_le_self a _
    have := union_from_sem h (lo := a / 2 ^ bs * 2 ^ bs) (by omega)
    exact ⟨this.1, fun c hc => by rw [groupsP_from hok hc]; exact this.2 c⟩

theorem roundUpToChunkGroups_sem {R : List Nat} (bs : Nat) (h : WF R = true)
    (hN : ∀ y ∈ R, y < 2 ^ 64) :
    WFBelow (2 ^ 64 - 1) (roundUpToChunkGroups R bs) ∧
      ∀ c, c < 2 ^ 64 → (contains (roundUpToChunkGroups R bs) c = true ↔
        ∃ x, x < 2 ^ 64 ∧ x / 2 ^ bs = c / 2 ^ bs ∧ contains R x = true) := by
  have := foldl_sem (groupsStep bs) (groupsP bs) (fun c => c < 2 ^ 64) (Item.ok (2 ^ 64))
    (WFBelow (2 ^ 64 - 1)) (groupsStep_sem bs) (items R) (items_ok h hN) [] (WFBelow_nil _)
  refine ⟨this.1, fun c hc => ?_⟩
  rw [roundUpToChunkGroups_eq, this.2 c hc]
  simp only [contains_nil, false_or, groupsP, contains_iff_items h, Bool.false_eq_true]
  exact ⟨fun ⟨it, hit, x, h1, h2, h3⟩ => ⟨x, h1, h2, it, hit, h3⟩,
    fun ⟨x, h1, h2, it, hit, h3⟩ => ⟨it, hit, x, h1, h2, h3⟩⟩

def fullStep (bs : Nat) (res : List Nat) (it : Item) : List Nat :=
  match it with
  | .from_ a =>
    match ceilGroup? a bs with
    | some s => union res (ofFrom s)
    | none => res
  | .range a b =>
    match ceilGroup? a bs with
    | some s =>
      let e := floorGroup b bs
      if s < e then union res (ofRange s e) else res
    | none => res

theorem fullChunkGroups_eq (R : List Nat) (bs : Nat) :
    fullChunkGroups R bs = (items R).foldl (fullStep bs) [] := rfl

/-- every chunk (a u64) of the chunk group of `c` lies in the item -/
def fullP (bs : Nat) (it : Item) (c : Nat) : Prop :=
  ∀ x, x < 2 ^ 64 → x / 2 ^ bs = c / 2 ^ bs → it.has x

theorem ceilGroup?_eq (v bs : Nat) : ceilGroup? v bs =
    if (v + 2 ^ bs - 1) / 2 ^ bs * 2 ^ bs < 2 ^ 64
    then some ((v + 2 ^ bs - 1) / 2 ^ bs * 2 ^ bs) else none := rfl

/-- chunk groups do not straddle `2^64` -/
theorem group_top {bs c : Nat} (hbs : bs ≤ 64) (hc : c < 2 ^ 64) :
    c / 2 ^ bs * 2 ^ bs + 2 ^ bs ≤ 2 ^ 64 := by
  have hp : 0 < 2 ^ bs := Nat.two_pow_pos bs
  have e : 2 ^ 64 = 2 ^ (64 - bs) * 2 ^ bs := by rw [← Nat.pow_add]; congr 1; omega
  have h1 : c / 2 ^ bs < 2 ^ (64 - bs) := by rw [Nat.div_lt_iff_lt_mul hp, ← e]; exact hc
  have h2 : (c / 2 ^ bs + 1) * 2 ^ bs ≤ 2 ^ (64 - bs) * 2 ^ bs := Nat.mul_le_mul_right _ h1
  rw [Nat.succ_mul] at h2
  omega

theorem fullP_range {bs c : Nat} (hbs : bs ≤ 64) (hc : c < 2 ^ 64) (a b : Nat) :
    fullP bs (.range a b) c ↔
      (a + 2 ^ bs - 1) / 2 ^ bs * 2 ^ bs ≤ c ∧ c < b / 2 ^ bs * 2 ^ bs := by
  have hp : 0 < 2 ^ bs := Nat.two_pow_pos bs
  have hG := group_bounds hp c
  have htop := group_top hbs hc
  simp only [fullP, Item.has, ceil_le_iff hp, lt_floor_iff hp]
  simp only [same_group_iff hp]
  generalize c / 2 ^ bs * 2 ^ bs = G at *
  generalize 2 ^ bs = p at *
  constructor
  · intro hh
    have h1 := hh G (by omega) (by omega)
    have h2 := hh (G + p - 1) (by omega) (by omega)
    omega
  · intro hh x _ hx
    omega

theorem fullP_from {bs c : Nat} (hbs : bs ≤ 64) (hc : c < 2 ^ 64) (a : Nat) :
    fullP bs (.from_ a) c ↔ (a + 2 ^ bs - 1) / 2 ^ bs * 2 ^ bs ≤ c := by
  have hp : 0 < 2 ^ bs := Nat.two_pow_pos bs
  have hG := group_bounds hp c
  have htop := group_top hbs hc
  simp only [fullP, Item.has, ceil_le_iff hp]
  simp only [same_group_iff hp]
  generalize c / 2 ^ bs * 2 ^ bs = G at *
  generalize 2 ^ bs = p at *
  constructor
  · intro hh
    exact hh G (by omega) (by omega)
  · intro hh x _ hx
    omega

theorem keep_sem {B : Nat} {res : List Nat} (h : WFBelow B res) {P D : Nat → Prop}
    (hP : ∀ c, D c → ¬ P c) :
    WFBelow B res ∧ ∀ c, D c → (contains res c = true ↔ contains res c = true ∨ P c) :=
  ⟨h, fun c hc => (or_iff_left (hP c hc)).symm⟩

theorem fullStep_sem (bs : Nat) (hbs : bs ≤ 64) (res : List Nat) (it : Item)
    (hok : it.ok (2 ^ 64)) (h : WFBelow (2 ^ 64 - 1) res) :
    WFBelow (2 ^ 64 - 1) (fullStep bs res it) ∧
      ∀ c, c < 2 ^ 64 →
        (contains (fullStep bs res it) c = true ↔ contains res c = true ∨ fullP bs it c) := by
  cases it with
  | range a b =>
    have hok : a < b ∧ b < 2 ^ 64 := hok
    have hfl : b / 2 ^ bs * 2 ^ bs ≤ b := Nat.div_mul_le_self b _
    have hP := fun c hc => fullP_range (bs := bs) (c := c) hbs hc a b
    simp only [fullStep, ceilGroup?_eq]
    unfold floorGroup
    generalize (a + 2 ^ bs - 1) / 2 ^ bs * 2 ^ bs = s at *
    generalize b / 2 ^ bs * 2 ^ bs = e at *
    by_cases hlt : s < 2 ^ 64
    · rw [if_pos hlt]
      dsimp only
      by_cases hse : s < e
      · rw [if_pos hse]
        have := union_range_sem h (lo := s) (hi := e) (by omega) (by omega)
        exact ⟨this.1, fun c hc => by rw [hP c hc]; exact this.2 c⟩
      · rw [if_neg hse]
        exact keep_sem h fun c hc => by rw [hP c hc]; omega
    · rw [if_neg hlt]
      exact keep_sem h fun c hc => by rw [hP c hc]; omega
  | from_ a =>
    have hok : a < 2 ^ 64 := hok
    simp only [fullStep, ceilGroup?_eq]
    by_cases hlt : (a + 2 ^ bs - 1) / 2 ^ bs * 2 ^ bs < 2 ^ 64
    · rw [if_pos hlt]
      have := union_from_sem h (lo := (a + 2 ^ bs - 1) / 2 ^ bs * 2 ^ bs) (by omega)
      exact ⟨this.1, fun c hc => by rw [fullP_from hbs hc]; exact this.2 c⟩
    · rw [if_neg hlt]
      exact keep_sem h fun c hc => by rw [fullP_from hbs hc]; omega

theorem fullChunkGroups_sem {R : List Nat} (bs : Nat) (hbs : bs ≤ 64) (h : WF R = true)
    (hN : ∀ y ∈ R, y < 2 ^ 64) :
    WFBelow (2 ^ 64 - 1) (fullChunkGroups R bs) ∧
      ∀ c, c < 2 ^ 64 → (contains (fullChunkGroups R bs) c = true ↔
        ∀ x, x < 2 ^ 64 → x / 2 ^ bs = c / 2 ^ bs → contains R x = true) := by
  have := foldl_sem (fullStep bs) (fullP bs) (fun c => c < 2 ^ 64) (Item.ok (2 ^ 64))
    (WFBelow (2 ^ 64 - 1)) (fullStep_sem bs hbs) (items R) (items_ok h hN) [] (WFBelow_nil _)
  refine ⟨this.1, fun c hc => ?_⟩
  rw [fullChunkGroups_eq, this.2 c hc]
  simp only [contains_nil, false_or, Bool.false_eq_true]
  have hp : 0 < 2 ^ bs := Nat.two_pow_pos bs
  constructor
  · rintro ⟨it, hit, hP⟩ x hx hxc
    exact (contains_iff_items h x).2 ⟨it, hit, hP x hx hxc⟩
  · intro hall
    have hG := group_bounds hp c
    have htop := group_top hbs hc
    obtain ⟨it, hit, hin⟩ := interval_in_item h
      (lo := c / 2 ^ bs * 2 ^ bs) (hi := c / 2 ^ bs * 2 ^ bs + 2 ^ bs - 1) (by omega)
      (fun x h1 h2 => hall x (by omega) ((same_group_iff hp x c).2 (by omega)))
    refine ⟨it, hit, fun x _ hxc => ?_⟩
    rw [same_group_iff hp] at hxc
    exact hin x hxc.1 (by omega)

theorem ceil_forms {p : Nat} (hp : 0 < p) (v : Nat) :
    (v / p + (if v % p ≠ 0 then 1 else 0)) * p = (v + p - 1) / p * p := by
  apply Nat.le_antisymm
  · have h1 := (ceil_le_iff hp v ((v + p - 1) / p * p)).1 (Nat.le_refl _)
    have h2 := lt_ceil_iff hp v ((v + p - 1) / p * p)
    omega
  · have h1 := lt_ceil_iff hp v ((v / p + (if v % p ≠ 0 then 1 else 0)) * p)
    have h2 := ceil_le_iff hp v ((v / p + (if v % p ≠ 0 then 1 else 0)) * p)
    omega

/-- `chunk_group_end` (checked) and `ceil` of `src/io/mod.rs` are the same function -/
theorem chunkGroupEnd?_eq_ceilGroup? (e bs : Nat) : chunkGroupEnd? e bs = ceilGroup? e bs := by
  rw [chunkGroupEnd?_eq, ceilGroup?_eq, ceil_forms (Nat.two_pow_pos bs)]

/-- the model's `r < 2^64` test is Rust's `value.checked_add(mask)` test -/
theorem ceilGroup?_isSome_iff {v bs : Nat} (hbs : bs ≤ 64) :
    (ceilGroup? v bs).isSome = true ↔ v + (2 ^ bs - 1) < 2 ^ 64 := by
  have hp : 0 < 2 ^ bs := Nat.two_pow_pos bs
  rw [ceilGroup?_eq]
  have e : 2 ^ 64 = 2 ^ (64 - bs) * 2 ^ bs := by rw [← Nat.pow_add]; congr 1; omega
  have h1 : (v + 2 ^ bs - 1) / 2 ^ bs * 2 ^ bs < 2 ^ 64 ↔ v + 2 ^ bs - 1 < 2 ^ 64 := by
    rw [e, Nat.mul_lt_mul_right hp, Nat.div_lt_iff_lt_mul hp]
  split
  · rename_i h; simp; rw [h1] at h; omega
  · rename_i h; simp; rw [h1] at h; omega

end Bao.Ranges
