import BaoProofs.Lemmas.EncodeSpec
import BaoProofs.Lemmas.SpecObL
import BaoModel.Ops2

/-!
# Lemmas for `Props/C04SpecEnc.lean`: the `enc` verdict never rejects the model on an intact store

* part A – C04 under the weaker hypothesis `SpecOb.OutLen hf` (only the OUTPUTS of `chunkCv` / `parentCv`
  have a 32-byte representation).  The driver's instance `realHash` represents a hash by its byte list,
  so `∀ h, (toBytes h).length = 32` (`EncodeSpec.Intact.hlen`) is false for it.  The encoders use the
  store only through `EncodeSpec.Loads` (persisted nodes load their true pair); the stored pairs are
  hash outputs (`SpecOb.cv_len`), so `Intact'` — `EncodeSpec.Intact` with `OutLen` — gives `Loads` too
  (`load_persisted'`, `Intact'.loads`).
* part B – the store `Ops.intactStore kind d bs` is the intact store in the sense of `Intact'` for the
  four stored kinds, with root `Spec.root`.
* part C – the `let`s of `Ops.opEnc` for the corruption argument `-` as named definitions
  (`opEnc_intact`, by `rfl` after the argument parse), the verdict on the token list, the tokens of
  the model's line, `(dig b).splitOn ":"`.
-/

namespace Bao.SpecEnc
open Bao Bao.Spec Bao.Bits Bao.PlanPre Bao.EncodeSpec Bao.SpecOb Bao.Ops Bao.Proto Bao.SpecIndex

variable {H : Type}

/-! ## A. C04 for instances whose hash OUTPUTS are 32 bytes -/

theorem parsePair_pairBytes' (hf : HashFns H) (hol : OutLen hf)
    (hrt : ∀ h, hf.ofBytes (hf.toBytes h) = h) (d : List UInt8) (x : Nat) :
    parsePair hf (pairBytes hf d x) = Spec.pair hf d (indexOf x) (levelOf x) := by
  unfold parsePair pairBytes Spec.pair
  simp only
  rw [List.take_left' (cv_len hf hol _ _ _ _), List.drop_left' (cv_len hf hol _ _ _ _),
    List.take_of_length_le (by rw [cv_len hf hol]; omega), hrt, hrt]

/-- `OutboardL.load_persisted` under `OutLen` -/
theorem load_persisted' (hf : HashFns H) (hol : OutLen hf)
    (hrt : ∀ h, hf.ofBytes (hf.toBytes h) = h) (d : List UInt8) (bs : Nat)
    (hs : d.length ≤ 2 ^ 63) (hbs : bs ≤ 10) (fl : Flavour) (ob : Store H)
    (htree : ob.tree = ⟨d.length, bs⟩)
    (hk : ((ob.kind = .preIo ∨ ob.kind = .preMem) ∧ ob.data = Spec.preOutboard hf d bs) ∨
          ((ob.kind = .postIo ∨ ob.kind = .postMem) ∧ ob.data = Spec.postOutboard hf d bs))
    (x : Nat) (hx : x ∈ persistedPre d.length bs) :
    ob.load hf fl x = .ok (some (Spec.pair hf d (indexOf x) (levelOf x))) := by
  rcases hk with ⟨hk, hd⟩ | ⟨hk, hd⟩
  · obtain ⟨i, hi, rfl⟩ := List.getElem_of_mem hx
    have hne := OutboardL.ne_empty_of_or hk
    rw [OutboardL.load_gen hf fl ob hne _ (pairBytes hf d) (fun x _ => pairBytes_len hf hol d x) hd i hi,
      parsePair_pairBytes' hf hol hrt]
    rw [OutboardL.slot_pre hk, htree]
    exact (C12.pre d.length bs hs hbs).2 i hi
  · have hx' := (OutboardL.persistedPost_perm d.length bs hs).mem_iff.mpr hx
    obtain ⟨i, hi, rfl⟩ := List.getElem_of_mem hx'
    have hne := OutboardL.ne_empty_of_or hk
    rw [OutboardL.load_gen hf fl ob hne _ (pairBytes hf d) (fun x _ => pairBytes_len hf hol d x) hd i hi,
      parsePair_pairBytes' hf hol hrt]
    rw [OutboardL.slot_post hk, htree]
    exact (C12.post d.length bs hs hbs).2 i hi

/-- the store is the intact outboard of blob `d` at block size `bs` (`EncodeSpec.Intact` with the
output-only length hypothesis) -/
structure Intact' (hf : HashFns H) (d : List UInt8) (bs : Nat) (st : Store H) : Prop where
  hol : OutLen hf
  hrt : ∀ h, hf.ofBytes (hf.toBytes h) = h
  hs : d.length ≤ 2 ^ 63
  hbs : bs ≤ 10
  tree : st.tree = ⟨d.length, bs⟩
  data : ((st.kind = .preIo ∨ st.kind = .preMem) ∧ st.data = Spec.preOutboard hf d bs) ∨
         ((st.kind = .postIo ∨ st.kind = .postMem) ∧ st.data = Spec.postOutboard hf d bs)

theorem intact'_of_intact {hf : HashFns H} {d : List UInt8} {bs : Nat} {st : Store H}
    (h : Intact hf d bs st) : Intact' hf d bs st :=
  ⟨outLen_of_hlen hf h.hlen, h.hrt, h.hs, h.hbs, h.tree, h.data⟩

theorem Intact'.loads {hf : HashFns H} {d : List UInt8} {bs : Nat} {st : Store H}
    (h : Intact' hf d bs st) : Loads hf d bs st :=
  ⟨h.hs, h.hbs, h.tree, fun fl x hx =>
    load_persisted' hf h.hol h.hrt d bs h.hs h.hbs fl st h.tree h.data x hx⟩

/-! ## B. the driver's intact store -/

theorem intactStore_post (kind : StoreKind) (hk : isPostKind kind = true) (d : List UInt8) (bs : Nat)
    (hs : d.length ≤ 2 ^ 63) (hbs : bs ≤ 10) :
    intactStore kind d bs = ⟨kind, Spec.root hf d, ⟨d.length, bs⟩, Spec.postOutboard hf d bs⟩ := by
  unfold intactStore
  simp only [hk, if_true]
  rw [OutboardL.writer_run hf d bs hs hbs]

theorem intactStore_pre (kind : StoreKind) (hk : isPostKind kind = false) (d : List UInt8) (bs : Nat)
    (hs : d.length ≤ 2 ^ 63) (hbs : bs ≤ 10) :
    intactStore kind d bs = ⟨kind, Spec.root hf d, ⟨d.length, bs⟩, Spec.preOutboard hf d bs⟩ := by
  unfold intactStore
  simp only [hk, Bool.false_eq_true, if_false]
  have := outboard_run_pre' hf hf_outLen d bs hs hbs
    { kind := .preMem, root := [], tree := ⟨d.length, bs⟩,
      data := zerosN (Tree.outboardSize ⟨d.length, bs⟩) } rfl (.inr ⟨rfl, length_zerosN _⟩)
  simp only at this
  rw [this]

theorem intactStore_tree (kind : StoreKind) (d : List UInt8) (bs : Nat) :
    (intactStore kind d bs).tree = ⟨d.length, bs⟩ := by
  unfold intactStore
  split <;> rfl

theorem intactStore_kind (kind : StoreKind) (d : List UInt8) (bs : Nat) :
    (intactStore kind d bs).kind = kind := by
  unfold intactStore
  split <;> rfl

theorem intactStore_root (kind : StoreKind) (d : List UInt8) (bs : Nat)
    (hs : d.length ≤ 2 ^ 63) (hbs : bs ≤ 10) :
    (intactStore kind d bs).root = Spec.root hf d := by
  cases hk : isPostKind kind
  · rw [intactStore_pre kind hk d bs hs hbs]
  · rw [intactStore_post kind hk d bs hs hbs]

theorem intactStore_data (kind : StoreKind) (hne : kind ≠ .empty) (d : List UInt8) (bs : Nat)
    (hs : d.length ≤ 2 ^ 63) (hbs : bs ≤ 10) :
    (((intactStore kind d bs).kind = .preIo ∨ (intactStore kind d bs).kind = .preMem) ∧
        (intactStore kind d bs).data = Spec.preOutboard hf d bs) ∨
    (((intactStore kind d bs).kind = .postIo ∨ (intactStore kind d bs).kind = .postMem) ∧
        (intactStore kind d bs).data = Spec.postOutboard hf d bs) := by
  cases kind with
  | empty => exact (hne rfl).elim
  | preIo => rw [intactStore_pre _ rfl d bs hs hbs]; exact .inl ⟨.inl rfl, rfl⟩
  | preMem => rw [intactStore_pre _ rfl d bs hs hbs]; exact .inl ⟨.inr rfl, rfl⟩
  | postIo => rw [intactStore_post _ rfl d bs hs hbs]; exact .inr ⟨.inl rfl, rfl⟩
  | postMem => rw [intactStore_post _ rfl d bs hs hbs]; exact .inr ⟨.inr rfl, rfl⟩

theorem intactStore_intact (kind : StoreKind) (hne : kind ≠ .empty) (d : List UInt8) (bs : Nat)
    (hs : d.length ≤ 2 ^ 63) (hbs : bs ≤ 10) : Intact' hf d bs (intactStore kind d bs) :=
  ⟨hf_outLen, fun _ => rfl, hs, hbs, intactStore_tree kind d bs, intactStore_data kind hne d bs hs hbs⟩

/-! ## C. the operation -/

/-- the flavour argument with the `syncw<k>` sink modifier removed -/
def flOf (fl : String) : String := if fl.startsWith "syncw" then "sync" else fl

/-- `(m, isMixed)` of `opEnc`: the model's output line and whether it is an item stream -/
def encModel (d' : List UInt8) (st : Store HB) (fl mode : String) (ranges : Ranges) : String × Bool :=
  if fl == "mixed" then
    match traverseRangesValidated hf d' st ranges with
    | none => ("panic", true)
    | some items =>
      let flat := items.flatMap (EncodedItem.flatten hf)
      let term := match items.getLast? with
        | some .done => "Ok"
        | some (.error e) => encErrStr e
        | _ => "none"
      (s!"{term} {dig flat} framing=1", true)
  else
    let f := if fl == "fsm" then Flavour.fsm else Flavour.sync
    let r := if mode == "val" then encodeRangesValidated hf f d' st ranges else encodeRanges hf f d' st ranges
    (s!"{encEndStr r.terminal} {dig r.out}", false)

theorem applyCorruption_intact (d ob : List UInt8) : applyCorruption "-" d ob = some (d, ob) := by
  unfold applyCorruption
  rw [if_pos (by decide)]

/-- the clauses of the verdict that apply when the corruption argument is `-` -/
def encVerdictI (honest : List UInt8) (isMixed : Bool) (toks : List String) : Option String :=
  match toks with
  | term :: dg :: rest =>
    match (dg.splitOn ":").mapM (·.toNat?) with
    | some [_, _] =>
      if term == "panic" then some "panic"
      else if isMixed && rest != ["framing=1"] then some "item stream not framed by Size … Done|Error"
      else if term != "Ok" then some s!"intact store: {term}"
      else if dg != dig honest then some s!"differs from Spec.encode ({dig honest})"
      else none
    | _ => some "malformed"
  | _ => some "malformed"

/-- `opEnc` on an intact store, after the argument parse: `encModel` and `encVerdictI` ARE its
`let`s -/
theorem opEnc_intact (b bs kind fl mode rs impl : String) (d : List UInt8) (bsn : Nat)
    (k : StoreKind) (ranges : Ranges)
    (h1 : blob b = some d) (h2 : bs.toNat? = some bsn) (h3 : storeKind? kind = some k)
    (h4 : parseNatList rs = some ranges) :
    opEnc [b, bs, kind, fl, mode, rs, "-"] impl =
      { model := (encModel d (intactStore k d bsn) (flOf fl) mode ranges).1,
        specFail := encVerdictI (Spec.encode hf d bsn ranges)
          (encModel d (intactStore k d bsn) (flOf fl) mode ranges).2 (impl.splitOn " "),
        nontrivial := !(Spec.encode hf d bsn ranges).isEmpty } := by
  have e : (("-" : String) == "-") = true := by decide
  unfold opEnc
  simp only [h1, h2, h3, h4, applyCorruption_intact, e, if_true]
  rfl

/-- the tokens the verdict expects on an intact store -/
def encToks (honest : List UInt8) (mixed : Bool) : List String :=
  if mixed then ["Ok", dig honest, "framing=1"] else ["Ok", dig honest]

theorem enc_validated (kind : StoreKind) (hne : kind ≠ .empty) (d : List UInt8) (bs : Nat)
    (hs : d.length ≤ 2 ^ 63) (hbs : bs ≤ 10) (f : Flavour) {q : Ranges} (hwf : Ranges.WF q = true) :
    encodeRangesValidated hf f d (intactStore kind d bs) q = ⟨Spec.encode hf d bs q, .ok⟩ :=
  validated_spec (intactStore_intact kind hne d bs hs hbs).loads (intactStore_root kind d bs hs hbs) f hwf

theorem enc_plain (kind : StoreKind) (hne : kind ≠ .empty) (d : List UInt8) (bs : Nat)
    (hs : d.length ≤ 2 ^ 63) (hbs : bs ≤ 10) (f : Flavour) {q : Ranges} (hwf : Ranges.WF q = true) :
    encodeRanges hf f d (intactStore kind d bs) q = ⟨Spec.encode hf d bs q, .ok⟩ :=
  plain_spec (intactStore_intact kind hne d bs hs hbs).loads (intactStore_root kind d bs hs hbs) f hwf

theorem enc_mixed (kind : StoreKind) (hne : kind ≠ .empty) (d : List UInt8) (bs : Nat)
    (hs : d.length ≤ 2 ^ 63) (hbs : bs ≤ 10) {q : Ranges} (hwf : Ranges.WF q = true) :
    ∃ items, traverseRangesValidated hf d (intactStore kind d bs) q = some items ∧
      items.flatMap (EncodedItem.flatten hf) = Spec.encode hf d bs q ∧
      items.getLast? = some .done :=
  mixed_spec (intactStore_intact kind hne d bs hs hbs).loads (intactStore_root kind d bs hs hbs) hwf

theorem encModel_intact (kind : StoreKind) (hne : kind ≠ .empty) (d : List UInt8) (bs : Nat)
    (hs : d.length ≤ 2 ^ 63) (hbs : bs ≤ 10) (fl mode : String) {q : Ranges}
    (hwf : Ranges.WF q = true) :
    encModel d (intactStore kind d bs) fl mode q
      = (" ".intercalate (encToks (Spec.encode hf d bs q) (fl == "mixed")), fl == "mixed") := by
  unfold encModel encToks
  cases hm : fl == "mixed"
  · simp only [Bool.false_eq_true, if_false]
    have e : ∀ r : EncRun, r = ⟨Spec.encode hf d bs q, .ok⟩ →
        (s!"{encEndStr r.terminal} {dig r.out}", false)
          = (" ".intercalate ["Ok", dig (Spec.encode hf d bs q)], false) := by
      rintro r rfl
      rfl
    apply e
    split
    · exact enc_validated kind hne d bs hs hbs _ hwf
    · exact enc_plain kind hne d bs hs hbs _ hwf
  · obtain ⟨items, h1, h2, h3⟩ := enc_mixed kind hne d bs hs hbs hwf
    simp only [if_true, h1, h2, h3]
    have e : (" framing=1" : String) = " " ++ "framing=1" := by decide
    simp only [String.intercalate_cons_cons, String.intercalate_singleton]
    show ("Ok" ++ " " ++ dig (Spec.encode hf d bs q) ++ " framing=1", true) = _
    rw [e]
    simp only [String.append_assoc]

theorem noSp_encToks (honest : List UInt8) (mixed : Bool) : ∀ t ∈ encToks honest mixed, NoSp t := by
  intro t ht
  unfold encToks at ht
  cases mixed
  · simp only [Bool.false_eq_true, if_false, List.mem_cons, List.not_mem_nil, or_false] at ht
    rcases ht with rfl | rfl
    · exact noSp_lit "Ok" (by decide)
    · exact noSp_dig _
  · simp only [if_true, List.mem_cons, List.not_mem_nil, or_false] at ht
    rcases ht with rfl | rfl | rfl
    · exact noSp_lit "Ok" (by decide)
    · exact noSp_dig _
    · exact noSp_lit "framing=1" (by decide)

theorem encLine_split (honest : List UInt8) (mixed : Bool) :
    (" ".intercalate (encToks honest mixed)).splitOn " " = encToks honest mixed :=
  splitOn_intercalate _ (by unfold encToks; cases mixed <;> simp) (noSp_encToks honest mixed)

theorem dig_parse (b : List UInt8) :
    ((dig b).splitOn ":").mapM (·.toNat?) = some [b.length, (fnv b).toNat] := by
  have e : dig b = ":".intercalate [toString b.length, toString (fnv b).toNat] := by
    simp only [String.intercalate_cons_cons, String.intercalate_singleton]
    show toString b.length ++ ":" ++ toString (fnv b).toNat = _
    simp only [String.append_assoc]
  rw [e, splitOn_intercalate_sep (c0 := ':') (by decide) _ (by simp) (by
    intro t ht
    simp only [List.mem_cons, List.not_mem_nil, or_false] at ht
    rcases ht with rfl | rfl
    · exact noColon_nat _
    · exact noColon_nat _)]
  exact mapM_toNat?_toString [b.length, (fnv b).toNat]

theorem verdict_tokens (honest : List UInt8) (mixed : Bool) :
    encVerdictI honest mixed (encToks honest mixed) = none := by
  have e1 : (("Ok" : String) == "panic") = false := by decide
  have e2 : (("Ok" : String) != "Ok") = false := by decide
  unfold encVerdictI encToks
  cases mixed
  · simp only [Bool.false_eq_true, if_false, dig_parse, e1, e2, Bool.false_and, bne_self_eq_false]
  · simp only [if_true, dig_parse, e1, e2, Bool.true_and, bne_self_eq_false, Bool.false_eq_true,
      if_false]

theorem verdict_sound (honest : List UInt8) (mixed : Bool) (toks : List String)
    (h : encVerdictI honest mixed toks = none) :
    ∃ rest, toks = "Ok" :: dig honest :: rest ∧ (mixed = true → rest = ["framing=1"]) := by
  unfold encVerdictI at h
  split at h
  next term dg rest =>
    split at h
    next =>
      -- none of the four rejecting clauses fired
      simp only [ite_some_eq_none] at h
      obtain ⟨-, h2, h3, h4, -⟩ := h
      refine ⟨rest, ?_, ?_⟩
      · have a : term = "Ok" := by simpa using h3
        have b : dg = dig honest := by simpa using h4
        rw [a, b]
      · intro hm
        subst hm
        simpa using h2
    next => cases h
  next => cases h

theorem flOf_of_not_syncw (fl : String) (h : ¬ "syncw".toList <+: fl.toList) : flOf fl = fl := by
  unfold flOf
  rw [if_neg (by rw [Bool.not_eq_true, String.startsWith_string_eq_false_iff]; exact h)]

theorem flOf_syncw (t : String) : flOf ("syncw" ++ t) = "sync" := by
  unfold flOf
  rw [if_pos (String.startsWith_string_iff.2 ⟨t.toList, by rw [String.toList_append]⟩)]

theorem flOf_lits : flOf "sync" = "sync" ∧ flOf "fsm" = "fsm" ∧ flOf "mixed" = "mixed" :=
  ⟨flOf_of_not_syncw _ (by decide), flOf_of_not_syncw _ (by decide), flOf_of_not_syncw _ (by decide)⟩

theorem encLine2_split (t : String) (ht : NoSp t) (b : List UInt8) :
    (s!"{t} {dig b}").splitOn " " = [t, dig b] := by
  have e : (s!"{t} {dig b}") = " ".intercalate [t, dig b] := by
    simp only [String.intercalate_cons_cons, String.intercalate_singleton]
    show t ++ " " ++ dig b = _
    simp only [String.append_assoc]
  rw [e]
  apply splitOn_intercalate _ (by simp)
  intro u hu
  simp only [List.mem_cons, List.not_mem_nil, or_false] at hu
  rcases hu with rfl | rfl
  · exact ht
  · exact noSp_dig _

/-- the validating encoder on the `EmptyOutboard` of a two-chunk blob at block size 0: `load` hands
out the zero pair for the root node, whose parent hash is not the root (hypothesis `hne`: a fact
about BLAKE3, `#eval`-true for every blob tried) -/
theorem enc_empty_two (d : List UInt8) (hd : d.length = 1025) (fl : Flavour)
    (hne : hf.parentCv zeros32 zeros32 true ≠ Spec.root hf d) :
    encodeRangesValidated hf fl d (intactStore .empty d 0) [0]
      = ⟨[], .err (.parentHashMismatch 0)⟩ := by
  rw [intactStore_pre .empty rfl d 0 (by omega) (by decide)]
  unfold encodeRangesValidated
  simp only [hd]
  have hp : Tree.prePartialChunks ⟨1025, 0⟩ (Ranges.truncate [0] 1025) 0
      = some [.parent 0 true true true [0], .leaf 0 1024 false [0], .leaf 1 1 false [0]] := by decide
  have hi : Ranges.isEmpty [0] = false := rfl
  rw [hp, hi]
  simp only [Bool.and_false, Bool.false_eq_true, if_false]
  unfold encodeValidatedLoop
  have hl : Store.load hf fl ⟨.empty, Spec.root hf d, ⟨1025, 0⟩, Spec.preOutboard hf d 0⟩ 0
      = .ok (some (zeros32, zeros32)) := by
    unfold Store.load
    simp only
    have : Tree.isRelevant ⟨1025, 0⟩ 0 = true := by decide
    rw [this]
    rfl
  rw [hl]
  simp only
  have : (hf.parentCv zeros32 zeros32 true != Spec.root hf d) = true := by simpa using hne
  rw [if_pos this]

theorem encModel_empty_two (d : List UInt8) (hd : d.length = 1025)
    (hne : hf.parentCv zeros32 zeros32 true ≠ Spec.root hf d) :
    encModel d (intactStore .empty d 0) "sync" "val" [0]
      = (s!"{encEndStr (.err (.parentHashMismatch 0))} {dig []}", false) := by
  have e1 : (("sync" : String) == "mixed") = false := by decide
  have e2 : (("sync" : String) == "fsm") = false := by decide
  have e3 : (("val" : String) == "val") = true := by decide
  unfold encModel
  simp only [e1, e2, e3, Bool.false_eq_true, if_false, if_true]
  rw [enc_empty_two d hd .sync hne]

end Bao.SpecEnc
