import BaoProofs.Lemmas.DecodeSpec

/-!
# Decoding the last chunk authenticates the claimed size (C16): the frame of a sub-plan

A *spine hash* is the chaining value of a right-spine interval `[a, N)` of the true blob `d` (`N`
its number of chunks).  The root hash is one.  Along the claimed tree's path from the root to its
last chunk every item is checked against a spine hash: a parent that verifies hands a spine hash to
its right child, and the last leaf verifies against a spine hash with its claimed start chunk and
its claimed length `size' - start·1024`, which makes the claimed size the true size.  The proofs
(`Lemmas/SizeProofLoc.lean`) use `SpineL`, the form with the honest root flag; `Spine` below is its
form with any root flag (`SpineL.toSpine`).  Here: the subtree of a left child only consumes its own
hash (`planPre_frame`), so the spine hash handed to the right child is still on top when its plan
starts.
-/

namespace Bao.DecodeSpec
open Bao Bao.Spec Bao.PlanPre Bao.Ranges Bao.Bits

variable {H : Type}

theorem push_append (hf : HashFns H) (c : Chunk) (buf : List UInt8) (rest base : List H) :
    push hf c buf (rest ++ base) = push hf c buf rest ++ base := by
  cases c with
  | parent n ir l r x => cases l <;> cases r <;> rfl
  | leaf s z ir x => rfl

/-- a plan whose stack run from height `h` never underflows only touches the top `h` entries -/
theorem runL_frame (hf : HashFns H) [BEq H] :
    ∀ (P : List Chunk) (h : Nat) (st base : List H) (s : List UInt8) (st1 : List H)
      (s1 : List UInt8), st.length = h →
      (∀ n, (stackRun h (P.take n)).isSome = true) →
      (runL hf P (st ++ base) s).fin = .ok st1 s1 →
      ∃ st', st1 = st' ++ base ∧ stackRun h P = some st'.length := by
  intro P
  induction P with
  | nil =>
    intro h st base s st1 s1 hst _ hok
    simp only [runL_nil, End.ok.injEq] at hok
    exact ⟨st, hok.1.symm, by simp [stackRun, hst]⟩
  | cons c P ih =>
    intro h st base s st1 s1 hst hrun hok
    have h1 := hrun 1
    cases st with
    | nil =>
      simp only [List.length_nil] at hst
      subst hst
      cases c <;> simp [stackRun] at h1
    | cons top rest =>
      simp only [List.length_cons] at hst
      subst hst
      obtain ⟨i, st2, s2, hstep, hrest, -⟩ := runL_cons_ok hok
      rw [List.cons_append] at hstep
      obtain ⟨-, top', rest', htr, -, -, rfl, -⟩ := stepC_item hstep
      simp only [List.cons.injEq] at htr
      obtain ⟨rfl, rfl⟩ := htr
      rw [push_append] at hrest
      cases c with
      | parent nd ir l r x =>
        obtain ⟨st', e1, e2⟩ := ih (rest.length + (if l then 1 else 0) + (if r then 1 else 0)) _ _ _ _ _
          (by rw [push_length_parent]) (fun n => by
            have := hrun (n + 1)
            rw [List.take_succ_cons, stackRun_parent] at this
            exact this) hrest
        exact ⟨st', e1, by rw [stackRun_parent]; exact e2⟩
      | leaf sc z ir x =>
        obtain ⟨st', e1, e2⟩ := ih rest.length _ _ _ _ _ (by rw [push_length_leaf]) (fun n => by
            have := hrun (n + 1)
            rw [List.take_succ_cons, stackRun_leaf] at this
            exact this) hrest
        exact ⟨st', e1, by rw [stackRun_leaf]; exact e2⟩

/-- the plan of an existing subtree with a non-empty sub-query consumes exactly the hash on top of
the stack -/
theorem planPre_frame (hf : HashFns H) [BEq H] {size bs ml filled root : Nat}
    (g : Geo size bs filled) (L k : Nat) (rs : Ranges) (hne : rs ≠ []) (hs : startOf k L < filled)
    {x : H} {stk st1 : List H} {s s1 : List UInt8}
    (hok : (runL hf (planPre size bs ml filled root L k rs) (x :: stk) s).fin = .ok st1 s1) :
    st1 = stk := by
  have hfull := stackRun_planPre (ml := ml) (root := root) g L k rs hne hs 0 []
  rw [List.append_nil] at hfull
  have hpre : ∀ n, (stackRun 1 ((planPre size bs ml filled root L k rs).take n)).isSome = true := by
    intro n
    apply stackRun_prefix (r := 0) (b := (planPre size bs ml filled root L k rs).drop n)
    rw [List.take_append_drop]
    exact hfull
  obtain ⟨st', e1, e2⟩ := runL_frame hf _ 1 [x] stk s st1 s1 rfl hpre hok
  rw [hfull] at e2
  simp only [stackRun, Option.some.injEq] at e2
  have : st' = [] := List.eq_nil_of_length_eq_zero e2.symm
  rw [e1, this, List.nil_append]

/-- `x` is the chaining value of a right-spine interval `[a, N)` of the true blob -/
def Spine (hf : HashFns H) (d : List UInt8) (x : H) : Prop :=
  ∃ a f, a < nChunks d.length ∧ x = cv hf d a (nChunks d.length) f

theorem spine_root (hf : HashFns H) (d : List UInt8) : Spine hf d (Spec.root hf d) :=
  ⟨0, true, Ranges.nChunks_pos _, rfl⟩

theorem toBytes_end_ge {size' e : Nat} (h : nChunks size' ≤ e) : min (toBytes e) size' = size' :=
  Nat.min_eq_right (Nat.le_trans (C01.nChunks_ge size') (Nat.mul_le_mul_right _ h))

end Bao.DecodeSpec
