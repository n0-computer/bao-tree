import BaoModel.Codec
import BaoProofs.Lemmas.CallSplit

/-!
# Lemmas for C10: the fault-aware encoders against their call log

`encodeLoopF` (model of `encode_ranges_validated` / `encode_ranges` with an injected io fault) is
related to

* `encodeLoopFL` – its instrumented twin: the same loop, which also returns the list of io calls
  (`EncEv`) it makes (`traceF_run`: the run component IS `encodeLoopF`);
* `replayT` – replaying a call log against a fault: the counters of the three objects are the
  numbers of calls made so far, the first call whose counter is hit fails
  (`traceF_replay`: every faulty run is the replay of the fault-free log);
* `splitNth (isOn o) n log` – the log split at the `n`-th call on `o` (`replayT_some`: closed form
  of a replay).
-/

namespace Bao.EncFaultL

open Bao Bao.CallSplit

variable {H : Type}

/-- one io call of an encoder: a `load` on the outboard, a positional read on the data source
(`start` chunk, `size` bytes), a write to the output stream (`isParent`/`label`: the item being
written - node of a parent, start chunk of a leaf - and the bytes) -/
inductive EncEv
  | ob (node : Nat)
  | data (start size : Nat)
  | w (isParent : Bool) (label : Nat) (bytes : List UInt8)
deriving Repr, DecidableEq

def EncEv.obj : EncEv → EncObj
  | .ob _ => .ob
  | .data .. => .data
  | .w .. => .w

def EncEv.bytes : EncEv → List UInt8
  | .w _ _ b => b
  | _ => []

def outOf : List EncEv → List UInt8
  | [] => []
  | e :: es => e.bytes ++ outOf es

def ncalls (o : EncObj) : List EncEv → Nat
  | [] => 0
  | e :: es => (if e.obj = o then 1 else 0) + ncalls o es

def evErr (fl : Flavour) (err : IoErr) : EncEv → EncodeError
  | .w p l _ => writeErr fl err p l
  | _ => .io err

def sel (o : EncObj) (nd no nw : Nat) : Nat :=
  match o with
  | .data => nd
  | .ob => no
  | .w => nw

theorem beq_obj (a b : EncObj) : (a == b) = decide (a = b) := by
  cases a <;> cases b <;> rfl

instance : LawfulBEq EncObj where
  eq_of_beq {a b} h := by rw [beq_obj] at h; exact of_decide_eq_true h
  rfl {a} := by rw [beq_obj]; exact decide_eq_true rfl

theorem hits_none (o : EncObj) (n : Nat) : EncFault.hits none o n = none := rfl

theorem hits_some (obj : EncObj) (k : Nat) (kind : IoKind) (o : EncObj) (n : Nat) :
    EncFault.hits (some ⟨obj, k, kind⟩) o n =
      if obj = o ∧ k = n then some ⟨kind, true⟩ else none := by
  simp [EncFault.hits]

/-- `encodeLoopF` which also returns its io calls, in order; a call that fails (by injection or by
itself) is logged and is then the last one -/
def encodeLoopFL (hf : HashFns H) [BEq H] (fl : Flavour) (validate : Bool) (data : List UInt8)
    (ob : Store H) (fault : Option EncFault) :
    List Chunk → List H → List UInt8 → Nat → Nat → Nat → List EncEv × EncRun
  | [], _, out, _, _, _ => ([], ⟨out, .ok⟩)
  | .parent node isRoot left right _ :: plan, stack, out, nd, no, nw =>
    match EncFault.hits fault .ob no with
    | some e => ([.ob node], ⟨out, .err (.io e)⟩)
    | none =>
    match ob.load hf fl node with
    | .err e => ([.ob node], ⟨out, .err (.io e)⟩)
    | .panic => ([.ob node], ⟨out, .panic⟩)
    | .ok none => ([.ob node], ⟨out, .panic⟩)
    | .ok (some (l, r)) =>
      let cont (stack : List H) : List EncEv × EncRun :=
        match EncFault.hits fault .w nw with
        | some e => ([.ob node, .w true node (hf.toBytes l ++ hf.toBytes r)],
            ⟨out, .err (writeErr fl e true node)⟩)
        | none =>
          let r' := encodeLoopFL hf fl validate data ob fault plan stack
            (out ++ hf.toBytes l ++ hf.toBytes r) nd (no + 1) (nw + 1)
          (.ob node :: .w true node (hf.toBytes l ++ hf.toBytes r) :: r'.1, r'.2)
      if validate then
        match stack with
        | [] => ([.ob node], ⟨out, .panic⟩)
        | expected :: stack =>
          if hf.parentCv l r isRoot != expected then ([.ob node], ⟨out, .err (.parentHashMismatch node)⟩)
          else
            let stack := if right then r :: stack else stack
            let stack := if left then l :: stack else stack
            cont stack
      else cont stack
  | .leaf start size isRoot ranges :: plan, stack, out, nd, no, nw =>
    let go (stack : List H) (expected : Option H) : List EncEv × EncRun :=
      match EncFault.hits fault .data nd with
      | some e => ([.data start size], ⟨out, .err (.io e)⟩)
      | none =>
      match readExactAt data (toBytes start) size with
      | .error e => ([.data start size], ⟨out, .err (.io e)⟩)
      | .ok buf =>
        let (actual, toWrite) :=
          if !Ranges.isAll ranges then
            encodeSelectedRec hf recFuel start buf isRoot ranges ob.tree.bs true
          else (hashSubtree hf start buf isRoot, buf)
        if (match expected with | some e => actual != e | none => false) then
          ([.data start size], ⟨out, .err (.leafHashMismatch start)⟩)
        else
          match EncFault.hits fault .w nw with
          | some e => ([.data start size, .w false start toWrite], ⟨out, .err (writeErr fl e false start)⟩)
          | none =>
            let r' := encodeLoopFL hf fl validate data ob fault plan stack (out ++ toWrite)
              (nd + 1) no (nw + 1)
            (.data start size :: .w false start toWrite :: r'.1, r'.2)
    if validate then
      match stack with
      | [] => ([], ⟨out, .panic⟩)
      | expected :: stack => go stack (some expected)
    else go stack none

theorem traceF_run (hf : HashFns H) [BEq H] (fl : Flavour) (validate : Bool) (data : List UInt8)
    (ob : Store H) (fault : Option EncFault) (plan : List Chunk) :
    ∀ (stack : List H) (out : List UInt8) (nd no nw : Nat),
    (encodeLoopFL hf fl validate data ob fault plan stack out nd no nw).2 =
      encodeLoopF hf fl validate data ob fault plan stack out nd no nw := by
  induction plan with
  | nil => intros; rfl
  | cons c plan ih =>
    intro stack out nd no nw
    cases c with
    | parent node isRoot left right rs =>
      simp only [encodeLoopFL, encodeLoopF]
      cases EncFault.hits fault .ob no with
      | some e => rfl
      | none =>
        rcases ob.load hf fl node with (_ | ⟨l, r⟩) | e | _
        · rfl
        · cases validate with
          | false =>
            simp only [Bool.false_eq_true, if_false]
            cases EncFault.hits fault .w nw with
            | some e => rfl
            | none => exact ih ..
          | true =>
            simp only [if_true]
            cases stack with
            | nil => rfl
            | cons expected stack =>
              by_cases hm : (hf.parentCv l r isRoot != expected) = true
              · simp only [if_pos hm]
              · simp only [if_neg hm]
                cases EncFault.hits fault .w nw with
                | some e => rfl
                | none => exact ih ..
        · rfl
        · rfl
    | leaf start size isRoot rs =>
      simp only [encodeLoopFL, encodeLoopF]
      cases validate with
      | false =>
        simp only [Bool.false_eq_true, if_false]
        cases EncFault.hits fault .data nd with
        | some e => rfl
        | none =>
          cases readExactAt data (toBytes start) size with
          | error e => rfl
          | ok buf =>
            simp only []
            cases EncFault.hits fault .w nw with
            | some e => rfl
            | none => exact ih ..
      | true =>
        simp only [if_true]
        cases stack with
        | nil => rfl
        | cons expected stack =>
          simp only []
          cases EncFault.hits fault .data nd with
          | some e => rfl
          | none =>
            cases readExactAt data (toBytes start) size with
            | error e => rfl
            | ok buf =>
              simp only []
              generalize (if (!Ranges.isAll rs) = true then
                encodeSelectedRec hf recFuel start buf isRoot rs ob.tree.bs true
                else (hashSubtree hf start buf isRoot, buf)) = p
              by_cases hm : (p.1 != expected) = true
              · simp only [if_pos hm]
              · simp only [if_neg hm]
                cases EncFault.hits fault .w nw with
                | some e => rfl
                | none => exact ih ..

/-- replay a call log (with the terminal `t` of the run that produced it) against a fault:
`nd no nw` are the numbers of calls made so far on data / outboard / writer; the first call whose
object and counter are hit fails (it is logged, nothing follows); otherwise the call is performed
(a write appends its bytes) and the counter of its object goes up by one -/
def replayT (fl : Flavour) (fault : Option EncFault) :
    List EncEv → EncEnd → List UInt8 → Nat → Nat → Nat → List EncEv × EncRun
  | [], t, out, _, _, _ => ([], ⟨out, t⟩)
  | e :: es, t, out, nd, no, nw =>
    match EncFault.hits fault e.obj (sel e.obj nd no nw) with
    | some err => ([e], ⟨out, .err (evErr fl err e)⟩)
    | none =>
      let r := match e with
        | .ob _ => replayT fl fault es t out nd (no + 1) nw
        | .data .. => replayT fl fault es t out (nd + 1) no nw
        | .w _ _ b => replayT fl fault es t (out ++ b) nd no (nw + 1)
      (e :: r.1, r.2)

/-- every run of the twin, faulty or not, is `replayT` of the log and the terminal of the fault-free run
from the same loop state: induction on the plan, both sides branch on the same `hits` -/
theorem traceF_replay (hf : HashFns H) [BEq H] (fl : Flavour) (validate : Bool) (data : List UInt8)
    (ob : Store H) (fault : Option EncFault) (plan : List Chunk) :
    ∀ (stack : List H) (out : List UInt8) (nd no nw : Nat),
    encodeLoopFL hf fl validate data ob fault plan stack out nd no nw =
      replayT fl fault (encodeLoopFL hf fl validate data ob none plan stack out nd no nw).1
        (encodeLoopFL hf fl validate data ob none plan stack out nd no nw).2.terminal
        out nd no nw := by
  induction plan with
  | nil => intros; rfl
  | cons c plan ih =>
    intro stack out nd no nw
    cases c with
    | parent node isRoot left right rs =>
      simp only [encodeLoopFL, hits_none]
      rcases ob.load hf fl node with (_ | ⟨l, r⟩) | e | _
      · simp only [replayT, EncEv.obj, sel]
        cases EncFault.hits fault .ob no <;> rfl
      · cases validate with
        | false =>
          simp only [Bool.false_eq_true, if_false, replayT, EncEv.obj, sel]
          cases EncFault.hits fault .ob no with
          | some e => rfl
          | none =>
            simp only []
            cases EncFault.hits fault .w nw with
            | some e => rfl
            | none =>
              simp only []
              rw [ih]
              simp only [List.append_assoc]
        | true =>
          simp only [if_true]
          cases stack with
          | nil =>
            simp only [replayT, EncEv.obj, sel]
            cases EncFault.hits fault .ob no <;> rfl
          | cons expected stack =>
            simp only []
            by_cases hm : (hf.parentCv l r isRoot != expected) = true
            · simp only [if_pos hm, replayT, EncEv.obj, sel]
              cases EncFault.hits fault .ob no <;> rfl
            · simp only [if_neg hm, replayT, EncEv.obj, sel]
              cases EncFault.hits fault .ob no with
              | some e => rfl
              | none =>
                simp only []
                cases EncFault.hits fault .w nw with
                | some e => rfl
                | none =>
                  simp only []
                  rw [ih]
                  simp only [List.append_assoc]
      · simp only [replayT, EncEv.obj, sel]
        cases EncFault.hits fault .ob no <;> rfl
      · simp only [replayT, EncEv.obj, sel]
        cases EncFault.hits fault .ob no <;> rfl
    | leaf start size isRoot rs =>
      simp only [encodeLoopFL, hits_none]
      cases validate with
      | false =>
        simp only [Bool.false_eq_true, if_false]
        cases readExactAt data (toBytes start) size with
        | error e =>
          simp only [replayT, EncEv.obj, sel]
          cases EncFault.hits fault .data nd <;> rfl
        | ok buf =>
          simp only [replayT, EncEv.obj, sel]
          cases EncFault.hits fault .data nd with
          | some e => rfl
          | none =>
            simp only []
            cases EncFault.hits fault .w nw with
            | some e => rfl
            | none =>
              simp only []
              rw [ih]
      | true =>
        simp only [if_true]
        cases stack with
        | nil => rfl
        | cons expected stack =>
          simp only []
          cases readExactAt data (toBytes start) size with
          | error e =>
            simp only [replayT, EncEv.obj, sel]
            cases EncFault.hits fault .data nd <;> rfl
          | ok buf =>
            simp only []
            generalize (if (!Ranges.isAll rs) = true then
              encodeSelectedRec hf recFuel start buf isRoot rs ob.tree.bs true
              else (hashSubtree hf start buf isRoot, buf)) = p
            by_cases hm : (p.1 != expected) = true
            · simp only [if_pos hm, replayT, EncEv.obj, sel]
              cases EncFault.hits fault .data nd <;> rfl
            · simp only [if_neg hm, replayT, EncEv.obj, sel]
              cases EncFault.hits fault .data nd with
              | some e => rfl
              | none =>
                simp only []
                cases EncFault.hits fault .w nw with
                | some e => rfl
                | none =>
                  simp only []
                  rw [ih]

def delta (o : EncObj) (e : EncEv) : Nat := if e.obj = o then 1 else 0

theorem ncalls_cons (o : EncObj) (e : EncEv) (es : List EncEv) :
    ncalls o (e :: es) = delta o e + ncalls o es := rfl

theorem ncalls_append (o : EncObj) (a b : List EncEv) :
    ncalls o (a ++ b) = ncalls o a + ncalls o b := by
  induction a with
  | nil => simp [ncalls]
  | cons e a ih => simp only [List.cons_append, ncalls, ih]; omega

theorem ncalls_eq_count (o : EncObj) (es : List EncEv) :
    ncalls o es = (es.map EncEv.obj).count o := by
  induction es with
  | nil => rfl
  | cons e es ih =>
    simp only [ncalls, List.map_cons, List.count_cons, ih, beq_iff_eq]
    omega

def isOn (o : EncObj) (e : EncEv) : Bool := e.obj == o

theorem isOn_iff {o : EncObj} {e : EncEv} : isOn o e = true ↔ e.obj = o := beq_iff_eq

theorem ncalls_eq_countP (o : EncObj) (es : List EncEv) : ncalls o es = es.countP (isOn o) := by
  rw [ncalls_eq_count, count_map]
  rfl

theorem outOf_append (a b : List EncEv) : outOf (a ++ b) = outOf a ++ outOf b := by
  induction a with
  | nil => rfl
  | cons e a ih => simp only [List.cons_append, outOf, ih, List.append_assoc]

theorem replayT_cons (fl : Flavour) (fault : Option EncFault) (e : EncEv) (es : List EncEv)
    (t : EncEnd) (out : List UInt8) (nd no nw : Nat) :
    replayT fl fault (e :: es) t out nd no nw =
      match EncFault.hits fault e.obj (sel e.obj nd no nw) with
      | some err => ([e], ⟨out, .err (evErr fl err e)⟩)
      | none =>
        (e :: (replayT fl fault es t (out ++ e.bytes) (nd + delta .data e) (no + delta .ob e)
            (nw + delta .w e)).1,
          (replayT fl fault es t (out ++ e.bytes) (nd + delta .data e) (no + delta .ob e)
            (nw + delta .w e)).2) := by
  cases e <;> simp [replayT, EncEv.bytes, delta, EncEv.obj]

theorem sel_bump (o : EncObj) (e : EncEv) (nd no nw : Nat) :
    sel o (nd + delta .data e) (no + delta .ob e) (nw + delta .w e) = sel o nd no nw + delta o e := by
  cases o <;> rfl

theorem replayT_none (fl : Flavour) (es : List EncEv) (t : EncEnd) :
    ∀ (out : List UInt8) (nd no nw : Nat),
    replayT fl none es t out nd no nw = (es, ⟨out ++ outOf es, t⟩) := by
  induction es with
  | nil => intros; simp [replayT, outOf]
  | cons e es ih =>
    intro out nd no nw
    rw [replayT_cons, hits_none]
    simp only [ih, outOf, List.append_assoc]

theorem replayT_past (fl : Flavour) (o : EncObj) (k : Nat) (kind : IoKind) (es : List EncEv)
    (t : EncEnd) :
    ∀ (out : List UInt8) (nd no nw : Nat), k < sel o nd no nw →
    replayT fl (some ⟨o, k, kind⟩) es t out nd no nw = (es, ⟨out ++ outOf es, t⟩) := by
  induction es with
  | nil => intros; simp [replayT, outOf]
  | cons e es ih =>
    intro out nd no nw h
    rw [replayT_cons, hits_some]
    have : ¬ (o = e.obj ∧ k = sel e.obj nd no nw) := by
      rintro ⟨rfl, rfl⟩; omega
    rw [if_neg this]
    simp only []
    rw [ih _ _ _ _ (by rw [sel_bump]; omega)]
    simp only [outOf, List.append_assoc]

theorem replayT_some (fl : Flavour) (o : EncObj) (k : Nat) (kind : IoKind) (es : List EncEv)
    (t : EncEnd) :
    ∀ (out : List UInt8) (nd no nw j : Nat), k = sel o nd no nw + j →
    replayT fl (some ⟨o, k, kind⟩) es t out nd no nw =
      match splitNth (isOn o) j es with
      | some (pre, e, _) => (pre ++ [e], ⟨out ++ outOf pre, .err (evErr fl ⟨kind, true⟩ e)⟩)
      | none => (es, ⟨out ++ outOf es, t⟩) := by
  induction es with
  | nil => intros; simp [replayT, outOf, splitNth]
  | cons e es ih =>
    intro out nd no nw j h
    rw [replayT_cons, hits_some]
    by_cases he : e.obj = o
    · have hq : isOn o e = true := isOn_iff.mpr he
      have hd : delta o e = 1 := if_pos he
      subst he
      cases j with
      | zero =>
        rw [if_pos ⟨rfl, by omega⟩, splitNth_cons_zero hq]
        simp [outOf]
      | succ j =>
        rw [if_neg (by omega), splitNth_cons_succ hq,
          ih _ _ _ _ j (by rw [sel_bump, hd]; omega)]
        cases splitNth (isOn e.obj) j es <;> simp [outOf]
    · have hq : isOn o e = false := by rw [isOn]; exact beq_false_of_ne he
      have hd : delta o e = 0 := if_neg he
      rw [if_neg (fun h => he h.1.symm), splitNth_cons_neg hq,
        ih _ _ _ _ j (by rw [sel_bump, hd]; omega)]
      cases splitNth (isOn o) j es <;> simp [outOf]

theorem loopF_none_validated (hf : HashFns H) [BEq H] (fl : Flavour) (data : List UInt8)
    (ob : Store H) (plan : List Chunk) :
    ∀ (stack : List H) (out : List UInt8) (nd no nw : Nat),
    encodeLoopF hf fl true data ob none plan stack out nd no nw =
      encodeValidatedLoop hf fl data ob plan stack out := by
  intro stack out nd no nw
  fun_induction encodeValidatedLoop hf fl data ob plan stack out generalizing nd no nw <;>
    simp_all +zetaDelta [encodeLoopF, hits_none]

theorem loopF_none_plain (hf : HashFns H) [BEq H] (fl : Flavour) (data : List UInt8)
    (ob : Store H) (plan : List Chunk) :
    ∀ (stack : List H) (out : List UInt8) (nd no nw : Nat),
    encodeLoopF hf fl false data ob none plan stack out nd no nw =
      encodePlainLoop hf fl data ob plan out := by
  intro stack out nd no nw
  fun_induction encodePlainLoop hf fl data ob plan out generalizing stack nd no nw <;>
    simp_all +zetaDelta [encodeLoopF, hits_none, apply_ite Prod.snd]

/-- `encodeRangesF` with its call log -/
def encRunL (hf : HashFns H) [BEq H] (fl : Flavour) (validate : Bool) (data : List UInt8)
    (ob : Store H) (ranges : Ranges) (fault : Option EncFault) : List EncEv × EncRun :=
  if validate && fl == .sync && ranges.isEmpty then ([], ⟨[], .ok⟩)
  else
    let ranges := Ranges.truncate ranges ob.tree.size
    match ob.tree.prePartialChunks ranges 0 with
    | none => ([], ⟨[], .panic⟩)
    | some plan => encodeLoopFL hf fl validate data ob fault plan [ob.root] [] 0 0 0

def encEvents (hf : HashFns H) [BEq H] (fl : Flavour) (validate : Bool) (data : List UInt8)
    (ob : Store H) (ranges : Ranges) : List EncEv :=
  (encRunL hf fl validate data ob ranges none).1

def encEventsF (hf : HashFns H) [BEq H] (fl : Flavour) (validate : Bool) (data : List UInt8)
    (ob : Store H) (ranges : Ranges) (fault : Option EncFault) : List EncEv :=
  (encRunL hf fl validate data ob ranges fault).1

def encLog (hf : HashFns H) [BEq H] (fl : Flavour) (validate : Bool) (data : List UInt8)
    (ob : Store H) (ranges : Ranges) : List EncObj :=
  (encEvents hf fl validate data ob ranges).map EncEv.obj

theorem encRunL_run (hf : HashFns H) [BEq H] (fl : Flavour) (validate : Bool) (data : List UInt8)
    (ob : Store H) (q : Ranges) (fault : Option EncFault) :
    (encRunL hf fl validate data ob q fault).2 = encodeRangesF hf fl validate data ob q fault := by
  unfold encRunL encodeRangesF
  by_cases h : (validate && fl == .sync && q.isEmpty) = true
  · simp only [if_pos h]
  · simp only [if_neg h]
    cases ob.tree.prePartialChunks (Ranges.truncate q ob.tree.size) 0 with
    | none => rfl
    | some plan => exact traceF_run ..

theorem encRunL_replay (hf : HashFns H) [BEq H] (fl : Flavour) (validate : Bool)
    (data : List UInt8) (ob : Store H) (q : Ranges) (fault : Option EncFault) :
    encRunL hf fl validate data ob q fault =
      replayT fl fault (encEvents hf fl validate data ob q)
        (encodeRangesF hf fl validate data ob q none).terminal [] 0 0 0 := by
  rw [← encRunL_run]
  unfold encEvents encRunL
  by_cases h : (validate && fl == .sync && q.isEmpty) = true
  · simp only [if_pos h]; rfl
  · simp only [if_neg h]
    cases ob.tree.prePartialChunks (Ranges.truncate q ob.tree.size) 0 with
    | none => rfl
    | some plan => exact traceF_replay ..

/-- a log consists of `load node; write parent node` and `read start; write leaf start` pairs,
possibly ending with a lone `load` / `read` (a call that failed, a mismatch or a panic after it) -/
def paired : List EncEv → Bool
  | [] => true
  | [.ob _] => true
  | [.data ..] => true
  | .ob n :: .w p l _ :: es => p && n == l && paired es
  | .data s _ :: .w p l _ :: es => !p && s == l && paired es
  | _ => false

theorem traceF_paired (hf : HashFns H) [BEq H] (fl : Flavour) (validate : Bool) (data : List UInt8)
    (ob : Store H) (fault : Option EncFault) (plan : List Chunk) :
    ∀ (stack : List H) (out : List UInt8) (nd no nw : Nat),
    paired (encodeLoopFL hf fl validate data ob fault plan stack out nd no nw).1 = true := by
  induction plan with
  | nil => intros; rfl
  | cons c plan ih =>
    intro stack out nd no nw
    cases c with
    | parent node isRoot left right rs =>
      simp only [encodeLoopFL]
      cases EncFault.hits fault .ob no with
      | some e => rfl
      | none =>
        rcases ob.load hf fl node with (_ | ⟨l, r⟩) | e | _
        · rfl
        · cases validate with
          | false =>
            simp only [Bool.false_eq_true, if_false]
            cases EncFault.hits fault .w nw with
            | some e => simp [paired]
            | none => simp [paired, ih]
          | true =>
            simp only [if_true]
            cases stack with
            | nil => rfl
            | cons expected stack =>
              simp only []
              by_cases hm : (hf.parentCv l r isRoot != expected) = true
              · simp only [if_pos hm]; rfl
              · simp only [if_neg hm]
                cases EncFault.hits fault .w nw with
                | some e => simp [paired]
                | none => simp [paired, ih]
        · rfl
        · rfl
    | leaf start size isRoot rs =>
      simp only [encodeLoopFL]
      cases validate with
      | false =>
        simp only [Bool.false_eq_true, if_false]
        cases EncFault.hits fault .data nd with
        | some e => rfl
        | none =>
          cases readExactAt data (toBytes start) size with
          | error e => rfl
          | ok buf =>
            simp only []
            cases EncFault.hits fault .w nw with
            | some e => simp [paired]
            | none => simp [paired, ih]
      | true =>
        simp only [if_true]
        cases stack with
        | nil => rfl
        | cons expected stack =>
          simp only []
          cases EncFault.hits fault .data nd with
          | some e => rfl
          | none =>
            cases readExactAt data (toBytes start) size with
            | error e => rfl
            | ok buf =>
              simp only []
              generalize (if (!Ranges.isAll rs) = true then
                encodeSelectedRec hf recFuel start buf isRoot rs ob.tree.bs true
                else (hashSubtree hf start buf isRoot, buf)) = p
              by_cases hm : (p.1 != expected) = true
              · simp only [if_pos hm]; rfl
              · simp only [if_neg hm]
                cases EncFault.hits fault .w nw with
                | some e => simp [paired]
                | none => simp [paired, ih]

theorem encRunL_paired (hf : HashFns H) [BEq H] (fl : Flavour) (validate : Bool)
    (data : List UInt8) (ob : Store H) (q : Ranges) (fault : Option EncFault) :
    paired (encRunL hf fl validate data ob q fault).1 = true := by
  unfold encRunL
  by_cases h : (validate && fl == .sync && q.isEmpty) = true
  · simp only [if_pos h]; rfl
  · simp only [if_neg h]
    cases ob.tree.prePartialChunks (Ranges.truncate q ob.tree.size) 0 with
    | none => rfl
    | some plan => exact traceF_paired ..

theorem paired_before_w : ∀ {pre : List EncEv} {p : Bool} {l : Nat} {b : List UInt8}
    {post : List EncEv}, paired (pre ++ .w p l b :: post) = true →
    ∃ pre', (p = true ∧ pre = pre' ++ [.ob l]) ∨ (p = false ∧ ∃ size, pre = pre' ++ [.data l size])
  | [], p, l, b, post, h => by simp [paired] at h
  | [.ob n], p, l, b, post, h => by
    simp only [List.cons_append, List.nil_append, paired, Bool.and_eq_true, beq_iff_eq] at h
    exact ⟨[], Or.inl ⟨h.1.1, by rw [h.1.2]; rfl⟩⟩
  | [.data s z], p, l, b, post, h => by
    simp only [List.cons_append, List.nil_append, paired, Bool.and_eq_true, beq_iff_eq,
      Bool.not_eq_eq_eq_not, Bool.not_true] at h
    exact ⟨[], Or.inr ⟨h.1.1, z, by rw [h.1.2]; rfl⟩⟩
  | [.w ..], p, l, b, post, h => by simp [paired] at h
  | .ob n :: .w p' l' b' :: pre, p, l, b, post, h => by
    simp only [List.cons_append, paired, Bool.and_eq_true] at h
    obtain ⟨pre', hp⟩ := paired_before_w h.2
    refine ⟨.ob n :: .w p' l' b' :: pre', ?_⟩
    rcases hp with ⟨h1, h2⟩ | ⟨h1, z, h2⟩
    · exact Or.inl ⟨h1, by rw [h2]; rfl⟩
    · exact Or.inr ⟨h1, z, by rw [h2]; rfl⟩
  | .data s z :: .w p' l' b' :: pre, p, l, b, post, h => by
    simp only [List.cons_append, paired, Bool.and_eq_true] at h
    obtain ⟨pre', hp⟩ := paired_before_w h.2
    refine ⟨.data s z :: .w p' l' b' :: pre', ?_⟩
    rcases hp with ⟨h1, h2⟩ | ⟨h1, z', h2⟩
    · exact Or.inl ⟨h1, by rw [h2]; rfl⟩
    · exact Or.inr ⟨h1, z', by rw [h2]; rfl⟩
  | .ob _ :: .ob _ :: pre, p, l, b, post, h => by simp [paired] at h
  | .ob _ :: .data .. :: pre, p, l, b, post, h => by simp [paired] at h
  | .data .. :: .ob _ :: pre, p, l, b, post, h => by simp [paired] at h
  | .data .. :: .data .. :: pre, p, l, b, post, h => by simp [paired] at h
  | .w .. :: _ :: pre, p, l, b, post, h => by simp [paired] at h

theorem sel_zero (o : EncObj) : sel o 0 0 0 = 0 := by cases o <;> rfl

theorem encRunL_none (hf : HashFns H) [BEq H] (fl : Flavour) (validate : Bool)
    (data : List UInt8) (ob : Store H) (q : Ranges) :
    encRunL hf fl validate data ob q none =
      (encEvents hf fl validate data ob q,
        ⟨outOf (encEvents hf fl validate data ob q),
          (encodeRangesF hf fl validate data ob q none).terminal⟩) := by
  rw [encRunL_replay, replayT_none, List.nil_append]

theorem encRunL_some (hf : HashFns H) [BEq H] (fl : Flavour) (validate : Bool)
    (data : List UInt8) (ob : Store H) (q : Ranges) (obj : EncObj) (k : Nat) (kind : IoKind) :
    encRunL hf fl validate data ob q (some ⟨obj, k, kind⟩) =
      match splitNth (isOn obj) k (encEvents hf fl validate data ob q) with
      | some (pre, e, _) => (pre ++ [e], ⟨outOf pre, .err (evErr fl ⟨kind, true⟩ e)⟩)
      | none => encRunL hf fl validate data ob q none := by
  rw [encRunL_replay, replayT_some _ _ _ _ _ _ _ _ _ _ k (by rw [sel_zero, Nat.zero_add]),
    encRunL_none]
  simp only [List.nil_append]

theorem evErr_cases (fl : Flavour) (err : IoErr) (e : EncEv) :
    evErr fl err e = .io err ∨ (∃ n, evErr fl err e = .parentWrite n) ∨
      (∃ n, evErr fl err e = .leafWrite n) := by
  cases e with
  | ob n => exact Or.inl rfl
  | data s z => exact Or.inl rfl
  | w p l b =>
    cases fl with
    | sync => exact Or.inl rfl
    | fsm =>
      cases p with
      | true =>
        simp only [evErr, writeErr, EncodeError.maybeParentWrite, if_true]
        split
        · exact Or.inr (Or.inl ⟨_, rfl⟩)
        · exact Or.inl rfl
      | false =>
        simp only [evErr, writeErr, EncodeError.maybeLeafWrite, Bool.false_eq_true, if_false]
        split
        · exact Or.inr (Or.inr ⟨_, rfl⟩)
        · exact Or.inl rfl

theorem evErr_not_w (fl : Flavour) (err : IoErr) {e : EncEv} (h : e.obj ≠ .w) :
    evErr fl err e = .io err := by
  cases e with
  | ob n => rfl
  | data s z => rfl
  | w p l b => exact absurd rfl h

theorem beq_kind (a b : IoKind) : (a == b) = decide (a = b) := by
  cases a <;> cases b <;> rfl

theorem writeErr_fsm_reset (e : IoErr) (n : Nat) (h : e.kind = .connectionReset) :
    writeErr .fsm e true n = .parentWrite n ∧ writeErr .fsm e false n = .leafWrite n := by
  simp [writeErr, EncodeError.maybeParentWrite, EncodeError.maybeLeafWrite, beq_kind, h]

theorem writeErr_fsm_other (e : IoErr) (p : Bool) (n : Nat) (h : e.kind ≠ .connectionReset) :
    writeErr .fsm e p n = .io e := by
  cases p <;> simp [writeErr, EncodeError.maybeParentWrite, EncodeError.maybeLeafWrite, beq_kind, h]

/-! ## two runs, evaluated together

The validating fsm encoder on the test vector of `CallSplit` (`zeroHash`, `ones`, `zeroOb`), query
`[0]`: the fault-free run `r` and the run `r'` whose second write fails with a connection reset -
the runs the examples of `Props/C10Enc.lean` speak about.  Evaluated in one statement, so that what
the runs share (the reads, the leaf data) is evaluated once; stated for any `r` equal to the run, so
that it applies to the run however its arguments are spelt. -/

theorem enc_runs (r r' : List EncEv × EncRun)
    (h : r = encRunL zeroHash .fsm true ones zeroOb [0] none)
    (h' : r' = encRunL zeroHash .fsm true ones zeroOb [0] (some ⟨.w, 1, .connectionReset⟩)) :
    r.1 = [.ob 0, .w true 0 (List.replicate 64 7), .data 0 1024, .w false 0 (List.replicate 1024 1),
      .data 1 476, .w false 1 (List.replicate 476 1)] ∧
    r.2.terminal = .ok ∧ r.2.out.length = 1564 ∧
    r'.2 = ⟨List.replicate 64 7, .err (.leafWrite 0)⟩ ∧
    r'.1.map EncEv.obj = [.ob, .w, .data, .w] := by
  rw [h, h']
  decide +kernel

end Bao.EncFaultL
