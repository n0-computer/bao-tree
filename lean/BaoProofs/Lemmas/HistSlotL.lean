import BaoProofs.Lemmas.HistLogL
import BaoProofs.Lemmas.ValidL

/-!
# The slots of the ancestors of delivered chunks hold true pairs; a complete history leaves the
specification outboard in the store (C07)

* `Holds hf d ob x` – the slot of node `x` in the store `ob` exists, lies inside the backing and
  holds `Spec.pairBytes hf d x`;
* `Table hf d bs kind P` – `P` lists the persisted nodes of `⟨d.length, bs⟩` in the order of the
  store kind: `P[i]` has slot `i`, every existing node of level `≥ bs` is in `P` and conversely
  (`table_pre`, `table_post`);
* `save_holds` – a successful save of the true pair of a persisted node makes its slot hold, and
  keeps every other holding slot;
* `evs_holds` – applying a labelled list of completed calls: the slot of every node saved in the
  list holds at the end, and the backing never grows beyond the outboard size;
* `data_eq_of_holds` – all slots hold and the backing is not longer than the outboard: the backing
  IS the outboard.
-/

namespace Bao.C07L
open Bao Bao.Spec Bao.C01 Bao.C07 Bao.Bits Bao.WriteAtL
open Bao.FaultL (Ev applyEv applyEvs saveOrKeep)

variable {H : Type}

def Holds (hf : HashFns H) (d : List UInt8) (ob : Store H) (x : Nat) : Prop :=
  ∃ i, ob.slot x = some i ∧ i * 64 + 64 ≤ ob.data.length ∧
    blockAt ob.data i = Spec.pairBytes hf d x

structure Table (H : Type) (d : List UInt8) (bs : Nat) (kind : StoreKind) (P : List Nat) : Prop where
  nonempty : kind ≠ .empty
  slot : ∀ (ob : Store H), ob.kind = kind → ob.tree = ⟨d.length, bs⟩ →
    ∀ i (h : i < P.length), ob.slot P[i] = some i
  mem : ∀ k L, bs ≤ L → midOf k L < nChunks d.length → nodeOf k L ∈ P
  coords : ∀ x ∈ P, ∃ k L, x = nodeOf k L ∧ L < 64 ∧ bs ≤ L ∧ midOf k L < nChunks d.length
  len : P.length = Tree.blocks ⟨d.length, bs⟩ - 1

variable {hf : HashFns H} {d : List UInt8} {bs : Nat}

theorem persistedPre_coords (hd : d.length ≤ 2 ^ 63) {x : Nat}
    (hx : x ∈ persistedPre d.length bs) :
    ∃ k L, x = nodeOf k L ∧ L < 64 ∧ bs ≤ L ∧ midOf k L < nChunks d.length := by
  obtain ⟨k, L, rfl, hb, hL, hm⟩ := OutboardL.persisted_coords hd
    ((OutboardL.persistedPost_perm d.length bs hd).mem_iff.2 hx)
  exact ⟨k, L, rfl, Nat.lt_trans hL (by decide), hb, (Offsets.lt_nChunks_iff _ _
    (Nat.lt_of_le_of_lt (Nat.zero_le _) (startOf_lt_midOf k L))).2 hm⟩

theorem table_pre (hd : d.length ≤ 2 ^ 63) (hbs : bs ≤ 10) {kind : StoreKind}
    (hk : kind = .preIo ∨ kind = .preMem) : Table H d bs kind (persistedPre d.length bs) := by
  refine ⟨OutboardL.ne_empty_of_or hk, ?_, ?_, fun x hx => persistedPre_coords hd hx,
    (C12.pre d.length bs hd hbs).1⟩
  · intro ob hkind htree i hi
    rw [OutboardL.slot_pre (by rw [hkind]; exact hk), htree]
    exact (C12.pre d.length bs hd hbs).2 i hi
  · intro k L hL hm
    exact ValidL.mem_persistedPre d.length bs k L hd hL hm

theorem table_post (hd : d.length ≤ 2 ^ 63) (hbs : bs ≤ 10) {kind : StoreKind}
    (hk : kind = .postIo ∨ kind = .postMem) : Table H d bs kind (persistedPost d.length bs) := by
  have hperm := OutboardL.persistedPost_perm d.length bs hd
  refine ⟨OutboardL.ne_empty_of_or hk, ?_, ?_,
    fun x hx => persistedPre_coords hd (hperm.mem_iff.1 hx), (C12.post d.length bs hd hbs).1⟩
  · intro ob hkind htree i hi
    rw [OutboardL.slot_post (by rw [hkind]; exact hk), htree]
    exact (C12.post d.length bs hd hbs).2 i hi
  · intro k L hL hm
    exact hperm.mem_iff.2 (ValidL.mem_persistedPre d.length bs k L hd hL hm)

theorem table_exists (hd : d.length ≤ 2 ^ 63) (hbs : bs ≤ 10) {kind : StoreKind}
    (hk : kind ≠ .empty) : ∃ P, Table H d bs kind P ∧
      ((kind = .preIo ∨ kind = .preMem) → P = persistedPre d.length bs) ∧
      ((kind = .postIo ∨ kind = .postMem) → P = persistedPost d.length bs) := by
  cases kind with
  | empty => exact absurd rfl hk
  | preIo => exact ⟨_, table_pre hd hbs (.inl rfl), fun _ => rfl, fun h => by simp at h⟩
  | preMem => exact ⟨_, table_pre hd hbs (.inr rfl), fun _ => rfl, fun h => by simp at h⟩
  | postIo => exact ⟨_, table_post hd hbs (.inl rfl), fun h => by simp at h, fun _ => rfl⟩
  | postMem => exact ⟨_, table_post hd hbs (.inr rfl), fun h => by simp at h, fun _ => rfl⟩

theorem save_ok_data {ob ob' : Store H} (hk : ob.kind ≠ .empty) {x j : Nat} {p : H × H}
    (hsl : ob.slot x = some j) (h : ob.save hf x p = .ok ob') :
    ob' = { ob with data := writeAt ob.data (j * 64) (hf.toBytes p.1 ++ hf.toBytes p.2) } := by
  unfold Store.save at h
  cases hkd : ob.kind with
  | empty => exact absurd hkd hk
  | preIo | postIo => simp only [hkd, hsl] at h; injection h with h; exact h.symm
  | preMem | postMem =>
    simp only [hkd, hsl] at h
    split at h
    · injection h with h; exact h.symm
    · cases h

theorem slot_congr {ob ob' : Store H} (hk : ob'.kind = ob.kind) (ht : ob'.tree = ob.tree)
    (x : Nat) : ob'.slot x = ob.slot x := by
  unfold Store.slot
  rw [hk, ht]

theorem pairBytes_nodeOf (hf : HashFns H) (d : List UInt8) {k L : Nat} (hL : L < 64) :
    Spec.pairBytes hf d (nodeOf k L)
      = hf.toBytes (Spec.pair hf d k L).1 ++ hf.toBytes (Spec.pair hf d k L).2 := by
  unfold Spec.pairBytes
  rw [indexOf_nodeOf (Nat.le_of_lt hL), levelOf_nodeOf (Nat.le_of_lt hL)]

theorem Table.index {kind : StoreKind} {P : List Nat} (T : Table H d bs kind P) {ob : Store H}
    (hkind : ob.kind = kind) (htree : ob.tree = ⟨d.length, bs⟩) {x : Nat} (hx : x ∈ P) :
    ∃ j, ∃ h : j < P.length, P[j] = x ∧ ob.slot x = some j := by
  obtain ⟨j, hj, rfl⟩ := List.getElem_of_mem hx
  exact ⟨j, hj, rfl, T.slot ob hkind htree j hj⟩

theorem save_holds (hlen : ∀ h, (hf.toBytes h).length = 32) {kind : StoreKind} {P : List Nat}
    (T : Table H d bs kind P) {ob ob' : Store H} (hkind : ob.kind = kind)
    (htree : ob.tree = ⟨d.length, bs⟩) {k L : Nat} (hL : L < 64) (hb : bs ≤ L)
    (hm : midOf k L < nChunks d.length)
    (hs : ob.save hf (nodeOf k L) (Spec.pair hf d k L) = .ok ob') :
    Holds hf d ob' (nodeOf k L) ∧ (∀ x ∈ P, Holds hf d ob x → Holds hf d ob' x) ∧
      ob'.data.length ≤ max ob.data.length (P.length * 64) := by
  obtain ⟨j, hj, hPj, hsl⟩ := T.index hkind htree (T.mem k L hb hm)
  have hne : ob.kind ≠ .empty := by rw [hkind]; exact T.nonempty
  have e := save_ok_data hne hsl hs
  have hb64 := OutboardL.pair_bytes_length hf hlen (Spec.pair hf d k L)
  have hk' : ob'.kind = ob.kind := by rw [e]
  have ht' : ob'.tree = ob.tree := by rw [e]
  have hd' : ob'.data = writeAt ob.data (j * 64)
      (hf.toBytes (Spec.pair hf d k L).1 ++ hf.toBytes (Spec.pair hf d k L).2) := by rw [e]
  have hl' : ob'.data.length = max ob.data.length (j * 64 + 64) := by
    rw [hd', length_writeAt, hb64]
  refine ⟨⟨j, by rw [slot_congr hk' ht', hsl], hl' ▸ Nat.le_max_right _ _, ?_⟩, ?_,
    hl' ▸ Nat.max_le.2 ⟨Nat.le_max_left _ _,
      Nat.le_trans (slot_add_le hj (Nat.le_refl _)) (Nat.le_max_right _ _)⟩⟩
  · rw [hd', blockAt_writeAt_self _ _ _ hb64, pairBytes_nodeOf hf d hL]
  · intro x hx ⟨i, hi1, hi2, hi3⟩
    refine ⟨i, by rw [slot_congr hk' ht', hi1], hl' ▸ Nat.le_trans hi2 (Nat.le_max_left _ _), ?_⟩
    by_cases hij : i = j
    · subst hij
      obtain ⟨i', hi', hPi', hsl'⟩ := T.index hkind htree hx
      rw [hi1] at hsl'
      injection hsl' with hsl'
      subst hsl'
      have : x = nodeOf k L := by rw [← hPi', hPj]
      rw [this, hd', blockAt_writeAt_self _ _ _ hb64, pairBytes_nodeOf hf d hL]
    · rw [hd', blockAt_writeAt_ne _ _ _ _ hb64 hij hi2, hi3]

/-- the slots of the nodes saved in `pre` hold -/
def HInv (hf : HashFns H) (d : List UInt8) (bs : Nat) (pre : List (Ev H)) (ob : Store H) : Prop :=
  ∀ k L, L < 64 → bs ≤ L → midOf k L < nChunks d.length → sEv hf d k L ∈ pre →
    Holds hf d ob (nodeOf k L)

theorem evs_holds (hlen : ∀ h, (hf.toBytes h).length = 32) {kind : StoreKind} {P : List Nat}
    (T : Table H d bs kind P) :
    ∀ (es : List (Ev H)) (sink : Sink H) (pre : List (Ev H)), sink.ob.kind = kind →
      sink.ob.tree = ⟨d.length, bs⟩ → EvsOk hf sink es → Trace (EG hf d bs) pre es →
      HInv hf d bs pre sink.ob →
      HInv hf d bs (es.reverse ++ pre) (applyEvs hf sink es).ob ∧
      (applyEvs hf sink es).ob.data.length ≤ max sink.ob.data.length (P.length * 64) := by
  intro es
  induction es with
  | nil => intro sink pre _ _ _ _ h; exact ⟨h, Nat.le_max_left _ _⟩
  | cons e es ih =>
    intro sink pre hkind htree hok htr hinv
    rw [FaultL.applyEvs_cons]
    cases e with
    | write off data =>
      have := ih (applyEv hf sink (.write off data)) (.write off data :: pre) hkind htree hok.2
        htr.2 (by
          intro k L h1 h2 h3 hmem
          rcases List.mem_cons.1 hmem with he | hmem
          · simp [sEv] at he
          · exact hinv k L h1 h2 h3 hmem)
      have hob : (applyEv hf sink (.write off data)).ob = sink.ob := rfl
      rw [hob] at this
      simpa only [List.reverse_cons, List.append_assoc, List.cons_append, List.nil_append]
        using this
    | save node l r =>
      obtain ⟨⟨ob', hs⟩, hok'⟩ := hok
      obtain ⟨⟨k, L, hL, hb, hm, hx⟩, htr'⟩ := htr
      simp only [sEv, Ev.save.injEq] at hx
      obtain ⟨rfl, rfl, rfl⟩ := hx
      have hs' : sink.ob.save hf (nodeOf k L) (Spec.pair hf d k L) = .ok ob' := by
        rw [← Prod.eta (Spec.pair hf d k L)]; exact hs
      obtain ⟨h1, h2, h3⟩ := save_holds hlen T hkind htree hL hb hm hs'
      obtain ⟨r1, r2, r3⟩ := save_root hf sink.ob ob' _ _ hs
      rw [applyEv_save_ok hs] at hok' ⊢
      have := ih { sink with ob := ob' } (sEv hf d k L :: pre) (r3.trans hkind) (r2.trans htree)
        hok' htr' (by
          intro k' L' g1 g2 g3 hmem
          rcases List.mem_cons.1 hmem with he | hmem
          · simp only [sEv, Ev.save.injEq] at he
            obtain ⟨rfl, rfl⟩ := C18.nodeOf_inj he.1
            exact h1
          · exact h2 _ (T.mem k' L' g2 g3) (hinv k' L' g1 g2 g3 hmem))
      refine ⟨?_, Nat.le_trans this.2 (Nat.max_le.2 ⟨h3, Nat.le_max_right _ _⟩)⟩
      have h := this.1
      simpa only [List.reverse_cons, List.append_assoc, List.cons_append, List.nil_append, sEv]
        using h

theorem data_eq_of_holds (hlen : ∀ h, (hf.toBytes h).length = 32) {kind : StoreKind}
    {P : List Nat} (T : Table H d bs kind P) {ob : Store H} (hkind : ob.kind = kind)
    (htree : ob.tree = ⟨d.length, bs⟩) (hle : ob.data.length ≤ P.length * 64)
    (hall : ∀ x ∈ P, Holds hf d ob x) : ob.data = P.flatMap (Spec.pairBytes hf d) := by
  have h64 : ∀ x ∈ P, (Spec.pairBytes hf d x).length = 64 :=
    fun x _ => OutboardL.pairBytes_length hf hlen d x
  have hblock : ∀ i (h : i < P.length),
      i * 64 + 64 ≤ ob.data.length ∧ blockAt ob.data i = Spec.pairBytes hf d P[i] := by
    intro i hi
    obtain ⟨j, hj1, hj2, hj3⟩ := hall P[i] (List.getElem_mem hi)
    rw [T.slot ob hkind htree i hi] at hj1
    injection hj1 with hj1
    subst hj1
    exact ⟨hj2, hj3⟩
  have hge : P.length * 64 ≤ ob.data.length := by
    cases hP : P.length with
    | zero => exact Nat.le_trans (Nat.le_of_eq (Nat.zero_mul _)) (Nat.zero_le _)
    | succ m => exact Nat.succ_mul m 64 ▸ (hblock m (hP ▸ Nat.lt_succ_self m)).1
  refine ext_blockAt _ _ P.length (Nat.le_antisymm hle hge) (length_flatMap64 _ _ h64) ?_
  intro i hi
  rw [(hblock i hi).2, blockAt_flatMap _ _ h64 i hi]

theorem mem_writes {es : List (Ev H)} {off : Nat} {data : List UInt8} :
    (off, data) ∈ FaultL.writes es ↔ Ev.write off data ∈ es := by
  induction es with
  | nil => simp [FaultL.writes]
  | cons e es ih => cases e <;> simp [FaultL.writes, ih]

theorem mem_saves {es : List (Ev H)} {node : Nat} {l r : H} :
    (node, l, r) ∈ FaultL.saves es ↔ Ev.save node l r ∈ es := by
  induction es with
  | nil => simp [FaultL.saves]
  | cons e es ih => cases e <;> simp [FaultL.saves, ih]

theorem trace_write_split {a b : List (Ev H)} {off : Nat} {data : List UInt8}
    (htr : Trace (EG hf d bs) [] (a ++ Ev.write off data :: b)) :
    ∃ c e, Sub d c e ∧ c < e ∧ off = c * 1024 ∧ data = slice d c e ∧
      ∀ x, c ≤ x → x < e → ∀ L, bs ≤ L → midOf (x / 2 ^ (L + 1)) L < nChunks d.length →
        sEv hf d (x / 2 ^ (L + 1)) L ∈ a := by
  obtain ⟨c, e, h1, h2, h3, h4, h5⟩ := Trace.split a _ b [] htr
  refine ⟨c, e, h1, h2, h3, h4, fun x hx1 hx2 L hb hm => ?_⟩
  have := h5 x hx1 hx2 L hb hm
  rw [List.append_nil, List.mem_reverse] at this
  exact this

theorem trace_write {es : List (Ev H)} (htr : Trace (EG hf d bs) [] es) {off : Nat}
    {data : List UInt8} (hmem : Ev.write off data ∈ es) :
    ∃ c e, Sub d c e ∧ c < e ∧ off = c * 1024 ∧ data = slice d c e ∧
      ∀ x, c ≤ x → x < e → ∀ L, bs ≤ L → midOf (x / 2 ^ (L + 1)) L < nChunks d.length →
        sEv hf d (x / 2 ^ (L + 1)) L ∈ es.reverse := by
  obtain ⟨a, b, rfl⟩ := List.append_of_mem hmem
  obtain ⟨c, e, h1, h2, h3, h4, h5⟩ := trace_write_split htr
  refine ⟨c, e, h1, h2, h3, h4, fun x hx1 hx2 L hb hm => ?_⟩
  rw [List.reverse_append]
  exact List.mem_append_right _ (List.mem_reverse.2 (h5 x hx1 hx2 L hb hm))

theorem trace_save {es : List (Ev H)} (htr : Trace (EG hf d bs) [] es) {node : Nat} {l r : H}
    (hmem : Ev.save node l r ∈ es) :
    ∃ k L, L < 64 ∧ bs ≤ L ∧ midOf k L < nChunks d.length ∧ node = nodeOf k L ∧
      (l, r) = Spec.pair hf d k L := by
  obtain ⟨a, b, rfl⟩ := List.append_of_mem hmem
  obtain ⟨k, L, h1, h2, h3, h4⟩ := Trace.split a _ b [] htr
  simp only [sEv, Ev.save.injEq] at h4
  obtain ⟨rfl, rfl, rfl⟩ := h4
  exact ⟨k, L, h1, h2, h3, rfl, Prod.eta _⟩

section hist
variable [BEq H] [LawfulBEq H]

omit [LawfulBEq H] in
/-- **master invariant of a labelled log** (true geometry, non-empty store kind): the slot of every
node saved in `es` holds its true pair at the end, and the backing has not grown beyond the outboard
size -/
theorem log_master (hlen : ∀ h, (hf.toBytes h).length = 32)
    (hd : d.length ≤ 2 ^ 63) (hbs : bs ≤ 10) (ops : List Op) (sink : Sink H)
    (htree : sink.ob.tree = ⟨d.length, bs⟩) (hk : sink.ob.kind ≠ .empty) {es : List (Ev H)}
    (h1 : run hf ops sink = applyEvs hf sink es) (h2 : EvsOk hf sink es)
    (h3 : Trace (EG hf d bs) [] es) :
    ∃ P : List Nat, Table H d bs sink.ob.kind P ∧
      ((sink.ob.kind = .preIo ∨ sink.ob.kind = .preMem) → P = persistedPre d.length bs) ∧
      ((sink.ob.kind = .postIo ∨ sink.ob.kind = .postMem) → P = persistedPost d.length bs) ∧
      HInv hf d bs es.reverse (run hf ops sink).ob ∧
      (run hf ops sink).ob.data.length ≤ max sink.ob.data.length (P.length * 64) := by
  obtain ⟨P, T, hp1, hp2⟩ := table_exists (H := H) hd hbs hk
  obtain ⟨g1, g2⟩ := evs_holds hlen T es sink [] rfl htree h2 h3
    (fun _ _ _ _ _ h => by cases h)
  rw [List.append_nil, ← h1] at g1
  rw [← h1] at g2
  exact ⟨P, T, hp1, hp2, g1, g2⟩

end hist

def SavesOk (hf : HashFns H) : Store H → List (Nat × H × H) → Prop
  | _, [] => True
  | ob, p :: ps => ∃ ob', ob.save hf p.1 p.2 = .ok ob' ∧ SavesOk hf ob' ps

theorem EvsOk.saves : ∀ (es : List (Ev H)) (sink : Sink H), EvsOk hf sink es →
    SavesOk hf sink.ob (FaultL.saves es) := by
  intro es
  induction es with
  | nil => intro _ _; trivial
  | cons e es ih =>
    intro sink h
    cases e with
    | write off data => exact ih (applyEv hf sink (.write off data)) h.2
    | save node l r =>
      obtain ⟨⟨ob', hs⟩, h2⟩ := h
      rw [applyEv_save_ok hs] at h2
      exact ⟨ob', hs, ih _ h2⟩

theorem trace_trueLeaf {es : List (Ev H)} (htr : Trace (EG hf d bs) [] es) :
    ∀ w ∈ FaultL.writes es, TrueLeaf d w.1 w.2 := by
  intro w hw
  obtain ⟨c, e, hs, -, hoff, hdata, -⟩ := trace_write htr (mem_writes.1 hw)
  exact ⟨c, e, hs, hoff, hdata⟩

theorem evs_target_spec {es : List (Ev H)} (htr : Trace (EG hf d bs) [] es) {sink fin : Sink H}
    (h : fin = applyEvs hf sink es) (htl : sink.target.length = d.length) :
    fin.target.length = d.length ∧
    ∀ i : Nat, (Cov (FaultL.writes es) i → fin.target[i]? = d[i]?) ∧
      (¬ Cov (FaultL.writes es) i → fin.target[i]? = sink.target[i]?) := by
  rw [h, FaultL.applyEvs_target]
  exact applyWrites_spec _ sink.target htl (trace_trueLeaf htr)

theorem cov_chunk {es : List (Ev H)} (htr : Trace (EG hf d bs) [] es) {i : Nat}
    (hc : Cov (FaultL.writes es) i) :
    ∀ L, bs ≤ L → midOf (i / 1024 / 2 ^ (L + 1)) L < nChunks d.length →
      sEv hf d (i / 1024 / 2 ^ (L + 1)) L ∈ es.reverse := by
  obtain ⟨w, hw, h1, h2⟩ := hc
  obtain ⟨c, e, -, hce, hoff, hdata, hanc⟩ := trace_write htr (mem_writes.1 hw)
  have hl : w.2.length ≤ (e - c) * 1024 := by
    rw [hdata, C01.slice_length]
    exact Nat.min_le_left _ _
  rw [hoff] at h1 h2
  have hx1 : c ≤ i / 1024 := by omega
  have hx2 : i / 1024 < e := by omega
  exact hanc _ hx1 hx2

end Bao.C07L
