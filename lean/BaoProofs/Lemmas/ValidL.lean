import BaoProofs.Lemmas.PlanPreCover
import BaoProofs.Lemmas.C01Inv
import BaoProofs.Lemmas.NodeIter

/-!
# The validators (`valid_ranges`, `valid_outboard_ranges`) report exactly the verifiable groups

Everything is phrased in *shifted coordinates*: the shifted node `(k, L)` has shifted id
`nodeOf k L` and real id `nodeOf k (L + bs)`; its chunk range is
`[startOf k (L+bs), endOf k (L+bs))`.  The shifted tree is dense (ids `0 … F-1`,
`F = tree.shifted.2`); a shifted id `≥ F` does not exist and its left child takes its place
(this is what `TreeNode::right_descendant` computes, `NodeIterL.dl`).

* `GroupC L k g`   : `g` is (the chunk range of) a chunk group below `(k, L)`, found by walking
  down from `(k, L)` towards the chunk `g.1`.
* `LinkedC L k owed isRoot g` : `GroupC`, and every persisted node on that walk has a stored pair
  whose parent hash is the hash owed from above, and (with data) the stored bytes of the group
  hash to the half owed to it.  Does not mention the query.
* `ReachC L k rs g` : the query restricted by `split(ranges, node)` along the same walk is non-empty
  at every step.  Does not mention the store contents.
* `validateRec_leaf`, `validateRec_inner`, `rec_induction` : one step of `validate_rec` at an
  existing node in coordinates (`checked`: the load and the parent check), and the induction along
  left child / right descendant; every theorem about a whole run goes through these (`rec_spec`,
  `rec_ok` here, `rec_evals` in `C06LocL`, `rec_end` in `SpecValidL`).
* `rec_spec` : `validate_rec` yields exactly the `g` with `LinkedC ∧ ReachC` (soundness for every
  run, completeness for runs that end without error), strictly increasing.
-/

namespace Bao.ValidL
open Bao Bao.Spec Bao.Bits

variable {H : Type}

/-- stored bytes `[s, e)` of the data file -/
def bytesAt (data : List UInt8) (s e : Nat) : List UInt8 := (data.drop s).take (e - s)

/-- the data check of one group (always true for the outboard-only validator): the stored bytes
`[s, e)`, hashed as the subtree starting at chunk `c`, give `owed` -/
def LeafOk (hf : HashFns H) (data : List UInt8) (wd : Bool) (c s e : Nat) (owed : H)
    (isRoot : Bool) : Prop :=
  wd = true → hashSubtree hf c (bytesAt data s e) isRoot = owed

section defs
variable (hf : HashFns H) (ld : Nat → Res IoErr (Option (H × H))) (data : List UInt8) (wd : Bool)
  (t : Tree) (F : Nat)

/-- a chunk group below `(k, L)` (file header) -/
def GroupC : Nat → Nat → Nat × Nat → Prop
  | 0, k, g =>
    nodeOf k 0 < F ∧
    if toBytes (midOf k t.bs) < t.size then
      if g.1 < midOf k t.bs then g = (startOf k t.bs, midOf k t.bs)
      else g = (midOf k t.bs, chunksOf (min (toBytes (endOf k t.bs)) t.size))
    else g = (startOf k t.bs, chunksOf (min (toBytes (endOf k t.bs)) t.size))
  | L + 1, k, g =>
    if nodeOf k (L + 1) < F then
      if g.1 < midOf k (L + 1 + t.bs) then GroupC L (2 * k) g else GroupC L (2 * k + 1) g
    else GroupC L (2 * k) g

/-- a chunk group below `(k, L)` linked to `owed` (file header) -/
def LinkedC : Nat → Nat → H → Bool → Nat × Nat → Prop
  | 0, k, owed, isRoot, g =>
    nodeOf k 0 < F ∧
    if toBytes (midOf k t.bs) < t.size then
      match ld (nodeOf k t.bs) with
      | .ok (some (lh, rh)) =>
        hf.parentCv lh rh isRoot = owed ∧
        if g.1 < midOf k t.bs then
          g = (startOf k t.bs, midOf k t.bs) ∧
            LeafOk hf data wd (startOf k t.bs) (toBytes (startOf k t.bs)) (toBytes (midOf k t.bs))
              lh false
        else
          g = (midOf k t.bs, chunksOf (min (toBytes (endOf k t.bs)) t.size)) ∧
            LeafOk hf data wd (midOf k t.bs) (toBytes (midOf k t.bs))
              (min (toBytes (endOf k t.bs)) t.size) rh false
      | _ => False
    else
      g = (startOf k t.bs, chunksOf (min (toBytes (endOf k t.bs)) t.size)) ∧
        LeafOk hf data wd (startOf k t.bs) (toBytes (startOf k t.bs))
          (min (toBytes (endOf k t.bs)) t.size) owed isRoot
  | L + 1, k, owed, isRoot, g =>
    if nodeOf k (L + 1) < F then
      match ld (nodeOf k (L + 1 + t.bs)) with
      | .ok (some (lh, rh)) =>
        hf.parentCv lh rh isRoot = owed ∧
        if g.1 < midOf k (L + 1 + t.bs) then LinkedC L (2 * k) lh false g
        else LinkedC L (2 * k + 1) rh false g
      | _ => False
    else LinkedC L (2 * k) owed isRoot g

/-- the query reaches the group (file header) -/
def ReachC : Nat → Nat → Ranges → Nat × Nat → Prop
  | 0, k, rs, g =>
    rs ≠ [] ∧
    (toBytes (midOf k t.bs) < t.size →
      if g.1 < midOf k t.bs then (Ranges.splitNode rs (nodeOf k t.bs)).1 ≠ []
      else (Ranges.splitNode rs (nodeOf k t.bs)).2 ≠ [])
  | L + 1, k, rs, g =>
    if nodeOf k (L + 1) < F then
      rs ≠ [] ∧
      if g.1 < midOf k (L + 1 + t.bs) then
        ReachC L (2 * k) (Ranges.splitNode rs (nodeOf k (L + 1 + t.bs))).1 g
      else ReachC L (2 * k + 1) (Ranges.splitNode rs (nodeOf k (L + 1 + t.bs))).2 g
    else ReachC L (2 * k) rs g

end defs

/-- the run `r` reports exactly the groups with `P` (completely only if it ends without error),
all inside `[lo, hi)`, in strictly increasing order and pairwise disjoint -/
structure RunSpec (r : ValRun) (P : Nat × Nat → Prop) (lo hi : Nat) : Prop where
  sound : ∀ g ∈ r.yields, P g
  complete : r.terminal = .ok → ∀ g, P g → g ∈ r.yields
  bound : ∀ g ∈ r.yields, lo ≤ g.1 ∧ g.1 < hi ∧ g.2 ≤ hi
  sorted : r.yields.Pairwise (fun a b => a.2 ≤ b.1 ∧ a.1 < b.1)

theorem RunSpec.stop {P : Nat × Nat → Prop} {lo hi : Nat} (e : ValEnd) (h : ∀ g, ¬ P g) :
    RunSpec ⟨[], e⟩ P lo hi :=
  ⟨fun _ hg => (by cases hg), fun _ g hp => absurd hp (h g), fun _ hg => (by cases hg),
    List.Pairwise.nil⟩

theorem RunSpec.fail {P : Nat × Nat → Prop} {lo hi : Nat} {e : ValEnd} (h : e ≠ .ok) :
    RunSpec ⟨[], e⟩ P lo hi :=
  ⟨fun _ hg => (by cases hg), fun he => absurd he h, fun _ hg => (by cases hg), List.Pairwise.nil⟩

theorem RunSpec.single {P : Nat × Nat → Prop} {lo hi : Nat} (g₀ : Nat × Nat) (h0 : P g₀)
    (h : ∀ g, P g → g = g₀) (hb : lo ≤ g₀.1 ∧ g₀.1 < hi ∧ g₀.2 ≤ hi) :
    RunSpec ⟨[g₀], .ok⟩ P lo hi :=
  ⟨fun g hg => (by rw [List.mem_singleton.1 hg]; exact h0),
    fun _ g hp => List.mem_singleton.2 (h g hp),
    fun g hg => (by rw [List.mem_singleton.1 hg]; exact hb), List.pairwise_singleton _ _⟩

theorem RunSpec.congr {r : ValRun} {P Q : Nat × Nat → Prop} {lo hi : Nat}
    (h : RunSpec r P lo hi) (hpq : ∀ g, P g ↔ Q g) : RunSpec r Q lo hi :=
  ⟨fun g hg => (hpq g).1 (h.sound g hg), fun he g hq => h.complete he g ((hpq g).2 hq), h.bound,
    h.sorted⟩

theorem andThen_yields (a : ValRun) (b : Unit → ValRun) :
    (a.andThen b).yields = a.yields ++ (if a.terminal = .ok then (b ()).yields else []) := by
  unfold ValRun.andThen
  cases h : a.terminal <;> simp

theorem andThen_terminal (a : ValRun) (b : Unit → ValRun) :
    (a.andThen b).terminal = .ok ↔ a.terminal = .ok ∧ (b ()).terminal = .ok := by
  unfold ValRun.andThen
  cases h : a.terminal <;> simp [h]

theorem RunSpec.andThen {a : ValRun} {b : Unit → ValRun} {P P1 P2 : Nat × Nat → Prop}
    {lo mid hi : Nat} (ha : RunSpec a P1 lo mid) (hb : RunSpec (b ()) P2 mid hi)
    (hlm : lo ≤ mid) (hmh : mid ≤ hi)
    (hP : ∀ g, P g ↔ if g.1 < mid then P1 g else P2 g) : RunSpec (a.andThen b) P lo hi := by
  have hsub : ∀ g ∈ (a.andThen b).yields, g ∈ a.yields ∨ g ∈ (b ()).yields := by
    intro g hg
    rw [andThen_yields, List.mem_append] at hg
    rcases hg with hg | hg
    · exact Or.inl hg
    · split at hg
      · exact Or.inr hg
      · cases hg
  refine ⟨?_, ?_, ?_, ?_⟩
  · intro g hg
    rcases hsub g hg with hg | hg
    · have := ha.bound g hg
      rw [hP, if_pos this.2.1]; exact ha.sound g hg
    · have := hb.bound g hg
      rw [hP, if_neg (by omega)]; exact hb.sound g hg
  · intro he g hp
    obtain ⟨h1, h2⟩ := (andThen_terminal a b).1 he
    rw [andThen_yields, if_pos h1, List.mem_append]
    rw [hP] at hp
    split at hp
    · exact Or.inl (ha.complete h1 g hp)
    · exact Or.inr (hb.complete h2 g hp)
  · intro g hg
    rcases hsub g hg with hg | hg
    · have := ha.bound g hg; omega
    · have := hb.bound g hg; omega
  · rw [andThen_yields, List.pairwise_append]
    refine ⟨ha.sorted, ?_, ?_⟩
    · split
      · exact hb.sorted
      · exact List.Pairwise.nil
    · intro x hx y hy
      have h1 := ha.bound x hx
      split at hy
      · have h2 := hb.bound y hy; omega
      · cases hy

/-- the `yield_range` closure of `validate_rec` -/
def yieldRange [BEq H] (hf : HashFns H) (wd : Bool) (data : List UInt8) (s e : Nat) (h : H)
    (root : Bool) : ValRun :=
  if wd then
    match yieldIfValid hf data s e h root with
    | .error err => ⟨[], .err err⟩
    | .ok ys => ⟨ys, .ok⟩
  else ⟨[(fullChunksOf s, chunksOf e)], .ok⟩

theorem readExactAt_ok {data : List UInt8} {s e : Nat} {tmp : List UInt8}
    (h : readExactAt data s (e - s) = .ok tmp) : tmp = bytesAt data s e := by
  unfold readExactAt at h
  unfold bytesAt
  split at h
  · rename_i h0; cases h; rw [h0]; rfl
  · split at h
    · cases h; rfl
    · cases h

theorem readExactAt_of_le {data : List UInt8} {s e : Nat} (h : e ≤ data.length) :
    readExactAt data s (e - s) = .ok (bytesAt data s e) := by
  unfold readExactAt bytesAt
  split
  · rename_i h0; rw [h0]; rfl
  · rw [if_pos (by omega)]

/-! `chunksOf` (`Tree.chunks`: 0 for the empty blob) counts the chunks a validator reports,
`Spec.nChunks` the chunks that are hashed (1 for the empty blob); they agree for `0 < size`
(`chunksOf_hi_eq`). -/

theorem fullChunksOf_toBytes (c : Nat) : fullChunksOf (toBytes c) = c := by
  unfold fullChunksOf toBytes; omega

theorem chunksOf_toBytes (c : Nat) : chunksOf (toBytes c) = c := by
  rw [Ranges.chunksOf_eq_div]
  unfold toBytes
  omega

theorem le_toBytes_chunksOf (e : Nat) : e ≤ toBytes (chunksOf e) := by
  rw [Ranges.chunksOf_eq_div]
  unfold toBytes
  omega

theorem chunksOf_mono {a b : Nat} (h : a ≤ b) : chunksOf a ≤ chunksOf b := by
  rw [Ranges.chunksOf_eq_div, Ranges.chunksOf_eq_div]
  omega

theorem yieldRange_spec [BEq H] [LawfulBEq H] (hf : HashFns H) (wd : Bool) (data : List UInt8)
    (c e : Nat) (h : H) (root : Bool) {lo hi : Nat} (h1 : lo ≤ c) (h2 : c < hi)
    (h3 : chunksOf e ≤ hi) :
    RunSpec (yieldRange hf wd data (toBytes c) e h root)
      (fun g => g = (c, chunksOf e) ∧ LeafOk hf data wd c (toBytes c) e h root) lo hi := by
  unfold yieldRange
  cases wd with
  | false =>
    simp only [Bool.false_eq_true, if_false, fullChunksOf_toBytes]
    exact RunSpec.single _ ⟨rfl, fun hh => by cases hh⟩ (fun g hg => hg.1) ⟨h1, h2, h3⟩
  | true =>
    simp only [if_true, yieldIfValid]
    cases hr : readExactAt data (toBytes c) (e - toBytes c) with
    | error err => exact RunSpec.fail (by simp)
    | ok tmp =>
      have ht := readExactAt_ok hr
      subst ht
      simp only [fullChunksOf_toBytes]
      by_cases heq : hashSubtree hf c (bytesAt data (toBytes c) e) root = h
      · simp only [heq, beq_self_eq_true, if_true]
        exact RunSpec.single _ ⟨rfl, fun _ => heq⟩ (fun g hg => hg.1) ⟨h1, h2, h3⟩
      · have : (hashSubtree hf c (bytesAt data (toBytes c) e) root == h) = false := by
          simpa using heq
        simp only [this, Bool.false_eq_true, if_false]
        exact RunSpec.stop _ (fun g hg => heq (hg.2 rfl))

theorem yieldRange_ok [BEq H] (hf : HashFns H) (wd : Bool) (data : List UInt8)
    (s e : Nat) (h : H) (root : Bool) (hd : wd = true → e ≤ data.length) :
    (yieldRange hf wd data s e h root).terminal = .ok := by
  unfold yieldRange
  cases wd with
  | false => rfl
  | true =>
    simp only [if_true, yieldIfValid, readExactAt_of_le (hd rfl)]
    by_cases hq : (hashSubtree hf (fullChunksOf s) (bytesAt data s e) root == h) = true
    · simp only [hq, if_true]
    · simp only [hq, Bool.false_eq_true, if_false]

section geo
variable {t : Tree} {F : Nat}

theorem subBs_node (g : PlanPre.Geo t.size t.bs F) {k L : Nat} (h : nodeOf k L < F) :
    Node.subBs (nodeOf k L) t.bs = nodeOf k (L + t.bs) :=
  C18.subBs_spec (g.real_lt h)

theorem lbr3_node (g : PlanPre.Geo t.size t.bs F) {k L : Nat} (h : nodeOf k L < F) :
    t.leafByteRanges3 (nodeOf k (L + t.bs)) =
      (toBytes (startOf k (L + t.bs)), min (toBytes (midOf k (L + t.bs))) t.size,
        min (toBytes (endOf k (L + t.bs))) t.size) := by
  unfold Tree.leafByteRanges3
  rw [C18.chunkRange_spec (g.level_le h), C18.mid_spec]

theorem isRelevant_node (g : PlanPre.Geo t.size t.bs F) {k L : Nat} (h : nodeOf k L < F) :
    t.isRelevant (nodeOf k (L + t.bs)) =
      (decide (0 < L) || decide (toBytes (midOf k (L + t.bs)) < t.size)) := by
  unfold Tree.isRelevant
  simp only [C18.level_nodeOf (g.level_le h), C18.mid_spec]
  by_cases h0 : 0 < L
  · have h1 : ¬ (L + t.bs < t.bs) := by omega
    have h2 : L + t.bs > t.bs := by omega
    simp [h0, h1, h2]
  · have h1 : ¬ (L + t.bs < t.bs) := by omega
    have h2 : ¬ (L + t.bs > t.bs) := by omega
    simp [h0, h1, h2]

theorem chunksOf_hi_le (k M size : Nat) : chunksOf (min (toBytes (endOf k M)) size) ≤ endOf k M := by
  have := chunksOf_mono (Nat.min_le_left (toBytes (endOf k M)) size)
  rwa [chunksOf_toBytes] at this

end geo

section dl
open NodeIterL
variable (hf : HashFns H) (ld : Nat → Res IoErr (Option (H × H))) (data : List UInt8) (wd : Bool)
  (t : Tree) (F : Nat)

omit hf ld data wd t in
theorem eq_at_dl {α : Sort _} (f : Nat → Nat → α)
    (hskip : ∀ L k, ¬ nodeOf k (L + 1) < F → f (L + 1) k = f L (2 * k)) (L k : Nat) :
    f L k = f (dl F L k).2 (dl F L k).1 := by
  induction L generalizing k with
  | zero => rfl
  | succ L ih =>
    by_cases h : nodeOf k (L + 1) < F
    · simp only [dl, if_pos h]
    · simp only [dl, if_neg h]
      rw [← ih, hskip L k h]

theorem GroupC_dl (L k : Nat) :
    GroupC t F L k = GroupC t F (dl F L k).2 (dl F L k).1 :=
  eq_at_dl F (GroupC t F) (fun L k h => by funext g; simp only [GroupC, if_neg h]) L k

theorem LinkedC_dl (L k : Nat) :
    LinkedC hf ld data wd t F L k = LinkedC hf ld data wd t F (dl F L k).2 (dl F L k).1 :=
  eq_at_dl F (LinkedC hf ld data wd t F)
    (fun L k h => by funext owed isRoot g; simp only [LinkedC, if_neg h]) L k

theorem ReachC_dl (L k : Nat) :
    ReachC t F L k = ReachC t F (dl F L k).2 (dl F L k).1 :=
  eq_at_dl F (ReachC t F) (fun L k h => by funext rs g; simp only [ReachC, if_neg h]) L k

theorem dl_start (F bs L k : Nat) :
    startOf (dl F L k).1 ((dl F L k).2 + bs) = startOf k (L + bs) := by
  induction L generalizing k with
  | zero => simp [dl]
  | succ L ih =>
    by_cases h : nodeOf k (L + 1) < F
    · simp [dl, h]
    · simp only [dl, if_neg h]
      rw [ih, PlanPre.child_ls]

theorem dl_end_le (F bs L k : Nat) :
    endOf (dl F L k).1 ((dl F L k).2 + bs) ≤ endOf k (L + bs) := by
  induction L generalizing k with
  | zero => simp [dl]
  | succ L ih =>
    by_cases h : nodeOf k (L + 1) < F
    · simp [dl, h]
    · simp only [dl, if_neg h]
      have := ih (2 * k)
      rw [PlanPre.child_le] at this
      have := midOf_lt_endOf k (L + 1 + bs)
      omega

end dl

section group
variable (hf : HashFns H) (ld : Nat → Res IoErr (Option (H × H))) (data : List UInt8) (wd : Bool)
  (t : Tree) (F : Nat)

theorem LinkedC.group : ∀ (L k : Nat) (owed : H) (isRoot : Bool) (g : Nat × Nat),
    LinkedC hf ld data wd t F L k owed isRoot g → GroupC t F L k g := by
  intro L
  induction L with
  | zero =>
    intro k owed isRoot g h
    simp only [LinkedC] at h
    simp only [GroupC]
    refine ⟨h.1, ?_⟩
    have h := h.2
    split at h
    · rw [if_pos ‹_›]
      split at h
      · have h := h.2
        split at h
        · rw [if_pos ‹_›]; exact h.1
        · rw [if_neg ‹_›]; exact h.1
      · exact h.elim
    · rw [if_neg ‹_›]; exact h.1
  | succ L ih =>
    intro k owed isRoot g h
    simp only [LinkedC] at h
    simp only [GroupC]
    split at h
    · rw [if_pos ‹_›]
      split at h
      · have h := h.2
        split at h
        · rw [if_pos ‹_›]; exact ih _ _ _ _ h
        · rw [if_neg ‹_›]; exact ih _ _ _ _ h
      · exact h.elim
    · rw [if_neg ‹_›]; exact ih _ _ _ _ h

theorem GroupC.range : ∀ (L k : Nat) (g : Nat × Nat), GroupC t F L k g →
    startOf k (L + t.bs) ≤ g.1 ∧ g.1 < endOf k (L + t.bs) ∧ g.2 ≤ endOf k (L + t.bs) := by
  intro L
  induction L with
  | zero =>
    intro k g h
    have hsm := startOf_lt_midOf k t.bs
    have hme := midOf_lt_endOf k t.bs
    have hce := chunksOf_hi_le k t.bs t.size
    simp only [GroupC] at h
    have h := h.2
    simp only [Nat.zero_add]
    split at h
    · split at h
      · rw [h]; simp only; omega
      · rw [h]; simp only; omega
    · rw [h]; simp only; omega
  | succ L ih =>
    intro k g h
    have hsm := startOf_lt_midOf k (L + 1 + t.bs)
    have hme := midOf_lt_endOf k (L + 1 + t.bs)
    simp only [GroupC] at h
    split at h
    · split at h
      · have := ih _ _ h
        rw [PlanPre.child_ls, PlanPre.child_le] at this; omega
      · have := ih _ _ h
        rw [PlanPre.child_rs, PlanPre.child_re] at this; omega
    · have := ih _ _ h
      rw [PlanPre.child_ls, PlanPre.child_le] at this; omega

theorem LinkedC_false_data (data data' : List UInt8) :
    ∀ L k, LinkedC hf ld data false t F L k = LinkedC hf ld data' false t F L k := by
  intro L
  induction L with
  | zero =>
    intro k
    funext owed isRoot g
    simp only [LinkedC, LeafOk, Bool.false_eq_true, false_implies]
  | succ L ih =>
    intro k
    funext owed isRoot g
    simp only [LinkedC, ih]

end group

section reach
open PlanPre
variable {t : Tree} {F : Nat}

theorem chunksOf_min (e size : Nat) :
    chunksOf (min (toBytes e) size) = min e (chunksOf size) := by
  rw [Ranges.chunksOf_eq_div, Ranges.chunksOf_eq_div]
  unfold toBytes
  omega

theorem chunksOf_hi_eq {size : Nat} (hsz : 0 < size) (e : Nat) :
    chunksOf (min (toBytes e) size) = min e (nChunks size) := by
  rw [chunksOf_min, Ranges.chunksOf_eq_div]
  unfold nChunks
  rw [Nat.max_eq_right (by omega)]

/-- for a group below `(k, L)`: the restricted query stays non-empty down to the group iff the
query selects a chunk of the group (`Tight`, `Bounded`: the restricted query has no redundant
boundaries outside the node; "reached → touched" needs them at the chunk-group level) -/
theorem reach_iff_touched_aux (g : Geo t.size t.bs F) (hsz : 0 < t.size) :
    ∀ (L k : Nat) (rs : Ranges) (gr : Nat × Nat), Ranges.WF rs = true →
      Tight rs (startOf k (L + t.bs)) → Bounded t.size rs (endOf k (L + t.bs)) →
      GroupC t F L k gr →
      (ReachC t F L k rs gr ↔
        ∃ c, gr.1 ≤ c ∧ c < gr.2 ∧ Spec.selected t.size rs c = true) := by
  intro L
  induction L with
  | zero =>
    intro k rs gr hwf ht hb hgr
    simp only [Nat.zero_add] at ht hb
    simp only [GroupC] at hgr
    simp only [ReachC]
    obtain ⟨hk, hgr⟩ := hgr
    obtain ⟨g1, g2⟩ := gr
    have hsm := startOf_lt_midOf k t.bs
    have hme := midOf_lt_endOf k t.bs
    have hsN : startOf k t.bs < nChunks t.size := by
      have := g.start_lt_nChunks (k := k) (L := 0) (Nat.lt_of_le_of_lt (startOf_le_nodeOf k 0) hk)
      simpa using this
    by_cases hm : toBytes (midOf k t.bs) < t.size
    · have hmN : midOf k t.bs < nChunks t.size := lt_nChunks_of_toBytes_lt hm
      have hwfs := C14.splitInner_wf (startOf k t.bs) (midOf k t.bs) hwf
      have hsp := splitNode_eq (k := k) (L := 0) t.bs rs (g.level_le hk)
      simp only [Nat.zero_add] at hsp
      rw [if_pos hm] at hgr
      simp only [hm, forall_const, hsp, lq, rq, Nat.zero_add]
      by_cases hg : g1 < midOf k t.bs
      · rw [if_pos hg] at hgr ⊢
        obtain ⟨rfl, rfl⟩ := Prod.mk.inj hgr
        constructor
        · rintro ⟨-, hre⟩
          obtain ⟨c, h1, h2, h3⟩ := leaf_witness (size := t.size) hwfs.1 hre
            (tight_left (midOf k t.bs) ht) (Or.inr (left_lt_mid rs (startOf k t.bs) (by omega)))
            hsm hsN
          have hc : c < midOf k t.bs := by omega
          exact ⟨c, h1, hc, selected_left hwf h1 hc hmN ▸ h3⟩
        · rintro ⟨c, h1, h2, h3⟩
          exact ⟨ne_nil_of_selected h3, ne_nil_of_selected (size := t.size) (c := c)
            (by rw [selected_left hwf h1 h2 hmN]; exact h3)⟩
      · rw [if_neg hg] at hgr ⊢
        obtain ⟨rfl, rfl⟩ := Prod.mk.inj hgr
        rw [chunksOf_hi_eq hsz]
        constructor
        · rintro ⟨-, hre⟩
          obtain ⟨c, h1, h2, h3⟩ := leaf_witness hwfs.2 hre
            (tight_right hwf (startOf k t.bs) (midOf k t.bs))
            (bounded_right hwf (startOf k t.bs) (midOf k t.bs) (by omega) hb) hme hmN
          exact ⟨c, h1, h2, selected_right hwf h1 ▸ h3⟩
        · rintro ⟨c, h1, h2, h3⟩
          exact ⟨ne_nil_of_selected h3, ne_nil_of_selected (size := t.size) (c := c)
            (by rw [selected_right hwf h1]; exact h3)⟩
    · rw [if_neg hm] at hgr
      obtain ⟨rfl, rfl⟩ := Prod.mk.inj hgr
      simp only [hm, false_implies, and_true]
      rw [chunksOf_hi_eq hsz]
      exact ⟨fun hne => leaf_witness hwf hne ht hb (by omega) hsN,
        fun ⟨c, _, _, h3⟩ => ne_nil_of_selected h3⟩
  | succ L ih =>
    intro k rs gr hwf ht hb hgr
    simp only [GroupC] at hgr
    simp only [ReachC]
    have hsm := startOf_lt_midOf k (L + 1 + t.bs)
    have hme := midOf_lt_endOf k (L + 1 + t.bs)
    by_cases hk : nodeOf k (L + 1) < F
    · rw [if_pos hk] at hgr ⊢
      have hmN := g.mid_lt_nChunks hk
      have hwfs := C14.splitInner_wf (startOf k (L + 1 + t.bs)) (midOf k (L + 1 + t.bs)) hwf
      rw [splitNode_eq t.bs rs (g.level_le hk)]
      simp only [lq, rq]
      by_cases hg : gr.1 < midOf k (L + 1 + t.bs)
      · rw [if_pos hg] at hgr ⊢
        have hr := GroupC.range t F L (2 * k) gr hgr
        rw [child_ls, child_le] at hr
        rw [ih (2 * k) _ gr hwfs.1 (by rw [child_ls]; exact tight_left _ ht)
          (Or.inr (by rw [child_le]; exact left_lt_mid rs _ (by omega))) hgr]
        -- inside the group the left half of the query selects what the query selects
        have hsel := fun c (h1 : gr.1 ≤ c) (h2 : c < gr.2) =>
          selected_left (size := t.size) (s := startOf k (L + 1 + t.bs)) hwf (c := c) (by omega)
            (show c < midOf k (L + 1 + t.bs) by omega) hmN
        exact ⟨fun ⟨_, c, h1, h2, h3⟩ => ⟨c, h1, h2, hsel c h1 h2 ▸ h3⟩,
          fun ⟨c, h1, h2, h3⟩ => ⟨ne_nil_of_selected h3, c, h1, h2, (hsel c h1 h2).symm ▸ h3⟩⟩
      · rw [if_neg hg] at hgr ⊢
        rw [ih (2 * k + 1) _ gr hwfs.2 (by rw [child_rs]; exact tight_right hwf _ _)
          (by rw [child_re]; exact bounded_right hwf _ _ (by omega) hb) hgr]
        have hsel := fun c (h1 : gr.1 ≤ c) =>
          selected_right (size := t.size) (s := startOf k (L + 1 + t.bs)) hwf (c := c)
            (show midOf k (L + 1 + t.bs) ≤ c by omega)
        exact ⟨fun ⟨_, c, h1, h2, h3⟩ => ⟨c, h1, h2, hsel c h1 ▸ h3⟩,
          fun ⟨c, h1, h2, h3⟩ => ⟨ne_nil_of_selected h3, c, h1, h2, (hsel c h1).symm ▸ h3⟩⟩
    · rw [if_neg hk] at hgr ⊢
      exact ih (2 * k) rs gr hwf (by rw [child_ls]; exact ht)
        (Or.inl (by rw [child_le]; exact g.skip_mid_ge (Nat.le_of_not_lt hk))) hgr

end reach

/-- the stored bytes of the reported chunk range `g` -/
def groupBytes (data : List UInt8) (size : Nat) (g : Nat × Nat) : List UInt8 :=
  bytesAt data (toBytes g.1) (min (toBytes g.2) size)

theorem min_chunksOf_hi (a size : Nat) :
    min (toBytes (chunksOf (min (toBytes a) size))) size = min (toBytes a) size := by
  rw [Ranges.chunksOf_eq_div]
  unfold toBytes
  omega

theorem bytesAt_length {data : List UInt8} {s e : Nat} (h : e ≤ data.length) :
    (bytesAt data s e).length = e - s := by
  simp only [bytesAt, List.length_take, List.length_drop]; omega

section intact
open C01 PlanPre
variable {hf : HashFns H} {ld : Nat → Res IoErr (Option (H × H))} {d tgt : List UInt8}
  {t : Tree} {F : Nat}

theorem midOf_start (k M : Nat) : midOf k M = startOf k M + 2 ^ M := rfl

theorem cv_parent (hf : HashFns H) (d : List UInt8) {k M : Nat} (hM : M < 64)
    (hm : midOf k M < nChunks d.length) (r : Bool) :
    hf.parentCv (cv hf d (startOf k M) (midOf k M) false)
        (cv hf d (midOf k M) (min (endOf k M) (nChunks d.length)) false) r =
      cv hf d (startOf k M) (min (endOf k M) (nChunks d.length)) r := by
  have hp := two_pow_pos' M
  have e1 := midOf_start k M
  have e2 := Offsets.endOf_start k M
  have e3 : (2 : Nat) ^ (M + 1) = 2 * 2 ^ M := Nat.pow_succ'
  have hpos : 0 < d.length := by
    apply Nat.pos_of_ne_zero
    intro h0
    simp [nChunks, h0] at hm
    omega
  have hle : startOf k M + 2 ^ M ≤ min (endOf k M) (nChunks d.length) := by omega
  -- the length of the slice, counted in chunks (`omega` is slow on sums of products `_ * 1024`)
  have h1 : 2 ^ M * 1024 < (slice d (startOf k M) (min (endOf k M) (nChunks d.length))).length := by
    rw [slice_length]
    refine Nat.lt_min.2 ⟨Nat.mul_lt_mul_of_pos_right (by omega) (by decide),
      Nat.lt_sub_of_add_lt ?_⟩
    rw [← Nat.add_mul]
    exact Nat.lt_of_le_of_lt (Nat.mul_le_mul_right 1024 (by omega)) (nChunks_lt hpos)
  have h2 : (slice d (startOf k M) (min (endOf k M) (nChunks d.length))).length
      ≤ 2 ^ (M + 1) * 1024 := by
    rw [slice_length]
    exact Nat.le_trans (Nat.min_le_left _ _) (Nat.mul_le_mul_right 1024 (by omega))
  unfold cv
  rw [hashSubtree_parent h1 h2 hM, slice_take hle, slice_drop hle, ← e1]

theorem bytesAt_eq_slice (d : List UInt8) (a b : Nat) :
    bytesAt d (toBytes a) (min (toBytes b) d.length) = slice d a (min b (nChunks d.length)) := by
  have hN := nChunks_ge d.length
  -- cutting at `b` chunks or at the end of `d`, whichever comes first
  have key : min (b * 1024) d.length = min (min b (nChunks d.length) * 1024) d.length := by
    rcases Nat.le_total b (nChunks d.length) with hb | hb
    · rw [Nat.min_eq_left hb]
    · rw [Nat.min_eq_right hb, Nat.min_eq_right hN,
        Nat.min_eq_right (Nat.le_trans hN (Nat.mul_le_mul_right 1024 hb))]
  unfold bytesAt slice toBytes
  rw [List.take_eq_take_iff, List.length_drop, Nat.sub_mul, Nat.sub_min_sub_right,
    Nat.sub_min_sub_right, Nat.min_eq_left (Nat.min_le_right _ _), key]

theorem bytesAt_eq_slice_full (d : List UInt8) (a b : Nat) :
    bytesAt d (toBytes a) (toBytes b) = slice d a b := by
  unfold bytesAt slice toBytes
  rw [show b * 1024 - a * 1024 = (b - a) * 1024 by omega]

theorem level_lt_64 {size k M : Nat} (hs : size ≤ 2 ^ 63) (hm : midOf k M < nChunks size) :
    M < 64 := by
  have e1 := midOf_start k M
  have h1 := Offsets.nChunks_le size hs
  have h2 : 2 ^ M < 2 ^ 64 := by omega
  exact (Nat.pow_lt_pow_iff_right (a := 2) (by decide)).1 h2

theorem bytesAt_congr {a b : List UInt8} {s e : Nat}
    (h : ∀ i, s ≤ i → i < e → a[i]? = b[i]?) : bytesAt a s e = bytesAt b s e := by
  unfold bytesAt
  apply List.ext_getElem?
  intro j
  simp only [List.getElem?_take, List.getElem?_drop]
  by_cases hj : j < e - s
  · simp only [hj, if_true]; exact h _ (by omega) (by omega)
  · simp only [hj, if_false]

/-- Induction along the walk to `gr`: at a persisted node `hld` gives the true pair, whose parent
hash is the chaining value of the node (`cv_parent`), and the walk goes on with the chaining value
of the child; a node that does not exist covers no more chunks of the blob than its left child
(`skip_mid_ge`); at the bottom `hb` makes the stored bytes a slice of `d`. -/
theorem local_aux (g : Geo t.size t.bs F) (hsz : t.size = d.length) (hs : d.length ≤ 2 ^ 63)
    (wd : Bool) (gr : Nat × Nat)
    (hld : ∀ k M, t.bs ≤ M → midOf k M < nChunks d.length → startOf k M ≤ gr.1 →
      gr.1 < endOf k M → ld (nodeOf k M) = .ok (some (Spec.pair hf d k M)))
    (hb : ∀ i, toBytes gr.1 ≤ i → i < toBytes gr.2 → tgt[i]? = d[i]?) :
    ∀ (L k : Nat) (isRoot : Bool), GroupC t F L k gr →
      LinkedC hf ld tgt wd t F L k
        (cv hf d (startOf k (L + t.bs)) (min (endOf k (L + t.bs)) (nChunks d.length)) isRoot)
        isRoot gr := by
  intro L
  induction L with
  | zero =>
    intro k isRoot hgr
    have hrange := GroupC.range t F 0 k gr hgr
    simp only [Nat.zero_add] at hrange
    simp only [GroupC] at hgr
    obtain ⟨hk, hgr⟩ := hgr
    simp only [LinkedC, Nat.zero_add]
    refine ⟨hk, ?_⟩
    by_cases hm : toBytes (midOf k t.bs) < t.size
    · rw [if_pos hm] at hgr ⊢
      have hmN : midOf k t.bs < nChunks d.length := by
        rw [← hsz]; exact lt_nChunks_of_toBytes_lt hm
      have hM : t.bs < 64 := level_lt_64 hs hmN
      rw [hld k t.bs (Nat.le_refl _) hmN hrange.1 hrange.2.1]
      simp only [Spec.pair]
      refine ⟨cv_parent hf d hM hmN isRoot, ?_⟩
      by_cases hg : gr.1 < midOf k t.bs
      · rw [if_pos hg] at hgr ⊢
        refine ⟨hgr, fun _ => ?_⟩
        rw [bytesAt_congr (b := d) (fun i h1 h2 => hb i (by rw [hgr]; exact h1)
          (by rw [hgr]; exact h2)), bytesAt_eq_slice_full]; rfl
      · rw [if_neg hg] at hgr ⊢
        refine ⟨hgr, fun _ => ?_⟩
        rw [bytesAt_congr (b := d) (fun i h1 h2 => hb i (by rw [hgr]; exact h1) (by
          rw [hgr]
          exact Nat.lt_of_lt_of_le h2 (le_toBytes_chunksOf _))), hsz, bytesAt_eq_slice]; rfl
    · rw [if_neg hm] at hgr ⊢
      refine ⟨hgr, fun _ => ?_⟩
      rw [bytesAt_congr (b := d) (fun i h1 h2 => hb i (by rw [hgr]; exact h1) (by
        rw [hgr]
        exact Nat.lt_of_lt_of_le h2 (le_toBytes_chunksOf _))), hsz, bytesAt_eq_slice]; rfl
  | succ L ih =>
    intro k isRoot hgr
    have hrange := GroupC.range t F (L + 1) k gr hgr
    simp only [GroupC] at hgr
    simp only [LinkedC]
    by_cases hk : nodeOf k (L + 1) < F
    · rw [if_pos hk] at hgr ⊢
      have hm := g.mid_lt hk
      have hmN : midOf k (L + 1 + t.bs) < nChunks d.length := by
        rw [← hsz]; exact lt_nChunks_of_toBytes_lt hm
      have hM : L + 1 + t.bs < 64 := level_lt_64 hs hmN
      rw [hld k (L + 1 + t.bs) (by omega) hmN hrange.1 hrange.2.1]
      simp only [Spec.pair]
      refine ⟨cv_parent hf d hM hmN isRoot, ?_⟩
      by_cases hg : gr.1 < midOf k (L + 1 + t.bs)
      · rw [if_pos hg] at hgr ⊢
        have := ih (2 * k) false hgr
        rw [child_ls, child_le, show min (midOf k (L + 1 + t.bs)) (nChunks d.length)
          = midOf k (L + 1 + t.bs) by omega] at this
        exact this
      · rw [if_neg hg] at hgr ⊢
        have := ih (2 * k + 1) false hgr
        rw [child_rs, child_re] at this
        exact this
    · rw [if_neg hk] at hgr ⊢
      have hmN := g.skip_mid_ge (Nat.le_of_not_lt hk)
      rw [hsz] at hmN
      have hme := midOf_lt_endOf k (L + 1 + t.bs)
      have := ih (2 * k) isRoot hgr
      rw [child_ls, child_le] at this
      rw [show min (endOf k (L + 1 + t.bs)) (nChunks d.length)
        = min (midOf k (L + 1 + t.bs)) (nChunks d.length) by omega]
      exact this

end intact

section allgroups
open PlanPre

theorem startOf_shift (k L bs : Nat) : startOf k (L + bs) = startOf k L * 2 ^ bs := by
  unfold startOf
  rw [show L + bs + 1 = L + 1 + bs by omega, Nat.pow_add, Nat.mul_assoc]

theorem midOf_shift (k L bs : Nat) : midOf k (L + bs) = midOf k L * 2 ^ bs := by
  have e1 : midOf k (L + bs) = startOf k (L + bs) + 2 ^ (L + bs) := rfl
  have e2 : midOf k L = startOf k L + 2 ^ L := rfl
  rw [e1, e2, startOf_shift, Nat.pow_add, Nat.add_mul]

theorem endOf_shift (k L bs : Nat) : endOf k (L + bs) = endOf k L * 2 ^ bs := by
  unfold endOf
  rw [show L + bs + 1 = L + 1 + bs by omega, Nat.pow_add, Nat.mul_assoc]

/-- the chunk range of chunk group `i` -/
def groupRange (t : Tree) (i : Nat) : Nat × Nat :=
  (i * 2 ^ t.bs, min ((i + 1) * 2 ^ t.bs) (chunksOf t.size))

theorem groupRange_lt_mid (size bs i k L : Nat) :
    (groupRange ⟨size, bs⟩ i).1 < midOf k (L + bs) ↔ i < midOf k L := by
  show i * 2 ^ bs < _ ↔ _
  rw [midOf_shift]
  exact Nat.mul_lt_mul_right (two_pow_pos' bs)

theorem groupRange_single {size bs : Nat} (hb : Tree.blocks ⟨size, bs⟩ = 1) :
    size ≤ toBytes (2 ^ bs) ∧ groupRange ⟨size, bs⟩ 0 = (0, chunksOf size) := by
  have hsmall : size ≤ toBytes (2 ^ bs) := by
    have := mt (Offsets.lt_blocks_iff size bs 1 (by omega)).2 (by omega)
    rw [Nat.pow_add] at this
    unfold toBytes
    omega
  have hc := chunksOf_mono hsmall
  rw [chunksOf_toBytes] at hc
  refine ⟨hsmall, ?_⟩
  rw [groupRange, Nat.zero_mul, Nat.zero_add, Nat.one_mul, Nat.min_eq_right hc]

theorem groupRange_pair {size bs k : Nat} (hm : toBytes (midOf k bs) < size) :
    groupRange ⟨size, bs⟩ (2 * k) = (startOf k bs, midOf k bs) ∧
    groupRange ⟨size, bs⟩ (2 * k + 1)
      = (midOf k bs, chunksOf (min (toBytes (endOf k bs)) size)) ∧
    2 * k + 1 < Tree.blocks ⟨size, bs⟩ := by
  have es := startOf_shift k 0 bs
  have em := midOf_shift k 0 bs
  have ee := endOf_shift k 0 bs
  rw [Nat.zero_add, Offsets.startOf_zero] at es
  rw [Nat.zero_add, show midOf k 0 = 2 * k + 1 by simp [midOf]; omega] at em
  rw [Nat.zero_add, show endOf k 0 = 2 * k + 2 by simp [endOf]; omega] at ee
  have hmc : (2 * k + 1) * 2 ^ bs ≤ chunksOf size := by
    have := chunksOf_mono (Nat.le_of_lt hm)
    rwa [chunksOf_toBytes, em] at this
  refine ⟨?_, ?_, ?_⟩
  · rw [es, em, groupRange, Nat.min_eq_left hmc]
  · rw [chunksOf_min, em, ee, groupRange]
  · rw [Offsets.lt_blocks_iff size bs (2 * k + 1) (by omega)]
    unfold toBytes at hm
    rwa [em, Nat.mul_assoc, ← Nat.pow_add 2 bs 10] at hm

theorem groupRange_half {size bs k : Nat} (hm : ¬ toBytes (midOf k bs) < size) :
    groupRange ⟨size, bs⟩ (2 * k) = (startOf k bs, chunksOf (min (toBytes (endOf k bs)) size)) ∧
    ¬ 2 * k + 1 < Tree.blocks ⟨size, bs⟩ := by
  have hp := two_pow_pos' bs
  have es := startOf_shift k 0 bs
  have em := midOf_shift k 0 bs
  have ee := endOf_shift k 0 bs
  rw [Nat.zero_add, Offsets.startOf_zero] at es
  rw [Nat.zero_add, show midOf k 0 = 2 * k + 1 by simp [midOf]; omega] at em
  rw [Nat.zero_add, show endOf k 0 = 2 * k + 2 by simp [endOf]; omega] at ee
  have hcm : chunksOf size ≤ (2 * k + 1) * 2 ^ bs := by
    have := chunksOf_mono (Nat.le_of_not_lt hm)
    rwa [chunksOf_toBytes, em] at this
  have hlt : (2 * k + 1) * 2 ^ bs < (2 * k + 2) * 2 ^ bs := (Nat.mul_lt_mul_right hp).2 (by omega)
  refine ⟨?_, ?_⟩
  · rw [chunksOf_min, es, ee, groupRange, Nat.min_eq_right hcm, Nat.min_eq_right (by omega)]
  · rw [Offsets.lt_blocks_iff size bs (2 * k + 1) (by omega)]
    unfold toBytes at hm
    rwa [em, Nat.mul_assoc, ← Nat.pow_add 2 bs 10] at hm

/-- Induction on `L`: the block interval of `(k, L + 1)` splits at `midOf k (L + 1)` exactly where
the walk turns (`groupRange_lt_mid`); level 0 is `groupRange_pair` / `groupRange_half`. -/
theorem groupC_iff (size bs F : Nat) (g : Geo size bs F) :
    ∀ (L k : Nat) (gr : Nat × Nat), startOf k L < F →
      (GroupC ⟨size, bs⟩ F L k gr ↔
        ∃ i, startOf k L ≤ i ∧ i < endOf k L ∧ i < Tree.blocks ⟨size, bs⟩ ∧
          gr = groupRange ⟨size, bs⟩ i) := by
  intro L
  induction L with
  | zero =>
    intro k gr hF
    rw [Offsets.startOf_zero] at hF
    rw [Offsets.startOf_zero, show endOf k 0 = 2 * k + 2 by simp [endOf]; omega]
    have hn : nodeOf k 0 < F := by rw [Offsets.nodeOf_zero]; exact hF
    have hFb := g.le_blocks
    simp only [GroupC, hn, true_and]
    by_cases hm : toBytes (midOf k bs) < size
    · obtain ⟨g0, g1, hb⟩ := groupRange_pair hm
      rw [if_pos hm]
      constructor
      · intro h
        split at h
        · exact ⟨2 * k, Nat.le_refl _, by omega, by omega, h.trans g0.symm⟩
        · exact ⟨2 * k + 1, by omega, by omega, hb, h.trans g1.symm⟩
      · rintro ⟨i, h1, h2, -, rfl⟩
        obtain rfl | rfl : i = 2 * k ∨ i = 2 * k + 1 := by omega
        · rw [g0, if_pos (startOf_lt_midOf k bs)]
        · rw [g1, if_neg (Nat.lt_irrefl _)]
    · obtain ⟨g0, hb⟩ := groupRange_half hm
      rw [if_neg hm]
      constructor
      · exact fun h => ⟨2 * k, Nat.le_refl _, by omega, by omega, h.trans g0.symm⟩
      · rintro ⟨i, h1, h2, h3, rfl⟩
        obtain rfl : i = 2 * k := by omega
        exact g0
  | succ L ih =>
    intro k gr hF
    have hsm := startOf_lt_midOf k (L + 1)
    have hme := midOf_lt_endOf k (L + 1)
    have hl := ih (2 * k) gr (by rw [Bits.startOf_left]; exact hF)
    rw [Bits.startOf_left, Bits.endOf_left] at hl
    simp only [GroupC]
    by_cases hk : nodeOf k (L + 1) < F
    · have hr := ih (2 * k + 1) gr (g.right_exists hk)
      rw [Bits.startOf_right, Bits.endOf_right] at hr
      have key := fun i => groupRange_lt_mid size bs i k (L + 1)
      rw [if_pos hk]
      constructor
      · intro h
        split at h
        · obtain ⟨i, h1, h2, h3, h4⟩ := hl.1 h
          exact ⟨i, h1, by omega, h3, h4⟩
        · obtain ⟨i, h1, h2, h3, h4⟩ := hr.1 h
          exact ⟨i, by omega, h2, h3, h4⟩
      · rintro ⟨i, h1, h2, h3, rfl⟩
        by_cases hi : i < midOf k (L + 1)
        · rw [if_pos ((key i).2 hi)]
          exact hl.2 ⟨i, h1, hi, h3, rfl⟩
        · rw [if_neg (mt (key i).1 hi)]
          exact hr.2 ⟨i, by omega, h2, h3, rfl⟩
    · -- no group of the tree lies behind the mid of a node that does not exist
      have h1 := g.ge_blocks
      have h2 : nodeOf k (L + 1) + 1 = midOf k (L + 1) := by rw [nodeOf_succ, midOf_eq]
      rw [if_neg hk, hl]
      exact exists_congr fun i => ⟨fun ⟨a, b, c, e⟩ => ⟨a, by omega, c, e⟩,
        fun ⟨a, b, c, e⟩ => ⟨a, by omega, c, e⟩⟩

end allgroups

section persisted

theorem mem_preNodes_anc (n minL M k : Nat) (hM : minL ≤ M) (hm : midOf k M < n) :
    ∀ j, nodeOf k M ∈ preNodes n minL (M + j) (k / 2 ^ j) := by
  intro j
  induction j with
  | zero =>
    simp only [Nat.add_zero, Nat.pow_zero, Nat.div_one]
    cases M with
    | zero =>
      have : minL = 0 := by omega
      simp [preNodes, hm, this]
    | succ M =>
      simp only [preNodes, if_pos hm, ge_iff_le, if_pos hM]
      simp
  | succ j ih =>
    have hp : k / 2 ^ j / 2 = k / 2 ^ (j + 1) := by
      rw [Nat.div_div_eq_div_mul, ← Nat.pow_succ]
    rw [show M + (j + 1) = M + j + 1 by omega]
    simp only [preNodes]
    rcases Nat.mod_two_eq_zero_or_one (k / 2 ^ j) with h0 | h1
    · have hc : 2 * (k / 2 ^ (j + 1)) = k / 2 ^ j := by omega
      split
      · rw [hc]
        exact List.mem_append_left _ (List.mem_append_right _ ih)
      · rw [hc]; exact ih
    · have hc : 2 * (k / 2 ^ (j + 1)) + 1 = k / 2 ^ j := by omega
      have hmid : midOf (k / 2 ^ (j + 1)) (M + j + 1) < n := by
        rw [← Bits.startOf_right, hc]
        have h1 : k / 2 ^ j * 2 ^ j ≤ k := Nat.div_mul_le_self k (2 ^ j)
        have h2 : startOf (k / 2 ^ j) (M + j) = k / 2 ^ j * 2 ^ j * 2 ^ (M + 1) := by
          unfold startOf
          rw [show M + j + 1 = j + (M + 1) by omega, Nat.pow_add, Nat.mul_assoc]
        have h3 : startOf k M = k * 2 ^ (M + 1) := rfl
        have h4 := startOf_lt_midOf k M
        have h5 : k / 2 ^ j * 2 ^ j * 2 ^ (M + 1) ≤ k * 2 ^ (M + 1) := Nat.mul_le_mul_right _ h1
        omega
      rw [if_pos hmid, hc]
      exact List.mem_append_right _ ih

/-- (tree geometry only; also used by `EncodeSpec`, `C13BytesL`, `HistSlotL`, `C14CrossL`) -/
theorem mem_persistedPre (size bs k M : Nat) (hs : size ≤ 2 ^ 63) (hM : bs ≤ M)
    (hm : midOf k M < nChunks size) : nodeOf k M ∈ persistedPre size bs := by
  unfold persistedPre
  have hn := Offsets.log2ceil_spec 64 (nChunks size) (Offsets.nChunks_le size hs)
  generalize log2ceil 64 (nChunks size) = Hh at *
  have e1 : midOf k M = startOf k M + 2 ^ M := rfl
  have e3 : startOf k M = k * 2 ^ (M + 1) := rfl
  have hlt : 2 ^ M < 2 ^ Hh := by omega
  have hMH : M < Hh := (Nat.pow_lt_pow_iff_right (a := 2) (by decide)).1 hlt
  obtain ⟨j, rfl⟩ : ∃ j, Hh = M + j := ⟨Hh - M, by omega⟩
  have hk : k / 2 ^ j = 0 := by
    apply Nat.div_eq_of_lt
    have hpM := two_pow_pos' M
    have h1 : k * 2 ^ (M + 1) < 2 ^ (M + j) := by omega
    have h2 : (2 : Nat) ^ (M + j) = 2 ^ j * 2 ^ M := by rw [Nat.add_comm, Nat.pow_add]
    have h3 : (2 : Nat) ^ (M + 1) = 2 * 2 ^ M := Nat.pow_succ'
    rw [h2, h3] at h1
    have h4 : k * 2 ^ M < 2 ^ j * 2 ^ M := by
      have : k * 2 ^ M ≤ k * (2 * 2 ^ M) := Nat.mul_le_mul_left _ (by omega)
      omega
    exact (Nat.mul_lt_mul_right hpM).1 h4
  have := mem_preNodes_anc (nChunks size) bs M k hM hm j
  rwa [hk] at this

end persisted

section rec
variable [BEq H] [LawfulBEq H] (hf : HashFns H) (fl : Flavour) (wd : Bool) (ob : Store H)
  (data : List UInt8) (F : Nat)

/-- what `validate_rec` started at the shifted node `(k, L)` has to report -/
def Want (L k : Nat) (owed : H) (isRoot : Bool) (rs : Ranges) (g : Nat × Nat) : Prop :=
  LinkedC hf (ob.load hf fl) data wd ob.tree F L k owed isRoot g ∧ ReachC ob.tree F L k rs g

theorem isEmpty_false_iff {rs : Ranges} : rs.isEmpty = false ↔ rs ≠ [] :=
  List.isEmpty_eq_false_iff

omit [BEq H] [LawfulBEq H] in
theorem Want.pair_zero {k : Nat} {owed : H} {isRoot : Bool} {rs : Ranges} {g : Nat × Nat}
    (hm : toBytes (midOf k ob.tree.bs) < ob.tree.size)
    (h : Want hf fl wd ob data F 0 k owed isRoot rs g) :
    ∃ lh rh, ob.load hf fl (nodeOf k ob.tree.bs) = .ok (some (lh, rh)) ∧
      hf.parentCv lh rh isRoot = owed := by
  have h := h.1
  simp only [LinkedC, if_pos hm] at h
  split at h
  · exact ⟨_, _, ‹_›, h.2.1⟩
  · exact h.2.elim

omit [BEq H] [LawfulBEq H] in
theorem Want.pair_succ {L k : Nat} {owed : H} {isRoot : Bool} {rs : Ranges} {g : Nat × Nat}
    (hk : nodeOf k (L + 1) < F) (h : Want hf fl wd ob data F (L + 1) k owed isRoot rs g) :
    ∃ lh rh, ob.load hf fl (nodeOf k (L + 1 + ob.tree.bs)) = .ok (some (lh, rh)) ∧
      hf.parentCv lh rh isRoot = owed := by
  have h := h.1
  simp only [LinkedC, if_pos hk] at h
  split at h
  · exact ⟨_, _, ‹_›, h.1⟩
  · exact h.elim

omit [BEq H] [LawfulBEq H] in
theorem want_zero_full {k : Nat} (hk : nodeOf k 0 < F) {owed : H} {isRoot : Bool}
    {rs : Ranges} (hrs : rs ≠ []) (hm : toBytes (midOf k ob.tree.bs) < ob.tree.size) {lh rh : H}
    (hl : ob.load hf fl (nodeOf k ob.tree.bs) = .ok (some (lh, rh)))
    (hp : hf.parentCv lh rh isRoot = owed) (g : Nat × Nat) :
    Want hf fl wd ob data F 0 k owed isRoot rs g ↔
      if g.1 < midOf k ob.tree.bs then
        (Ranges.splitNode rs (nodeOf k ob.tree.bs)).1 ≠ [] ∧
          g = (startOf k ob.tree.bs, midOf k ob.tree.bs) ∧
          LeafOk hf data wd (startOf k ob.tree.bs) (toBytes (startOf k ob.tree.bs))
            (toBytes (midOf k ob.tree.bs)) lh false
      else
        (Ranges.splitNode rs (nodeOf k ob.tree.bs)).2 ≠ [] ∧
          g = (midOf k ob.tree.bs, chunksOf (min (toBytes (endOf k ob.tree.bs)) ob.tree.size)) ∧
          LeafOk hf data wd (midOf k ob.tree.bs) (toBytes (midOf k ob.tree.bs))
            (min (toBytes (endOf k ob.tree.bs)) ob.tree.size) rh false := by
  simp only [Want, LinkedC, ReachC, hm, if_true, hl, hp, true_and, forall_const, hk, hrs, ne_eq,
    not_false_eq_true]
  split <;> exact and_comm

omit [BEq H] [LawfulBEq H] in
theorem want_zero_half {k : Nat} (hk : nodeOf k 0 < F) {owed : H} {isRoot : Bool}
    {rs : Ranges} (hrs : rs ≠ []) (hm : ¬ toBytes (midOf k ob.tree.bs) < ob.tree.size)
    (g : Nat × Nat) :
    Want hf fl wd ob data F 0 k owed isRoot rs g ↔
      g = (startOf k ob.tree.bs, chunksOf (min (toBytes (endOf k ob.tree.bs)) ob.tree.size)) ∧
        LeafOk hf data wd (startOf k ob.tree.bs) (toBytes (startOf k ob.tree.bs))
          (min (toBytes (endOf k ob.tree.bs)) ob.tree.size) owed isRoot := by
  simp only [Want, LinkedC, ReachC, hm, if_false, false_implies, and_true, hk, hrs, true_and, ne_eq,
    not_false_eq_true]

omit [BEq H] [LawfulBEq H] in
theorem want_succ {k L : Nat} (hk : nodeOf k (L + 1) < F) {owed : H} {isRoot : Bool}
    {rs : Ranges} (hrs : rs ≠ []) {lh rh : H}
    (hl : ob.load hf fl (nodeOf k (L + 1 + ob.tree.bs)) = .ok (some (lh, rh)))
    (hp : hf.parentCv lh rh isRoot = owed) (g : Nat × Nat) :
    Want hf fl wd ob data F (L + 1) k owed isRoot rs g ↔
      if g.1 < midOf k (L + 1 + ob.tree.bs) then
        Want hf fl wd ob data F L (2 * k) lh false
          (Ranges.splitNode rs (nodeOf k (L + 1 + ob.tree.bs))).1 g
      else
        Want hf fl wd ob data F (NodeIterL.dl F L (2 * k + 1)).2 (NodeIterL.dl F L (2 * k + 1)).1
          rh false (Ranges.splitNode rs (nodeOf k (L + 1 + ob.tree.bs))).2 g := by
  unfold Want
  rw [← LinkedC_dl, ← ReachC_dl]
  simp only [LinkedC, ReachC, if_pos hk, hl, hp, true_and, hrs, ne_eq, not_false_eq_true]
  split <;> exact Iff.rfl

/-- what `validate_rec` does with the load of a persisted node: it stops on an error, on a missing
pair and on a pair whose parent hash is not the owed one; otherwise it goes on with the two hashes -/
def checked (ld : Res IoErr (Option (H × H))) (owed : H) (isRoot : Bool) (k : H → H → ValRun) :
    ValRun :=
  match ld with
  | .err e => ⟨[], .err e⟩
  | .panic => ⟨[], .panic⟩
  | .ok none => ⟨[], .ok⟩
  | .ok (some (lh, rh)) => if hf.parentCv lh rh isRoot != owed then ⟨[], .ok⟩ else k lh rh

omit [LawfulBEq H] in
theorem validateRec_leaf (g : PlanPre.Geo ob.tree.size ob.tree.bs F) {k : Nat} (hk : nodeOf k 0 < F)
    (fuel : Nat) (owed : H) (isRoot : Bool) {rs : Ranges} (hrs : rs ≠ []) :
    validateRec hf fl wd ob data F (fuel + 1) owed (nodeOf k 0) isRoot rs =
      if toBytes (midOf k ob.tree.bs) < ob.tree.size then
        checked hf (ob.load hf fl (nodeOf k ob.tree.bs)) owed isRoot fun lh rh =>
          (if !(Ranges.splitNode rs (nodeOf k ob.tree.bs)).1.isEmpty then
            yieldRange hf wd data (toBytes (startOf k ob.tree.bs)) (toBytes (midOf k ob.tree.bs))
              lh false
          else ⟨[], .ok⟩).andThen fun _ =>
            if !(Ranges.splitNode rs (nodeOf k ob.tree.bs)).2.isEmpty then
              yieldRange hf wd data (toBytes (midOf k ob.tree.bs))
                (min (toBytes (endOf k ob.tree.bs)) ob.tree.size) rh false
            else ⟨[], .ok⟩
      else
        yieldRange hf wd data (toBytes (startOf k ob.tree.bs))
          (min (toBytes (endOf k ob.tree.bs)) ob.tree.size) owed isRoot := by
  have e1 := subBs_node g hk
  have e2 := lbr3_node g hk
  have e3 := isRelevant_node g hk
  simp only [Nat.zero_add, Nat.lt_irrefl, decide_false, Bool.false_or] at e1 e2 e3
  rw [validateRec, if_neg (by simpa using hrs)]
  simp only [e1, e2, e3, C18.isLeaf_spec, decide_true, if_true]
  by_cases hm : toBytes (midOf k ob.tree.bs) < ob.tree.size
  · simp only [hm, decide_true, Bool.not_true, Bool.false_eq_true, if_false, if_true,
      Nat.min_eq_left (Nat.le_of_lt hm)]
    generalize ob.load hf fl (nodeOf k ob.tree.bs) = ld
    rcases ld with (_ | ⟨lh, rh⟩) | _ | _ <;> rfl
  · simp only [hm, decide_false, Bool.not_false, if_true, if_false]
    rfl

omit [LawfulBEq H] in
theorem validateRec_inner (g : PlanPre.Geo ob.tree.size ob.tree.bs F) {k L : Nat} (hL : L < 63)
    (hk : nodeOf k (L + 1) < F) (fuel : Nat) (owed : H) (isRoot : Bool) {rs : Ranges}
    (hrs : rs ≠ []) :
    validateRec hf fl wd ob data F (fuel + 1) owed (nodeOf k (L + 1)) isRoot rs =
      checked hf (ob.load hf fl (nodeOf k (L + 1 + ob.tree.bs))) owed isRoot fun lh rh =>
        (validateRec hf fl wd ob data F fuel lh (nodeOf (2 * k) L) false
          (Ranges.splitNode rs (nodeOf k (L + 1 + ob.tree.bs))).1).andThen fun _ =>
          validateRec hf fl wd ob data F fuel rh
            (nodeOf (NodeIterL.dl F L (2 * k + 1)).1 (NodeIterL.dl F L (2 * k + 1)).2) false
            (Ranges.splitNode rs (nodeOf k (L + 1 + ob.tree.bs))).2 := by
  have e1 := subBs_node g hk
  have e2 := lbr3_node g hk
  have e3 := isRelevant_node g hk
  simp only [Nat.zero_lt_succ, decide_true, Bool.true_or] at e3
  have e4 : Node.isLeaf (nodeOf k (L + 1)) = false := by rw [C18.isLeaf_spec]; simp
  rw [validateRec, if_neg (by simpa using hrs)]
  simp only [e1, e2, e3, e4, Bool.not_true, Bool.false_eq_true, if_false,
    C18.leftChild_spec (show L + 1 ≤ 64 by omega), NodeIterL.rightDescendant_dl F L k hL g.odd hk]
  generalize ob.load hf fl (nodeOf k (L + 1 + ob.tree.bs)) = ld
  rcases ld with (_ | ⟨lh, rh⟩) | _ | _ <;> rfl

omit [BEq H] [LawfulBEq H] in
/-- The children of `(k, L + 1)` in `validate_rec` are `(2k, L)` and the left descendant `dl` of
`(2k + 1, L)`, of some level `≤ L`: strong induction on `L`.  Each call hands `fuel - 1` on, and
`L < fuel` keeps it positive. -/
theorem rec_induction {size bs : Nat} (g : PlanPre.Geo size bs F) {P : Nat → Nat → Nat → Prop}
    (leaf : ∀ k fuel, nodeOf k 0 < F → P 0 k (fuel + 1))
    (inner : ∀ L k fuel, L < 63 → L < fuel → nodeOf k (L + 1) < F → P L (2 * k) fuel →
      P (NodeIterL.dl F L (2 * k + 1)).2 (NodeIterL.dl F L (2 * k + 1)).1 fuel →
      P (L + 1) k (fuel + 1)) :
    ∀ L, L ≤ 63 → ∀ k, nodeOf k L < F → ∀ fuel, L < fuel → P L k fuel := by
  intro L
  induction L using Nat.strongRecOn with
  | ind L ih =>
    intro hL k hk fuel hfu
    obtain ⟨f, rfl⟩ : ∃ f, fuel = f + 1 := ⟨fuel - 1, by omega⟩
    cases L with
    | zero => exact leaf k f hk
    | succ L =>
      have hlt := NodeIterL.leftChild_lt k L
      have hdl := NodeIterL.dl_level_le F L (2 * k + 1)
      exact inner L k f (by omega) (by omega) hk (ih L (by omega) (by omega) _ (by omega) f (by omega))
        (ih _ (by omega) (by omega) _ (NodeIterL.dl_lt F L (2 * k + 1) (g.right_exists hk)) f
          (by omega))

theorem RunSpec.mono_hi {r : ValRun} {P : Nat × Nat → Prop} {lo hi hi' : Nat}
    (h : RunSpec r P lo hi) (hh : hi ≤ hi') : RunSpec r P lo hi' :=
  ⟨h.sound, h.complete, fun g hg => (by have := h.bound g hg; omega), h.sorted⟩

theorem RunSpec.checked {ld : Res IoErr (Option (H × H))} {owed : H} {isRoot : Bool}
    {k : H → H → ValRun} {P : Nat × Nat → Prop} {lo hi : Nat}
    (hP : ∀ g, P g → ∃ lh rh, ld = .ok (some (lh, rh)) ∧ hf.parentCv lh rh isRoot = owed)
    (hk : ∀ lh rh, ld = .ok (some (lh, rh)) → hf.parentCv lh rh isRoot = owed →
      RunSpec (k lh rh) P lo hi) :
    RunSpec (checked hf ld owed isRoot k) P lo hi := by
  rcases ld with (_ | ⟨lh, rh⟩) | e | _
  · exact RunSpec.stop _ fun g hg => by obtain ⟨_, _, e, -⟩ := hP g hg; cases e
  · by_cases hp : hf.parentCv lh rh isRoot = owed
    · simpa only [ValidL.checked, hp, bne_self_eq_false, Bool.false_eq_true, if_false]
        using hk lh rh rfl hp
    · have : (hf.parentCv lh rh isRoot != owed) = true := by simpa using hp
      simp only [ValidL.checked, this, if_true]
      exact RunSpec.stop _ fun g hg => by obtain ⟨_, _, e, h⟩ := hP g hg; cases e; exact hp h
  · exact RunSpec.fail nofun
  · exact RunSpec.fail nofun

theorem ite_yieldRange_spec (l : Ranges) (c e : Nat) (h : H) (root : Bool) {lo hi : Nat}
    (h1 : lo ≤ c) (h2 : c < hi) (h3 : chunksOf e ≤ hi) :
    RunSpec (if !l.isEmpty then yieldRange hf wd data (toBytes c) e h root else ⟨[], .ok⟩)
      (fun g => l ≠ [] ∧ g = (c, chunksOf e) ∧ LeafOk hf data wd c (toBytes c) e h root) lo hi := by
  cases l with
  | nil => exact RunSpec.stop _ fun g hg => hg.1 rfl
  | cons a l => exact (yieldRange_spec hf wd data c e h root h1 h2 h3).congr fun g => by simp

/-- `validate_rec` at an existing shifted node `(k, L)`: sound for every run, complete for runs
that end without error, strictly increasing and inside the node's chunk range -/
theorem rec_spec (g : PlanPre.Geo ob.tree.size ob.tree.bs F) :
    ∀ L, L ≤ 63 → ∀ k, nodeOf k L < F → ∀ fuel, L < fuel → ∀ owed isRoot rs,
      RunSpec (validateRec hf fl wd ob data F fuel owed (nodeOf k L) isRoot rs)
        (Want hf fl wd ob data F L k owed isRoot rs)
        (startOf k (L + ob.tree.bs)) (endOf k (L + ob.tree.bs)) := by
  refine rec_induction F g (fun k fuel hk owed isRoot rs => ?_)
    (fun L k fuel hL _ hk ihl ihr owed isRoot rs => ?_)
  · have hsm := startOf_lt_midOf k ob.tree.bs
    have hme := midOf_lt_endOf k ob.tree.bs
    have hce := chunksOf_hi_le k ob.tree.bs ob.tree.size
    by_cases hrs : rs = []
    · subst hrs
      exact RunSpec.stop _ fun g hg => hg.2.1 rfl
    rw [validateRec_leaf hf fl wd ob data F g hk fuel owed isRoot hrs, Nat.zero_add]
    split
    · rename_i hm
      refine RunSpec.checked hf (fun g hg => Want.pair_zero hf fl wd ob data F hm hg) fun lh rh hl hp => ?_
      have hA := ite_yieldRange_spec hf wd data (Ranges.splitNode rs (nodeOf k ob.tree.bs)).1
        (startOf k ob.tree.bs) (toBytes (midOf k ob.tree.bs)) lh false (Nat.le_refl _) hsm
        (by rw [chunksOf_toBytes]; exact Nat.le_refl _)
      rw [chunksOf_toBytes] at hA
      exact RunSpec.andThen hA
        (ite_yieldRange_spec hf wd data (Ranges.splitNode rs (nodeOf k ob.tree.bs)).2
          (midOf k ob.tree.bs) _ rh false (Nat.le_refl _) hme hce)
        (Nat.le_of_lt hsm) (Nat.le_of_lt hme) (want_zero_full hf fl wd ob data F hk hrs hm hl hp)
    · rename_i hm
      exact (yieldRange_spec hf wd data (startOf k ob.tree.bs) _ owed isRoot (Nat.le_refl _)
        (Nat.lt_trans hsm hme) hce).congr fun g =>
          (want_zero_half hf fl wd ob data F hk hrs hm g).symm
  · have hsm := startOf_lt_midOf k (L + 1 + ob.tree.bs)
    have hme := midOf_lt_endOf k (L + 1 + ob.tree.bs)
    by_cases hrs : rs = []
    · subst hrs
      refine RunSpec.stop _ fun g hg => ?_
      have := hg.2
      simp only [ReachC, if_pos hk] at this
      exact this.1 rfl
    rw [validateRec_inner hf fl wd ob data F g hL hk fuel owed isRoot hrs]
    refine RunSpec.checked hf (fun g hg => Want.pair_succ hf fl wd ob data F hk hg) fun lh rh hl hp => ?_
    have hl' := ihl lh false (Ranges.splitNode rs (nodeOf k (L + 1 + ob.tree.bs))).1
    have hr' := ihr rh false (Ranges.splitNode rs (nodeOf k (L + 1 + ob.tree.bs))).2
    rw [PlanPre.child_ls, PlanPre.child_le] at hl'
    rw [dl_start, PlanPre.child_rs] at hr'
    have hde := dl_end_le F ob.tree.bs L (2 * k + 1)
    rw [PlanPre.child_re] at hde
    exact RunSpec.andThen hl' (hr'.mono_hi hde) (Nat.le_of_lt hsm) (Nat.le_of_lt hme)
      (want_succ hf fl wd ob data F hk hrs hl hp)

/-- no io error can happen: every load of an existing node that the validator loads (the nodes
relevant for the outboard) succeeds (memory stores, or io stores with a long enough backing, or
the fsm flavour), and the data file is as long as the blob -/
def NoIoErr (wd : Bool) : Prop :=
  (∀ x, x < F → ob.tree.isRelevant (Node.subBs x ob.tree.bs) = true →
    ∃ p, ob.load hf fl (Node.subBs x ob.tree.bs) = .ok p) ∧
  (wd = true → ob.tree.size ≤ data.length)

omit [BEq H] [LawfulBEq H] in
theorem load_ok_node
    (hld : ∀ x, x < F → ob.tree.isRelevant (Node.subBs x ob.tree.bs) = true →
      ∃ p, ob.load hf fl (Node.subBs x ob.tree.bs) = .ok p)
    (g : PlanPre.Geo ob.tree.size ob.tree.bs F) {k L : Nat} (hk : nodeOf k L < F)
    (hp : L = 0 → toBytes (midOf k ob.tree.bs) < ob.tree.size) :
    ∃ p, ob.load hf fl (nodeOf k (L + ob.tree.bs)) = .ok p := by
  have := hld _ hk
  rw [subBs_node g hk, isRelevant_node g hk] at this
  refine this ?_
  cases L with
  | zero => simpa using hp rfl
  | succ L => simp

omit [LawfulBEq H] in
theorem mem_checked {ld : Res IoErr (Option (H × H))} {owed : H} {isRoot : Bool}
    {k : H → H → ValRun} {g : Nat × Nat} (h : g ∈ (checked hf ld owed isRoot k).yields) :
    ∃ lh rh, ld = .ok (some (lh, rh)) ∧ ¬ (hf.parentCv lh rh isRoot != owed) = true ∧
      g ∈ (k lh rh).yields := by
  rcases ld with (_ | ⟨lh, rh⟩) | _ | _
  · cases h
  · by_cases hp : (hf.parentCv lh rh isRoot != owed) = true
    · simp only [checked, hp, if_true] at h
      cases h
    · simp only [checked, hp, Bool.false_eq_true, if_false] at h
      exact ⟨lh, rh, rfl, hp, h⟩
  · cases h
  · cases h

omit [LawfulBEq H] in
theorem checked_ok {ld : Res IoErr (Option (H × H))} {owed : H} {isRoot : Bool}
    {k : H → H → ValRun} (hld : ∃ p, ld = .ok p) (hk : ∀ lh rh, (k lh rh).terminal = .ok) :
    (checked hf ld owed isRoot k).terminal = .ok := by
  obtain ⟨p, rfl⟩ := hld
  rcases p with _ | ⟨lh, rh⟩
  · rfl
  · simp only [checked]
    split
    · rfl
    · exact hk lh rh

omit [LawfulBEq H] in
theorem ite_yieldRange_ok (c : Bool) (s e : Nat) (h : H) (root : Bool)
    (hd : wd = true → e ≤ data.length) :
    (if c then yieldRange hf wd data s e h root else ⟨[], .ok⟩).terminal = .ok := by
  cases c
  · rfl
  · exact yieldRange_ok hf wd data s e h root hd

omit [LawfulBEq H] in
theorem rec_ok (g : PlanPre.Geo ob.tree.size ob.tree.bs F) (hno : NoIoErr hf fl ob data F wd) :
    ∀ L, L ≤ 63 → ∀ k, nodeOf k L < F → ∀ fuel, L < fuel → ∀ owed isRoot rs,
      (validateRec hf fl wd ob data F fuel owed (nodeOf k L) isRoot rs).terminal = .ok := by
  have hmin : ∀ a, wd = true → min a ob.tree.size ≤ data.length := fun a h => by
    have := hno.2 h; omega
  refine rec_induction F g (fun k fuel hk owed isRoot rs => ?_)
    (fun L k fuel hL _ hk ihl ihr owed isRoot rs => ?_)
  · by_cases hrs : rs = []
    · subst hrs; rfl
    rw [validateRec_leaf hf fl wd ob data F g hk fuel owed isRoot hrs]
    split
    · rename_i hm
      have hld := load_ok_node hf fl ob F hno.1 g hk fun _ => hm
      rw [Nat.zero_add] at hld
      refine checked_ok hf hld fun lh rh => ?_
      rw [andThen_terminal]
      exact ⟨ite_yieldRange_ok hf wd data _ _ _ _ _ fun h => by have := hno.2 h; omega,
        ite_yieldRange_ok hf wd data _ _ _ _ _ (hmin _)⟩
    · exact yieldRange_ok hf wd data _ _ _ _ (hmin _)
  · by_cases hrs : rs = []
    · subst hrs; rfl
    rw [validateRec_inner hf fl wd ob data F g hL hk fuel owed isRoot hrs]
    refine checked_ok hf (load_ok_node hf fl ob F hno.1 g hk nofun) fun lh rh => ?_
    rw [andThen_terminal]
    exact ⟨ihl _ _ _, ihr _ _ _⟩

end rec

section top
open PlanPre
variable [BEq H] [LawfulBEq H] (hf : HashFns H) (fl : Flavour) (ob : Store H) (data : List UInt8)

theorem tree_geo (t : Tree) (hs : t.size ≤ 2 ^ 63) (hbs : t.bs ≤ 10) :
    Geo t.size t.bs t.shifted.2 := shifted_geo t.size t.bs hs hbs

theorem shifted_lt_pow (t : Tree) (hs : t.size ≤ 2 ^ 63) (hbs : t.bs ≤ 10) {x : Nat}
    (hx : x < t.shifted.2) : x + 1 < 2 ^ 64 := by
  have g := tree_geo t hs hbs
  have h1 := g.le_blocks
  have h2 := Offsets.blocks_le t.size t.bs hs
  omega

theorem shifted_coords (t : Tree) (hs : t.size ≤ 2 ^ 63) (hbs : t.bs ≤ 10) {x : Nat}
    (hx : x < t.shifted.2) :
    x = nodeOf (Spec.indexOf x) (Spec.levelOf x) ∧ Spec.levelOf x ≤ 63 := by
  have hx64 := shifted_lt_pow t hs hbs hx
  have hc := (C18.coords_eq (x := x) (by omega)).1
  refine ⟨hc, ?_⟩
  have := C18.level_lt (k := Spec.indexOf x) (L := Spec.levelOf x) (by rw [← hc]; exact hx64)
  omega

theorem root_facts (t : Tree) (hs : t.size ≤ 2 ^ 63) :
    t.shifted.1 < t.shifted.2 ∧ Spec.levelOf t.shifted.1 ≤ 63 ∧ Spec.indexOf t.shifted.1 = 0 := by
  obtain ⟨size, bs⟩ := t
  obtain ⟨h1, h2, h3⟩ := rootLevel_spec size bs hs
  refine ⟨by rw [h2]; exact h3, h1, ?_⟩
  rw [h2, indexOf_nodeOf (by omega)]

omit [LawfulBEq H] in
theorem validRanges_many (hb : ob.tree.blocks ≠ 1) (q : Ranges) :
    validRanges hf fl ob data q =
      validateRec hf fl true ob data ob.tree.shifted.2 65 ob.root ob.tree.shifted.1 true
        (Ranges.truncate q ob.tree.size) := by
  unfold validRanges
  have : (ob.tree.blocks == 1) = false := by simpa using hb
  simp only [this, Bool.false_eq_true, if_false]

omit [LawfulBEq H] in
theorem validOutboardRanges_many (hb : ob.tree.blocks ≠ 1) (q : Ranges) :
    validOutboardRanges hf fl ob q =
      validateRec hf fl false ob [] ob.tree.shifted.2 65 ob.root ob.tree.shifted.1 true
        (Ranges.truncate q ob.tree.size) := by
  unfold validOutboardRanges
  have : (ob.tree.blocks == 1) = false := by simpa using hb
  simp only [this, Bool.false_eq_true, if_false]

theorem validRanges_one (hb : ob.tree.blocks = 1) (q : Ranges) :
    RunSpec (validRanges hf fl ob data q)
      (fun g => g = (0, ob.tree.chunks) ∧
        hashSubtree hf 0 (data.take ob.tree.size) true = ob.root) 0 (ob.tree.chunks + 1) ∧
    (ob.tree.size ≤ data.length → (validRanges hf fl ob data q).terminal = .ok) := by
  unfold validRanges
  have : (ob.tree.blocks == 1) = true := by simpa using hb
  simp only [this, if_true]
  cases hr : readExactAt data 0 ob.tree.size with
  | error e =>
    refine ⟨RunSpec.fail (by simp), fun hlen => ?_⟩
    have := readExactAt_of_le (s := 0) hlen
    rw [Nat.sub_zero, hr] at this
    cases this
  | ok tmp =>
    have ht : tmp = data.take ob.tree.size := by
      have := readExactAt_ok (s := 0) (e := ob.tree.size) hr
      rw [this]; simp [bytesAt]
    subst ht
    simp only
    by_cases heq : hashSubtree hf 0 (data.take ob.tree.size) true = ob.root
    · have hb' : (hashSubtree hf 0 (data.take ob.tree.size) true == ob.root) = true := by
        simp [heq]
      rw [if_pos hb']
      exact ⟨RunSpec.single _ ⟨rfl, heq⟩ (fun g hg => hg.1) ⟨Nat.le_refl _, by simp, by simp⟩,
        fun _ => rfl⟩
    · have hb' : ¬ (hashSubtree hf 0 (data.take ob.tree.size) true == ob.root) = true := by
        simpa using heq
      rw [if_neg hb']
      exact ⟨RunSpec.stop _ (fun g hg => heq hg.2), fun _ => rfl⟩

omit [LawfulBEq H] in
theorem validOutboardRanges_one (hb : ob.tree.blocks = 1) (q : Ranges) :
    validOutboardRanges hf fl ob q = ⟨[(0, ob.tree.chunks)], .ok⟩ := by
  unfold validOutboardRanges
  have : (ob.tree.blocks == 1) = true := by simpa using hb
  simp only [this, if_true]

end top

section notions
variable (hf : HashFns H) (fl : Flavour) (ob : Store H) (data : List UInt8) (withData : Bool)

/-- `GroupC` at the coordinates of the shifted id `shifted` -/
def Group (t : Tree) (shifted : Nat) (g : Nat × Nat) : Prop :=
  GroupC t t.shifted.2 (Spec.levelOf shifted) (Spec.indexOf shifted) g

/-- `LinkedC` at the coordinates of `shifted`, with the loads of the store `ob` -/
def Linked (owed : H) (shifted : Nat) (isRoot : Bool) (g : Nat × Nat) : Prop :=
  LinkedC hf (ob.load hf fl) data withData ob.tree ob.tree.shifted.2
    (Spec.levelOf shifted) (Spec.indexOf shifted) owed isRoot g

/-- `ReachC` at the coordinates of `shifted` -/
def Reach (t : Tree) (ranges : Ranges) (shifted : Nat) (g : Nat × Nat) : Prop :=
  ReachC t t.shifted.2 (Spec.levelOf shifted) (Spec.indexOf shifted) ranges g

/-- the query `q` selects a chunk of `g` -/
def Touched (size : Nat) (q : Ranges) (g : Nat × Nat) : Prop :=
  ∃ c, g.1 ≤ c ∧ c < g.2 ∧ Spec.selected size q c = true

/-- `g` is verifiably stored: linked to the root of the store (a tree with a single chunk group
has no stored pairs: its only group is checked against the root directly) -/
def Verifiable (g : Nat × Nat) : Prop :=
  if ob.tree.blocks = 1 then
    g = (0, ob.tree.chunks) ∧
      (withData = true → hashSubtree hf 0 (data.take ob.tree.size) true = ob.root)
  else Linked hf fl ob data withData ob.root ob.tree.shifted.1 true g

/-- no load of an existing node can fail, and the data file is as long as the blob -/
def NoIo : Prop := NoIoErr hf fl ob data ob.tree.shifted.2 withData

theorem noIo_empty (hk : ob.kind = .empty) (hd : withData = true → ob.tree.size ≤ data.length) :
    NoIo hf fl ob data withData := by
  refine ⟨fun x _ _ => ?_, hd⟩
  unfold Store.load
  rw [hk]
  exact ⟨_, rfl⟩

/-- loads of the io-backed outboards never fail in the `fsm` flavour (a short read gives zeros) -/
theorem noIo_fsm (hk : ob.kind = .preIo ∨ ob.kind = .postIo)
    (hd : withData = true → ob.tree.size ≤ data.length) :
    NoIo hf .fsm ob data withData := by
  refine ⟨fun x _ _ => ?_, hd⟩
  unfold Store.load
  rcases hk with hk | hk <;> rw [hk] <;> simp only <;> split <;> try split
  all_goals exact ⟨_, rfl⟩

theorem size_pos_of_blocks (t : Tree) (hb : t.blocks ≠ 1) : 0 < t.size := by
  apply Nat.pos_of_ne_zero
  intro h0
  apply hb
  unfold Tree.blocks Tree.blocksRaw
  rw [h0]
  simp

theorem Verifiable_false_data (data data' : List UInt8) (g : Nat × Nat) :
    Verifiable hf fl ob data false g ↔ Verifiable hf fl ob data' false g := by
  unfold Verifiable Linked
  rw [LinkedC_false_data hf (ob.load hf fl) ob.tree ob.tree.shifted.2 data data']
  simp

end notions

/-- what is proved about a run: it reports only `V`-groups (always), all of them if it ends
normally, it ends normally when no io error is possible, and its reports are strictly increasing,
pairwise disjoint and free of duplicates -/
structure Exact (r : ValRun) (V : Nat × Nat → Prop) (noio : Prop) : Prop where
  sound : ∀ g ∈ r.yields, V g
  complete : r.terminal = .ok → ∀ g, V g → g ∈ r.yields
  ok : noio → r.terminal = .ok
  sorted : r.yields.Pairwise (fun a b => a.2 ≤ b.1 ∧ a.1 < b.1)
  nodup : r.yields.Nodup

theorem RunSpec.exact {r : ValRun} {P V : Nat × Nat → Prop} {lo hi : Nat} {noio : Prop}
    (h : RunSpec r P lo hi) (hpv : ∀ g, P g ↔ V g) (hok : noio → r.terminal = .ok) :
    Exact r V noio :=
  ⟨fun g hg => (hpv g).1 (h.sound g hg), fun he g hv => h.complete he g ((hpv g).2 hv), hok,
    h.sorted, h.sorted.imp (fun hab e => by rw [e] at hab; omega)⟩

theorem Exact.iff {r : ValRun} {V : Nat × Nat → Prop} {noio : Prop} (h : Exact r V noio)
    (hno : noio) :
    ∃ ys, r = ⟨ys, .ok⟩ ∧ (∀ g, g ∈ ys ↔ V g) ∧
      ys.Pairwise (fun a b => a.2 ≤ b.1 ∧ a.1 < b.1) ∧ ys.Nodup := by
  have hok := h.ok hno
  refine ⟨r.yields, ?_, fun g => ⟨h.sound g, h.complete hok g⟩, h.sorted, h.nodup⟩
  cases r
  simp only at hok
  rw [hok]

theorem Exact.congr {r : ValRun} {V W : Nat × Nat → Prop} {noio : Prop} (h : Exact r V noio)
    (hvw : ∀ g, V g ↔ W g) : Exact r W noio :=
  ⟨fun g hg => (hvw g).1 (h.sound g hg), fun he g hw => h.complete he g ((hvw g).2 hw), h.ok,
    h.sorted, h.nodup⟩

section summaries
open PlanPre
variable [BEq H] [LawfulBEq H] (hf : HashFns H) (fl : Flavour) (ob : Store H) (data : List UInt8)

theorem rec_exact (wd : Bool) (hs : ob.tree.size ≤ 2 ^ 63) (hbs : ob.tree.bs ≤ 10) {x : Nat}
    (hx : x < ob.tree.shifted.2) (fuel : Nat) (hfu : Node.level x < fuel) (owed : H)
    (isRoot : Bool) (rs : Ranges) :
    Exact (validateRec hf fl wd ob data ob.tree.shifted.2 fuel owed x isRoot rs)
      (fun g => Linked hf fl ob data wd owed x isRoot g ∧ Reach ob.tree rs x g)
      (NoIo hf fl ob data wd) := by
  rw [(C18.coords_eq (Nat.lt_of_succ_lt (shifted_lt_pow ob.tree hs hbs hx))).2] at hfu
  obtain ⟨hc, hL⟩ := shifted_coords ob.tree hs hbs hx
  have geo := tree_geo ob.tree hs hbs
  have hk : nodeOf (Spec.indexOf x) (Spec.levelOf x) < ob.tree.shifted.2 := hc ▸ hx
  have h1 := rec_spec hf fl wd ob data _ geo _ hL _ hk fuel hfu owed isRoot rs
  have h2 := fun hno => rec_ok hf fl wd ob data _ geo hno _ hL _ hk fuel hfu owed isRoot rs
  rw [← hc] at h1 h2
  exact h1.exact (fun g => Iff.rfl) h2

theorem root_exact (wd : Bool) (hs : ob.tree.size ≤ 2 ^ 63) (hbs : ob.tree.bs ≤ 10)
    (hb : ob.tree.blocks ≠ 1) (rs : Ranges) :
    Exact (validateRec hf fl wd ob data ob.tree.shifted.2 65 ob.root ob.tree.shifted.1 true rs)
      (fun g => Verifiable hf fl ob data wd g ∧
        (ob.tree.blocks = 1 ∨ Reach ob.tree rs ob.tree.shifted.1 g))
      (NoIo hf fl ob data wd) := by
  obtain ⟨hr1, hr2, -⟩ := root_facts ob.tree hs
  have hlev := (C18.coords_eq (Nat.lt_of_succ_lt (shifted_lt_pow ob.tree hs hbs hr1))).2
  exact (rec_exact hf fl ob data wd hs hbs hr1 65 (by omega) ob.root true rs).congr fun g => by
    simp only [Verifiable, hb, if_false, false_or]

theorem validRanges_exact (hs : ob.tree.size ≤ 2 ^ 63) (hbs : ob.tree.bs ≤ 10) (q : Ranges) :
    Exact (validRanges hf fl ob data q)
      (fun g => Verifiable hf fl ob data true g ∧
        (ob.tree.blocks = 1 ∨
          Reach ob.tree (Ranges.truncate q ob.tree.size) ob.tree.shifted.1 g))
      (NoIo hf fl ob data true) := by
  by_cases hb : ob.tree.blocks = 1
  · obtain ⟨h1, h2⟩ := validRanges_one hf fl ob data hb q
    refine h1.exact (fun g => ?_) (fun hno => h2 (hno.2 rfl))
    simp only [Verifiable, forall_const, hb, if_true, true_or, and_true]
  · rw [validRanges_many hf fl ob data hb q]
    exact root_exact hf fl ob data true hs hbs hb _

theorem validOutboardRanges_exact (hs : ob.tree.size ≤ 2 ^ 63) (hbs : ob.tree.bs ≤ 10)
    (q : Ranges) :
    Exact (validOutboardRanges hf fl ob q)
      (fun g => Verifiable hf fl ob [] false g ∧
        (ob.tree.blocks = 1 ∨
          Reach ob.tree (Ranges.truncate q ob.tree.size) ob.tree.shifted.1 g))
      (NoIo hf fl ob [] false) := by
  by_cases hb : ob.tree.blocks = 1
  · rw [validOutboardRanges_one hf fl ob hb q]
    refine (RunSpec.single (P := fun g => g = (0, ob.tree.chunks)) (lo := 0)
      (hi := ob.tree.chunks + 1) _ rfl (fun g hg => hg) ⟨Nat.le_refl _, by simp, by simp⟩).exact
      (fun g => ?_) (fun _ => rfl)
    simp [Verifiable, hb]
  · rw [validOutboardRanges_many hf fl ob hb q]
    exact root_exact hf fl ob [] false hs hbs hb _

end summaries

section whole
open PlanPre C01

theorem root_level (t : Tree) : Spec.levelOf t.shifted.1 = rootLevel t := rfl

theorem root_covers (t : Tree) (hs : t.size ≤ 2 ^ 63) :
    nChunks t.size ≤ endOf 0 (rootLevel t + t.bs) := by
  obtain ⟨size, bs⟩ := t
  exact rootLevel_covers size bs hs

theorem reach_iff_touched_top (t : Tree) (hs : t.size ≤ 2 ^ 63) (hbs : t.bs ≤ 10)
    (hb : t.blocks ≠ 1) (q : Ranges) (hq : Ranges.WF q = true) (g : Nat × Nat)
    (hg : Group t t.shifted.1 g) :
    Reach t (Ranges.truncate q t.size) t.shifted.1 g ↔ Touched t.size q g := by
  have hsz := size_pos_of_blocks t hb
  obtain ⟨-, -, hr3⟩ := root_facts t hs
  have geo := tree_geo t hs hbs
  have hwf := C14.truncate_wf t.size hq
  have hsel := C14.truncate_selected t.size hq
  unfold Reach Group at *
  rw [hr3, root_level] at hg ⊢
  rw [reach_iff_touched_aux geo hsz (rootLevel t) 0 _ g hwf
    (by rw [startOf_zero_left]; exact tight_zero hwf) (Or.inl (root_covers t hs)) hg]
  exact exists_congr fun c => by rw [hsel]

theorem group_iff_top (t : Tree) (hs : t.size ≤ 2 ^ 63) (hbs : t.bs ≤ 10) (g : Nat × Nat) :
    Group t t.shifted.1 g ↔ ∃ i, i < t.blocks ∧ g = groupRange t i := by
  obtain ⟨hr1, -, hr3⟩ := root_facts t hs
  have geo := tree_geo t hs hbs
  unfold Group
  rw [hr3, root_level]
  obtain ⟨size, bs⟩ := t
  obtain ⟨h, hh, e, _, hbl⟩ := shifted_root size bs hs
  have hL : rootLevel ⟨size, bs⟩ = h := by
    unfold rootLevel; rw [e, levelOf_nodeOf (by omega)]
  have h0 : startOf 0 (rootLevel ⟨size, bs⟩) < (Tree.shifted ⟨size, bs⟩).2 := by
    rw [startOf_zero_left]; omega
  rw [groupC_iff size bs _ geo _ 0 g h0, startOf_zero_left, hL, Offsets.endOf_zero_left]
  exact exists_congr fun i => ⟨fun ⟨_, _, h3, h4⟩ => ⟨h3, h4⟩,
    fun ⟨h3, h4⟩ => ⟨Nat.zero_le _, Nat.lt_of_lt_of_le h3 hbl, h3, h4⟩⟩

variable {hf : HashFns H} {fl : Flavour} {ob : Store H} {data d : List UInt8}

theorem noIo_of_load {wd : Bool} (hs : ob.tree.size ≤ 2 ^ 63) (hbs : ob.tree.bs ≤ 10)
    (hld : ∀ k M, ob.tree.bs ≤ M → midOf k M < nChunks ob.tree.size →
      ∃ p, ob.load hf fl (nodeOf k M) = .ok p)
    (hd : wd = true → ob.tree.size ≤ data.length) : NoIo hf fl ob data wd := by
  refine ⟨fun x hx hrel => ?_, hd⟩
  obtain ⟨hc, hL⟩ := shifted_coords ob.tree hs hbs hx
  have geo := tree_geo ob.tree hs hbs
  generalize Spec.indexOf x = k at hc
  generalize Spec.levelOf x = L at hc hL
  subst hc
  rw [subBs_node geo hx] at hrel ⊢
  rw [isRelevant_node geo hx] at hrel
  cases L with
  | zero =>
    simp only [Nat.lt_irrefl, decide_false, Bool.false_or, decide_eq_true_eq] at hrel
    exact hld k _ (by omega) (lt_nChunks_of_toBytes_lt hrel)
  | succ L => exact hld k _ (by omega) (geo.mid_lt_nChunks hx)

theorem Verifiable.group {wd : Bool} {g : Nat × Nat} (hb : ob.tree.blocks ≠ 1)
    (h : Verifiable hf fl ob data wd g) : Group ob.tree ob.tree.shifted.1 g := by
  unfold Verifiable at h
  rw [if_neg hb] at h
  exact LinkedC.group _ _ _ _ _ _ _ _ _ _ _ h

/-- **a group whose own ancestors load as true pairs and whose own bytes are the blob's is
verifiable** (whatever the rest of the store and of the data file holds) -/
theorem verifiable_local {tgt : List UInt8} (hs : d.length ≤ 2 ^ 63) (hbs : ob.tree.bs ≤ 10)
    (hsz : ob.tree.size = d.length) (hroot : ob.root = Spec.root hf d) (wd : Bool)
    (htl : tgt.length = d.length) (i : Nat) (hi : i < ob.tree.blocks)
    (hld : ∀ k M, ob.tree.bs ≤ M → midOf k M < nChunks d.length →
      startOf k M ≤ (groupRange ob.tree i).1 → (groupRange ob.tree i).1 < endOf k M →
      ob.load hf fl (nodeOf k M) = .ok (some (Spec.pair hf d k M)))
    (hb : ∀ j, toBytes (groupRange ob.tree i).1 ≤ j → j < toBytes (groupRange ob.tree i).2 →
      tgt[j]? = d[j]?) :
    Verifiable hf fl ob tgt wd (groupRange ob.tree i) := by
  have hs' : ob.tree.size ≤ 2 ^ 63 := by omega
  unfold Verifiable
  split
  · -- a single group: its bytes are the whole blob
    rename_i hbl
    obtain rfl : i = 0 := by omega
    have hg := (groupRange_single (size := ob.tree.size) (bs := ob.tree.bs) hbl).2
    refine ⟨hg, fun _ => ?_⟩
    rw [show groupRange ob.tree 0 = (0, chunksOf ob.tree.size) from hg] at hb
    have hcov := le_toBytes_chunksOf ob.tree.size
    have htd : tgt = d := by
      apply List.ext_getElem?
      intro j
      by_cases hj : j < d.length
      · exact hb j (by simp [toBytes]) (by simp only; omega)
      · rw [List.getElem?_eq_none (by omega), List.getElem?_eq_none (by omega)]
    rw [htd, hroot, hsz, List.take_length]
    unfold Spec.root Spec.cv
    rw [slice_full]
  · rename_i hbl
    obtain ⟨hr1, -, hr3⟩ := root_facts ob.tree hs'
    have geo := tree_geo ob.tree hs' hbs
    have hg := (group_iff_top ob.tree hs' hbs _).2 ⟨i, hi, rfl⟩
    unfold Group at hg
    unfold Linked
    rw [hr3, root_level] at hg ⊢
    have := local_aux (hf := hf) (ld := ob.load hf fl) (tgt := tgt) geo hsz hs wd _ hld hb
      (rootLevel ob.tree) 0 true hg
    have hcov : nChunks d.length ≤ endOf 0 (rootLevel ob.tree + ob.tree.bs) := by
      rw [← hsz]
      exact root_covers ob.tree hs'
    rw [startOf_zero_left, Nat.min_eq_right hcov] at this
    rw [hroot]
    exact this

theorem intact_of_load_top (hs : d.length ≤ 2 ^ 63) (hbs : ob.tree.bs ≤ 10)
    (hsz : ob.tree.size = d.length) (hroot : ob.root = Spec.root hf d) (wd : Bool)
    (hld : ∀ k M, ob.tree.bs ≤ M → midOf k M < nChunks d.length →
      ob.load hf fl (nodeOf k M) = .ok (some (Spec.pair hf d k M)))
    (i : Nat) (hi : i < ob.tree.blocks) :
    Verifiable hf fl ob d wd (groupRange ob.tree i) :=
  verifiable_local hs hbs hsz hroot wd rfl i hi (fun k M a b _ _ => hld k M a b) fun _ _ _ => rfl

end whole

section touched
variable [BEq H] [LawfulBEq H] (hf : HashFns H) (fl : Flavour) (ob : Store H) (data : List UInt8)

omit [BEq H] [LawfulBEq H] in
theorem reach_or_iff_touched (t : Tree) (hs : t.size ≤ 2 ^ 63) (hbs : t.bs ≤ 10) (q : Ranges)
    (hq : Ranges.WF q = true) {g : Nat × Nat} (hg : t.blocks ≠ 1 → Group t t.shifted.1 g) :
    (t.blocks = 1 ∨ Reach t (Ranges.truncate q t.size) t.shifted.1 g) ↔
      (t.blocks = 1 ∨ Touched t.size q g) := by
  by_cases hb : t.blocks = 1
  · simp only [hb, true_or]
  · simp only [hb, false_or]
    exact reach_iff_touched_top t hs hbs hb q hq g (hg hb)

theorem validRanges_touched (hs : ob.tree.size ≤ 2 ^ 63) (hbs : ob.tree.bs ≤ 10) (q : Ranges)
    (hq : Ranges.WF q = true) :
    Exact (validRanges hf fl ob data q)
      (fun g => Verifiable hf fl ob data true g ∧ (ob.tree.blocks = 1 ∨ Touched ob.tree.size q g))
      (NoIo hf fl ob data true) :=
  (validRanges_exact hf fl ob data hs hbs q).congr fun _ => and_congr_right fun hv =>
    reach_or_iff_touched ob.tree hs hbs q hq hv.group

theorem validOutboardRanges_touched (hs : ob.tree.size ≤ 2 ^ 63) (hbs : ob.tree.bs ≤ 10)
    (q : Ranges) (hq : Ranges.WF q = true) :
    Exact (validOutboardRanges hf fl ob q)
      (fun g => Verifiable hf fl ob [] false g ∧ (ob.tree.blocks = 1 ∨ Touched ob.tree.size q g))
      (NoIo hf fl ob [] false) :=
  (validOutboardRanges_exact hf fl ob hs hbs q).congr fun _ => and_congr_right fun hv =>
    reach_or_iff_touched ob.tree hs hbs q hq hv.group

end touched

/-! ## the recursion of `Linked` / `Reach` at the level of shifted ids

`Linked` and `Reach` are defined through coordinates; these equations show that they follow the
tree exactly like `validate_rec`: left child, right descendant, `split(ranges, node)`. -/

section shape
open PlanPre
variable (hf : HashFns H) (fl : Flavour) (ob : Store H) (data : List UInt8) (wd : Bool)

theorem Linked_nodeOf {k L : Nat} (hL : L ≤ 64) (owed : H) (isRoot : Bool) (g : Nat × Nat) :
    Linked hf fl ob data wd owed (nodeOf k L) isRoot g ↔
      LinkedC hf (ob.load hf fl) data wd ob.tree ob.tree.shifted.2 L k owed isRoot g := by
  rw [Linked, levelOf_nodeOf hL, indexOf_nodeOf hL]

theorem Reach_nodeOf (t : Tree) {k L : Nat} (hL : L ≤ 64) (rs : Ranges) (g : Nat × Nat) :
    Reach t rs (nodeOf k L) g ↔ ReachC t t.shifted.2 L k rs g := by
  rw [Reach, levelOf_nodeOf hL, indexOf_nodeOf hL]

theorem Linked_inner (hs : ob.tree.size ≤ 2 ^ 63) (hbs : ob.tree.bs ≤ 10) {x : Nat}
    (hx : x < ob.tree.shifted.2) (hleaf : Node.isLeaf x = false) (owed : H) (isRoot : Bool)
    (g : Nat × Nat) :
    Linked hf fl ob data wd owed x isRoot g ↔
      ∃ lh rh lc rd, ob.load hf fl (Node.subBs x ob.tree.bs) = .ok (some (lh, rh)) ∧
        hf.parentCv lh rh isRoot = owed ∧ Node.leftChild x = some lc ∧
        Node.rightDescendant x ob.tree.shifted.2 = some rd ∧
        if g.1 < Node.mid (Node.subBs x ob.tree.bs) then Linked hf fl ob data wd lh lc false g
        else Linked hf fl ob data wd rh rd false g := by
  obtain ⟨hc, hL⟩ := shifted_coords ob.tree hs hbs hx
  have geo := tree_geo ob.tree hs hbs
  generalize Spec.indexOf x = k at hc
  generalize Spec.levelOf x = L at hc hL
  subst hc
  cases L with
  | zero => rw [C18.isLeaf_spec] at hleaf; simp at hleaf
  | succ L =>
    have h64 : L + 1 ≤ 64 := by omega
    have hl64 : L ≤ 64 := by omega
    have hd64 : (NodeIterL.dl ob.tree.shifted.2 L (2 * k + 1)).2 ≤ 64 :=
      Nat.le_trans (NodeIterL.dl_level_le _ L (2 * k + 1)) hl64
    rw [Linked_nodeOf hf fl ob data wd h64, subBs_node geo hx, C18.mid_spec,
      C18.leftChild_spec h64, NodeIterL.rightDescendant_dl _ L k (by omega) geo.odd hx]
    simp only [LinkedC, if_pos hx]
    constructor
    · intro h
      split at h
      · rename_i lh rh hl
        refine ⟨lh, rh, _, _, hl, h.1, rfl, rfl, ?_⟩
        rw [Linked_nodeOf hf fl ob data wd hl64, Linked_nodeOf hf fl ob data wd hd64, ← LinkedC_dl]
        exact h.2
      · exact h.elim
    · rintro ⟨lh, rh, lc, rd, hl, hp, hlc, hrd, h⟩
      obtain rfl := Option.some.inj hlc
      obtain rfl := Option.some.inj hrd
      rw [Linked_nodeOf hf fl ob data wd hl64, Linked_nodeOf hf fl ob data wd hd64,
        ← LinkedC_dl] at h
      rw [hl]
      exact ⟨hp, h⟩

theorem Reach_inner (t : Tree) (hs : t.size ≤ 2 ^ 63) (hbs : t.bs ≤ 10) {x : Nat}
    (hx : x < t.shifted.2) (hleaf : Node.isLeaf x = false) (rs : Ranges) (g : Nat × Nat) :
    Reach t rs x g ↔
      rs ≠ [] ∧ ∃ lc rd, Node.leftChild x = some lc ∧
        Node.rightDescendant x t.shifted.2 = some rd ∧
        if g.1 < Node.mid (Node.subBs x t.bs) then
          Reach t (Ranges.splitNode rs (Node.subBs x t.bs)).1 lc g
        else Reach t (Ranges.splitNode rs (Node.subBs x t.bs)).2 rd g := by
  obtain ⟨hc, hL⟩ := shifted_coords t hs hbs hx
  have geo := tree_geo t hs hbs
  generalize Spec.indexOf x = k at hc
  generalize Spec.levelOf x = L at hc hL
  subst hc
  cases L with
  | zero => rw [C18.isLeaf_spec] at hleaf; simp at hleaf
  | succ L =>
    have h64 : L + 1 ≤ 64 := by omega
    have hl64 : L ≤ 64 := by omega
    have hd64 : (NodeIterL.dl t.shifted.2 L (2 * k + 1)).2 ≤ 64 :=
      Nat.le_trans (NodeIterL.dl_level_le _ L (2 * k + 1)) hl64
    rw [Reach_nodeOf t h64, subBs_node geo hx, C18.mid_spec, C18.leftChild_spec h64,
      NodeIterL.rightDescendant_dl _ L k (by omega) geo.odd hx]
    simp only [ReachC, if_pos hx]
    refine and_congr_right fun _ => ⟨fun h => ⟨_, _, rfl, rfl, ?_⟩, ?_⟩
    · rw [Reach_nodeOf t hl64, Reach_nodeOf t hd64, ← ReachC_dl]
      exact h
    · rintro ⟨lc, rd, hlc, hrd, h⟩
      obtain rfl := Option.some.inj hlc
      obtain rfl := Option.some.inj hrd
      rw [Reach_nodeOf t hl64, Reach_nodeOf t hd64, ← ReachC_dl] at h
      exact h

theorem Linked_leaf (hs : ob.tree.size ≤ 2 ^ 63) (hbs : ob.tree.bs ≤ 10) {x : Nat}
    (hx : x < ob.tree.shifted.2) (hleaf : Node.isLeaf x = true) (owed : H) (isRoot : Bool)
    (g : Nat × Nat) :
    Linked hf fl ob data wd owed x isRoot g ↔
      let node := Node.subBs x ob.tree.bs
      let lmr := ob.tree.leafByteRanges3 node
      if ob.tree.isRelevant node then
        ∃ lh rh, ob.load hf fl node = .ok (some (lh, rh)) ∧ hf.parentCv lh rh isRoot = owed ∧
          if g.1 < Node.mid node then
            g = (fullChunksOf lmr.1, chunksOf lmr.2.1) ∧
              LeafOk hf data wd (fullChunksOf lmr.1) lmr.1 lmr.2.1 lh false
          else
            g = (fullChunksOf lmr.2.1, chunksOf lmr.2.2) ∧
              LeafOk hf data wd (fullChunksOf lmr.2.1) lmr.2.1 lmr.2.2 rh false
      else
        g = (fullChunksOf lmr.1, chunksOf lmr.2.2) ∧
          LeafOk hf data wd (fullChunksOf lmr.1) lmr.1 lmr.2.2 owed isRoot := by
  obtain ⟨hc, hL⟩ := shifted_coords ob.tree hs hbs hx
  have geo := tree_geo ob.tree hs hbs
  unfold Linked
  generalize Spec.indexOf x = k at hc
  generalize Spec.levelOf x = L at hc hL
  subst hc
  cases L with
  | succ L => rw [C18.isLeaf_spec] at hleaf; simp at hleaf
  | zero =>
    have e1 := subBs_node geo hx
    have e2 := lbr3_node geo hx
    have e3 := isRelevant_node geo hx
    simp only [Nat.zero_add, Nat.lt_irrefl, decide_false, Bool.false_or] at e1 e2 e3
    simp only [e1, e2, e3, C18.mid_spec, LinkedC, fullChunksOf_toBytes, decide_eq_true_eq]
    by_cases hm : toBytes (midOf k ob.tree.bs) < ob.tree.size
    · have hmin : min (toBytes (midOf k ob.tree.bs)) ob.tree.size = toBytes (midOf k ob.tree.bs) := by
        omega
      simp only [hm, if_true, hmin, fullChunksOf_toBytes, chunksOf_toBytes]
      constructor
      · rintro ⟨-, h⟩
        split at h
        · rename_i lh rh hl
          exact ⟨lh, rh, hl, h⟩
        · exact h.elim
      · rintro ⟨lh, rh, hl, h⟩
        rw [hl]
        exact ⟨hx, h⟩
    · simp only [hm, if_false]
      exact ⟨fun h => h.2, fun h => ⟨hx, h⟩⟩

theorem Reach_leaf (t : Tree) (hs : t.size ≤ 2 ^ 63) (hbs : t.bs ≤ 10) {x : Nat}
    (hx : x < t.shifted.2) (hleaf : Node.isLeaf x = true) (rs : Ranges) (g : Nat × Nat) :
    Reach t rs x g ↔
      rs ≠ [] ∧ (t.isRelevant (Node.subBs x t.bs) = true →
        if g.1 < Node.mid (Node.subBs x t.bs) then
          (Ranges.splitNode rs (Node.subBs x t.bs)).1 ≠ []
        else (Ranges.splitNode rs (Node.subBs x t.bs)).2 ≠ []) := by
  obtain ⟨hc, hL⟩ := shifted_coords t hs hbs hx
  have geo := tree_geo t hs hbs
  unfold Reach
  generalize Spec.indexOf x = k at hc
  generalize Spec.levelOf x = L at hc hL
  subst hc
  cases L with
  | succ L => rw [C18.isLeaf_spec] at hleaf; simp at hleaf
  | zero =>
    have e1 := subBs_node geo hx
    have e3 := isRelevant_node geo hx
    simp only [Nat.zero_add, Nat.lt_irrefl, decide_false, Bool.false_or] at e1 e3
    simp only [e1, e3, C18.mid_spec, ReachC, decide_eq_true_eq]

end shape

end Bao.ValidL
