import BaoModel.Spec

/-!
# Boundary lists: `countLt` / `bsearch` / `contains` on well-formed lists, `take`, `drop`

Everything is phrased through two prefix counters: `countLt q x` (model) and `countLe q x`
(here).  On a strictly increasing list they are the number of boundaries `< x` resp. `≤ x`,
`contains q x` is "`countLe q x` is odd", and `take` / `drop` act on the counters by
`min k ·` resp. `· - k`.  `split`, `splitInner`, `truncatedLen` and `Spec.selected` are then
rewritten as arithmetic on these counters, so the property proofs are case splits + `omega`.
-/

namespace Bao.Ranges

/-- number of leading boundaries `≤ x` (twin of `countLt`) -/
def countLe : List Nat → Nat → Nat
  | [], _ => 0
  | b :: rest, x => if b ≤ x then countLe rest x + 1 else 0

theorem WF_cons_cons {a b : Nat} {rest : List Nat} :
    WF (a :: b :: rest) = true ↔ a < b ∧ WF (b :: rest) = true := by
  simp [WF]

theorem WF_iff_pairwise (q : List Nat) : WF q = true ↔ q.Pairwise (· < ·) := by
  induction q with
  | nil => simp [WF]
  | cons a l ih =>
    cases l with
    | nil => simp [WF]
    | cons b r =>
      rw [WF_cons_cons, ih, List.pairwise_cons, List.pairwise_cons, List.pairwise_cons]
      constructor
      · rintro ⟨hab, hb, hr⟩
        exact ⟨List.forall_mem_cons.2 ⟨hab, fun y hy => Nat.lt_trans hab (hb y hy)⟩, hb, hr⟩
      · rintro ⟨ha, hb, hr⟩
        exact ⟨(List.forall_mem_cons.1 ha).1, hb, hr⟩

theorem WF_cons_iff (a : Nat) (l : List Nat) :
    WF (a :: l) = true ↔ (∀ y ∈ l, a < y) ∧ WF l = true := by
  rw [WF_iff_pairwise, WF_iff_pairwise, List.pairwise_cons]

theorem WF_tail {a : Nat} {rest : List Nat} (h : WF (a :: rest) = true) : WF rest = true :=
  ((WF_cons_iff a rest).1 h).2

theorem WF_head_lt {a : Nat} {rest : List Nat} (h : WF (a :: rest) = true) :
    ∀ b ∈ rest, a < b :=
  ((WF_cons_iff a rest).1 h).1

theorem WF_take {q : List Nat} (h : WF q = true) (k : Nat) : WF (q.take k) = true :=
  (WF_iff_pairwise _).2 (((WF_iff_pairwise q).1 h).sublist (List.take_sublist k q))

theorem WF_drop {q : List Nat} (h : WF q = true) (k : Nat) : WF (q.drop k) = true :=
  (WF_iff_pairwise _).2 (((WF_iff_pairwise q).1 h).sublist (List.drop_sublist k q))
theorem countLt_le_countLe (q : List Nat) (x : Nat) : countLt q x ≤ countLe q x := by
  induction q with
  | nil => simp [countLt, countLe]
  | cons b rest ih =>
    simp only [countLt, countLe]
    split <;> split <;> omega

theorem countLe_le_length (q : List Nat) (x : Nat) : countLe q x ≤ q.length := by
  induction q with
  | nil => simp [countLe]
  | cons b rest ih =>
    simp only [countLe, List.length_cons]
    split <;> omega

theorem countLt_le_length (q : List Nat) (x : Nat) : countLt q x ≤ q.length :=
  Nat.le_trans (countLt_le_countLe q x) (countLe_le_length q x)

theorem countLe_eq_zero_of_forall_gt {l : List Nat} {x : Nat} (h : ∀ b ∈ l, x < b) :
    countLe l x = 0 := by
  cases l with
  | nil => rfl
  | cons c r =>
    have := h c (List.mem_cons_self ..)
    simp only [countLe]
    split <;> omega

/-- on a strictly increasing list at most one boundary equals `x` -/
theorem countLe_le_countLt_succ {q : List Nat} (h : WF q = true) (x : Nat) :
    countLe q x ≤ countLt q x + 1 := by
  induction q with
  | nil => simp [countLe]
  | cons b rest ih =>
    have ih := ih (WF_tail h)
    have h0 : x ≤ b → countLe rest x = 0 := fun hb =>
      countLe_eq_zero_of_forall_gt fun c hc => Nat.lt_of_le_of_lt hb (WF_head_lt h c hc)
    simp only [countLt, countLe]
    split <;> split <;> omega

theorem countLe_mono (q : List Nat) {x y : Nat} (hxy : x ≤ y) : countLe q x ≤ countLe q y := by
  induction q with
  | nil => simp [countLe]
  | cons b rest ih =>
    simp only [countLe]
    split <;> split <;> omega

theorem countLe_le_countLt (q : List Nat) {x y : Nat} (hxy : x < y) :
    countLe q x ≤ countLt q y := by
  induction q with
  | nil => simp [countLe]
  | cons b rest ih =>
    simp only [countLe, countLt]
    split <;> split <;> omega

theorem countLt_le_countLe_of_le (q : List Nat) {x y : Nat} (hxy : x ≤ y) :
    countLt q x ≤ countLe q y :=
  Nat.le_trans (countLt_le_countLe q x) (countLe_mono q hxy)

theorem lt_of_mem_take_countLt (q : List Nat) (x : Nat) :
    ∀ b ∈ q.take (countLt q x), b < x := by
  induction q with
  | nil => simp
  | cons c rest ih =>
    rw [countLt]
    split
    · rw [List.take_succ_cons, List.forall_mem_cons]
      exact ⟨‹c < x›, ih⟩
    · simp

theorem le_of_mem_take_countLe (q : List Nat) (x : Nat) :
    ∀ b ∈ q.take (countLe q x), b ≤ x := by
  induction q with
  | nil => simp
  | cons c rest ih =>
    rw [countLe]
    split
    · rw [List.take_succ_cons, List.forall_mem_cons]
      exact ⟨‹c ≤ x›, ih⟩
    · simp

theorem getElem?_countLt_ge (q : List Nat) (x b : Nat) (h : q[countLt q x]? = some b) : x ≤ b := by
  induction q with
  | nil => simp at h
  | cons c rest ih =>
    simp only [countLt] at h
    split at h
    · simp only [List.getElem?_cons_succ] at h; exact ih h
    · simp only [List.getElem?_cons_zero, Option.some.injEq] at h; omega

theorem getElem?_countLt_eq_iff (q : List Nat) (x : Nat) :
    q[countLt q x]? = some x ↔ countLt q x < countLe q x := by
  induction q with
  | nil => simp [countLt, countLe]
  | cons b rest ih =>
    simp only [countLt, countLe]
    by_cases h1 : b < x
    · have : b ≤ x := Nat.le_of_lt h1
      simp only [h1, this, if_true, List.getElem?_cons_succ, ih]; omega
    · simp only [h1, if_false, List.getElem?_cons_zero, Option.some.injEq]
      split <;> omega

theorem countLt_take (q : List Nat) (k x : Nat) : countLt (q.take k) x = min k (countLt q x) := by
  induction q generalizing k with
  | nil => simp [countLt]
  | cons b rest ih =>
    cases k with
    | zero => simp [countLt]
    | succ k =>
      simp only [List.take_succ_cons, countLt, ih]
      split <;> omega

theorem countLe_take (q : List Nat) (k x : Nat) : countLe (q.take k) x = min k (countLe q x) := by
  induction q generalizing k with
  | nil => simp [countLe]
  | cons b rest ih =>
    cases k with
    | zero => simp [countLe]
    | succ k =>
      simp only [List.take_succ_cons, countLe, ih]
      split <;> omega

theorem countLe_drop {q : List Nat} (h : WF q = true) (k x : Nat) :
    countLe (q.drop k) x = countLe q x - k := by
  induction q generalizing k with
  | nil => simp [countLe]
  | cons b rest ih =>
    cases k with
    | zero => simp
    | succ k =>
      simp only [List.drop_succ_cons, countLe]
      split
      · rw [ih (WF_tail h)]; omega
      · rw [countLe_eq_zero_of_forall_gt fun c hc =>
          Nat.lt_trans (Nat.lt_of_not_le ‹¬ b ≤ x›) (WF_head_lt h c (List.mem_of_mem_drop hc))]
        omega

theorem bsearch_eq (q : List Nat) (x : Nat) :
    bsearch q x = (decide (countLt q x < countLe q x), countLt q x) := by
  simp only [bsearch, Prod.mk.injEq, and_true]
  rw [Bool.eq_iff_iff]
  simp only [beq_iff_eq, decide_eq_true_eq]
  exact getElem?_countLt_eq_iff q x

/-- `binary_search` reports `Ok(i)` exactly when `x` is a boundary (WF lists) -/
theorem bsearch_found_iff {q : List Nat} (h : WF q = true) (x : Nat) :
    (bsearch q x).1 = true ↔ countLe q x = countLt q x + 1 := by
  have := countLe_le_countLt_succ h x
  simp only [bsearch_eq, decide_eq_true_eq]; omega

theorem bsearch_found_iff_mem {q : List Nat} (h : WF q = true) (x : Nat) :
    (bsearch q x).1 = true ↔ x ∈ q := by
  simp only [bsearch_eq, decide_eq_true_eq, ← getElem?_countLt_eq_iff]
  constructor
  · intro hx; exact List.mem_of_getElem? hx
  · intro hx
    induction q with
    | nil => cases hx
    | cons b rest ih =>
      simp only [countLt]
      rcases List.mem_cons.1 hx with rfl | hx
      · simp
      · have hb := WF_head_lt h x hx
        simp only [hb, if_true, List.getElem?_cons_succ]
        exact ih (WF_tail h) hx

theorem contains_eq {q : List Nat} (h : WF q = true) (x : Nat) :
    contains q x = decide (countLe q x % 2 = 1) := by
  have h1 := countLe_le_countLt_succ h x
  have h2 := countLt_le_countLe q x
  simp only [contains, bsearch_eq]
  by_cases hlt : countLt q x < countLe q x
  all_goals
    simp only [hlt, decide_true, decide_false]
    rw [Bool.eq_iff_iff]
    simp only [beq_iff_eq, decide_eq_true_eq]
    omega

theorem contains_nil (x : Nat) : contains [] x = false := by
  simp [contains, bsearch, countLt]

theorem contains_singleton (b x : Nat) : contains [b] x = decide (b ≤ x) := by
  rw [contains_eq (by rfl)]
  simp only [countLe]
  split <;> simp [*]

theorem contains_cons_cons {a b : Nat} {rest : List Nat} (h : WF (a :: b :: rest) = true) (x : Nat) :
    contains (a :: b :: rest) x = ((decide (a ≤ x) && decide (x < b)) || contains rest x) := by
  have hab := (WF_cons_cons.1 h).1
  have h0 : x < b → countLe rest x = 0 := fun hx =>
    countLe_eq_zero_of_forall_gt fun c hc => Nat.lt_trans hx (WF_head_lt (WF_tail h) c hc)
  rw [contains_eq h, contains_eq (WF_tail (WF_tail h)), Bool.eq_iff_iff]
  by_cases h1 : a ≤ x <;> by_cases h2 : b ≤ x <;>
    simp only [countLe, h1, h2, if_true, if_false, Bool.or_eq_true, Bool.and_eq_true,
      decide_eq_true_eq, true_and, false_and, false_or, true_iff] <;> omega

theorem contains_take {q : List Nat} (h : WF q = true) (k x : Nat) :
    contains (q.take k) x = decide (min k (countLe q x) % 2 = 1) := by
  rw [contains_eq (WF_take h k), countLe_take]

theorem contains_drop {q : List Nat} (h : WF q = true) (k x : Nat) :
    contains (q.drop k) x = decide ((countLe q x - k) % 2 = 1) := by
  rw [contains_eq (WF_drop h k), countLe_drop h]

theorem contains_take_of_le {q : List Nat} (h : WF q = true) {k x : Nat} (hk : countLe q x ≤ k) :
    contains (q.take k) x = contains q x := by
  rw [contains_take h, contains_eq h, Nat.min_eq_right hk]

/-- With `i` boundaries below `a`: an even `i` cuts between two ranges, the right half starts at `i`;
an odd `i` cuts inside a range: the right half keeps its opening boundary (`i - 1`), unless `a` is
the closing boundary itself, which is dropped too (`i + 1`). -/
theorem split_eq {q : List Nat} (h : WF q = true) (a : Nat) :
    split q a =
      (q.take (countLt q a),
        q.drop (if countLt q a % 2 = 0 then countLt q a
                else if countLe q a = countLt q a + 1 then countLt q a + 1
                else countLt q a - 1)) := by
  have h1 := countLe_le_countLt_succ h a
  have h2 := countLt_le_countLe q a
  have h3 := countLe_le_length q a
  simp only [split, bsearch_eq]
  by_cases hev : countLt q a % 2 = 0
  · simp [hev]
  · have hev' : ¬ (countLt q a % 2 == 0) = true := by simpa using hev
    simp only [hev', hev, if_false, Bool.false_eq_true]
    by_cases hlt : countLt q a < countLe q a
    · have : countLe q a = countLt q a + 1 := by omega
      simp only [hlt, decide_true]
      simp only [this, if_true]
      rw [Nat.min_eq_left (by omega)]
    · have : ¬ countLe q a = countLt q a + 1 := by omega
      simp only [hlt, decide_false]
      simp only [this, if_false]

theorem split_fst (q : List Nat) (a : Nat) : (split q a).1 = q.take (countLt q a) := by
  simp only [split, bsearch_eq]
  split
  · rfl
  · split <;> rfl

theorem chunksOf_eq_div (size : Nat) : chunksOf size = (size + 1023) / 1024 := by
  unfold chunksOf
  split <;> omega

theorem chunksOf_sub_one (size : Nat) : chunksOf size - 1 = Spec.nChunks size - 1 := by
  rw [chunksOf_eq_div, Spec.nChunks]
  omega

/-- `truncatedLen` as arithmetic on the counters.  With `i` boundaries below the last chunk: an even
`i` keeps one more boundary if there is one; an odd `i` keeps `i`, except that a list ending in the
closing boundary "last chunk" is kept whole. -/
theorem truncatedLen_eq (q : List Nat) (size : Nat) :
    truncatedLen q size =
      if countLt q (Spec.nChunks size - 1) % 2 = 0 then
        min q.length (countLt q (Spec.nChunks size - 1) + 1)
      else if countLt q (Spec.nChunks size - 1) < countLe q (Spec.nChunks size - 1) ∧
          q.length = countLt q (Spec.nChunks size - 1) + 1 then q.length
      else countLt q (Spec.nChunks size - 1) := by
  have h1 := countLt_le_length q (Spec.nChunks size - 1)
  have h2 := countLe_le_length q (Spec.nChunks size - 1)
  simp only [truncatedLen, bsearch_eq, chunksOf_sub_one]
  generalize countLt q (Spec.nChunks size - 1) = i at *
  generalize countLe q (Spec.nChunks size - 1) = j at *
  generalize q.length = len at *
  by_cases hlt : i < j
  · simp only [hlt, decide_true, beq_iff_eq, true_and]
    split
    · omega
    · split <;> omega
  · simp only [hlt, decide_false, beq_iff_eq, false_and, if_false]
    split
    · split <;> omega
    · rfl

theorem truncatedLen_le_succ (q : List Nat) (size : Nat) :
    truncatedLen q size ≤ countLt q (Spec.nChunks size - 1) + 1 := by
  rw [truncatedLen_eq]
  split
  · exact Nat.min_le_right _ _
  · split <;> omega

theorem truncatedLen_le_length (q : List Nat) (size : Nat) :
    truncatedLen q size ≤ q.length := by
  have h := countLt_le_length q (Spec.nChunks size - 1)
  rw [truncatedLen_eq]
  split
  · exact Nat.min_le_left _ _
  · split <;> omega

/-- "the set has a point `≥ m`": a range `[a,b)` with `b > m`, or an open end -/
def reachesPast : List Nat → Nat → Bool
  | [], _ => false
  | [_], _ => true
  | _ :: b :: rest, m => decide (b > m) || reachesPast rest m

private def pastAt (q : List Nat) (m : Nat) (i : Nat) : Bool :=
  if i % 2 == 0 then
    match q[i]?, q[i+1]? with
    | some _, some b => decide (b > m)
    | some _, none => true
    | _, _ => false
  else false

private theorem any_range_succ_succ (f : Nat → Bool) (n : Nat) :
    (List.range (n + 2)).any f = (f 0 || f 1 || (List.range n).any fun i => f (i + 2)) := by
  rw [List.range_succ_eq_map, List.range_succ_eq_map]
  simp only [List.any_cons, List.any_map, List.map_cons, List.map_map, Bool.or_assoc]
  rfl

private theorem any_pastAt (q : List Nat) (m : Nat) :
    ((List.range q.length).any (pastAt q m)) = reachesPast q m := by
  fun_induction reachesPast q m with
  | case1 => rfl
  | case2 a => rfl
  | case3 a b rest m ih =>
    simp only [List.length_cons, any_range_succ_succ, ← ih]
    have h0 : pastAt (a :: b :: rest) m 0 = decide (b > m) := by simp [pastAt]
    have h1 : pastAt (a :: b :: rest) m 1 = false := by simp [pastAt]
    have h2 : (fun i => pastAt (a :: b :: rest) m (i + 2)) = pastAt rest m := by
      funext i
      simp only [pastAt, Nat.add_mod_right, List.getElem?_cons_succ]
    rw [h0, h1, h2]; simp

theorem reachesPast_eq {q : List Nat} (h : WF q = true) (m : Nat) :
    reachesPast q m = (decide (q.length % 2 = 1) || decide (countLe q m < q.length)) := by
  fun_induction reachesPast q m with
  | case1 => rfl
  | case2 a => simp
  | case3 a b rest m ih =>
    have hab := (WF_cons_cons.1 h).1
    have ih := ih (WF_tail (WF_tail h))
    have hl := countLe_le_length rest m
    simp only [ih, countLe, List.length_cons]
    rw [Bool.eq_iff_iff]
    simp only [Bool.or_eq_true, decide_eq_true_eq]
    by_cases hb : b ≤ m
    · have ha : a ≤ m := by omega
      simp only [hb, ha, if_true, decide_eq_true_eq]; omega
    · simp only [hb, if_false]
      split <;> simp only [decide_eq_true_eq] <;> omega

/-- the closed form suggested by the informal statement: non-empty and (open end or last
boundary `> m`) -/
theorem reachesPast_eq_getLast {q : List Nat} (h : WF q = true) (m : Nat) :
    reachesPast q m = true ↔ ∃ hne : q ≠ [], q.length % 2 = 1 ∨ q.getLast hne > m := by
  fun_induction reachesPast q m with
  | case1 => simp
  | case2 a => simp
  | case3 a b rest m ih =>
    have ih := ih (WF_tail (WF_tail h))
    simp only [Bool.or_eq_true, decide_eq_true_eq, ih]
    cases rest with
    | nil => simp
    | cons c r =>
      have hbc : ∀ x ∈ c :: r, b < x := WF_head_lt (WF_tail h)
      have hlast := hbc _ (List.getLast_mem (List.cons_ne_nil c r))
      simp only [ne_eq, reduceCtorEq, not_false_eq_true, List.length_cons, List.getLast_cons,
        exists_true_left]
      omega

theorem selected_eq_reachesPast (size : Nat) (q : List Nat) (c : Nat) :
    Spec.selected size q c =
      (decide (c < Spec.nChunks size) &&
        (contains q c || (c == Spec.nChunks size - 1 && reachesPast q (Spec.nChunks size - 1)))) := by
  rw [← any_pastAt]; rfl

theorem selected_eq {q : List Nat} (h : WF q = true) (size c : Nat) :
    Spec.selected size q c =
      decide (c < Spec.nChunks size ∧
        (countLe q c % 2 = 1 ∨ (c = Spec.nChunks size - 1 ∧ countLe q c < q.length))) := by
  rw [selected_eq_reachesPast, contains_eq h, reachesPast_eq h, Bool.eq_iff_iff]
  simp only [Bool.and_eq_true, Bool.or_eq_true, decide_eq_true_eq, beq_iff_eq]
  refine and_congr_right fun _ => ?_
  by_cases hc : c = Spec.nChunks size - 1
  · -- an odd length with no boundary behind `c` is an odd number of boundaries `≤ c`
    subst hc
    have hl := countLe_le_length q (Spec.nChunks size - 1)
    omega
  · simp only [hc, false_and]

theorem nChunks_pos (size : Nat) : 0 < Spec.nChunks size := by
  simp only [Spec.nChunks]; omega

theorem countLt_le_truncatedLen (q : List Nat) (size : Nat) :
    countLt q (Spec.nChunks size - 1) ≤ truncatedLen q size := by
  have h := countLt_le_length q (Spec.nChunks size - 1)
  rw [truncatedLen_eq]
  split
  · omega
  · split <;> omega

theorem selected_truncate {q : List Nat} (h : WF q = true) (size c : Nat) :
    Spec.selected size (truncate q size) c = Spec.selected size q c := by
  rw [truncate, selected_eq (WF_take h _), selected_eq h, countLe_take, List.length_take,
    Nat.min_eq_left (truncatedLen_le_length q size)]
  refine decide_eq_decide.2 (and_congr_right fun hcn => ?_)
  rcases Nat.lt_or_eq_of_le (Nat.le_sub_one_of_lt hcn) with hc | rfl
  · -- below the last chunk every boundary `≤ c` is kept
    have h1 := countLe_le_countLt q hc
    have h2 := countLt_le_truncatedLen q size
    rw [Nat.min_eq_right (Nat.le_trans h1 h2)]
    simp only [Nat.ne_of_lt hc, false_and]
  · -- the last chunk: selected iff a boundary `≤` it is an opening one or one lies behind it
    have h1 := countLt_le_countLe q (Spec.nChunks size - 1)
    have h2 := countLe_le_countLt_succ h (Spec.nChunks size - 1)
    have h3 := countLe_le_length q (Spec.nChunks size - 1)
    have hk := truncatedLen_eq q size
    generalize truncatedLen q size = k at *
    generalize countLe q (Spec.nChunks size - 1) = j at *
    generalize Spec.nChunks size - 1 = lc at *
    split at hk
    · rw [Nat.min_eq_right (by omega)]
      omega
    · split at hk
      · rw [hk, Nat.min_eq_right h3]
      · rw [hk, Nat.min_eq_left h1]
        omega

/-- the second pass keeps the whole list -/
theorem truncate_truncate (q : List Nat) (size : Nat) :
    truncate (truncate q size) size = truncate q size := by
  suffices h : truncatedLen (truncate q size) size = (truncate q size).length by
    rw [truncate, h, List.take_length]
  have hk := truncatedLen_eq q size
  rw [truncatedLen_eq (truncate q size), truncate, countLt_take, countLe_take, List.length_take,
    Nat.min_eq_right (countLt_le_truncatedLen q size), Nat.min_eq_left (truncatedLen_le_length q size)]
  generalize truncatedLen q size = k at *
  split at hk
  · rename_i hev
    rw [if_pos hev]
    omega
  · rename_i hodd
    rw [if_neg hodd]
    split at hk
    · rw [if_pos (by omega)]
    · rw [if_neg (by omega)]
      exact hk.symm

theorem truncate_bounded_init (q : List Nat) (size : Nat) :
    ∀ b ∈ (truncate q size).dropLast, b < Spec.nChunks size - 1 := by
  intro b hb
  apply lt_of_mem_take_countLt q (Spec.nChunks size - 1) b
  rw [truncate, List.dropLast_eq_take, List.take_take, List.length_take] at hb
  have := truncatedLen_le_succ q size
  exact List.take_subset_take_left q (by omega) hb

theorem truncate_bounded_even (q : List Nat) (size : Nat)
    (hev : (truncate q size).length % 2 = 0) :
    ∀ b ∈ truncate q size, b ≤ Spec.nChunks size - 1 := by
  intro b hb
  apply le_of_mem_take_countLe q (Spec.nChunks size - 1) b
  have h1 := countLt_le_countLe q (Spec.nChunks size - 1)
  have h2 := countLt_le_length q (Spec.nChunks size - 1)
  have hk := truncatedLen_eq q size
  rw [truncate] at hb hev
  rw [List.length_take] at hev
  refine List.take_subset_take_left q ?_ hb
  generalize truncatedLen q size = k at *
  split at hk
  · omega
  · split at hk <;> omega

theorem selected_nil (size c : Nat) : Spec.selected size [] c = false := by
  rw [selected_eq (by rfl)]; simp [countLe]

theorem truncate_eq_nil_iff (q : List Nat) (size : Nat) : truncate q size = [] ↔ q = [] := by
  constructor
  · intro he
    rw [truncate, List.take_eq_nil_iff] at he
    rcases he with he | he
    · -- no boundary is kept: none lies below the last chunk, and then one is kept if there is one
      have hi := countLt_le_truncatedLen q size
      have hk := truncatedLen_eq q size
      rw [he] at hi hk
      rw [Nat.le_zero.1 hi, if_pos rfl] at hk
      exact List.eq_nil_of_length_eq_zero (by omega)
    · exact he
  · rintro rfl
    rfl

/-- a well-formed query that is not empty selects a chunk: the chunk of its first boundary, or the
last chunk when that boundary lies behind the blob -/
theorem selected_none_iff {q : List Nat} (h : WF q = true) (size : Nat) :
    (∀ c, Spec.selected size q c = false) ↔ q = [] := by
  constructor
  · intro hall
    cases q with
    | nil => rfl
    | cons a rest =>
      exfalso
      have hn := nChunks_pos size
      have hlast := hall (Spec.nChunks size - 1)
      have hfirst := hall a
      have ha : countLe (a :: rest) a = 1 := by
        simp only [countLe, Nat.le_refl, if_true]
        rw [countLe_eq_zero_of_forall_gt (WF_head_lt h)]
      have hz : Spec.nChunks size - 1 < a → countLe (a :: rest) (Spec.nChunks size - 1) = 0 :=
        fun hgt => if_neg (Nat.not_le.2 hgt)
      rw [selected_eq h, decide_eq_false_iff_not] at hlast hfirst
      rw [ha] at hfirst
      rw [List.length_cons] at hlast
      omega
  · rintro rfl c
    exact selected_nil size c

theorem truncate_eq_nil_iff_selected {q : List Nat} (h : WF q = true) (size : Nat) :
    truncate q size = [] ↔ ∀ c, Spec.selected size q c = false :=
  (truncate_eq_nil_iff q size).trans (selected_none_iff h size).symm
theorem split_wf {q : List Nat} (h : WF q = true) (a : Nat) :
    WF (split q a).1 = true ∧ WF (split q a).2 = true := by
  rw [split_eq h]; exact ⟨WF_take h _, WF_drop h _⟩

theorem split_left_contains {q : List Nat} (h : WF q = true) {a x : Nat} (hx : x < a) :
    contains (split q a).1 x = contains q x := by
  rw [split_fst]; exact contains_take_of_le h (countLe_le_countLt q hx)

theorem contains_drop_of_even {q : List Nat} (h : WF q = true) {k x : Nat} (hev : k % 2 = 0)
    (hk : k ≤ countLe q x) : contains (q.drop k) x = contains q x := by
  rw [contains_drop h, contains_eq h]
  apply decide_eq_decide.2
  omega

/-- the right half drops an even number of boundaries, all `≤ a` -/
theorem split_right_contains {q : List Nat} (h : WF q = true) {a x : Nat} (hx : a ≤ x) :
    contains (split q a).2 x = contains q x := by
  have h1 := countLe_mono q hx
  have h2 := countLt_le_countLe q a
  rw [split_eq h]
  apply contains_drop_of_even h
  · split
    · assumption
    · split <;> omega
  · split
    · omega
    · split <;> omega

/-- the `[x] ↦ [0]` normalisation step of `split_inner` -/
def fixAll (l : List Nat) (s : Nat) : List Nat :=
  match l with
  | [x] => if x ≤ s then [0] else l
  | _ => l

theorem splitInner_eq (q : List Nat) (s m : Nat) :
    splitInner q s m = (fixAll (split q m).1 s, fixAll (split q m).2 m) := rfl

theorem fixAll_wf {l : List Nat} (h : WF l = true) (s : Nat) : WF (fixAll l s) = true := by
  unfold fixAll; split
  · split
    · rfl
    · exact h
  · exact h

theorem fixAll_contains (l : List Nat) {s x : Nat} (hx : s ≤ x) :
    contains (fixAll l s) x = contains l x := by
  unfold fixAll; split
  · split
    · simp only [contains_singleton]; rw [Bool.eq_iff_iff]; simp only [decide_eq_true_eq]; omega
    · rfl
  · rfl

theorem fixAll_eq_all {l : List Nat} {s : Nat} (h : fixAll l s = [0]) {x : Nat} (hx : s ≤ x) :
    contains l x = true := by
  rw [← fixAll_contains l hx, h, contains_singleton]; simp

end Bao.Ranges
