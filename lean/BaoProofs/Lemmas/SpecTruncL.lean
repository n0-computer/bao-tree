import BaoProofs.Lemmas.SpecIndexStr
import BaoModel.Ops1

/-!
# Lemmas for the `trunc` verdict (`opTrunc`)

1. `String.splitOn ","` inverts joining comma-free tokens with `","` (`Lemmas/SpecIndexStr.lean` with
   the separator `","`).
2. `parseNatList (natList l) = some l` for every list `l` (`parseNatList_natList`).
3. `opTrunc` restated with named definitions (`truncVerdict`, `truncVerdictL`, `selEq`) whose source
   is identical to the `let`s of `opTrunc`, related by `rfl` (`opTrunc_eq`).
-/

namespace Bao.SpecTrunc
open Bao Bao.Ops Bao.Proto Bao.SpecIndex

theorem cm_toList : ("," : String).toList = [','] := by rfl

theorem toList_intercalate_cm (a : String) (as : List String) :
    (",".intercalate (a :: as)).toList = a.toList ++ joinBy ',' (as.map String.toList) :=
  toList_intercalate_sep cm_toList a as

theorem splitOn_intercalate_comma (toks : List String) (hne : toks ≠ [])
    (hsp : ∀ t ∈ toks, ',' ∉ t.toList) : (",".intercalate toks).splitOn "," = toks :=
  splitOn_intercalate_sep cm_toList toks hne hsp

theorem isDigit_of_mem_toString (n : Nat) {c : Char} (h : c ∈ (toString n).toList) :
    c.isDigit = true := by
  have h' : c ∈ (Nat.repr n).toList := h
  rw [Nat.toList_repr] at h'
  exact Nat.isDigit_of_mem_toDigits (by omega) (by omega) h'

theorem noComma_nat (n : Nat) : ',' ∉ (toString n).toList :=
  fun h => absurd (isDigit_of_mem_toString n h) (by decide)

theorem mem_joinBy_nat (l : List Nat) {c : Char}
    (h : c ∈ joinBy ',' ((l.map toString).map String.toList)) : c = ',' ∨ c.isDigit = true := by
  induction l with
  | nil => simp [joinBy] at h
  | cons a l ih =>
    simp only [List.map_cons, joinBy, List.mem_cons, List.mem_append] at h
    rcases h with h | h | h
    · exact Or.inl h
    · exact Or.inr (isDigit_of_mem_toString a h)
    · exact ih h

theorem intercalate_ne (a : Nat) (l : List Nat) {s : String} {c : Char} (hc : c ∈ s.toList)
    (hcm : c ≠ ',') (hd : c.isDigit = false) : ",".intercalate ((a :: l).map toString) ≠ s := by
  intro e
  rw [← e, List.map_cons, toList_intercalate_cm, List.mem_append] at hc
  have hd' : ¬ c.isDigit = true := by rw [hd]; exact Bool.false_ne_true
  rcases hc with hc | hc
  · exact hd' (isDigit_of_mem_toString a hc)
  · exact (mem_joinBy_nat l hc).elim hcm hd'

theorem parseNatList_natList (l : List Nat) : parseNatList (natList l) = some l := by
  cases l with
  | nil => rfl
  | cons a l =>
    have hn : natList (a :: l) = ",".intercalate ((a :: l).map toString) := rfl
    have hd : ((",".intercalate ((a :: l).map toString)) == "-") = false :=
      beq_eq_false_iff_ne.2 (intercalate_ne a l (c := '-') (by decide) (by decide) (by decide))
    rw [hn]
    unfold parseNatList
    rw [hd]
    simp only [Bool.false_eq_true, if_false]
    rw [splitOn_intercalate_comma _ (by simp) (List.forall_mem_map.2 fun n _ => noComma_nat n)]
    exact mapM_toNat?_toString (a :: l)

/-- the verdict's `selEq`: the selected sets of `it` and `rs` agree on the chunks `0 .. nChunks+1` -/
def selEq (size : Nat) (rs it : List Nat) : Bool :=
  (List.range (Spec.nChunks size + 2)).all fun c =>
    Spec.selected size it c == Spec.selected size rs c

/-- the cascade of `opTrunc` on a parsed output `it` -/
def truncVerdictL (rs : List Nat) (size : Nat) (it : List Nat) : Option String :=
  if !Ranges.WF it then some "not strictly sorted"
  else if !selEq size rs it then some "selected set changed"
  else if Ranges.truncate it size != it then some "not idempotent (model truncate on impl output)"
  else none

def truncVerdict (rs : List Nat) (size : Nat) (impl : String) : Option String :=
  match parseNatList impl with
  | none => some "malformed"
  | some it => truncVerdictL rs size it

theorem opTrunc_eq (rsS sizeS impl : String) (rs : List Nat) (size : Nat)
    (h1 : parseNatList rsS = some rs) (h2 : sizeS.toNat? = some size) :
    (opTrunc [rsS, sizeS] impl).model = natList (Ranges.truncate rs size) ∧
    (opTrunc [rsS, sizeS] impl).specFail = truncVerdict rs size impl := by
  rw [opTrunc, h1, h2]
  exact ⟨rfl, rfl⟩

/-- arguments that do not parse are rejected as `bad-op` (by design, not a finding) -/
theorem opTrunc_bad (rsS sizeS impl : String)
    (h : parseNatList rsS = none ∨ sizeS.toNat? = none) :
    (opTrunc [rsS, sizeS] impl).specFail = some "bad-op" := by
  rcases h with h | h
  · simp only [opTrunc, h]; rfl
  · cases h1 : parseNatList rsS <;> simp only [opTrunc, h1, h] <;> rfl

end Bao.SpecTrunc
