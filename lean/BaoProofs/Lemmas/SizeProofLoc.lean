import BaoProofs.Lemmas.SizeProof
import BaoProofs.Lemmas.C01InvLoc

/-!
# The size proof (C16) with a LOCAL collision freedom hypothesis

The spine argument described in `Lemmas/SizeProof.lean`, under `CollisionFreeOn hf S` for a set `S`
containing `trueEvals hf d` and the hash inputs of the item-yielding steps of the run (the theorem
under the global `CollisionFree hf` is the instance at `CollisionFree.on`).

* `checkEvals`, `runLEvals` – the inputs evaluated by the (successful) steps of the list machine
  `runL`;
* `runEvals_sup`  – they are all inputs of the model's decoder run (`runEvals`, either flavour);
* `SpineL`        – spine hashes with the honest root flag, whose evaluations are in `trueEvals`;
* `RunsIn`        – a run of the list machine to the end together with "its inputs lie in `S`";
* `spine_node_loc`, `decode_size_proof_loc` – the spine argument with the local hypothesis.
-/

namespace Bao.DecodeSpec
open Bao Bao.Spec Bao.PlanPre Bao.Ranges Bao.Bits Bao.C01

variable {H : Type}

/-- the inputs evaluated by the check of a plan item on the bytes `buf` (= `checkInputs` of
`Lemmas/DecodeSpec.lean`, `checkEvals_eq_checkInputs`) -/
def checkEvals (hf : HashFns H) : Chunk → List UInt8 → List (HashIn H)
  | .parent _ isRoot _ _ _, buf => [.parent (parsePair hf buf).1 (parsePair hf buf).2 isRoot]
  | .leaf start _ isRoot _, buf => hashEvals hf start buf isRoot

theorem checkEvals_eq_checkInputs (hf : HashFns H) (c : Chunk) (buf : List UInt8) :
    checkEvals hf c buf = checkInputs hf c buf := by
  cases c with
  | parent => rfl
  | leaf => simp only [checkEvals, checkInputs, hashEvals, evalsOf_eq_hashInputs]

theorem checkEvals_withoutRanges (hf : HashFns H) (c : Chunk) (b : List UInt8) :
    checkEvals hf c.withoutRanges b = checkEvals hf c b := by cases c <;> rfl

/-- the inputs evaluated by the item-yielding steps of `runL` -/
def runLEvals (hf : HashFns H) [BEq H] : List Chunk → List H → List UInt8 → List (HashIn H)
  | [], _, _ => []
  | c :: p, st, s =>
    match stepC hf c st s with
    | .item _ st' s' => checkEvals hf c (s.take c.size) ++ runLEvals hf p st' s'
    | .err _ _ => []
    | .panic _ => []

theorem runLEvals_cons_item {hf : HashFns H} [BEq H] {c : Chunk} {p : List Chunk} {st st' : List H}
    {s s' : List UInt8} {i : Item H} (h : stepC hf c st s = .item i st' s') :
    runLEvals hf (c :: p) st s = checkEvals hf c (s.take c.size) ++ runLEvals hf p st' s' := by
  simp only [runLEvals, h]

theorem runLEvals_append_ok {hf : HashFns H} [BEq H] (B : List Chunk) :
    ∀ (A : List Chunk) (st : List H) (s : List UInt8) (st1 : List H) (s1 : List UInt8),
      (runL hf A st s).fin = .ok st1 s1 →
      runLEvals hf (A ++ B) st s = runLEvals hf A st s ++ runLEvals hf B st1 s1 := by
  intro A
  induction A with
  | nil =>
    intro st s st1 s1 h
    simp only [runL_nil, End.ok.injEq] at h
    obtain ⟨rfl, rfl⟩ := h
    simp [runLEvals]
  | cons c A ih =>
    intro st s st1 s1 h
    obtain ⟨i, st2, s2, hstep, hrest, -⟩ := runL_cons_ok h
    rw [List.cons_append, runLEvals_cons_item hstep, runLEvals_cons_item hstep,
      ih st2 s2 st1 s1 hrest, List.append_assoc]

section bridge
variable (hf : HashFns H) [BEq H]

theorem stepEvals_stepC (fl : Flavour) (d : Dec H) (c : Chunk) (it' : PrePartial)
    (h : Response.next d.iter = .item c.withoutRanges it') {i : Item H} {st' : List H}
    {s' : List UInt8} (hsc : stepC hf c d.stack d.encoded = .item i st' s') :
    d.stepEvals hf fl = checkEvals hf c (d.encoded.take c.size) := by
  obtain ⟨hl, top, rest, hst, -, -, -, -⟩ := stepC_item hsc
  have hr : readExact d.encoded c.withoutRanges.size
      = .ok (d.encoded.take c.size, d.encoded.drop c.size) := by
    cases c <;> exact if_pos hl
  rw [stepEvals_eq fl h hr hst]
  cases c <;> rfl

/-- twin of `runAux_eq_runL`: every input of an item-yielding step of the list machine over the
pending plan is evaluated by the model's decoder run (either flavour) -/
theorem runEvalsAux_sup {size ml filled root : Nat} (g : Geo size 0 filled) (fl : Flavour)
    (fuel : Nat) :
    ∀ (stack : List (Nat × Ranges)) (buffer : List Chunk) (hst : List H) (enc : List UInt8)
      (hash : H), (∀ e ∈ stack, Valid filled e) →
      (pending size 0 ml filled root stack buffer).length < fuel →
      ∀ x ∈ runLEvals hf (pending size 0 ml filled root stack buffer) hst enc,
        x ∈ runEvalsAux hf fl fuel ⟨st size 0 ml filled root stack buffer, hst, enc, hash⟩ := by
  induction fuel with
  | zero => intro _ _ _ _ _ _ h; omega
  | succ n ih =>
    intro stack buffer hst enc hash hv hlen x hx
    rcases iter_next (ml := ml) (root := root) g stack buffer hv with
      ⟨he, -⟩ | ⟨c, stack', buf', hn, hv', he⟩
    · rw [he] at hx
      simp [runLEvals] at hx
    · have hr : Response.next (st size 0 ml filled root stack buffer)
          = .item c.withoutRanges (st size 0 ml filled root stack' buf') := by
        unfold Response.next; rw [hn]
      have hstep := nextSync_stepC hf
        ⟨st size 0 ml filled root stack buffer, hst, enc, hash⟩ c _ hr
      rw [he] at hx hlen
      simp only at hstep
      cases hsc : stepC hf c hst enc with
      | item i st' s' =>
        rw [hsc] at hstep
        simp only at hstep
        have hnext := DecSim.next_of_sync_item hf fl hstep
        have hev := stepEvals_stepC hf fl
          ⟨st size 0 ml filled root stack buffer, hst, enc, hash⟩ c _ hr hsc
        rw [runLEvals_cons_item hsc, List.mem_append] at hx
        unfold runEvalsAux
        rw [hnext, hev]
        rcases hx with hx | hx
        · exact List.mem_append_left _ hx
        · exact List.mem_append_right _
            (ih stack' buf' st' s' hash hv' (by simp only [List.length_cons] at hlen; omega) x hx)
      | err e s' => simp [runLEvals, hsc] at hx
      | panic s' => simp [runLEvals, hsc] at hx

theorem runLEvals_withoutRanges (p : List Chunk) (st : List H) (s : List UInt8) :
    runLEvals hf (p.map Chunk.withoutRanges) st s = runLEvals hf p st s := by
  induction p generalizing st s with
  | nil => rfl
  | cons c p ih =>
    simp only [List.map_cons, runLEvals, stepC_withoutRanges, checkEvals_withoutRanges]
    have hsz : c.withoutRanges.size = c.size := by cases c <;> rfl
    rw [hsz]
    cases stepC hf c st s <;> simp only [ih]

/-- **the evaluations of the list machine are evaluations of the decoder** (companion of
`decodeAll_eq_runL`): every input of an item-yielding step of the list machine over the response
plan is an input of the model's decoder run -/
theorem runEvals_sup (fl : Flavour) (root : H) (size bs : Nat) (q : Ranges) (s : List UInt8)
    (hs : size ≤ 2 ^ 63) :
    ∀ x ∈ runLEvals hf (plan ⟨size, 0⟩ bs (Ranges.truncate q size)) [root] s,
      x ∈ runEvals hf fl root ⟨size, bs⟩ q s := by
  have g := shifted_geo size 0 hs (by omega)
  obtain ⟨stack, hit, hv, hpend⟩ := new_iter size bs hs (Ranges.truncate q size)
  have hlen := plan_length_le ⟨size, 0⟩ bs (Ranges.truncate q size)
  have := runEvalsAux_sup hf (ml := bs) (root := (Tree.shifted ⟨size, 0⟩).1) g fl
    (PrePartial.fuelFor ⟨size, 0⟩ + 1) stack [] [root] s root hv
    (by rw [hpend]; unfold PrePartial.fuelFor; omega)
  rw [hpend] at this
  unfold runEvals Dec.runEvals Dec.new
  simp only [hit]
  exact this

end bridge

/-- `x` is the chaining value of a right-spine SUBTREE interval `[a, N)` of the true blob, with the
root flag the honest hashing uses for it -/
def SpineL (hf : HashFns H) (d : List UInt8) (x : H) : Prop :=
  ∃ a, Sub d a (nChunks d.length) ∧
    x = cv hf d a (nChunks d.length) (isRootIv d a (nChunks d.length))

theorem spineL_root (hf : HashFns H) (d : List UInt8) : SpineL hf d (Spec.root hf d) :=
  ⟨0, Sub.root d, by simp [isRootIv, Spec.root]⟩

theorem SpineL.toSpine {hf : HashFns H} {d : List UInt8} {x : H} (h : SpineL hf d x) :
    Spine hf d x := by
  obtain ⟨a, ⟨_, _, _, ha⟩, rfl⟩ := h
  exact ⟨a, _, ha, rfl⟩

section checks
variable {hf : HashFns H} {d : List UInt8} {S : HashIn H → Prop} (cf : CollisionFreeOn hf S)
  (hT : ∀ x ∈ trueEvals hf d, S x) (hd : d.length ≤ 2 ^ 64 * 1024)
include cf hT hd

theorem spine_parent_loc {x l r : H} {flag : Bool} (hx : SpineL hf d x)
    (hS : S (.parent l r flag)) (h : x = hf.parentCv l r flag) : SpineL hf d r := by
  obtain ⟨a, hs, rfl⟩ := hx
  obtain ⟨-, m, ham, -, -, s2, -, hr⟩ :=
    parent_check_on cf hd hs (fun y hy => hT y (trueEvals_sub hd hs y hy)) hS h
  have hf2 : isRootIv d m (nChunks d.length) = false := by
    simp only [isRootIv, decide_eq_false_iff_not]; omega
  exact ⟨m, s2, hf2 ▸ hr⟩

/-- a spine hash that passes the check of a leaf which claims to be the last leaf of a blob of
`size'` bytes: the claimed size is the true size -/
theorem spine_leaf_loc {x : H} (hx : SpineL hf d x) {s size' : Nat} {flag : Bool}
    {buf : List UInt8} (hS : ∀ y ∈ hashEvals hf s buf flag, S y)
    (h : x = hashSubtree hf s buf flag) (hs : s * 1024 ≤ size')
    (hz : buf.length = size' - s * 1024) : size' = d.length := by
  obtain ⟨a, hsub, rfl⟩ := hx
  have hsubT := trueEvals_sub (hf := hf) hd hsub
  have hstart := hsub.start_le
  obtain ⟨-, -, -, ha⟩ := hsub
  unfold Spec.cv at h
  obtain ⟨rfl, hb, -⟩ := cv_inj_on' cf (fun y hy => hT y (hsubT y hy)) hS h
  -- the interval reaches the end of the blob, so its bytes are all bytes from `a * 1024` on
  have hl := congrArg List.length hb
  rw [C01.slice_length, hz, Nat.min_eq_right (Nat.sub_le_of_le_add (by
    rw [← Nat.add_mul, Nat.sub_add_cancel (Nat.le_of_lt ha)]
    exact C01.nChunks_ge _))] at hl
  omega

end checks

section spine
variable {hf : HashFns H} [BEq H] [LawfulBEq H]

/-- the list machine runs over the plan `p` to the end, and every hash input it evaluates on the
way lies in `S` -/
def RunsIn (hf : HashFns H) [BEq H] (S : HashIn H → Prop) (p : List Chunk) (st : List H)
    (s : List UInt8) (st1 : List H) (s1 : List UInt8) : Prop :=
  (runL hf p st s).fin = .ok st1 s1 ∧ ∀ y ∈ runLEvals hf p st s, S y

omit [LawfulBEq H] in
theorem RunsIn.cons {S : HashIn H → Prop} {c : Chunk} {p : List Chunk} {top : H}
    {stk st1 : List H} {s s1 : List UInt8} (h : RunsIn hf S (c :: p) (top :: stk) s st1 s1) :
    c.size ≤ s.length ∧ (top != check hf c (s.take c.size)) = false ∧
      (∀ y ∈ checkEvals hf c (s.take c.size), S y) ∧
      RunsIn hf S p (push hf c (s.take c.size) stk) (s.drop c.size) st1 s1 := by
  obtain ⟨hok, hE⟩ := h
  obtain ⟨i, st2, s2, hstep, hrest, -⟩ := runL_cons_ok hok
  rw [runLEvals_cons_item hstep] at hE
  obtain ⟨hl, top', rest', htr, hc, -, rfl, rfl⟩ := stepC_item hstep
  obtain ⟨rfl, rfl⟩ := List.cons.inj htr
  exact ⟨hl, hc, fun y hy => hE y (List.mem_append_left _ hy), hrest,
    fun y hy => hE y (List.mem_append_right _ hy)⟩

omit [LawfulBEq H] in
theorem RunsIn.append {S : HashIn H → Prop} {A B : List Chunk} {st st1 : List H}
    {s s1 : List UInt8} (h : RunsIn hf S (A ++ B) st s st1 s1) :
    ∃ st3 s3, (runL hf A st s).fin = .ok st3 s3 ∧ RunsIn hf S B st3 s3 st1 s1 := by
  obtain ⟨hok, hE⟩ := h
  rw [runL_append] at hok
  obtain ⟨st3, s3, hA, hB, -⟩ := bind_ok hok
  rw [runLEvals_append_ok _ _ _ _ _ _ hA] at hE
  exact ⟨st3, s3, hA, hB, fun y hy => hE y (List.mem_append_right _ hy)⟩

section steps
variable {d : List UInt8} {S : HashIn H → Prop} (cf : CollisionFreeOn hf S)
  (hT : ∀ x ∈ trueEvals hf d, S x) (hd : d.length ≤ 2 ^ 64 * 1024)
include cf hT hd

theorem spine_leaf_step_loc {top : H} (ht : SpineL hf d top)
    {s z size' : Nat} {flag : Bool} {x : Ranges} {p : List Chunk} {stk st1 : List H}
    {s0 s1 : List UInt8} (hs : s * 1024 ≤ size') (hz : z = size' - s * 1024)
    (h : RunsIn hf S (.leaf s z flag x :: p) (top :: stk) s0 st1 s1) : size' = d.length := by
  obtain ⟨hl, hc, hE, -⟩ := h.cons
  simp only [Chunk.size] at hl hc hE
  exact spine_leaf_loc cf hT hd ht hE (by simpa [check] using hc) hs
    (by rw [List.length_take, Nat.min_eq_left hl, hz])

theorem spine_parent_step_loc {top : H} (ht : SpineL hf d top) {node : Nat} {flag lf : Bool} {x : Ranges} {p : List Chunk}
    {stk st1 : List H} {s0 s1 : List UInt8}
    (h : RunsIn hf S (.parent node flag lf true x :: p) (top :: stk) s0 st1 s1) :
    ∃ l r s2, SpineL hf d r ∧
      RunsIn hf S p (if lf then l :: r :: stk else r :: stk) s2 st1 s1 := by
  obtain ⟨-, hc, hE, hrest⟩ := h.cons
  exact ⟨_, _, _, spine_parent_loc cf hT hd ht (hE _ (List.mem_singleton_self _))
    (by simpa [check, Chunk.size] using hc), by simpa [push, Chunk.size] using hrest⟩

/-- **the spine argument**: a run over the plan of a claimed node that reaches the end of the
claimed blob and whose sub-query selects the last claimed chunk, started on a spine hash of the true
blob, can end `ok` only if the claimed size is the true size -/
theorem spine_node_loc {size' B filled root : Nat} (g : Geo size' 0 filled) (L k : Nat) (rs : Ranges) :
    WF rs = true → Spec.selected size' rs (nChunks size' - 1) = true →
    nChunks size' ≤ endOf k L → startOf k L < filled →
    ∀ (top : H) (stk : List H) (s : List UInt8) (st1 : List H) (s1 : List UInt8),
      SpineL hf d top →
      RunsIn hf S (planPre size' 0 B filled root L k rs) (top :: stk) s st1 s1 →
      size' = d.length := by
  refine planPre_induct (size := size') (bs := 0) (ml := B) (filled := filled) (root := root)
    (P := fun L k rs p => WF rs = true → Spec.selected size' rs (nChunks size' - 1) = true →
      nChunks size' ≤ endOf k L → startOf k L < filled →
      ∀ (top : H) (stk : List H) (s : List UInt8) (st1 : List H) (s1 : List UInt8),
        SpineL hf d top → RunsIn hf S p (top :: stk) s st1 s1 → size' = d.length)
    ?_ ?_ ?_ ?_ ?_ ?_ ?_ L k rs
  · -- nil
    intro L k _ hsel
    rw [selected_nil] at hsel; cases hsel
  · -- gone
    intro k rs _ hge _ _ _ hex
    rw [Offsets.startOf_zero] at hex
    rw [Offsets.nodeOf_zero] at hge
    omega
  · -- skip
    intro L k rs _ hge ih hwf hsel _ hex
    have hm : nChunks size' ≤ midOf k (L + 1) := g.skip_mid_ge hge
    exact ih hwf hsel (by rw [endOf_left]; exact hm) (by rw [startOf_left]; exact hex)
  · -- query leaf
    intro L k rs _ hlt _ _ _ hend hex top stk s st1 s1 ht h
    rw [nodeLeaf_zero] at h
    have hs : toBytes (startOf k L) ≤ size' := g.start_le (L := L) hex
    exact spine_leaf_step_loc cf hT hd ht hs (by rw [toBytes_end_ge hend]; rfl) h
  · -- half leaf
    intro k rs _ hlt _ _ _ _ hend hex top stk s st1 s1 ht h
    rw [nodeLeaf_zero] at h
    have hs : toBytes (startOf k 0) ≤ size' := g.start_le (L := 0) hex
    exact spine_leaf_step_loc cf hT hd ht hs (by rw [toBytes_end_ge hend]; rfl) h
  · -- chunk group
    intro k rs _ hlt _ hh hwf hsel hend hex top stk s st1 s1 ht h
    have hm : midOf k 0 < nChunks size' := lt_nChunks_of_toBytes_lt hh
    have hrsel : Spec.selected size' (rq 0 0 k rs) (nChunks size' - 1) = true := by
      rw [rq_zero, selected_right hwf (by omega)]; exact hsel
    have hrne := ne_nil_of_selected hrsel
    rw [nodeParent_zero, isEmpty_eq_false hrne] at h
    simp only [Bool.not_false, Bool.false_eq_true, if_false] at h
    obtain ⟨l, r, s2, hr, h2⟩ := spine_parent_step_loc cf hT hd ht h
    have hsz : toBytes (midOf k 0) ≤ size' := Nat.le_of_lt hh
    rw [rightLeaf_zero] at h2
    cases hl : (lq 0 0 k rs).isEmpty
    · -- the left leaf pops its own hash
      simp only [hl, Bool.not_false, if_true, Bool.false_eq_true, if_false, List.singleton_append]
        at h2
      rw [leftLeaf_zero] at h2
      exact spine_leaf_step_loc cf hT hd hr hsz (by rw [toBytes_end_ge hend]; rfl) h2.cons.2.2.2
    · simp only [hl, Bool.not_true, Bool.false_eq_true, if_false, if_true, List.nil_append] at h2
      exact spine_leaf_step_loc cf hT hd hr hsz (by rw [toBytes_end_ge hend]; rfl) h2
  · -- inner node
    intro L k rs _ hlt _ _ ihr hwf hsel hend hex top stk s st1 s1 ht h
    have hm : midOf k (L + 1) < nChunks size' := g.mid_lt_nChunks hlt
    have hwfs := C14.splitInner_wf (startOf k (L + 1)) (midOf k (L + 1)) hwf
    have hrsel : Spec.selected size' (rq 0 (L + 1) k rs) (nChunks size' - 1) = true := by
      rw [rq_zero, selected_right hwf (by omega)]; exact hsel
    have hrne := ne_nil_of_selected hrsel
    rw [nodeParent_zero, isEmpty_eq_false hrne] at h
    simp only [Bool.not_false] at h
    obtain ⟨l, r, s2, hr, h2⟩ := spine_parent_step_loc cf hT hd ht h
    obtain ⟨st3, s3, hL1, hR1⟩ := h2.append
    -- the plan of the left child consumes exactly its own hash
    have hst3 : st3 = r :: stk := by
      cases hl : (lq 0 (L + 1) k rs).isEmpty
      · have hlne : lq 0 (L + 1) k rs ≠ [] := by
          intro e; rw [e] at hl; cases hl
        simp only [hl, Bool.not_false, if_true] at hL1
        exact planPre_frame hf g L (2 * k) _ hlne
          (by rw [startOf_left]; exact hex) hL1
      · have hle : lq 0 (L + 1) k rs = [] := isEmpty_eq_true_iff.1 hl
        simp only [hl, Bool.not_true, Bool.false_eq_true, if_false] at hL1
        rw [hle, planPre_nil] at hL1
        simp only [runL_nil, End.ok.injEq] at hL1
        exact hL1.1.symm
    rw [hst3] at hR1
    exact ihr (by rw [rq_zero]; exact hwfs.2) hrsel (by rw [endOf_right]; exact hend)
      (g.right_exists hlt) r stk s3 st1 s1 hr hR1

end steps

/-- **C16, local form**: a decode whose query selects the last chunk of the claimed geometry can end
`done` only if the claimed size is the true size of the blob behind the root hash – provided `hf`
has no collision among the inputs evaluated by the honest hashing of `d` and by the run -/
theorem decode_size_proof_loc (fl : Flavour) (d : List UInt8)
    (hd : d.length ≤ 2 ^ 63) (size' bs : Nat) (hs : size' ≤ 2 ^ 63) (q : Ranges)
    (hwf : WF q = true) (hsel : Spec.selected size' q (nChunks size' - 1) = true)
    (s : List UInt8)
    (cf : CollisionFreeOn hf (fun x => x ∈ trueEvals hf d ∨
      x ∈ runEvals hf fl (Spec.root hf d) ⟨size', bs⟩ q s))
    (hdone : (decodeAll hf fl (Spec.root hf d) ⟨size', bs⟩ q s).terminal = .done) :
    size' = d.length := by
  have hsup := runEvals_sup hf fl (Spec.root hf d) size' bs q s hs
  rw [decodeAll_eq_runL hf fl _ _ _ _ _ hs] at hdone
  simp only [Out.toRun] at hdone
  have g := shifted_geo size' 0 hs (by omega)
  obtain ⟨-, hroot, hlt⟩ := rootLevel_spec size' 0 hs
  cases hfin : (runL hf (plan ⟨size', 0⟩ bs (truncate q size')) [Spec.root hf d] s).fin with
  | err e s1 => rw [hfin] at hdone; cases hdone
  | panic s1 => rw [hfin] at hdone; cases hdone
  | ok st1 s1 =>
    unfold plan at hfin hsup
    refine spine_node_loc cf (fun x hx => .inl hx) (by omega) g (rootLevel ⟨size', 0⟩) 0
      (truncate q size')
      (C14.truncate_wf size' hwf) (by rw [C14.truncate_selected size' hwf]; exact hsel)
      (rootLevel_covers size' 0 hs) (by rw [startOf_zero_left]; omega)
      (Spec.root hf d) [] s st1 s1 (spineL_root hf d) ⟨hfin, fun y hy => .inr (hsup y hy)⟩

theorem decode_wrong_size_loc (fl : Flavour) (d : List UInt8) (hd : d.length ≤ 2 ^ 63)
    (size' bs : Nat) (hs : size' ≤ 2 ^ 63) (hne : size' ≠ d.length) (q : Ranges)
    (hwf : WF q = true) (hsel : Spec.selected size' q (nChunks size' - 1) = true)
    (s : List UInt8)
    (cf : CollisionFreeOn hf (fun x => x ∈ trueEvals hf d ∨
      x ∈ runEvals hf fl (Spec.root hf d) ⟨size', bs⟩ q s)) :
    ∃ e, (decodeAll hf fl (Spec.root hf d) ⟨size', bs⟩ q s).terminal = .err e := by
  cases h : (decodeAll hf fl (Spec.root hf d) ⟨size', bs⟩ q s).terminal with
  | done => exact absurd (decode_size_proof_loc fl d hd size' bs hs q hwf hsel s cf h) hne
  | err e => exact ⟨e, rfl⟩
  | panic => exact absurd h (decode_no_panic hf fl _ size' bs q s hs)

end spine

end Bao.DecodeSpec
