import BaoProofs.Lemmas.PlanPreTop
import BaoProofs.Lemmas.DecSim

/-!
# The decoder as a machine over a plan *list*

`Dec.runAux` pulls the response plan lazily through `Response.next`.  Here:

* `runL` – the run of `stepC` (`Lemmas/DecSim.lean`: one decoder step on a plan item, hash stack and
  stream explicit) over a plan list;
* `iter_next` – one call of `PrePartial.next` from a valid iterator state yields the head of the
  pending list `buffer ++ stack.flatMap planId`;
* `runAux_eq_runL`, `decodeAll_eq_runL` – the model's decoder run, either flavour, IS `runL` over the
  recursive plan (by `DecSim.next_eq`);
* generic facts about `runL`: append (`runL_append`), exact consumption and independence of the
  unread suffix (`runL_ok_local`), a stream changed behind a prefix (`runL_prefix`, with the cut
  stream and the altered stream as its two cases), no panic on a non-empty stack.
-/

namespace Bao.DecodeSpec
open Bao Bao.Spec Bao.PlanPre

variable {H : Type}

/-- how a run over a plan list ends: with the hash stack and the unread stream behind the last item,
or with the stream as the error / the panic left it -/
inductive End (H : Type)
  | ok (st : List H) (s : List UInt8)
  | err (e : DecodeError) (s : List UInt8)
  | panic (s : List UInt8)

/-- the items returned, and how the run ended -/
structure Out (H : Type) where
  items : List (Item H)
  fin : End H

/-- `Dec.runAux` with the lazy plan iterator replaced by the plan as a list: `stepC` item by item,
up to the first step that returns no item -/
def runL (hf : HashFns H) [BEq H] : List Chunk → List H → List UInt8 → Out H
  | [], st, s => ⟨[], .ok st s⟩
  | c :: p, st, s =>
    match stepC hf c st s with
    | .item i st' s' => ⟨i :: (runL hf p st' s').items, (runL hf p st' s').fin⟩
    | .err e s' => ⟨[], .err e s'⟩
    | .panic s' => ⟨[], .panic s'⟩

def End.terminal : End H → DecEnd
  | .ok .. => .done
  | .err e _ => .err e
  | .panic _ => .panic

def End.rest : End H → List UInt8
  | .ok _ s => s
  | .err _ s => s
  | .panic s => s

def Out.toRun (o : Out H) : DecRun H := ⟨o.items, o.fin.terminal, o.fin.rest⟩

@[simp] theorem runL_nil (hf : HashFns H) [BEq H] (st : List H) (s : List UInt8) :
    runL hf [] st s = ⟨[], .ok st s⟩ := rfl

theorem runL_cons (hf : HashFns H) [BEq H] (c : Chunk) (p : List Chunk) (st : List H)
    (s : List UInt8) :
    runL hf (c :: p) st s =
      match stepC hf c st s with
      | .item i st' s' => ⟨i :: (runL hf p st' s').items, (runL hf p st' s').fin⟩
      | .err e s' => ⟨[], .err e s'⟩
      | .panic s' => ⟨[], .panic s'⟩ := rfl

theorem check_withoutRanges (hf : HashFns H) (c : Chunk) (b : List UInt8) :
    check hf c.withoutRanges b = check hf c b := by cases c <;> rfl

theorem stepC_withoutRanges (hf : HashFns H) [BEq H] (c : Chunk) (st : List H) (s : List UInt8) :
    stepC hf c.withoutRanges st s = stepC hf c st s := by
  cases c <;> rfl

theorem nextSync_stepC (hf : HashFns H) [BEq H] (d : Dec H) (c : Chunk) (it' : PrePartial)
    (h : Response.next d.iter = .item c.withoutRanges it') :
    match stepC hf c d.stack d.encoded with
    | .item i st' s' => d.nextSync hf = .item i ⟨it', st', s', d.hash⟩
    | .err e s' => ∃ d', d.nextSync hf = .err e d' ∧ d'.encoded = s'
    | .panic s' => d.nextSync hf = .panic ∧ s' = d.encoded := by
  obtain ⟨st, he⟩ := DecSim.next_eq hf .sync d
  simp only [h, stepC_withoutRanges] at he
  cases hs : stepC hf c d.stack d.encoded with
  | item i st' s' => simp only [hs] at he; exact he
  | err e s' => simp only [hs] at he; exact ⟨_, he, rfl⟩
  | panic s' => simp only [hs] at he; exact ⟨he, (stepC_panic hs).2⟩

section iter
variable {size bs ml filled root : Nat}

/-- the items an iterator state will still yield -/
def pending (size bs ml filled root : Nat) (stack : List (Nat × Ranges)) (buffer : List Chunk) :
    List Chunk :=
  buffer ++ stack.flatMap (planId size bs ml filled root)

theorem iter_next (g : Geo size bs filled) (stack : List (Nat × Ranges)) (buffer : List Chunk)
    (hv : ∀ e ∈ stack, Valid filled e) :
    (pending size bs ml filled root stack buffer = [] ∧
      (st size bs ml filled root stack buffer).next = .done) ∨
    ∃ c stack' buf', (st size bs ml filled root stack buffer).next
        = .item c (st size bs ml filled root stack' buf') ∧
      (∀ e ∈ stack', Valid filled e) ∧
      pending size bs ml filled root stack buffer
        = c :: pending size bs ml filled root stack' buf' := by
  cases buffer with
  | cons c rest =>
    exact Or.inr ⟨c, stack, rest, rfl, hv, rfl⟩
  | nil =>
    cases stack with
    | nil => exact Or.inl ⟨rfl, rfl⟩
    | cons e stack =>
      obtain ⟨sh, rs⟩ := e
      obtain ⟨k, L, rfl⟩ := C18.coords_exist sh
      obtain ⟨hlt, hne⟩ := hv _ (List.mem_cons_self)
      have hv' : ∀ e ∈ stack, Valid filled e := fun e he => hv e (List.mem_cons_of_mem _ he)
      obtain ⟨c, stack', buf', hnext, hv'', heq⟩ :=
        next_step (ml := ml) (root := root) g hlt hne hv'
      have hplan := planId_nodeOf (ml := ml) (root := root) g hlt rs
      refine Or.inr ⟨c, stack', buf', hnext, hv'', ?_⟩
      simp only [pending, List.nil_append, List.flatMap_cons, hplan]
      exact heq.symm

end iter

theorem runAux_eq_runL {size ml filled root : Nat} (g : Geo size 0 filled) (hf : HashFns H)
    [BEq H] (fl : Flavour) (fuel : Nat) :
    ∀ (stack : List (Nat × Ranges)) (buffer : List Chunk) (hst : List H) (enc : List UInt8)
      (hash : H), (∀ e ∈ stack, Valid filled e) →
      (pending size 0 ml filled root stack buffer).length < fuel →
      Dec.runAux hf fl fuel ⟨st size 0 ml filled root stack buffer, hst, enc, hash⟩
        = (runL hf (pending size 0 ml filled root stack buffer) hst enc).toRun := by
  induction fuel with
  | zero => intro _ _ _ _ _ _ h; omega
  | succ n ih =>
    intro stack buffer hst enc hash hv hlen
    obtain ⟨est, hnext⟩ := DecSim.next_eq hf fl ⟨st size 0 ml filled root stack buffer, hst, enc, hash⟩
    unfold Dec.runAux
    rw [hnext]
    unfold Response.next
    rcases iter_next (ml := ml) (root := root) g stack buffer hv with
      ⟨he, hn⟩ | ⟨c, stack', buf', hn, hv', he⟩
    · rw [hn, he]
      rfl
    · rw [he] at hlen ⊢
      rw [hn, runL_cons]
      simp only [stepC_withoutRanges]
      cases hsc : stepC hf c hst enc with
      | item i st' s' =>
        simp only
        rw [ih stack' buf' st' s' hash hv' (by simp only [List.length_cons] at hlen; omega)]
        rfl
      | err e s' => rfl
      | panic s' => rw [(stepC_panic hsc).2]; rfl

theorem runL_withoutRanges (hf : HashFns H) [BEq H] (p : List Chunk) (st : List H)
    (s : List UInt8) : runL hf (p.map Chunk.withoutRanges) st s = runL hf p st s := by
  induction p generalizing st s with
  | nil => rfl
  | cons c p ih =>
    simp only [List.map_cons, runL_cons, stepC_withoutRanges]
    cases stepC hf c st s <;> simp only [ih]

/-- the iterator of a new decoder (claimed size `≤ 2^63`) is a state `st … stack []` with valid
stack entries (none for the empty query, else the root with the query), and its pending plan is the
whole response plan -/
theorem new_iter (size bs : Nat) (hs : size ≤ 2 ^ 63) (q : Ranges) :
    ∃ stack, Response.new ⟨size, bs⟩ q
        = st size 0 bs (Tree.shifted ⟨size, 0⟩).2 (Tree.shifted ⟨size, 0⟩).1 stack [] ∧
      (∀ e ∈ stack, Valid (Tree.shifted ⟨size, 0⟩).2 e) ∧
      pending size 0 bs (Tree.shifted ⟨size, 0⟩).2 (Tree.shifted ⟨size, 0⟩).1 stack []
        = plan ⟨size, 0⟩ bs q := by
  cases q with
  | nil => exact ⟨[], rfl, nofun, (plan_nil ..).symm⟩
  | cons a q =>
    have g := shifted_geo size 0 hs (by omega)
    obtain ⟨-, hroot, hlt⟩ := rootLevel_spec size 0 hs
    refine ⟨[((Tree.shifted ⟨size, 0⟩).1, a :: q)], rfl, fun e he => ?_, ?_⟩
    · rw [List.mem_singleton] at he
      subst he
      exact ⟨by rw [hroot]; exact hlt, List.cons_ne_nil _ _⟩
    · have hp : planId size 0 bs (Tree.shifted ⟨size, 0⟩).2 (Tree.shifted ⟨size, 0⟩).1
          ((Tree.shifted ⟨size, 0⟩).1, a :: q) = plan ⟨size, 0⟩ bs (a :: q) := by
        unfold plan
        conv => lhs; arg 6; arg 1; rw [hroot]
        exact planId_nodeOf g hlt _
      simp only [pending, List.nil_append, List.flatMap_cons, List.flatMap_nil, List.append_nil, hp]

/-- **the model's decoder is the list machine over the recursive response plan** -/
theorem decodeAll_eq_runL (hf : HashFns H) [BEq H] (fl : Flavour) (root : H) (size bs : Nat)
    (q : Ranges) (s : List UInt8) (hs : size ≤ 2 ^ 63) :
    decodeAll hf fl root ⟨size, bs⟩ q s
      = (runL hf (plan ⟨size, 0⟩ bs (Ranges.truncate q size)) [root] s).toRun := by
  obtain ⟨stack, hit, hv, hpend⟩ := new_iter size bs hs (Ranges.truncate q size)
  have hlen := plan_length_le ⟨size, 0⟩ bs (Ranges.truncate q size)
  have := runAux_eq_runL (ml := bs) (root := (Tree.shifted ⟨size, 0⟩).1)
    (shifted_geo size 0 hs (by omega)) hf fl (PrePartial.fuelFor ⟨size, 0⟩ + 1) stack [] [root] s root hv
    (by rw [hpend]; unfold PrePartial.fuelFor; omega)
  rw [hpend] at this
  unfold decodeAll Dec.run Dec.new
  simp only [hit]
  exact this

/-- go on with `f` from the stack and the stream a run ended `ok` with; the run over `A ++ B` is the
run over `A` bound to the run over `B` (`runL_append`) -/
def Out.bind (o : Out H) (f : List H → List UInt8 → Out H) : Out H :=
  match o.fin with
  | .ok st s => ⟨o.items ++ (f st s).items, (f st s).fin⟩
  | .err _ _ => o
  | .panic _ => o

theorem runL_append (hf : HashFns H) [BEq H] (A B : List Chunk) (st : List H) (s : List UInt8) :
    runL hf (A ++ B) st s = (runL hf A st s).bind (runL hf B) := by
  induction A generalizing st s with
  | nil => simp [Out.bind]
  | cons c A ih =>
    simp only [List.cons_append, runL_cons]
    cases stepC hf c st s with
    | item i st' s' =>
      simp only [ih]
      generalize runL hf A st' s' = o
      obtain ⟨its, fin⟩ := o
      cases fin <;> rfl
    | err e s' => rfl
    | panic s' => rfl

def psize (p : List Chunk) : Nat := (p.map Chunk.size).sum

@[simp] theorem psize_nil : psize [] = 0 := rfl
@[simp] theorem psize_cons (c : Chunk) (p : List Chunk) : psize (c :: p) = c.size + psize p := by
  simp [psize]
theorem psize_append (a b : List Chunk) : psize (a ++ b) = psize a + psize b := by
  simp [psize]

theorem runL_cons_ok {hf : HashFns H} [BEq H] {c : Chunk} {p : List Chunk} {st st' : List H}
    {s s' : List UInt8} (h : (runL hf (c :: p) st s).fin = .ok st' s') :
    ∃ i st1 s1, stepC hf c st s = .item i st1 s1 ∧ (runL hf p st1 s1).fin = .ok st' s' ∧
      (runL hf (c :: p) st s).items = i :: (runL hf p st1 s1).items := by
  rw [runL_cons] at h ⊢
  cases hs : stepC hf c st s with
  | item i st1 s1 => rw [hs] at h; exact ⟨i, st1, s1, rfl, h, rfl⟩
  | err e s1 => rw [hs] at h; cases h
  | panic s1 => rw [hs] at h; cases h

/-- **locality**: a run that ends `ok` consumed exactly `psize P` bytes, returned one item per plan
item, and does the same on every stream that starts with the same `psize P` bytes -/
theorem runL_ok_local (hf : HashFns H) [BEq H] :
    ∀ (P : List Chunk) (st : List H) (s : List UInt8) (st' : List H) (s' : List UInt8),
      (runL hf P st s).fin = .ok st' s' →
      psize P ≤ s.length ∧ s' = s.drop (psize P) ∧ (runL hf P st s).items.length = P.length ∧
      ∀ z, runL hf P st (s.take (psize P) ++ z) = ⟨(runL hf P st s).items, .ok st' z⟩ := by
  intro P
  induction P with
  | nil =>
    intro st s st' s' h
    simp only [runL_nil, End.ok.injEq] at h
    obtain ⟨rfl, rfl⟩ := h
    exact ⟨Nat.zero_le _, rfl, rfl, fun z => by simp⟩
  | cons c P ih =>
    intro st s st' s' h
    obtain ⟨i, st1, s1, hstep, hrest, hitems⟩ := runL_cons_ok h
    obtain ⟨hl, top, rest, rfl, hc, rfl, rfl, rfl⟩ := stepC_item hstep
    obtain ⟨h1, h2, h3, h4⟩ := ih _ _ _ _ hrest
    simp only [List.length_drop] at h1
    refine ⟨by rw [psize_cons]; omega, by rw [h2, List.drop_drop, psize_cons], ?_, ?_⟩
    · rw [hitems, List.length_cons, h3, List.length_cons]
    · intro z
      have hA : (s.take c.size).length = c.size := List.length_take_of_le hl
      rw [psize_cons, List.take_add, List.append_assoc, runL_cons,
        stepC_item_of (by rw [List.length_append, hA]; omega)
          (by rw [List.take_left' hA]; exact hc), List.take_left' hA, List.drop_left' hA]
      simp only [h4 z, hitems]

theorem bind_ok {o : Out H} {f : List H → List UInt8 → Out H} {st : List H} {s : List UInt8}
    (h : (o.bind f).fin = .ok st s) :
    ∃ st1 s1, o.fin = .ok st1 s1 ∧ (f st1 s1).fin = .ok st s ∧
      (o.bind f).items = o.items ++ (f st1 s1).items := by
  obtain ⟨its, fin⟩ := o
  cases fin with
  | ok st1 s1 => exact ⟨st1, s1, rfl, h, rfl⟩
  | err e s1 => cases h
  | panic s1 => cases h

/-- **a changed stream**: if the run over `P1 ++ c :: P2` ends `ok` on `s`, and `s2` agrees with `s`
on the bytes of `P1`, the run on `s2` returns the items of `P1` and goes on with `c :: P2` on the
rest of `s2`, with the hash stack the run on `s` has in front of `c` -/
theorem runL_prefix {hf : HashFns H} [BEq H] {P1 P2 : List Chunk} {c : Chunk} {st st' : List H}
    {s s' s2 : List UInt8} (h : (runL hf (P1 ++ c :: P2) st s).fin = .ok st' s')
    (hpre : s2.take (psize P1) = s.take (psize P1)) :
    ∃ top rest, psize P1 + c.size ≤ s.length ∧
      (top != check hf c ((s.drop (psize P1)).take c.size)) = false ∧
      runL hf (P1 ++ c :: P2) st s2
        = (Out.mk ((runL hf (P1 ++ c :: P2) st s).items.take P1.length)
            (.ok (top :: rest) (s2.drop (psize P1)))).bind (runL hf (c :: P2)) := by
  rw [runL_append] at h
  obtain ⟨st1, s1, h1, h2, h3⟩ := bind_ok h
  obtain ⟨i, st2, s3, hstep, -, -⟩ := runL_cons_ok h2
  obtain ⟨hl, top, rest, rfl, hc, -, -, -⟩ := stepC_item hstep
  obtain ⟨k1, rfl, k3, hloc⟩ := runL_ok_local hf _ _ _ _ _ h1
  rw [List.length_drop] at hl
  refine ⟨top, rest, by omega, hc, ?_⟩
  rw [runL_append, runL_append, h3, ← k3, List.take_left, ← List.take_append_drop (psize P1) s2,
    hpre, hloc, List.drop_left' (List.length_take_of_le k1)]

theorem runL_truncate (hf : HashFns H) [BEq H] {P1 P2 : List Chunk} {c : Chunk} {st st' : List H}
    {s s' : List UInt8} (h : (runL hf (P1 ++ c :: P2) st s).fin = .ok st' s') {k : Nat}
    (h1 : psize P1 ≤ k) (h2 : k < psize P1 + c.size) :
    runL hf (P1 ++ c :: P2) st (s.take k)
      = ⟨(runL hf (P1 ++ c :: P2) st s).items.take P1.length,
         .err (notFound c) ((s.take k).drop (psize P1))⟩ := by
  obtain ⟨top, rest, -, -, e⟩ :=
    runL_prefix h (s2 := s.take k) (by rw [List.take_take, Nat.min_eq_left h1])
  have hshort : ((s.take k).drop (psize P1)).length < c.size := by
    rw [List.length_drop, List.length_take]; omega
  rw [e]
  simp only [Out.bind, runL_cons, stepC_short hshort, List.append_nil]

theorem runL_alter (hf : HashFns H) [BEq H] [LawfulBEq H] {P1 P2 : List Chunk} {c : Chunk}
    {st st' : List H} {s s' s2 : List UInt8}
    (h : (runL hf (P1 ++ c :: P2) st s).fin = .ok st' s')
    (hpre : s2.take (psize P1) = s.take (psize P1)) (hlen : psize P1 + c.size ≤ s2.length)
    (hne : check hf c ((s2.drop (psize P1)).take c.size)
      ≠ check hf c ((s.drop (psize P1)).take c.size)) :
    runL hf (P1 ++ c :: P2) st s2
      = ⟨(runL hf (P1 ++ c :: P2) st s).items.take P1.length,
         .err (mismatch c) (s2.drop (psize P1 + c.size))⟩ := by
  obtain ⟨top, rest, -, k3, e⟩ := runL_prefix h hpre
  have htop : top = check hf c ((s.drop (psize P1)).take c.size) := by simpa using k3
  have hl : c.size ≤ (s2.drop (psize P1)).length := by rw [List.length_drop]; omega
  have hc : (top != check hf c ((s2.drop (psize P1)).take c.size)) = true := by
    rw [htop]; simp only [bne_iff_ne, ne_eq]; exact fun e => hne e.symm
  rw [e]
  simp only [Out.bind, runL_cons, stepC_mismatch hl hc, List.append_nil, List.drop_drop]

theorem push_length_parent (hf : HashFns H) (n : Nat) (ir l r : Bool) (x : Ranges)
    (buf : List UInt8) (rest : List H) :
    (push hf (.parent n ir l r x) buf rest).length
      = rest.length + (if l then 1 else 0) + (if r then 1 else 0) := by
  cases l <;> cases r <;> simp [push]

theorem push_length_leaf (hf : HashFns H) (s z : Nat) (ir : Bool) (x : Ranges)
    (buf : List UInt8) (rest : List H) :
    (push hf (.leaf s z ir x) buf rest).length = rest.length := rfl

theorem runL_no_panic (hf : HashFns H) [BEq H] :
    ∀ (P : List Chunk) (h : Nat) (st : List H) (s : List UInt8), st.length = h →
      (∀ n, (stackRun h (P.take n)).isSome = true) → (runL hf P st s).fin.terminal ≠ .panic := by
  intro P
  induction P with
  | nil => intro h st s _ _; simp [End.terminal]
  | cons c P ih =>
    intro h st s hst hrun
    have h1 := hrun 1
    rw [runL_cons]
    cases hsc : stepC hf c st s with
    | err e s' => simp [End.terminal]
    | panic s' =>
      obtain ⟨rfl, -⟩ := stepC_panic hsc
      subst hst
      cases c <;> simp [stackRun] at h1
    | item i st' s' =>
      simp only
      obtain ⟨-, top, rest, rfl, -, -, rfl, -⟩ := stepC_item hsc
      simp only [List.length_cons] at hst
      subst hst
      cases c with
      | parent nd ir l r x =>
        refine ih (rest.length + (if l then 1 else 0) + (if r then 1 else 0)) _ _
          (by rw [push_length_parent]) (fun n => ?_)
        have := hrun (n + 1)
        rw [List.take_succ_cons, stackRun_parent] at this
        exact this
      | leaf sc z ir x =>
        refine ih rest.length _ _ (by rw [push_length_leaf]) (fun n => ?_)
        have := hrun (n + 1)
        rw [List.take_succ_cons, stackRun_leaf] at this
        exact this

end Bao.DecodeSpec
