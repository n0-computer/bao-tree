import BaoModel.Ops1
import BaoProofs.Props.C15Post
import BaoProofs.Props.C12

/-!
# Lemmas for `Bao.Ops.planPostWF` (the executable specification predicate of the post-order plan)

`planPostWF size bs plan = none` is unfolded into six clauses over the plan views of
`BaoProofs/Lemmas/NodeIter.lean` (`leavesOf`, `stackRun`, `rootFlag`, `parentsOf`), `bothFlags` and
the span walk `spanRun`: `planPostWF_none_iff`.  The span walk over the plan of a subtree pushes
exactly the chunk span of that subtree, clipped to the blob (`span_planD`, `span_plan`).  The match expressions written inline in the predicate are restated here as
definitions with the same source text (`leafView`, `parentView`, `notBoth`, `stackStep'`), which
are definitionally the predicate's, and then related to the views by case analysis.
-/

namespace Bao.SpecPost

open Bao Bao.NodeIterL Bao.Ops

/-- the leaf list the predicate compares with: block `i` starts at chunk `i·2^bs` and has
`min g (size − i·g)` bytes, `g = 2^bs·1024` -/
def wantLeaves (size bs : Nat) : List (Nat × Nat) :=
  (List.range (Spec.nBlocks size bs)).map
    fun i => (i * 2 ^ bs, min (2 ^ bs * 1024) (size - i * (2 ^ bs * 1024)))

/-- a parent item flags both children (leaf items: vacuously) -/
def bothFlags : Chunk → Bool
  | .parent _ _ l r _ => l && r
  | .leaf .. => true

/-- clause 1: the leaf items are exactly the blocks `0 … nBlocks-1`, in order -/
def LeavesTile (size bs : Nat) (plan : List Chunk) : Prop := leavesOf plan = wantLeaves size bs

/-- clause 2: the hash stack run from the empty stack does not underflow and ends at height 1 -/
def StackOk (plan : List Chunk) : Prop := stackRun 0 plan = some 1

/-- clause 3: the root flags are `false, …, false, true` -/
def RootLast (plan : List Chunk) : Prop :=
  plan.map rootFlag = List.replicate (plan.length - 1) false ++ [true]

/-- clause 4: the parent items are the persisted nodes in post-order -/
def ParentsPersisted (size bs : Nat) (plan : List Chunk) : Prop :=
  parentsOf plan = Spec.persistedPost size bs

/-- clause 5: every parent item flags both children -/
def BothChildren (plan : List Chunk) : Prop := ∀ c ∈ plan, bothFlags c = true

/-- one step of the span walk of clause 6: the state is a stack of chunk spans `(first, one past
last)`; a leaf pushes its span, a parent needs the spans of its two subtrees on top — adjacent and
meeting at the node's middle chunk — and replaces them by their union (same source text as the
inline function of the predicate) -/
def spanStep (st : Option (List (Nat × Nat))) (c : Chunk) : Option (List (Nat × Nat)) :=
    match st with
    | none => none
    | some st =>
      match c with
      | .leaf s z _ _ => some ((s, s + max 1 ((z + 1023) / 1024)) :: st)
      | .parent node _ _ _ _ =>
        match st with
        | (rs, re) :: (ls, le) :: rest =>
          if le == rs && rs == Node.mid node then some ((ls, re) :: rest) else none
        | _ => none

/-- the span walk over a plan from the span stack `st`; `none` = some parent did not find its two
subtrees on top -/
def spanRun (st : List (Nat × Nat)) (plan : List Chunk) : Option (List (Nat × Nat)) :=
  plan.foldl spanStep (some st)

/-- clause 6: the span walk from the empty stack runs through: every parent comes right after its
two subtrees -/
def SpansOk (plan : List Chunk) : Prop := ∃ st, spanRun [] plan = some st

/-! ### the predicate's inline matches as definitions -/

def leafView (c : Chunk) : Option (Nat × Nat) :=
  match c with | .leaf s z _ _ => some (s, z) | _ => none

def parentView (c : Chunk) : Option Nat :=
  match c with | .parent node _ _ _ _ => some node | _ => none

def notBoth (c : Chunk) : Bool :=
  match c with | .parent _ _ l r _ => !(l && r) | _ => false

def stackStep' (h : Option Nat) (c : Chunk) : Option Nat :=
    match h with
    | none => none
    | some h =>
      match c with
      | .parent .. => if h < 2 then none else some (h - 1)
      | .leaf .. => some (h + 1)

theorem view_leaves (plan : List Chunk) : plan.filterMap leafView = leavesOf plan := by
  unfold leavesOf; congr 1; funext c; cases c <;> rfl

theorem view_parents (plan : List Chunk) : plan.filterMap parentView = parentsOf plan := by
  unfold parentsOf; congr 1; funext c; cases c <;> rfl

theorem view_both (c : Chunk) : notBoth c = !bothFlags c := by
  cases c <;> rfl

theorem view_stack : stackStep' = stackStep := by
  funext h c
  cases h with
  | none => rfl
  | some h =>
    cases c with
    | leaf => rfl
    | parent =>
      simp only [stackStep, stackStep']
      split <;> split <;> first | rfl | omega

theorem ite_some_eq_none {α : Type} (c : Prop) [Decidable c] (a : α) (x : Option α) :
    (if c then some a else x) = none ↔ ¬ c ∧ x = none := by
  by_cases h : c
  · simp [h]
  · simp [h]

theorem planPostWF_none_iff (size bs : Nat) (plan : List Chunk) :
    planPostWF size bs plan = none ↔
      LeavesTile size bs plan ∧ StackOk plan ∧ RootLast plan ∧ ParentsPersisted size bs plan ∧
      BothChildren plan ∧ SpansOk plan := by
  unfold LeavesTile StackOk RootLast ParentsPersisted BothChildren SpansOk planPostWF
  simp only []
  change (if (plan.filterMap leafView != wantLeaves size bs) = true then _ else
    if (plan.foldl stackStep' (some 0) != some 1) = true then _ else
    if (plan.map rootFlag != _) = true then _ else
    if (plan.filterMap parentView != _) = true then _ else
    if (plan.any notBoth) = true then _ else
    if (spanRun [] plan).isNone = true then _ else _) = none ↔ _
  rw [view_stack, view_leaves, view_parents]
  have hany : ¬ plan.any notBoth = true ↔ ∀ c ∈ plan, bothFlags c = true := by
    simp only [List.any_eq_true, view_both, Bool.not_eq_true', not_exists, not_and,
      Bool.not_eq_false]
  have hsp : ¬ (spanRun [] plan).isNone = true ↔ ∃ st, spanRun [] plan = some st := by
    rw [← Option.isSome_iff_exists]; cases spanRun [] plan <;> simp
  simp only [ite_some_eq_none, bne_iff_ne, ne_eq, Classical.not_not, and_true, hany, hsp]
  exact Iff.rfl

theorem rootLast_of_split {plan init : List Chunk} {last : Chunk} (h : plan = init ++ [last])
    (hl : rootFlag last = true) (hi : ∀ c ∈ init, rootFlag c = false) :
    plan.map rootFlag = List.replicate (plan.length - 1) false ++ [true] := by
  subst h
  rw [List.map_append, List.length_append, List.length_singleton, Nat.add_sub_cancel,
    List.map_singleton, hl]
  congr 1
  rw [List.eq_replicate_iff]
  refine ⟨List.length_map _, ?_⟩
  intro b hb
  obtain ⟨c, hc, rfl⟩ := List.mem_map.mp hb
  exact hi c hc

theorem split_of_rootLast {plan : List Chunk}
    (h : plan.map rootFlag = List.replicate (plan.length - 1) false ++ [true]) :
    ∃ init last, plan = init ++ [last] ∧ rootFlag last = true ∧ ∀ c ∈ init, rootFlag c = false := by
  rcases List.eq_nil_or_concat plan with rfl | ⟨init, last, rfl⟩
  · simp at h
  · rw [List.concat_eq_append] at h ⊢
    rw [List.map_append, List.length_append, List.length_singleton, Nat.add_sub_cancel,
      List.map_singleton] at h
    have hlen : (init.map rootFlag).length = (List.replicate init.length false).length := by
      rw [List.length_map, List.length_replicate]
    obtain ⟨h1, h2⟩ := List.append_inj h hlen
    refine ⟨init, last, rfl, by simpa using h2, ?_⟩
    intro c hc
    exact (List.eq_replicate_iff.mp h1).2 _ (List.mem_map.mpr ⟨c, hc, rfl⟩)

theorem both_planRec (size bs root F : Nat) (L k : Nat) :
    ∀ c ∈ planRec size bs root F L k, bothFlags c = true :=
  forall_planRec root (fun _ _ _ => rfl) (fun _ _ => rfl) L k

theorem length_views (plan : List Chunk) :
    plan.length = (leavesOf plan).length + (parentsOf plan).length := by
  induction plan with
  | nil => rfl
  | cons c t ih =>
    cases c with
    | leaf s z r rs =>
      have e1 : leavesOf (.leaf s z r rs :: t) = (s, z) :: leavesOf t := rfl
      have e2 : parentsOf (.leaf s z r rs :: t) = parentsOf t := rfl
      rw [e1, e2, List.length_cons, List.length_cons, ih]; omega
    | parent n r l rr rs =>
      have e1 : leavesOf (.parent n r l rr rs :: t) = leavesOf t := rfl
      have e2 : parentsOf (.parent n r l rr rs :: t) = n :: parentsOf t := rfl
      rw [e1, e2, List.length_cons, List.length_cons, ih]; omega

theorem wantLeaves_eq (size bs : Nat) :
    wantLeaves size bs = (List.range (Tree.blocks ⟨size, bs⟩)).map (leafInfo size bs) := by
  unfold wantLeaves
  rw [C12.blocks_spec]
  congr 1
  funext i
  simp only [leafInfo, Nat.mul_assoc]

theorem wantLeaves_length (size bs : Nat) : (wantLeaves size bs).length = Spec.nBlocks size bs := by
  simp [wantLeaves]

theorem wantLeaves_get (size bs i : Nat) (h : i < (wantLeaves size bs).length) :
    (wantLeaves size bs)[i] = (i * 2 ^ bs, min (2 ^ bs * 1024) (size - i * (2 ^ bs * 1024))) := by
  simp [wantLeaves]

/-- the wanted leaves tile `[0, size)`: leaf `i` starts at byte `i·g` (`g = 2^bs·1024`), has at
most `g` bytes, ends where leaf `i+1` starts, and the last one ends at `size` -/
theorem wantLeaves_tile (size bs i : Nat) (h : i < Spec.nBlocks size bs) :
    let g := 2 ^ bs * 1024
    let z := min g (size - i * g)
    z ≤ g ∧ i * g + z = if i + 1 < Spec.nBlocks size bs then (i + 1) * g else size := by
  intro g z
  refine ⟨Nat.min_le_left _ _, ?_⟩
  rw [← C12.blocks_spec] at h ⊢
  have := leaf_cover size bs i h
  simp only [leafInfo, Nat.mul_assoc] at this
  exact this

theorem spanRun_nil (st : List (Nat × Nat)) : spanRun st [] = some st := rfl

theorem spanRun_leaf (st : List (Nat × Nat)) (s z : Nat) (r : Bool) (rs : Ranges) (t : List Chunk) :
    spanRun st (.leaf s z r rs :: t) = spanRun ((s, s + max 1 ((z + 1023) / 1024)) :: st) t := rfl

theorem spanRun_parent {rs re ls le node : Nat} (rest : List (Nat × Nat)) (r l rr : Bool)
    (x : Ranges) (t : List Chunk) (h1 : le = rs) (h2 : rs = Node.mid node) :
    spanRun ((rs, re) :: (ls, le) :: rest) (.parent node r l rr x :: t)
      = spanRun ((ls, re) :: rest) t := by
  have : spanStep (some ((rs, re) :: (ls, le) :: rest)) (.parent node r l rr x)
      = some ((ls, re) :: rest) := by
    simp only [spanStep, h1, ← h2, beq_self_eq_true, Bool.and_self, if_true]
  unfold spanRun
  rw [List.foldl_cons, this]

theorem spanStep_parent_inv {st s : List (Nat × Nat)} {node : Nat} {r l rr : Bool} {x : Ranges}
    (h : spanStep (some st) (.parent node r l rr x) = some s) :
    ∃ ls re rest, st = (Node.mid node, re) :: (ls, Node.mid node) :: rest ∧ s = (ls, re) :: rest := by
  match st, h with
  | [], h => simp [spanStep] at h
  | [_], h => simp [spanStep] at h
  | (rs, re) :: (ls, le) :: rest, h =>
    simp only [spanStep, Bool.and_eq_true, beq_iff_eq] at h
    split at h
    · rename_i hc
      obtain ⟨h1, h2⟩ := hc
      subst h1; subst h2
      exact ⟨ls, re, rest, rfl, (Option.some.inj h).symm⟩
    · cases h

theorem spanRun_append (st : List (Nat × Nat)) (a b : List Chunk) :
    spanRun st (a ++ b) = (spanRun st a).bind fun st' => spanRun st' b := by
  unfold spanRun
  rw [List.foldl_append]
  cases List.foldl spanStep (some st) a with
  | some st' => rfl
  | none =>
    simp only [Option.bind_none]
    induction b with
    | nil => rfl
    | cons c b ih => exact ih

theorem span_prefix {plan a b : List Chunk} {st r : List (Nat × Nat)} (h : spanRun st plan = some r)
    (hab : plan = a ++ b) : ∃ s, spanRun st a = some s := by
  rw [hab, spanRun_append] at h
  cases hs : spanRun st a with
  | some s => exact ⟨s, rfl⟩
  | none => rw [hs] at h; simp at h

/-- in a plan whose span walk runs through, every parent item finds — at its position — the spans
of two subtrees on top of the stack: adjacent, meeting exactly at the node's middle chunk -/
theorem span_at_parent {plan a b : List Chunk} {r0 : List (Nat × Nat)} {node : Nat}
    {r l rr : Bool} {x : Ranges} (h : spanRun [] plan = some r0)
    (hab : plan = a ++ .parent node r l rr x :: b) :
    ∃ ls re rest, spanRun [] a = some ((Node.mid node, re) :: (ls, Node.mid node) :: rest) := by
  have hab' : plan = (a ++ [.parent node r l rr x]) ++ b := by rw [hab, List.append_assoc]; rfl
  obtain ⟨s, hs⟩ := span_prefix h hab'
  rw [spanRun_append] at hs
  cases ha : spanRun [] a with
  | none => rw [ha] at hs; simp at hs
  | some st =>
    rw [ha, Option.bind_some] at hs
    change spanStep (some st) (.parent node r l rr x) = some s at hs
    obtain ⟨ls, re, rest, e, _⟩ := spanStep_parent_inv hs
    exact ⟨ls, re, rest, by rw [e]⟩

theorem block_start_lt (size bs b : Nat) (h : b < Tree.blocks ⟨size, bs⟩) :
    b * 2 ^ bs < Spec.nChunks size :=
  (Offsets.lt_blocks_iff_chunks size bs b).mp h

theorem nChunks_le_of_blocks_le (size bs b : Nat) (h : Tree.blocks ⟨size, bs⟩ ≤ b) :
    Spec.nChunks size ≤ b * 2 ^ bs :=
  Nat.le_of_not_lt (mt (Offsets.lt_blocks_iff_chunks size bs b).mpr (Nat.not_lt.mpr h))

/-- a block of `p` chunks starting at chunk `q` inside a blob of `size` bytes: an inner block has all
its `p` chunks, the last block ends with the blob's last chunk -/
theorem span_arith (size q p : Nat) (hp : 0 < p) (hq : q = 0 ∨ q * 1024 < size) :
    q + max 1 ((min (p * 1024) (size - q * 1024) + 1023) / 1024)
      = min (q + p) (max 1 ((size + 1023) / 1024)) := by
  by_cases h : (q + p) * 1024 < size
  · -- an inner block: all `p` chunks
    have e : (p * 1024 + 1023) / 1024 = p := by omega
    have hc : q + p ≤ (size + 1023) / 1024 := by omega
    rw [Nat.min_eq_left (Nat.le_sub_of_add_le (by rw [← Nat.add_mul, Nat.add_comm]; exact Nat.le_of_lt h)),
      e, Nat.max_eq_right hp, Nat.min_eq_left (Nat.le_trans hc (Nat.le_max_right _ _))]
  · -- the last block: the chunks up to the end of the blob
    have hc : (size + 1023) / 1024 ≤ q + p := by omega
    rw [Nat.min_eq_right (Nat.sub_le_of_le_add (by rw [← Nat.add_mul, Nat.add_comm]; exact Nat.not_lt.mp h)),
      Nat.min_eq_right (Nat.max_le.mpr ⟨by omega, hc⟩)]
    rcases hq with rfl | hq
    · rw [Nat.zero_mul, Nat.sub_zero, Nat.zero_add]
    · have e : (size - q * 1024 + 1023) / 1024 + q = (size + 1023) / 1024 := by omega
      have h1 : 1 ≤ (size - q * 1024 + 1023) / 1024 := by omega
      rw [Nat.max_eq_right h1, ← e, Nat.max_eq_right (Nat.le_add_right_of_le h1), Nat.add_comm]

open Bao.Offsets Bao.Bits in
/-- the span pushed by the leaf item of block `b`: its chunks, clipped to the blob -/
theorem leaf_span (size bs b : Nat) (h : b < Tree.blocks ⟨size, bs⟩) :
    b * 2 ^ bs + max 1 ((min (2 ^ bs * 1024) (size - b * 2 ^ bs * 1024) + 1023) / 1024)
      = min ((b + 1) * 2 ^ bs) (Spec.nChunks size) := by
  rw [Nat.add_mul, Nat.one_mul]
  refine span_arith size (b * 2 ^ bs) (2 ^ bs) (two_pow_pos' bs) ?_
  by_cases hb : b = 0
  · exact Or.inl (by rw [hb, Nat.zero_mul])
  · exact Or.inr ((lt_blocks_iff_bytes size bs b (by omega)).mp h)

theorem midOf_mul_pow (k L bs : Nat) : Spec.midOf k L * 2 ^ bs = Spec.midOf k (L + bs) := by
  unfold Spec.midOf
  rw [Nat.add_mul, Nat.mul_assoc, ← Nat.pow_add, ← Nat.pow_add, Nat.add_right_comm L 1 bs]

section spans
open Bao.Spec Bao.Offsets Bao.Bits
variable {size bs F : Nat} (g : Geo size bs F) (root : Nat)
include g

/-- running the span walk over the plan of the non-empty subtree `(k, L)` of the shifted tree
pushes exactly the chunk span of that subtree, clipped to the blob -/
theorem span_planD (L k : Nat) (hne : startOf k L < F) (st : List (Nat × Nat)) :
    spanRun st (planD size bs root F L k)
      = some ((startOf k L * 2 ^ bs, min (endOf k L * 2 ^ bs) (nChunks size)) :: st) := by
  have hodd := g.odd; have hle := g.le; have hge := g.ge
  induction L generalizing k st with
  | zero =>
    rw [startOf_zero] at hne
    rw [endOf_start, startOf_zero, Nat.zero_add, Nat.pow_one]
    by_cases h : 2 * k + 1 < Tree.blocks ⟨size, bs⟩
    · have ha := block_start_lt size bs _ h
      obtain ⟨_, hmid⟩ := chunkRange_up bs k g.hbs
      rw [planD_zero_full g root h]
      simp only [leafItem]
      rw [spanRun_leaf, leaf_span size bs _ (by omega), spanRun_leaf, leaf_span size bs _ h,
        spanRun_parent _ _ _ _ _ _ (Nat.min_eq_left (Nat.le_of_lt ha))
          (by rw [hmid, odd_mul]), spanRun_nil]
    · have hb := nChunks_le_of_blocks_le size bs (2 * k + 1) (by omega)
      have hb2 := nChunks_le_of_blocks_le size bs (2 * k + 2) (by omega)
      rw [planD_zero_half g root hne (by omega)]
      simp only [leafItem]
      rw [spanRun_leaf, leaf_span size bs _ (by omega), spanRun_nil, Nat.min_eq_right hb,
        Nat.min_eq_right hb2]
  | succ L ih =>
    by_cases h : nodeOf k (L + 1) < F
    · have hr := (right_nonempty hodd h).1
      have ha := block_start_lt size bs _ (Nat.lt_of_lt_of_le hr hle)
      rw [planD_succ_pos g root h, spanRun_append, spanRun_append, ih _ (left_nonempty h),
        Option.bind_some, ih _ hr, Option.bind_some, Bits.endOf_left, Bits.startOf_right,
        Bits.endOf_right, Offsets.startOf_left]
      rw [Bits.startOf_right] at ha
      rw [spanRun_parent _ _ _ _ _ _ (Nat.min_eq_left (Nat.le_of_lt ha))
        (by rw [up_nodeOf, C18.mid_spec, midOf_mul_pow]), spanRun_nil]
    · -- the node is missing: all blocks lie in the left half
      have hB : Tree.blocks ⟨size, bs⟩ ≤ nodeOf k (L + 1) + 1 :=
        Nat.le_trans hge (Nat.succ_le_succ (Nat.not_lt.mp h))
      obtain ⟨hx, hsl, hel, -, -, he⟩ := child_coords k L
      rw [hx] at hB
      rw [planD_succ_neg root h, ih _ (by rw [hsl]; exact hne), hsl,
        Nat.min_eq_right (nChunks_le_of_blocks_le size bs _ (by rw [hel]; exact hB)),
        Nat.min_eq_right (nChunks_le_of_blocks_le size bs _
          (by rw [he, Nat.two_mul, ← Nat.add_assoc]; exact Nat.le_add_right_of_le hB))]

end spans

/-- the span walk over the model plan ends with the single span `[0, nChunks)` -/
theorem span_plan (size bs : Nat) (hs : size ≤ 2 ^ 63) (hbs : bs ≤ 10) :
    spanRun [] (Tree.postOrderChunks ⟨size, bs⟩) = some [(0, Spec.nChunks size)] := by
  obtain ⟨_, _, hlt, hF⟩ := rootLevel_spec size bs hs
  have g := shifted_geo size bs hs hbs
  have hge := g.ge
  rw [plan_rec size bs hs hbs, ← planD_eq_planRec g,
    span_planD g _ _ 0 (by rw [Offsets.startOf_zero_left]; omega) [], Offsets.startOf_zero_left,
    Offsets.endOf_zero_left, Nat.zero_mul,
    Nat.min_eq_right (nChunks_le_of_blocks_le size bs _ (by omega))]

end Bao.SpecPost
