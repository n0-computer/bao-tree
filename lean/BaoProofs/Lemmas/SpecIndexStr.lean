import Std.Data.String.ToNat
import BaoModel.Proto

/-!
# `String.splitOn` on the list of characters; it inverts joining separator-free tokens

`String.splitOn` is the legacy `String.splitOnAux` (well-founded recursion over raw byte positions).
Its primitives `Pos.Raw.get`, `Pos.Raw.extract`, `Pos.Raw.atEnd` are defined through the list of
characters of the string, so the loop can be followed on `s.toList`: for any non-empty separator it
computes the list function `splitM` (`splitOnAux_str` by its steps `step_match`, `step_mismatch`;
`splitOn_str`).  For a separator that is the single character `c0` the model is `splitBy c0`
(`splitOn_sep`), and `splitBy c0` inverts joining `c0`-free tokens (`splitOn_intercalate_sep`;
`splitOn_space`, `splitOn_intercalate` for `" "`).  Also: decimal numbers contain no space (`noSp_nat`)
and parse back (`toNat?_toString`).
-/

namespace Bao.SpecIndex

def bsize : List Char → Nat
  | [] => 0
  | c :: cs => c.utf8Size + bsize cs

theorem bsize_append (a b : List Char) : bsize (a ++ b) = bsize a + bsize b := by
  induction a with
  | nil => simp [bsize]
  | cons c a ih => simp [bsize, ih]; omega

theorem utf8ByteSize_ofList (l : List Char) : (String.ofList l).utf8ByteSize = bsize l := by
  induction l with
  | nil => rfl
  | cons c l ih =>
    rw [show c :: l = [c] ++ l from rfl, String.ofList_append, String.utf8ByteSize_append, ih,
      ← String.singleton_eq_ofList, String.utf8ByteSize_singleton]
    simp [bsize]

theorem utf8ByteSize_eq_bsize (s : String) : s.utf8ByteSize = bsize s.toList := by
  rw [← utf8ByteSize_ofList, String.ofList_toList]

theorem pos_ne_add_bsize (k : Nat) (a : Char) (pre : List Char) :
    (⟨k⟩ : String.Pos.Raw) ≠ ⟨k + bsize (a :: pre)⟩ := by
  have ha := Char.utf8Size_pos a
  intro h
  injection h with h
  rw [bsize] at h
  omega

/- Positions are byte offsets: the one behind the characters `pre` is `bsize pre`; `utf8GetAux` and
`extract.go₁`/`go₂` walk the list adding up `utf8Size` until they reach it. -/

theorem getAux_at (pre : List Char) (c : Char) (rest : List Char) (k : Nat) :
    String.Pos.Raw.utf8GetAux (pre ++ c :: rest) ⟨k⟩ ⟨k + bsize pre⟩ = c := by
  induction pre generalizing k with
  | nil => simp [String.Pos.Raw.utf8GetAux, bsize]
  | cons a pre ih =>
    rw [List.cons_append, String.Pos.Raw.utf8GetAux, if_neg (pos_ne_add_bsize k a pre), bsize,
      ← Nat.add_assoc]
    exact ih (k + a.utf8Size)

theorem go₂_at (cur rest : List Char) (k : Nat) :
    String.Pos.Raw.extract.go₂ (cur ++ rest) ⟨k⟩ ⟨k + bsize cur⟩ = cur := by
  induction cur generalizing k with
  | nil =>
    cases rest with
    | nil => rfl
    | cons c rest => simp [String.Pos.Raw.extract.go₂, bsize]
  | cons a cur ih =>
    rw [List.cons_append, String.Pos.Raw.extract.go₂, if_neg (pos_ne_add_bsize k a cur), bsize,
      ← Nat.add_assoc]
    exact congrArg (a :: ·) (ih (k + a.utf8Size))

theorem go₁_at (pre cur rest : List Char) (k : Nat) (hc : cur ≠ []) :
    String.Pos.Raw.extract.go₁ (pre ++ cur ++ rest) ⟨k⟩ ⟨k + bsize pre⟩ ⟨k + bsize pre + bsize cur⟩
      = cur := by
  induction pre generalizing k with
  | nil =>
    obtain ⟨c, cur', rfl⟩ := List.exists_cons_of_ne_nil hc
    simp only [List.nil_append, List.cons_append, String.Pos.Raw.extract.go₁, bsize, Nat.add_zero,
      if_true]
    exact go₂_at (c :: cur') rest k
  | cons a pre ih =>
    rw [List.cons_append, List.cons_append, String.Pos.Raw.extract.go₁,
      if_neg (pos_ne_add_bsize k a pre), bsize, ← Nat.add_assoc]
    exact ih (k + a.utf8Size)

theorem extract_at (s : String) (pre cur rest : List Char) (h : s.toList = pre ++ cur ++ rest) :
    String.Pos.Raw.extract s ⟨bsize pre⟩ ⟨bsize (pre ++ cur)⟩ = String.ofList cur := by
  unfold String.Pos.Raw.extract
  by_cases hc : cur = []
  · subst hc
    simp
  · have hpos : 0 < bsize cur := by
      obtain ⟨c, cur', rfl⟩ := List.exists_cons_of_ne_nil hc
      have := Char.utf8Size_pos c
      simp [bsize]; omega
    rw [bsize_append]
    simp only []
    rw [if_neg (by simp only [ge_iff_le]; omega), h]
    have := go₁_at pre cur rest 0 hc
    simp only [Nat.zero_add] at this
    rw [show (0 : String.Pos.Raw) = ⟨0⟩ from rfl, this]

/-- list model of `splitOn sep` for the separator `s0 :: ss`: `cur` is the part being read -/
def splitM (s0 : Char) (ss : List Char) : List Char → List Char → List (List Char)
  | cur, [] => [cur]
  | cur, c :: rest =>
    if (s0 :: ss).isPrefixOf (c :: rest) then cur :: splitM s0 ss [] (rest.drop ss.length)
    else splitM s0 ss (cur ++ [c]) rest
termination_by _ l => l.length
decreasing_by all_goals (simp only [List.length_cons, List.length_drop]; omega)

theorem splitM_nil (s0 : Char) (ss cur : List Char) : splitM s0 ss cur [] = [cur] := by rw [splitM]

theorem splitM_match (s0 : Char) (ss cur rest : List Char) :
    splitM s0 ss cur (s0 :: ss ++ rest) = cur :: splitM s0 ss [] rest := by
  rw [List.cons_append, splitM, if_pos (by rw [← List.cons_append, List.isPrefixOf_iff_prefix]; exact List.prefix_append _ _),
    List.drop_left]

theorem splitM_other (s0 : Char) (ss cur : List Char) (c : Char) (rest : List Char)
    (h : (s0 :: ss).isPrefixOf (c :: rest) = false) :
    splitM s0 ss cur (c :: rest) = splitM s0 ss (cur ++ [c]) rest := by
  rw [splitM, if_neg (by rw [h]; exact Bool.false_ne_true)]

theorem splitM_short (s0 : Char) (ss : List Char) (t cur : List Char) (h : t.length ≤ ss.length) :
    splitM s0 ss cur t = [cur ++ t] := by
  induction t generalizing cur with
  | nil => rw [splitM_nil, List.append_nil]
  | cons c t ih =>
    rw [splitM_other _ _ _ _ _ (by
      rw [Bool.eq_false_iff, Ne, List.isPrefixOf_iff_prefix]
      intro hp
      have := hp.length_le
      simp only [List.length_cons] at this h
      omega), ih _ (by simp only [List.length_cons] at h; omega), List.append_assoc]
    rfl

theorem get_at (s : String) (p : List Char) (c : Char) (rest : List Char)
    (h : s.toList = p ++ c :: rest) : String.Pos.Raw.get s ⟨bsize p⟩ = c := by
  unfold String.Pos.Raw.get
  rw [h]
  have := getAux_at p c rest 0
  simp only [Nat.zero_add] at this
  exact this

theorem next_at (s : String) (p : List Char) (c : Char) (rest : List Char)
    (h : s.toList = p ++ c :: rest) :
    String.Pos.Raw.next s ⟨bsize p⟩ = ⟨bsize (p ++ [c])⟩ := by
  unfold String.Pos.Raw.next
  rw [get_at s p c rest h, bsize_append]
  simp only [bsize, Nat.add_zero]
  rfl

theorem aux_step (s sep : String) (p : List Char) (c : Char) (rest : List Char)
    (h : s.toList = p ++ c :: rest) (b j : String.Pos.Raw) (r : List String) :
    String.splitOnAux s sep b ⟨bsize p⟩ j r =
      if c == j.get sep then
        if (j.next sep).atEnd sep then
          String.splitOnAux s sep ⟨bsize (p ++ [c])⟩ ⟨bsize (p ++ [c])⟩ 0
            (b.extract s ((⟨bsize (p ++ [c])⟩ : String.Pos.Raw).unoffsetBy (j.next sep)) :: r)
        else String.splitOnAux s sep b ⟨bsize (p ++ [c])⟩ (j.next sep) r
      else String.splitOnAux s sep b (((⟨bsize p⟩ : String.Pos.Raw).unoffsetBy j).next s) 0 r := by
  rw [String.splitOnAux]
  have hend : ¬ String.Pos.Raw.atEnd s ⟨bsize p⟩ = true := by
    have hc := Char.utf8Size_pos c
    simp only [String.Pos.Raw.atEnd, utf8ByteSize_eq_bsize, h, ge_iff_le, decide_eq_true_eq]
    rw [bsize_append]
    simp only [bsize]
    omega
  rw [if_neg hend, get_at s p c rest h, next_at s p c rest h]

theorem aux_end (s sep : String) (pre cur : List Char) (h : s.toList = pre ++ cur)
    (j : String.Pos.Raw) (r : List String) :
    String.splitOnAux s sep ⟨bsize pre⟩ ⟨bsize (pre ++ cur)⟩ j r
      = r.reverse ++ [String.ofList cur] := by
  rw [String.splitOnAux]
  have hend : String.Pos.Raw.atEnd s ⟨bsize (pre ++ cur)⟩ = true := by
    simp only [String.Pos.Raw.atEnd, utf8ByteSize_eq_bsize, h, ge_iff_le, Nat.le_refl, decide_true]
  rw [if_pos hend]
  simp only [List.reverse_cons]
  rw [extract_at s pre cur [] (by simpa using h)]

theorem unoff (n k : Nat) : (⟨n + k⟩ : String.Pos.Raw).unoffsetBy ⟨k⟩ = ⟨n⟩ := by
  ext; simp

theorem bsize_pos (c : Char) (l : List Char) : 0 < bsize (c :: l) := by
  have := Char.utf8Size_pos c
  simp only [bsize]; omega

theorem atEnd_prefix (sep : String) (m m2 : List Char) (h : sep.toList = m ++ m2) :
    String.Pos.Raw.atEnd sep ⟨bsize m⟩ = decide (m2 = []) := by
  simp only [String.Pos.Raw.atEnd, utf8ByteSize_eq_bsize, h, bsize_append, ge_iff_le]
  cases m2 with
  | nil => simp [bsize]
  | cons c m2 =>
    have := bsize_pos c m2
    simp only [reduceCtorEq, decide_false, decide_eq_false_iff_not]
    omega

theorem step_match (s sep : String) (pre cur m : List Char) (c : Char) (m2 rest : List Char)
    (hsep : sep.toList = m ++ c :: m2) (h : s.toList = pre ++ cur ++ m ++ c :: rest) (r : List String) :
    String.splitOnAux s sep ⟨bsize pre⟩ ⟨bsize (pre ++ cur ++ m)⟩ ⟨bsize m⟩ r =
      if m2 = [] then
        String.splitOnAux s sep ⟨bsize (pre ++ cur ++ m ++ [c])⟩ ⟨bsize (pre ++ cur ++ m ++ [c])⟩ 0
          (String.ofList cur :: r)
      else String.splitOnAux s sep ⟨bsize pre⟩ ⟨bsize (pre ++ cur ++ m ++ [c])⟩ ⟨bsize (m ++ [c])⟩ r := by
  rw [aux_step s sep (pre ++ cur ++ m) c rest h, get_at sep m c m2 hsep, next_at sep m c m2 hsep,
    atEnd_prefix sep (m ++ [c]) m2 (by rw [hsep]; simp)]
  simp only [beq_self_eq_true, if_true, decide_eq_true_eq]
  split
  · have hun : ((⟨bsize (pre ++ cur ++ m ++ [c])⟩ : String.Pos.Raw).unoffsetBy ⟨bsize (m ++ [c])⟩)
        = ⟨bsize (pre ++ cur)⟩ := by
      rw [show pre ++ cur ++ m ++ [c] = (pre ++ cur) ++ (m ++ [c]) by simp, bsize_append (pre ++ cur), unoff]
    rw [hun, extract_at s pre cur (m ++ c :: rest) (by rw [h]; simp)]
  · rfl

/-- the next character breaks the match: back to the character after the one the match began with -/
theorem step_mismatch (s sep : String) (pre cur m : List Char) (c c' : Char) (m2 rest : List Char)
    (x : Char) (t : List Char) (hx : m ++ c :: rest = x :: t)
    (hsep : sep.toList = m ++ c' :: m2) (h : s.toList = pre ++ cur ++ m ++ c :: rest) (hc : c ≠ c')
    (r : List String) :
    String.splitOnAux s sep ⟨bsize pre⟩ ⟨bsize (pre ++ cur ++ m)⟩ ⟨bsize m⟩ r =
      String.splitOnAux s sep ⟨bsize pre⟩ ⟨bsize (pre ++ cur ++ [x])⟩ 0 r := by
  rw [aux_step s sep (pre ++ cur ++ m) c rest h, get_at sep m c' m2 hsep,
    if_neg (by simpa using hc), bsize_append (pre ++ cur), unoff,
    next_at s (pre ++ cur) x t (by rw [h, List.append_assoc (pre ++ cur), hx])]

theorem not_prefix_of_diff (m : List Char) (c c' : Char) (a b : List Char) (hc : c ≠ c') :
    (m ++ c' :: a).isPrefixOf (m ++ c :: b) = false := by
  rw [Bool.eq_false_iff, Ne, List.isPrefixOf_iff_prefix, List.prefix_append_right_inj,
    List.cons_prefix_cons]
  exact fun h => hc h.1.symm

/-- the loop of `splitOn` after the characters `m` of the separator have been matched does what the model
does: `pre` is the text already split off, `cur` the part being read, `rest` what is still to be read -/
def LoopOk (s sep : String) (s0 : Char) (ss m rest pre cur : List Char) (r : List String) : Prop :=
  String.splitOnAux s sep ⟨bsize pre⟩ ⟨bsize (pre ++ cur ++ m)⟩ ⟨bsize m⟩ r
    = r.reverse ++ (splitM s0 ss cur (m ++ rest)).map String.ofList

theorem splitOnAux_str (s sep : String) (s0 : Char) (ss : List Char) (hsep : sep.toList = s0 :: ss) :
    ∀ (n : Nat) (m2 m rest pre cur : List Char) (c' : Char) (r : List String),
    m.length + rest.length ≤ n → s0 :: ss = m ++ c' :: m2 → s.toList = pre ++ cur ++ m ++ rest →
    LoopOk s sep s0 ss m rest pre cur r := by
  unfold LoopOk
  intro n
  induction n with
  | zero =>
    intro m2 m rest pre cur c' r hn _ h
    obtain rfl : m = [] := List.eq_nil_of_length_eq_zero (by omega)
    obtain rfl : rest = [] := List.eq_nil_of_length_eq_zero (by omega)
    rw [List.append_nil, aux_end s sep pre cur (by simpa using h), List.append_nil, splitM_nil]
    rfl
  | succ n ihn =>
    have hend : ∀ (m2 m pre cur : List Char) (c' : Char) (r : List String), s0 :: ss = m ++ c' :: m2 →
        s.toList = pre ++ cur ++ m → LoopOk s sep s0 ss m [] pre cur r := by
      intro m2 m pre cur c' r hm h
      unfold LoopOk
      have hlen : m.length ≤ ss.length := by
        have := congrArg List.length hm
        simp only [List.length_cons, List.length_append] at this
        omega
      rw [List.append_nil, List.append_assoc pre, aux_end s sep pre (cur ++ m) (by rw [h, List.append_assoc]),
        splitM_short s0 ss m cur hlen]
      rfl
    -- the next character breaks the match: one character goes to the part, the rest is read again
    have hmis : ∀ (m2 m rest pre cur : List Char) (c c' : Char) (r : List String),
        m.length + (c :: rest).length ≤ n + 1 → s0 :: ss = m ++ c' :: m2 →
        s.toList = pre ++ cur ++ m ++ c :: rest → c ≠ c' → LoopOk s sep s0 ss m (c :: rest) pre cur r := by
      intro m2 m rest pre cur c c' r hn hm h hc
      unfold LoopOk
      obtain ⟨x, t, hx⟩ : ∃ x t, m ++ c :: rest = x :: t := by
        cases m with
        | nil => exact ⟨c, rest, rfl⟩
        | cons a m => exact ⟨a, m ++ c :: rest, rfl⟩
      have hlt : t.length ≤ n := by
        have := congrArg List.length hx
        simp only [List.length_cons, List.length_append] at this hn
        omega
      rw [step_mismatch s sep pre cur m c c' _ rest x t hx (hsep.trans hm) h hc]
      have := ihn ss [] t pre (cur ++ [x]) s0 r (by simpa using hlt) rfl
        (by rw [h, List.append_assoc (pre ++ cur), hx]; simp)
      simp only [List.append_nil, bsize, List.nil_append] at this
      rw [← List.append_assoc] at this
      rw [show (0 : String.Pos.Raw) = ⟨0⟩ from rfl, this, hx,
        splitM_other s0 ss cur x t (by rw [← hx, hm]; exact not_prefix_of_diff m c c' _ _ hc)]
    intro m2
    induction m2 with
    | nil =>
      intro m rest pre cur c' r hn hm h
      cases rest with
      | nil => exact hend [] m pre cur c' r hm (by simpa using h)
      | cons c rest =>
        by_cases hc : c = c'
        · subst hc
          rw [step_match s sep pre cur m c _ rest (hsep.trans hm) h, if_pos rfl]
          have := ihn ss [] rest (pre ++ cur ++ m ++ [c]) [] s0 (String.ofList cur :: r)
            (by simp only [List.length_cons, List.length_nil] at hn ⊢; omega) rfl (by rw [h]; simp)
          simp only [List.append_nil, bsize] at this
          rw [show (0 : String.Pos.Raw) = ⟨0⟩ from rfl, this, show m ++ c :: rest = (m ++ [c]) ++ rest by simp,
            ← hm, splitM_match]
          simp
        · exact hmis [] m rest pre cur c c' r hn hm h hc
    | cons c'' m2' ih =>
      intro m rest pre cur c' r hn hm h
      cases rest with
      | nil => exact hend _ m pre cur c' r hm (by simpa using h)
      | cons c rest =>
        by_cases hc : c = c'
        · subst hc
          rw [step_match s sep pre cur m c _ rest (hsep.trans hm) h, if_neg (List.cons_ne_nil _ _)]
          have := ih (m ++ [c]) rest pre cur c'' r
            (by simp only [List.length_cons, List.length_append, List.length_nil] at hn ⊢; omega)
            (by rw [hm]; simp) (by rw [h]; simp)
          rw [← List.append_assoc] at this
          rw [this, List.append_assoc m]
          rfl
        · exact hmis _ m rest pre cur c c' r hn hm h hc

theorem splitOn_str (s sep : String) (s0 : Char) (ss : List Char) (hsep : sep.toList = s0 :: ss) :
    s.splitOn sep = (splitM s0 ss [] s.toList).map String.ofList := by
  unfold String.splitOn
  rw [if_neg (by intro e; rw [beq_iff_eq] at e; rw [e] at hsep; cases hsep)]
  have := splitOnAux_str s sep s0 ss hsep s.toList.length ss [] s.toList [] [] s0 [] (by simp) rfl (by simp)
  simpa [LoopOk, bsize] using this

def splitBy (c0 : Char) : List Char → List Char → List (List Char)
  | cur, [] => [cur]
  | cur, c :: rest => if c = c0 then cur :: splitBy c0 [] rest else splitBy c0 (cur ++ [c]) rest

theorem sp_toList : (" " : String).toList = [' '] := by rfl
theorem sp_size : (" " : String).utf8ByteSize = 1 := by rfl

/-- for a one-character separator the model is `splitBy` (which, unlike `splitM`, evaluates by `rfl`) -/
theorem splitM_one (c0 : Char) (l : List Char) : ∀ cur, splitM c0 [] cur l = splitBy c0 cur l := by
  induction l with
  | nil => intro cur; rw [splitM_nil]; rfl
  | cons c l ih =>
    intro cur
    by_cases hc : c = c0
    · subst hc
      rw [show c :: l = c :: [] ++ l from rfl, splitM_match, ih]
      exact (if_pos rfl).symm
    · rw [splitM_other _ _ _ _ _ (by simpa [List.isPrefixOf] using fun h : c0 = c => hc h.symm), ih]
      simp only [splitBy, if_neg hc]

theorem splitOn_sep {sep : String} {c0 : Char} (hsep : sep.toList = [c0]) (s : String) :
    s.splitOn sep = (splitBy c0 [] s.toList).map String.ofList := by
  rw [splitOn_str s sep c0 [] hsep, splitM_one]

theorem splitOn_space (s : String) :
    s.splitOn " " = (splitBy ' ' [] s.toList).map String.ofList :=
  splitOn_sep sp_toList s

theorem splitBy_append (c0 : Char) (t : List Char) (ht : c0 ∉ t) (cur rest : List Char) :
    splitBy c0 cur (t ++ rest) = splitBy c0 (cur ++ t) rest := by
  induction t generalizing cur with
  | nil => simp
  | cons c t ih =>
    simp only [List.cons_append, splitBy, if_neg (List.ne_of_not_mem_cons ht).symm]
    rw [ih (List.not_mem_of_not_mem_cons ht), List.append_assoc]
    rfl

/-- the characters of `sep.intercalate (a :: as)` after `a`, for the one-character separator `c0` -/
def joinBy (c0 : Char) : List (List Char) → List Char
  | [] => []
  | t :: ts => c0 :: (t ++ joinBy c0 ts)

theorem splitBy_join (c0 : Char) (ts : List (List Char)) (hts : ∀ t ∈ ts, c0 ∉ t) (cur : List Char) :
    splitBy c0 cur (joinBy c0 ts) = cur :: ts := by
  induction ts generalizing cur with
  | nil => rfl
  | cons t ts ih =>
    obtain ⟨ht, hts'⟩ := List.forall_mem_cons.1 hts
    simp only [joinBy, splitBy, if_true]
    rw [splitBy_append c0 t ht, ih hts', List.nil_append]

theorem toList_intercalate_sep {sep : String} {c0 : Char} (hsep : sep.toList = [c0]) (a : String)
    (as : List String) :
    (sep.intercalate (a :: as)).toList = a.toList ++ joinBy c0 (as.map String.toList) := by
  induction as generalizing a with
  | nil => simp [joinBy]
  | cons u l ih =>
    rw [String.intercalate_cons_cons, String.toList_append, String.toList_append, ih, hsep]
    simp [joinBy]

theorem splitOn_intercalate_sep {sep : String} {c0 : Char} (hsep : sep.toList = [c0])
    (toks : List String) (hne : toks ≠ []) (hsp : ∀ t ∈ toks, c0 ∉ t.toList) :
    (sep.intercalate toks).splitOn sep = toks := by
  obtain ⟨a, as, rfl⟩ := List.exists_cons_of_ne_nil hne
  rw [splitOn_sep hsep, toList_intercalate_sep hsep]
  obtain ⟨ha, has⟩ := List.forall_mem_cons.1 hsp
  rw [splitBy_append c0 a.toList ha, splitBy_join c0 _ (List.forall_mem_map.2 has),
    List.nil_append]
  simp [String.ofList_toList]

theorem splitOn_intercalate (toks : List String) (hne : toks ≠ [])
    (hsp : ∀ t ∈ toks, ' ' ∉ t.toList) : (" ".intercalate toks).splitOn " " = toks :=
  splitOn_intercalate_sep sp_toList toks hne hsp

def NoSp (s : String) : Prop := ' ' ∉ s.toList

theorem noSp_append {s t : String} (hs : NoSp s) (ht : NoSp t) : NoSp (s ++ t) := by
  unfold NoSp at *
  rw [String.toList_append, List.mem_append]
  exact fun h => h.elim hs ht

theorem noSp_nat (n : Nat) : NoSp (toString n) := by
  show ' ' ∉ (Nat.repr n).toList
  rw [Nat.toList_repr]
  intro h
  have := Nat.isDigit_of_mem_toDigits (by omega) (by omega) h
  exact absurd this (by decide)

theorem toNat?_toString (n : Nat) : (toString n).toNat? = some n := Nat.toNat?_repr n

theorem mapM_toNat?_toString (l : List Nat) :
    (l.map toString).mapM (·.toNat?) = some l := by
  induction l with
  | nil => rfl
  | cons a l ih => simp [List.mapM_cons, ih]

end Bao.SpecIndex
