import BaoProofs.Props.C15
import BaoProofs.Props.C03
import BaoProofs.Props.C08
import BaoProofs.Lemmas.EncL
import BaoProofs.Lemmas.ValidL

/-!
# The encoders emit the honest encoding `Spec.encode` (lemmas for C04)

* part A – `Spec.slice`, `Spec.anySel`, `Spec.allSel`: elementary facts.
* part B – `Spec.itemsI`: one-step unfolding in terms of the first chunk `a = j·2^h` of the
  interval, an interval without selected chunk has no items (`itemsI_none`), an interval whose
  right half is beyond the blob is its left half (`itemsI_succ_skip`), a fully selected interval
  of height `≤ bs` is its bytes (`bytesI_full`).
* part C – `prune_aux`: the block-size-`bs` stream is the block-size-0 stream with the parents
  of fully selected sub-group nodes removed (on the byte level).
* part D – `Repr`: the invariant of a restricted range set `rs` at a node `[a, b)`:
  well-formed, `Tight`, `Bounded` (both from `PlanPreCover`), "a single boundary is `0` or behind
  the start", truncated (`Trunc`), and it selects the chunks `sel` selects.  `Repr` holds at the
  root for `truncate q size`, is preserved by `split_inner`, and gives
  `rs = [] ↔ ¬anySel` (`repr_nil_iff`) and `isAll rs ↔ allSel` (`repr_all_iff`, for nodes with at
  least two chunks inside the blob).
* part E – `rec_out`, `rec_spec`: `encode_selected_rec` on the bytes of an interval inside a chunk
  group returns `Spec.cv` and the bytes of `Spec.itemsI`.
* part F – `planPre_repr_induct`: induction over the recursive plan `PlanPre.planPre` with `Repr`
  carried to the children.  `Loads`: what the loop uses of an intact store (every persisted node
  loads its true pair).  `SubRun p top bytes`: the loop over `p` with `top` on the expected-hash
  stack passes every comparison, consumes `top` and emits `bytes`.  `loop_sub`: the plan of a
  subtree is a sub-run for `Spec.cv` of the subtree's interval and the bytes of `Spec.itemsI` of
  that interval.  `validated_spec`, `plain_spec`, `mixed_spec`: the whole encoders.
  `plan_leaf_repr`: the range sets at the leaves of the plan satisfy `Repr`.
-/

namespace Bao.EncodeSpec
open Bao Bao.Spec Bao.Bits Bao.PlanPre

variable {H : Type}

/-! ## part A: slices and selections -/

theorem slice_length_le (d : List UInt8) (a p : Nat) : (slice d a (a + p)).length ≤ p * 1024 := by
  rw [OutboardL.slice_length, Nat.add_sub_cancel_left]
  exact Nat.min_le_left _ _

theorem nChunks_le_of_slice_le {d : List UInt8} {a p q : Nat} (hp : 0 < p) (hpq : p < q)
    (h : (slice d a (a + q)).length ≤ p * 1024) : nChunks d.length ≤ a + p := by
  rw [OutboardL.slice_length, Nat.add_sub_cancel_left] at h
  unfold nChunks
  simp only [Nat.mul_comm _ 1024] at h
  omega

theorem lt_nChunks_of_lt_slice {d : List UInt8} {a p q : Nat}
    (h : p * 1024 < (slice d a (a + q)).length) : a + p < nChunks d.length := by
  rw [OutboardL.slice_length, Nat.add_sub_cancel_left] at h
  unfold nChunks
  simp only [Nat.mul_comm _ 1024] at h
  omega

theorem anySel_eq_true {sel : Nat → Bool} {a b : Nat} :
    anySel sel a b = true ↔ ∃ c, a ≤ c ∧ c < b ∧ sel c = true := by
  unfold anySel
  rw [List.any_eq_true]
  constructor
  · rintro ⟨i, hi, hs⟩
    rw [List.mem_range] at hi
    exact ⟨a + i, by omega, by omega, hs⟩
  · rintro ⟨c, h1, h2, hs⟩
    exact ⟨c - a, List.mem_range.2 (by omega), by rw [show a + (c - a) = c by omega]; exact hs⟩

theorem anySel_eq_false {sel : Nat → Bool} {a b : Nat} :
    anySel sel a b = false ↔ ∀ c, a ≤ c → c < b → sel c = false := by
  rw [← Bool.not_eq_true, anySel_eq_true]
  simp only [not_exists, not_and, Bool.not_eq_true]

theorem allSel_eq_true {sel : Nat → Bool} {a b : Nat} :
    allSel sel a b = true ↔ ∀ c, a ≤ c → c < b → sel c = true := by
  unfold allSel
  rw [List.all_eq_true]
  constructor
  · intro h c h1 h2
    have := h (c - a) (List.mem_range.2 (by omega))
    rwa [show a + (c - a) = c by omega] at this
  · intro h i hi
    rw [List.mem_range] at hi
    exact h (a + i) (by omega) (by omega)

theorem allSel_mono {sel : Nat → Bool} {a b a' b' : Nat} (h : allSel sel a b = true)
    (h1 : a ≤ a') (h2 : b' ≤ b) : allSel sel a' b' = true :=
  allSel_eq_true.2 fun c hc1 hc2 => allSel_eq_true.1 h c (by omega) (by omega)

theorem anySel_mono_false {sel : Nat → Bool} {a b a' b' : Nat} (h : anySel sel a b = false)
    (h1 : a ≤ a') (h2 : b' ≤ b) : anySel sel a' b' = false :=
  anySel_eq_false.2 fun c hc1 hc2 => anySel_eq_false.1 h c (by omega) (by omega)

/-! ## part B: `Spec.itemsI` -/

/-- what is emitted for an interval; the encoder lemmas speak of these bytes, the item list itself
is needed for `prune_aux` only -/
def bytesI (hf : HashFns H) (d : List UInt8) (n bs : Nat) (sel : Nat → Bool) (h j : Nat) :
    List UInt8 :=
  (itemsI hf d n bs sel h j).flatMap SItem.bytes

section items
variable (hf : HashFns H) (d : List UInt8) (n bs : Nat) (sel : Nat → Bool)

theorem pow_succ_two (h : Nat) : 2 ^ (h + 1) = 2 ^ h + 2 ^ h := by rw [Nat.pow_succ]; omega

theorem left_start {a j h : Nat} (ha : a = j * 2 ^ (h + 1)) : a = 2 * j * 2 ^ h := by
  rw [ha, Nat.pow_succ, Nat.mul_comm 2 j, Nat.mul_assoc, Nat.mul_comm 2]

theorem right_start {a j h : Nat} (ha : a = j * 2 ^ (h + 1)) : a + 2 ^ h = (2 * j + 1) * 2 ^ h := by
  rw [Nat.add_mul, Nat.one_mul, ← left_start ha]

theorem itemsI_zero (j : Nat) :
    itemsI hf d n bs sel 0 j = if sel j then [.leaf j (slice d j (j + 1))] else [] := by
  simp only [itemsI]

theorem itemsI_succ {a j h : Nat} (ha : a = j * 2 ^ (h + 1)) :
    itemsI hf d n bs sel (h + 1) j =
      if !anySel sel a (min (a + 2 ^ (h + 1)) n) then []
      else if a + 2 ^ h ≥ n then itemsI hf d n bs sel h (2 * j)
      else if allSel sel a (min (a + 2 ^ (h + 1)) n) && decide (h + 1 ≤ bs) then
        [.leaf a (slice d a (min (a + 2 ^ (h + 1)) n))]
      else
        .parent (nodeOf j h)
            (hf.toBytes (cv hf d a (a + 2 ^ h) false) ++
              hf.toBytes (cv hf d (a + 2 ^ h) (min (a + 2 ^ (h + 1)) n) false))
          :: (itemsI hf d n bs sel h (2 * j) ++ itemsI hf d n bs sel h (2 * j + 1)) := by
  have e : (j + 1) * 2 ^ (h + 1) = a + 2 ^ (h + 1) := by rw [Nat.add_mul, Nat.one_mul, ha]
  simp only [itemsI, e, ← ha]

variable {hf d n bs sel}

theorem itemsI_none : ∀ (h j a : Nat), a = j * 2 ^ h → a < n →
    anySel sel a (min (a + 2 ^ h) n) = false → itemsI hf d n bs sel h j = [] := by
  intro h
  cases h with
  | zero =>
    intro j a ha han hsel
    simp only [Nat.pow_zero, Nat.mul_one] at ha hsel
    subst ha
    have := anySel_eq_false.1 hsel a (Nat.le_refl _) (by omega)
    rw [itemsI_zero, this]; rfl
  | succ h =>
    intro j a ha han hsel
    rw [itemsI_succ hf d n bs sel ha, hsel]; rfl

theorem itemsI_succ_skip {h j a : Nat} (ha : a = j * 2 ^ (h + 1)) (han : a < n)
    (hmid : n ≤ a + 2 ^ h) : itemsI hf d n bs sel (h + 1) j = itemsI hf d n bs sel h (2 * j) := by
  have hp := pow_succ_two h
  have e1 : min (a + 2 ^ (h + 1)) n = n := by omega
  have e2 : min (a + 2 ^ h) n = n := by omega
  rw [itemsI_succ hf d n bs sel ha]
  cases hsel : anySel sel a (min (a + 2 ^ (h + 1)) n) with
  | false =>
    rw [e1] at hsel
    rw [itemsI_none h (2 * j) a (left_start ha) han (by rw [e2]; exact hsel)]; rfl
  | true => simp only [Bool.not_true, Bool.false_eq_true, if_false, ge_iff_le, if_pos hmid]

theorem bytesI_succ_skip {h j a : Nat} (ha : a = j * 2 ^ (h + 1)) (han : a < n)
    (hmid : n ≤ a + 2 ^ h) : bytesI hf d n bs sel (h + 1) j = bytesI hf d n bs sel h (2 * j) := by
  unfold bytesI; rw [itemsI_succ_skip ha han hmid]

theorem bytesI_none {h j a : Nat} (ha : a = j * 2 ^ h) (han : a < n)
    (hsel : anySel sel a (min (a + 2 ^ h) n) = false) : bytesI hf d n bs sel h j = [] := by
  unfold bytesI; rw [itemsI_none h j a ha han hsel]; rfl

theorem bytesI_full : ∀ (h j a : Nat), a = j * 2 ^ h → h ≤ bs → a < n →
    allSel sel a (min (a + 2 ^ h) n) = true →
    bytesI hf d n bs sel h j = slice d a (min (a + 2 ^ h) n) := by
  intro h
  induction h with
  | zero =>
    intro j a ha _ han hall
    simp only [Nat.pow_zero, Nat.mul_one] at ha hall ⊢
    subst ha
    have := allSel_eq_true.1 hall a (Nat.le_refl _) (by omega)
    unfold bytesI
    rw [itemsI_zero, this, Nat.min_eq_left (by omega)]
    simp [SItem.bytes]
  | succ h ih =>
    intro j a ha hbs han hall
    have hp := pow_succ_two h
    have hany : anySel sel a (min (a + 2 ^ (h + 1)) n) = true :=
      anySel_eq_true.2 ⟨a, Nat.le_refl _, by have := two_pow_pos' h; omega,
        allSel_eq_true.1 hall a (Nat.le_refl _) (by have := two_pow_pos' h; omega)⟩
    by_cases hmid : n ≤ a + 2 ^ h
    · have e1 : min (a + 2 ^ (h + 1)) n = n := by omega
      have e2 : min (a + 2 ^ h) n = n := by omega
      rw [bytesI_succ_skip ha han hmid, ih (2 * j) a (left_start ha) (by omega) han
        (by rw [e2, ← e1]; exact hall), e1, e2]
    · unfold bytesI
      rw [itemsI_succ hf d n bs sel ha, hany, hall]
      have : decide (h + 1 ≤ bs) = true := by simpa using hbs
      simp only [this, Bool.not_true, Bool.false_eq_true, if_false, ge_iff_le, if_neg hmid,
        Bool.and_self, if_true]
      simp [SItem.bytes]

theorem bytesI_succ_split {h j a : Nat} (ha : a = j * 2 ^ (h + 1)) (hmid : a + 2 ^ h < n) :
    bytesI hf d n bs sel (h + 1) j =
      if !anySel sel a (min (a + 2 ^ (h + 1)) n) then []
      else if allSel sel a (min (a + 2 ^ (h + 1)) n) && decide (h + 1 ≤ bs) then
        slice d a (min (a + 2 ^ (h + 1)) n)
      else
        hf.toBytes (cv hf d a (a + 2 ^ h) false) ++
          hf.toBytes (cv hf d (a + 2 ^ h) (min (a + 2 ^ (h + 1)) n) false) ++
          (bytesI hf d n bs sel h (2 * j) ++ bytesI hf d n bs sel h (2 * j + 1)) := by
  unfold bytesI
  rw [itemsI_succ hf d n bs sel ha]
  have hm : ¬ (a + 2 ^ h ≥ n) := by omega
  simp only [if_neg hm]
  split
  · rfl
  · split
    · simp [SItem.bytes]
    · simp [SItem.bytes, List.flatMap_append]

theorem bytesI_halves_none {h j a : Nat} (ha : a = j * 2 ^ (h + 1)) (hmid : a + 2 ^ h < n)
    (hany : anySel sel a (min (a + 2 ^ (h + 1)) n) = false) :
    bytesI hf d n bs sel h (2 * j) ++ bytesI hf d n bs sel h (2 * j + 1) = [] := by
  have hp := pow_succ_two h
  have hpos := two_pow_pos' h
  rw [bytesI_none (left_start ha) (by omega) (anySel_mono_false hany (Nat.le_refl _) (by omega)),
    bytesI_none (right_start ha) hmid (anySel_mono_false hany (by omega) (by omega))]
  rfl

theorem bytesI_halves_full {h j a : Nat} (ha : a = j * 2 ^ (h + 1)) (hbs : h ≤ bs)
    (hmid : a + 2 ^ h < n) (hall : allSel sel a (min (a + 2 ^ (h + 1)) n) = true) :
    bytesI hf d n bs sel h (2 * j) ++ bytesI hf d n bs sel h (2 * j + 1)
      = slice d a (min (a + 2 ^ (h + 1)) n) := by
  have hp := pow_succ_two h
  have hpos := two_pow_pos' h
  rw [bytesI_full h (2 * j) a (left_start ha) hbs (by omega)
      (allSel_mono hall (Nat.le_refl _) (by omega)),
    bytesI_full h (2 * j + 1) (a + 2 ^ h) (right_start ha) hbs hmid
      (allSel_mono hall (by omega) (by omega)),
    Nat.min_eq_left (by omega : a + 2 ^ h ≤ n), show a + 2 ^ h + 2 ^ h = a + 2 ^ (h + 1) by omega]
  exact OutboardL.slice_append_slice d (by omega) (by omega)

end items

/-! ## part C: pruning the block-size-0 stream -/

/-- which items of the block-size-0 stream survive at block size `bs`: all leaves, and the
parents except those of a node of level `< bs` whose chunk interval (clipped to the blob of `n`
chunks) is completely selected -/
def keep (bs : Nat) (sel : Nat → Bool) (n : Nat) : SItem → Bool
  | .leaf _ _ => true
  | .parent node _ =>
    !(decide (levelOf node < bs) &&
      allSel sel (startOf (indexOf node) (levelOf node))
        (min (endOf (indexOf node) (levelOf node)) n))

theorem keep_parent (bs : Nat) (sel : Nat → Bool) (n : Nat) {a j h : Nat}
    (ha : a = j * 2 ^ (h + 1)) (hh : h ≤ 64) (b : List UInt8) :
    keep bs sel n (.parent (nodeOf j h) b) =
      !(allSel sel a (min (a + 2 ^ (h + 1)) n) && decide (h + 1 ≤ bs)) := by
  have e : endOf j h = a + 2 ^ (h + 1) := by unfold endOf; rw [Nat.add_mul, Nat.one_mul, ha]
  have e' : startOf j h = a := by unfold startOf; rw [ha]
  simp only [keep, levelOf_nodeOf hh, indexOf_nodeOf hh, e, e']
  rw [Bool.and_comm]
  congr 2

theorem prune_aux (hf : HashFns H) (d : List UInt8) (n bs : Nat) (sel : Nat → Bool) :
    ∀ (h j a : Nat), a = j * 2 ^ h → h ≤ 64 → a < n →
      bytesI hf d n bs sel h j =
        ((itemsI hf d n 0 sel h j).filter (keep bs sel n)).flatMap SItem.bytes := by
  intro h
  induction h with
  | zero =>
    intro j a _ _ _
    unfold bytesI
    rw [itemsI_zero, itemsI_zero]
    split
    · simp [List.filter, keep]
    · simp
  | succ h ih =>
    intro j a ha hh han
    have hp := pow_succ_two h
    have hpos := two_pow_pos' h
    by_cases hmid : n ≤ a + 2 ^ h
    · rw [bytesI_succ_skip ha han hmid, itemsI_succ_skip ha han hmid]
      exact ih (2 * j) a (left_start ha) (by omega) han
    · have hmid : a + 2 ^ h < n := by omega
      have ihl := ih (2 * j) a (left_start ha) (by omega) han
      have ihr := ih (2 * j + 1) (a + 2 ^ h) (right_start ha) (by omega) hmid
      rw [bytesI_succ_split ha hmid, itemsI_succ hf d n 0 sel ha]
      have hm : ¬ (a + 2 ^ h ≥ n) := by omega
      have h0 : decide (h + 1 ≤ 0) = false := by simp
      simp only [if_neg hm, h0, Bool.and_false, Bool.false_eq_true, if_false]
      cases hany : anySel sel a (min (a + 2 ^ (h + 1)) n) with
      | false => simp
      | true =>
        simp only [Bool.not_true, Bool.false_eq_true, if_false, List.filter_cons,
          keep_parent bs sel n ha (by omega : h ≤ 64)]
        cases hk : (allSel sel a (min (a + 2 ^ (h + 1)) n) && decide (h + 1 ≤ bs)) with
        | true =>
          simp only [Bool.and_eq_true, decide_eq_true_eq] at hk
          obtain ⟨hall, hbs⟩ := hk
          simp only [Bool.not_true, Bool.false_eq_true, if_false, if_true, List.filter_append,
            List.flatMap_append, ← ihl, ← ihr]
          rw [bytesI_halves_full ha (by omega) hmid hall]
        | false =>
          simp only [Bool.not_false, if_true, Bool.false_eq_true, if_false, List.filter_append,
            List.flatMap_cons, List.flatMap_append, ← ihl, ← ihr, SItem.bytes]

/-! ## part D: the invariant of a restricted range set -/

section repr
open Bao.Ranges

/-- all boundaries but the last lie below the last chunk `n - 1`, and a closing last boundary
(even length) is at most `n - 1`: what `truncate_ranges` establishes -/
def Trunc (n : Nat) (rs : Ranges) : Prop :=
  (∀ x ∈ rs.dropLast, x < n - 1) ∧ (rs.length % 2 = 0 → ∀ x ∈ rs, x ≤ n - 1)

/-- `rs` is the range set the plan hands to the node with chunk interval `[a, b)`, for the
selection `sel` of a blob of `size` bytes -/
structure Repr (size : Nat) (sel : Nat → Bool) (rs : Ranges) (a b : Nat) : Prop where
  wf : WF rs = true
  tight : Tight rs a
  single : ∀ x, rs = [x] → x = 0 ∨ a < x
  bounded : Bounded size rs b
  trunc : Trunc (nChunks size) rs
  agree : ∀ c, a ≤ c → c < b → Spec.selected size rs c = sel c

theorem trunc_of_lt {n m : Nat} {rs : Ranges} (hm : m < n) (h : ∀ x ∈ rs, x < m) : Trunc n rs :=
  ⟨fun x hx => by have := h x (List.dropLast_subset _ hx); omega,
   fun _ x hx => by have := h x hx; omega⟩

theorem trunc_drop {n j : Nat} {rs : Ranges} (hj : j % 2 = 0) (h : Trunc n rs) :
    Trunc n (rs.drop j) := by
  by_cases hlen : rs.length ≤ j
  · rw [List.drop_eq_nil_of_le hlen]
    exact ⟨fun x hx => by simp at hx, fun _ x hx => by simp at hx⟩
  · constructor
    · intro x hx
      apply h.1
      rw [List.dropLast_eq_take] at hx ⊢
      rw [List.length_drop, List.take_drop] at hx
      exact List.take_subset_take_left rs (by omega) (List.mem_of_mem_drop hx)
    · intro hev x hx
      rw [List.length_drop] at hev
      exact h.2 (by omega) x (List.mem_of_mem_drop hx)

theorem trunc_fixAll {n s : Nat} {l : List Nat} (h : Trunc n l) : Trunc n (fixAll l s) := by
  unfold fixAll; split
  · split
    · exact ⟨fun x hx => by simp at hx, fun hev => by simp at hev⟩
    · exact h
  · exact h

theorem single_fixAll (l : List Nat) (s : Nat) : ∀ x, fixAll l s = [x] → x = 0 ∨ s < x := by
  intro x hx
  unfold fixAll at hx
  split at hx
  · split at hx
    · simp only [List.cons.injEq, and_true] at hx; left; exact hx.symm
    · simp only [List.cons.injEq, and_true] at hx; right; omega
  · rename_i hne
    exact (hne x hx).elim

theorem trunc_split_snd {n : Nat} {rs : Ranges} (hwf : WF rs = true) (m : Nat) (h : Trunc n rs) :
    Trunc n (split rs m).2 := by
  rw [split_eq hwf]
  apply trunc_drop _ h
  repeat' split
  all_goals omega

theorem repr_left {size : Nat} {sel : Nat → Bool} {rs : Ranges} {a b m : Nat}
    (h : Repr size sel rs a b) (ham : a < m) (hmb : m ≤ b) (hmn : m < nChunks size) :
    Repr size sel (splitInner rs a m).1 a m where
  wf := (C14.splitInner_wf a m h.wf).1
  tight := tight_left m h.tight
  single := by rw [splitInner_eq]; exact single_fixAll _ _
  bounded := Or.inr (left_lt_mid rs a (by omega))
  trunc := trunc_of_lt hmn (left_lt_mid rs a (by omega))
  agree := fun c h1 h2 => by
    rw [selected_left h.wf h1 h2 hmn]; exact h.agree c h1 (by omega)

theorem repr_right {size : Nat} {sel : Nat → Bool} {rs : Ranges} {a b m : Nat}
    (h : Repr size sel rs a b) (ham : a ≤ m) (hb : 0 < b) :
    Repr size sel (splitInner rs a m).2 m b where
  wf := (C14.splitInner_wf a m h.wf).2
  tight := tight_right h.wf a m
  single := by rw [splitInner_eq]; exact single_fixAll _ _
  bounded := bounded_right h.wf a m hb h.bounded
  trunc := by rw [splitInner_eq]; exact trunc_fixAll (trunc_split_snd h.wf m h.trunc)
  agree := fun c h1 h2 => by
    rw [selected_right h.wf h1]; exact h.agree c (by omega) h2

theorem repr_skip {size : Nat} {sel : Nat → Bool} {rs : Ranges} {a b b' : Nat}
    (h : Repr size sel rs a b) (h1 : nChunks size ≤ b') (h2 : b' ≤ b) :
    Repr size sel rs a b' where
  wf := h.wf
  tight := h.tight
  single := h.single
  bounded := Or.inl h1
  trunc := h.trunc
  agree := fun c hc1 hc2 => h.agree c hc1 (by omega)

theorem repr_root {size : Nat} {q : Ranges} (hwf : WF q = true) {b : Nat}
    (hb : nChunks size ≤ b) :
    Repr size (Spec.selected size q) (truncate q size) 0 b where
  wf := C14.truncate_wf size hwf
  tight := tight_zero (C14.truncate_wf size hwf)
  single := fun x _ => by omega
  bounded := Or.inl hb
  trunc := ⟨C14.truncate_bounded q size, C14.truncate_bounded_closed size hwf⟩
  agree := fun c _ _ => C14.truncate_selected size hwf c

theorem repr_nil {size : Nat} {sel : Nat → Bool} {a b : Nat}
    (hsel : ∀ c, a ≤ c → c < b → sel c = false) : Repr size sel [] a b where
  wf := rfl
  tight := fun x hx => by simp at hx
  single := fun x hx => by cases hx
  bounded := Or.inr (fun x hx => by simp at hx)
  trunc := ⟨fun x hx => by simp at hx, fun _ x hx => by simp at hx⟩
  agree := fun c h1 h2 => by rw [selected_nil, hsel c h1 h2]

theorem repr_nil_iff {size : Nat} {sel : Nat → Bool} {rs : Ranges} {a b : Nat}
    (h : Repr size sel rs a b) (hab : a < b) (han : a < nChunks size) :
    rs = [] ↔ anySel sel a (min b (nChunks size)) = false := by
  constructor
  · rintro rfl
    apply anySel_eq_false.2
    intro c h1 h2
    rw [← h.agree c h1 (by omega), selected_nil]
  · intro hsel
    apply Classical.byContradiction
    intro hne
    obtain ⟨c, h1, h2, h3⟩ := leaf_witness h.wf hne h.tight h.bounded hab han
    rw [h.agree c h1 (by omega), anySel_eq_false.1 hsel c h1 h2] at h3
    cases h3

theorem contains_of_forall_gt {l : List Nat} (hwf : WF l = true) {x : Nat}
    (h : ∀ b ∈ l, x < b) : contains l x = false := by
  rw [contains_eq hwf, countLe_eq_zero_of_forall_gt h]; rfl

theorem repr_all_iff {size : Nat} {sel : Nat → Bool} {rs : Ranges} {a b : Nat}
    (h : Repr size sel rs a b) (hab : a + 1 < min b (nChunks size)) :
    isAll rs = true ↔ allSel sel a (min b (nChunks size)) = true := by
  constructor
  · intro hall
    have := isAll_eq hall; subst this
    apply allSel_eq_true.2
    intro c h1 h2
    rw [← h.agree c h1 (by omega), selected_all]
    simp only [decide_eq_true_eq]; omega
  · intro hall
    have hsel : ∀ c, a ≤ c → c < min b (nChunks size) → Spec.selected size rs c = true :=
      fun c h1 h2 => by rw [h.agree c h1 (by omega)]; exact allSel_eq_true.1 hall c h1 h2
    match rs, h, hsel with
    | [], _, hsel =>
      have := hsel a (Nat.le_refl _) (by omega)
      rw [selected_nil] at this; cases this
    | [x], h, hsel =>
      have h1 := hsel a (Nat.le_refl _) (by omega)
      rw [selected_of_lt_mid [x] (c := a) (m := a + 1) (by omega) (by omega),
        contains_singleton, decide_eq_true_eq] at h1
      rcases h.single x rfl with rfl | h2
      · rfl
      · omega
    | x :: y :: rest, h, hsel =>
      exfalso
      have hn := nChunks_pos size
      have hay : a < y := h.tight y (by simp)
      have hwf := h.wf
      have hrest : ∀ z ∈ rest, y < z := WF_head_lt (WF_tail hwf)
      have hcy : contains (x :: y :: rest) y = false := by
        rw [contains_cons_cons hwf, contains_of_forall_gt (WF_tail (WF_tail hwf)) hrest]
        simp
      have hy : y < nChunks size - 1 ∨ (rest = [] ∧ y ≤ nChunks size - 1) := by
        cases rest with
        | nil => right; exact ⟨rfl, h.trunc.2 (by simp) y (by simp)⟩
        | cons z r => left; exact h.trunc.1 y (by simp [List.dropLast])
      by_cases hye : y < min b (nChunks size)
      · have hs := hsel y (by omega) hye
        rw [selected_eq_reachesPast, hcy] at hs
        rcases hy with hy | ⟨rfl, hy⟩
        · have : (y == nChunks size - 1) = false := by simp; omega
          simp [this] at hs
        · simp [reachesPast] at hs
          omega
      · have : nChunks size ≤ y := by
          rcases h.bounded with hb | hb
          · omega
          · have := hb y (by simp); omega
        omega

/-- `repr_nil_iff` and `repr_all_iff` as equations between the tests the code and the
specification make -/
theorem repr_isEmpty {size : Nat} {sel : Nat → Bool} {rs : Ranges} {a b : Nat}
    (h : Repr size sel rs a b) (hab : a < b) (han : a < nChunks size) :
    rs.isEmpty = !anySel sel a (min b (nChunks size)) := by
  by_cases hne : rs = []
  · rw [(repr_nil_iff h hab han).1 hne, hne]
    rfl
  · rw [isEmpty_eq_false hne]
    cases hx : anySel sel a (min b (nChunks size)) with
    | true => rfl
    | false => exact (hne ((repr_nil_iff h hab han).2 hx)).elim

theorem repr_isAll {size : Nat} {sel : Nat → Bool} {rs : Ranges} {a b : Nat}
    (h : Repr size sel rs a b) (hab : a + 1 < min b (nChunks size)) :
    Ranges.isAll rs = allSel sel a (min b (nChunks size)) :=
  Bool.eq_iff_iff.2 (repr_all_iff h hab)

end repr

/-! ## part E: `encode_selected_rec` inside a chunk group -/

theorem rec_out_small (hf : HashFns H) (d : List UInt8) {bs : Nat} {sel : Nat → Bool}
    {h j a : Nat} {rs : Ranges} (isRoot : Bool) (ha : a = j * 2 ^ h) (hh : h ≤ bs)
    (han : a < nChunks d.length) (hr : Repr d.length sel rs a (a + 2 ^ h))
    (hs : (slice d a (a + 2 ^ h)).length ≤ 1024)
    (hmin : min (a + 2 ^ h) (nChunks d.length) = a + 1) :
    (encodeSelectedRec hf h a (slice d a (a + 2 ^ h)) isRoot rs bs true).2 =
      bytesI hf d (nChunks d.length) bs sel h j := by
  have hpos := two_pow_pos' h
  rw [C05.rec_small hf _ _ _ _ _ _ _ hs, repr_isEmpty hr (by omega) han]
  cases hany : anySel sel a (min (a + 2 ^ h) (nChunks d.length)) with
  | false =>
    rw [bytesI_none ha han hany]
    rfl
  | true =>
    -- the selected chunk is the only one
    have hall : allSel sel a (min (a + 2 ^ h) (nChunks d.length)) = true := by
      rw [hmin] at hany ⊢
      obtain ⟨c, h1, h2, hc⟩ := anySel_eq_true.1 hany
      apply allSel_eq_true.2
      intro c' h1' h2'
      rw [show c' = c by omega]
      exact hc
    rw [bytesI_full h j a ha hh han hall, OutboardL.slice_min_nChunks]
    rfl

theorem rec_out (hf : HashFns H) (d : List UInt8) (bs : Nat) (sel : Nat → Bool) (hbs : bs ≤ 64) :
    ∀ (h j a : Nat) (rs : Ranges) (isRoot : Bool), a = j * 2 ^ h → h ≤ bs →
      a < nChunks d.length → Repr d.length sel rs a (a + 2 ^ h) →
      (encodeSelectedRec hf h a (slice d a (a + 2 ^ h)) isRoot rs bs true).2 =
        bytesI hf d (nChunks d.length) bs sel h j := by
  intro h
  induction h with
  | zero =>
    intro j a rs isRoot ha hh han hr
    exact rec_out_small hf d isRoot ha hh han hr
      (Nat.le_trans (slice_length_le d a (2 ^ 0)) (by decide)) (by rw [Nat.pow_zero]; omega)
  | succ h ih =>
    intro j a rs isRoot ha hh han hr
    have hp := pow_succ_two h
    have hpos := two_pow_pos' h
    by_cases hs : (slice d a (a + 2 ^ (h + 1))).length ≤ 1024
    · -- a single chunk
      have hn1 := nChunks_le_of_slice_le (p := 1) (q := 2 ^ (h + 1)) Nat.one_pos (by omega) (by omega)
      exact rec_out_small hf d isRoot ha hh han hr hs (by omega)
    · by_cases hm : (slice d a (a + 2 ^ (h + 1))).length ≤ 2 ^ h * 1024
      · -- the right half lies beyond the blob
        have hmid := nChunks_le_of_slice_le hpos (by omega) hm
        rw [C05.rec_succ_le hf _ _ _ _ _ _ _ (by omega) hm, bytesI_succ_skip ha han hmid,
          OutboardL.slice_of_nChunks_le d a (by omega : _ ≤ a + 2 ^ (h + 1)),
          ← OutboardL.slice_of_nChunks_le d a hmid]
        exact ih (2 * j) a rs isRoot (left_start ha) (by omega) han
          (repr_skip hr hmid (by omega))
      · -- the interval splits
        have hmid := lt_nChunks_of_lt_slice (Nat.lt_of_not_le hm)
        have hrl := repr_left hr (by omega : a < a + 2 ^ h) (by omega) hmid
        have hrr := repr_right hr (by omega : a ≤ a + 2 ^ h) (by omega)
        have e1 : (slice d a (a + 2 ^ (h + 1))).take (2 ^ h * 1024) = slice d a (a + 2 ^ h) :=
          C01.slice_take (by omega)
        have e2 : (slice d a (a + 2 ^ (h + 1))).drop (2 ^ h * 1024)
            = slice d (a + 2 ^ h) (a + 2 ^ h + 2 ^ h) := by
          rw [C01.slice_drop (by omega : a + 2 ^ h ≤ a + 2 ^ (h + 1)), hp, Nat.add_assoc]
        have ihl := ih (2 * j) a _ false (left_start ha) (by omega) han hrl
        have ihr := ih (2 * j + 1) (a + 2 ^ h) _ false (right_start ha) (by omega) hmid
          (by rw [hp, ← Nat.add_assoc] at hrr; exact hrr)
        have hl1 := C05.encodeSelectedRec_hash hf h a (slice d a (a + 2 ^ h)) false
          (Ranges.splitInner rs a (a + 2 ^ h)).1 bs true (by omega) (slice_length_le d _ _)
        have hr1 := C05.encodeSelectedRec_hash hf h (a + 2 ^ h)
          (slice d (a + 2 ^ h) (a + 2 ^ h + 2 ^ h)) false
          (Ranges.splitInner rs a (a + 2 ^ h)).2 bs true (by omega) (slice_length_le d _ _)
        have hcr : hashSubtree hf (a + 2 ^ h) (slice d (a + 2 ^ h) (a + 2 ^ h + 2 ^ h)) false
            = cv hf d (a + 2 ^ h) (min (a + 2 ^ (h + 1)) (nChunks d.length)) false := by
          rw [OutboardL.cv_min_nChunks, hp, Nat.add_assoc]; rfl
        rw [C05.rec_succ_split hf _ _ _ _ _ _ _ (by omega) rfl rfl, e1, e2, ihl, ihr, hl1, hr1, hcr,
          bytesI_succ_split ha hmid]
        -- the two tests of the code are the two tests of the specification
        have hlev : decide (h ≥ bs) = false := by simp; omega
        have hbsd : decide (h + 1 ≤ bs) = true := by simpa using hh
        rw [repr_isEmpty hr (by omega) han, repr_isAll hr (by omega), hlev, hbsd]
        cases hany : anySel sel a (min (a + 2 ^ (h + 1)) (nChunks d.length)) with
        | false =>
          rw [List.append_assoc, bytesI_halves_none ha hmid hany]
          rfl
        | true =>
          cases hall : allSel sel a (min (a + 2 ^ (h + 1)) (nChunks d.length)) with
          | true =>
            rw [List.append_assoc, bytesI_halves_full ha (by omega) hmid hall]
            rfl
          | false =>
            rw [List.append_assoc]
            rfl

theorem rec_spec (hf : HashFns H) (d : List UInt8) (bs : Nat) (sel : Nat → Bool) (hbs : bs ≤ 64)
    {h j a : Nat} {rs : Ranges} (isRoot : Bool) (fuel : Nat) (hfuel : h ≤ fuel) (hf64 : fuel ≤ 64)
    (ha : a = j * 2 ^ h) (hh : h ≤ bs) (han : a < nChunks d.length)
    (hr : Repr d.length sel rs a (a + 2 ^ h)) :
    encodeSelectedRec hf fuel a (slice d a (a + 2 ^ h)) isRoot rs bs true =
      (cv hf d a (min (a + 2 ^ h) (nChunks d.length)) isRoot,
        bytesI hf d (nChunks d.length) bs sel h j) := by
  have hlen := slice_length_le d a (2 ^ h)
  have h1 := C05.encodeSelectedRec_hash hf fuel a (slice d a (a + 2 ^ h)) isRoot rs bs true hf64
    (Nat.le_trans hlen (Nat.mul_le_mul_right _ (Nat.pow_le_pow_right (by decide) hfuel)))
  have h2 := rec_out hf d bs sel hbs h j a rs isRoot ha hh han hr
  rw [← C05.rec_fuel hf fuel h _ _ _ _ _ _ hfuel hlen] at h2
  rw [Prod.ext_iff]
  refine ⟨?_, h2⟩
  rw [h1]
  rw [OutboardL.cv_min_nChunks]
  rfl

/-! ## part F: the validating encoder on the intact store -/

/-- the store is the intact outboard of blob `d` at block size `bs` -/
structure Intact (hf : HashFns H) (d : List UInt8) (bs : Nat) (st : Store H) : Prop where
  hlen : ∀ h, (hf.toBytes h).length = 32
  hrt : ∀ h, hf.ofBytes (hf.toBytes h) = h
  hs : d.length ≤ 2 ^ 63
  hbs : bs ≤ 10
  tree : st.tree = ⟨d.length, bs⟩
  data : ((st.kind = .preIo ∨ st.kind = .preMem) ∧ st.data = Spec.preOutboard hf d bs) ∨
         ((st.kind = .postIo ∨ st.kind = .postMem) ∧ st.data = Spec.postOutboard hf d bs)

/-- what the validating loop uses of an intact store: the geometry of the blob, and that every
persisted node loads its true pair (under either flavour) -/
structure Loads (hf : HashFns H) (d : List UInt8) (bs : Nat) (st : Store H) : Prop where
  hs : d.length ≤ 2 ^ 63
  hbs : bs ≤ 10
  tree : st.tree = ⟨d.length, bs⟩
  load : ∀ fl x, x ∈ persistedPre d.length bs →
    st.load hf fl x = .ok (some (Spec.pair hf d (indexOf x) (levelOf x)))

theorem Intact.loads {hf : HashFns H} {d : List UInt8} {bs : Nat} {st : Store H}
    (h : Intact hf d bs st) : Loads hf d bs st :=
  ⟨h.hs, h.hbs, h.tree, fun fl x hx =>
    OutboardL.load_persisted hf h.hlen h.hrt d bs h.hs h.hbs fl st h.tree h.data x hx⟩

/-- induction over the recursive plan (for `min_full_level = 0`) of a subtree whose range set
represents the selection: the cases of `planPre_induct` that can occur, each with the position of
the node's mid relative to the blob and with `Repr` for the range sets handed to the children -/
theorem planPre_repr_induct {size bs filled root : Nat} (g : Geo size bs filled) (sel : Nat → Bool)
    {P : Nat → Nat → Ranges → List Chunk → Prop}
    (nil : ∀ L k, startOf k (L + bs) < nChunks size →
      Repr size sel [] (startOf k (L + bs)) (endOf k (L + bs)) → P L k [] [])
    (skip : ∀ L k rs, rs ≠ [] → filled ≤ nodeOf k (L + 1) → startOf k (L + 1 + bs) < nChunks size →
      nChunks size ≤ midOf k (L + 1 + bs) →
      P L (2 * k) rs (planPre size bs 0 filled root L (2 * k) rs) →
      P (L + 1) k rs (planPre size bs 0 filled root L (2 * k) rs))
    (half : ∀ k rs, rs ≠ [] → startOf k bs < nChunks size → size ≤ toBytes (midOf k bs) →
      Repr size sel rs (startOf k bs) (midOf k bs) → P 0 k rs [nodeLeaf size bs root 0 k rs])
    (group : ∀ k rs, rs ≠ [] → toBytes (midOf k bs) < size →
      Repr size sel rs (startOf k bs) (endOf k bs) →
      Repr size sel (lq bs 0 k rs) (startOf k bs) (midOf k bs) →
      Repr size sel (rq bs 0 k rs) (midOf k bs) (endOf k bs) →
      P 0 k rs (nodeParent bs root 0 k rs ::
        ((if (lq bs 0 k rs).isEmpty then [] else [leftLeaf bs k rs]) ++
         (if (rq bs 0 k rs).isEmpty then [] else [rightLeaf size bs k rs]))))
    (inner : ∀ L k rs, rs ≠ [] → midOf k (L + 1 + bs) < nChunks size →
      Repr size sel rs (startOf k (L + 1 + bs)) (endOf k (L + 1 + bs)) →
      P L (2 * k) (lq bs (L + 1) k rs)
        (planPre size bs 0 filled root L (2 * k) (lq bs (L + 1) k rs)) →
      P L (2 * k + 1) (rq bs (L + 1) k rs)
        (planPre size bs 0 filled root L (2 * k + 1) (rq bs (L + 1) k rs)) →
      P (L + 1) k rs (nodeParent bs root (L + 1) k rs ::
        (planPre size bs 0 filled root L (2 * k) (lq bs (L + 1) k rs) ++
          planPre size bs 0 filled root L (2 * k + 1) (rq bs (L + 1) k rs))))
    (L k : Nat) (rs : Ranges) (hr : Repr size sel rs (startOf k (L + bs)) (endOf k (L + bs)))
    (han : startOf k (L + bs) < nChunks size) : P L k rs (planPre size bs 0 filled root L k rs) := by
  refine planPre_induct (size := size) (bs := bs) (ml := 0) (filled := filled) (root := root)
    (P := fun L k rs p => Repr size sel rs (startOf k (L + bs)) (endOf k (L + bs)) →
      startOf k (L + bs) < nChunks size → P L k rs p) ?_ ?_ ?_ ?_ ?_ ?_ ?_ L k rs hr han
  · intro L k hr han
    exact nil L k han hr
  · -- a non-existing group with a non-empty range set: impossible
    intro k rs _ hge _ han
    have := g.sub_exists (k := k) (L := 0) han
    rw [Offsets.startOf_zero] at this
    rw [Offsets.nodeOf_zero] at hge
    omega
  · -- a non-existing inner node: its left child takes its place
    intro L k rs hne hge ih hr han
    have hmN := g.skip_mid_ge hge
    have hme := midOf_lt_endOf k (L + 1 + bs)
    exact skip L k rs hne hge han hmN (ih (by rw [child_ls, child_le]; exact repr_skip hr hmN (by omega))
      (by rw [child_ls]; exact han))
  · -- query leaf: does not occur for `min_full_level = 0`
    intro L k rs _ _ hq
    have := queryLeaf_lt hq
    omega
  · -- the half leaf
    intro k rs hne _ _ hh hr han
    simp only [Nat.zero_add] at hr han
    have hsm := startOf_lt_midOf k bs
    have hme := midOf_lt_endOf k bs
    exact half k rs hne han hh (repr_skip hr (nChunks_le_of_le_toBytes (by omega) hh) (by omega))
  · -- two chunk groups below an existing node
    intro k rs hne _ _ hh hr han
    simp only [Nat.zero_add] at hr han
    have hmN : midOf k bs < nChunks size := lt_nChunks_of_toBytes_lt hh
    have hsm := startOf_lt_midOf k bs
    have hme := midOf_lt_endOf k bs
    refine group k rs hne hh hr ?_ ?_
    · simp only [lq, Nat.zero_add]
      exact repr_left hr hsm (by omega) hmN
    · simp only [rq, Nat.zero_add]
      exact repr_right hr (Nat.le_of_lt hsm) (by omega)
  · -- an existing inner node
    intro L k rs hne hlt _ ihl ihr hr han
    have hmN := g.mid_lt_nChunks hlt
    have hsm := startOf_lt_midOf k (L + 1 + bs)
    have hme := midOf_lt_endOf k (L + 1 + bs)
    exact inner L k rs hne hmN hr
      (ihl (by rw [child_ls, child_le]; exact repr_left hr hsm (by omega) hmN)
        (by rw [child_ls]; exact han))
      (ihr (by rw [child_rs, child_re]; exact repr_right hr (Nat.le_of_lt hsm) (by omega))
        (by rw [child_rs]; exact hmN))

theorem size_clip {size m e : Nat} (hme : m ≤ e) (hh : size ≤ toBytes m) (s : Nat) :
    min (toBytes e) size - toBytes s = min (m * 1024) size - s * 1024 := by
  unfold toBytes at *
  rw [Nat.min_eq_right (Nat.le_trans hh (Nat.mul_le_mul_right _ hme)), Nat.min_eq_right hh]

theorem size_full {size m : Nat} (hh : toBytes m < size) (s : Nat) :
    toBytes m - toBytes s = min (m * 1024) size - s * 1024 := by
  unfold toBytes at *
  rw [Nat.min_eq_left (Nat.le_of_lt hh)]

/-- `p` is a sub-run that emits `bytes`: started with the expected hashes `top` on top of the
stack it passes every check, consumes `top` and appends `bytes` to the output -/
def SubRun (hf : HashFns H) [BEq H] (fl : Flavour) (d : List UInt8) (st : Store H)
    (p : List Chunk) (top : List H) (bytes : List UInt8) : Prop :=
  ∀ (rest : List Chunk) (stk : List H) (out : List UInt8),
    encodeValidatedLoop hf fl d st (p ++ rest) (top ++ stk) out
      = encodeValidatedLoop hf fl d st rest stk (out ++ bytes)

theorem SubRun.nil {hf : HashFns H} [BEq H] {fl : Flavour} {d : List UInt8} {st : Store H} :
    SubRun hf fl d st [] [] [] := fun rest stk out => by
  rw [List.append_nil]
  rfl

section loop
variable {hf : HashFns H} [BEq H] [LawfulBEq H] {d : List UInt8} {bs : Nat} {st : Store H}
  (hI : Loads hf d bs st) (fl : Flavour) (sel : Nat → Bool)

theorem readExactAt_slice {a p sz : Nat} (han : a < nChunks d.length) (hp : 0 < p)
    (hsz : sz = min ((a + p) * 1024) d.length - a * 1024) :
    readExactAt d (toBytes a) sz = .ok (slice d a (a + p)) := by
  have ha : a * 1024 ≤ d.length := by
    unfold nChunks at han
    omega
  have hap : (a + p) * 1024 = a * 1024 + p * 1024 := Nat.add_mul _ _ _
  unfold readExactAt toBytes slice
  rw [Nat.add_sub_cancel_left]
  simp only [Nat.mul_comm _ 1024] at ha hap hsz ⊢
  by_cases h0 : sz = 0
  · rw [if_pos h0, List.drop_eq_nil_of_le (by omega)]; simp
  · rw [if_neg h0, if_pos (by omega)]
    congr 1
    rw [List.take_eq_take_iff, List.length_drop]
    omega

include hI in
theorem leaf_step {j a : Nat} {rs : Ranges} (flag : Bool) (ha : a = j * 2 ^ bs)
    (han : a < nChunks d.length) (hr : Repr d.length sel rs a (a + 2 ^ bs)) {sz : Nat}
    (hsz : sz = min ((a + 2 ^ bs) * 1024) d.length - a * 1024) :
    SubRun hf fl d st [.leaf a sz flag rs] [cv hf d a (min (a + 2 ^ bs) (nChunks d.length)) flag]
      (bytesI hf d (nChunks d.length) bs sel bs j) := by
  intro rest stk out
  have hbs := hI.hbs
  have hread := readExactAt_slice (d := d) han (two_pow_pos' bs) hsz
  have hAW : C05.leafAW hf st.tree.bs a (slice d a (a + 2 ^ bs)) flag rs =
      (cv hf d a (min (a + 2 ^ bs) (nChunks d.length)) flag,
        bytesI hf d (nChunks d.length) bs sel bs j) := by
    rw [hI.tree]
    unfold C05.leafAW
    cases hal : Ranges.isAll rs with
    | false =>
      simp only [Bool.not_false, if_true]
      exact rec_spec hf d bs sel (by omega) flag recFuel (by unfold recFuel; omega)
        (by unfold recFuel; omega) ha (Nat.le_refl _) han hr
    | true =>
      simp only [Bool.not_true, Bool.false_eq_true, if_false]
      have hall : allSel sel a (min (a + 2 ^ bs) (nChunks d.length)) = true := by
        apply allSel_eq_true.2
        intro c h1 h2
        rw [← hr.agree c h1 (by omega), isAll_eq hal, selected_all]
        simp only [decide_eq_true_eq]; omega
      rw [bytesI_full bs j a ha (Nat.le_refl _) han hall, OutboardL.slice_min_nChunks,
        OutboardL.cv_min_nChunks]
      rfl
  rw [List.singleton_append, List.singleton_append, C05.loop_cons, (C05.step_leaf_cont hf fl d st).2
    ⟨_, _, rfl, hread, by rw [hAW]; exact bne_self_eq_false _, by rw [hAW]⟩]

include hI in
theorem leaf_sub {j a : Nat} {rs : Ranges} (ha : a = j * 2 ^ bs)
    (han : a < nChunks d.length) (hr : Repr d.length sel rs a (a + 2 ^ bs)) {sz : Nat}
    (hsz : sz = min ((a + 2 ^ bs) * 1024) d.length - a * 1024) :
    SubRun hf fl d st (if rs.isEmpty then [] else [Chunk.leaf a sz false rs])
      (if rs.isEmpty then [] else [cv hf d a (min (a + 2 ^ bs) (nChunks d.length)) false])
      (bytesI hf d (nChunks d.length) bs sel bs j) := by
  have hpos := two_pow_pos' bs
  by_cases hne : rs = []
  · have hany := (repr_nil_iff hr (by omega) han).1 hne
    subst hne
    rw [bytesI_none ha han hany]
    exact SubRun.nil
  · rw [isEmpty_eq_false hne]
    simp only [Bool.false_eq_true, if_false]
    exact leaf_step hI fl sel false ha han hr hsz

include hI in
theorem parent_step {k M : Nat} (hbM : bs ≤ M) (hM : M < 64)
    (hmid : midOf k M < nChunks d.length) (flag lf rf : Bool) (rs : Ranges)
    (rest : List Chunk) (stk : List H) (out : List UInt8) :
    encodeValidatedLoop hf fl d st (.parent (nodeOf k M) flag lf rf rs :: rest)
        (cv hf d (startOf k M) (min (endOf k M) (nChunks d.length)) flag :: stk) out
      = encodeValidatedLoop hf fl d st rest
          (C05.pushLR lf rf (cv hf d (startOf k M) (midOf k M) false)
            (cv hf d (midOf k M) (min (endOf k M) (nChunks d.length)) false) stk)
          (out ++ (hf.toBytes (cv hf d (startOf k M) (midOf k M) false) ++
            hf.toBytes (cv hf d (midOf k M) (min (endOf k M) (nChunks d.length)) false))) := by
  have hload := hI.load fl _ (ValidL.mem_persistedPre d.length bs k M hI.hs hbM hmid)
  rw [indexOf_nodeOf (by omega), levelOf_nodeOf (by omega)] at hload
  rw [C05.loop_cons, (C05.step_parent_cont hf fl d st).2 ⟨_, _, _, _, hload, rfl,
    by rw [← OutboardL.cv_node hf d hM hmid flag]; exact bne_self_eq_false _, rfl, rfl⟩]

omit [BEq H] [LawfulBEq H] in
theorem pushLR_eq (lq rq : Ranges) (l r : H) (stk : List H) :
    C05.pushLR (!lq.isEmpty) (!rq.isEmpty) l r stk =
      (if lq.isEmpty then [] else [l]) ++ ((if rq.isEmpty then [] else [r]) ++ stk) := by
  unfold C05.pushLR
  cases lq.isEmpty <;> cases rq.isEmpty <;> rfl

include hI in
theorem node_run {k M : Nat} (hbM : bs ≤ M) (hM : M < 64) (hmid : midOf k M < nChunks d.length)
    (flag : Bool) {rs : Ranges} (hne : rs ≠ [])
    (hr : Repr d.length sel rs (startOf k M) (endOf k M)) (planL planR : List Chunk)
    (lq rq : Ranges)
    (hL : SubRun hf fl d st planL
      (if lq.isEmpty then [] else [cv hf d (startOf k M) (midOf k M) false])
      (bytesI hf d (nChunks d.length) bs sel M (2 * k)))
    (hR : SubRun hf fl d st planR
      (if rq.isEmpty then [] else [cv hf d (midOf k M) (min (endOf k M) (nChunks d.length)) false])
      (bytesI hf d (nChunks d.length) bs sel M (2 * k + 1))) :
    SubRun hf fl d st (.parent (nodeOf k M) flag (!lq.isEmpty) (!rq.isEmpty) rs :: (planL ++ planR))
      [cv hf d (startOf k M) (min (endOf k M) (nChunks d.length)) flag]
      (bytesI hf d (nChunks d.length) bs sel (M + 1) k) := by
  intro rest stk out
  have hpos := two_pow_pos' M
  have hp := pow_succ_two M
  have ha : startOf k M = k * 2 ^ (M + 1) := rfl
  have hm : midOf k M = startOf k M + 2 ^ M := midOf_eq_start_add k M
  have he : endOf k M = startOf k M + 2 ^ (M + 1) := Offsets.endOf_start k M
  have han : startOf k M < nChunks d.length := by omega
  have hany : anySel sel (startOf k M) (min (startOf k M + 2 ^ (M + 1)) (nChunks d.length)) = true := by
    cases hx : anySel sel (startOf k M) (min (startOf k M + 2 ^ (M + 1)) (nChunks d.length)) with
    | true => rfl
    | false => rw [← he] at hx; exact (hne ((repr_nil_iff hr (by omega) han).2 hx)).elim
  have hdec : decide (M + 1 ≤ bs) = false := by simp; omega
  rw [List.cons_append, List.singleton_append, List.append_assoc,
    parent_step hI fl hbM hM hmid, pushLR_eq, hL, hR, bytesI_succ_split ha (by omega), hany, hdec,
    ← hm, ← he]
  simp only [Bool.not_true, Bool.false_eq_true, if_false, Bool.and_false, List.append_assoc]

include hI in
theorem loop_sub {filled R : Nat} (g : Geo d.length bs filled) (hroot : nodeOf 0 R < filled)
    (L k : Nat) (rs : Ranges)
    (hr : Repr d.length sel rs (startOf k (L + bs)) (endOf k (L + bs)))
    (han : startOf k (L + bs) < nChunks d.length) : L ≤ R → (L = R → k = 0) →
    SubRun hf fl d st (planPre d.length bs 0 filled (nodeOf 0 R) L k rs)
      (if rs.isEmpty then []
        else [cv hf d (startOf k (L + bs)) (min (endOf k (L + bs)) (nChunks d.length))
          (nodeOf k L == nodeOf 0 R)])
      (bytesI hf d (nChunks d.length) bs sel (L + bs + 1) k) := by
  refine planPre_repr_induct g sel
    (P := fun L k rs p => L ≤ R → (L = R → k = 0) →
      SubRun hf fl d st p
        (if rs.isEmpty then []
          else [cv hf d (startOf k (L + bs)) (min (endOf k (L + bs)) (nChunks d.length))
            (nodeOf k L == nodeOf 0 R)])
        (bytesI hf d (nChunks d.length) bs sel (L + bs + 1) k))
    ?_ ?_ ?_ ?_ ?_ L k rs hr han
  · -- empty range set
    intro L k han hr _ _
    have hany := (repr_nil_iff hr (startOf_lt_endOf k (L + bs)) han).1 rfl
    rw [Offsets.endOf_start] at hany
    rw [bytesI_none (a := startOf k (L + bs)) rfl han hany]
    exact SubRun.nil
  · -- a non-existing inner node: its left child takes its place
    intro L k rs hne hge han hmN ih hL _
    have hme := midOf_lt_endOf k (L + 1 + bs)
    have := ih (by omega) (by omega)
    rw [child_ls, child_le, nodeOf_beq_false (by omega : L < R)] at this
    have hf2 : (nodeOf k (L + 1) == nodeOf 0 R) = false := by
      rw [beq_eq_false_iff_ne]; omega
    have e : L + 1 + bs + 1 = (L + bs + 1) + 1 := by omega
    have hm2 : midOf k (L + 1 + bs) = startOf k (L + 1 + bs) + 2 ^ (L + bs + 1) := by
      rw [midOf_eq_start_add]; congr 2; omega
    rw [hf2, e, bytesI_succ_skip (a := startOf k (L + 1 + bs)) (by unfold startOf; rw [e]) han
      (by omega), Nat.min_eq_right (by omega : nChunks d.length ≤ endOf k (L + 1 + bs))]
    rw [Nat.min_eq_right hmN] at this
    exact this
  · -- the half leaf
    intro k rs hne han hh hr _ _
    simp only [Nat.zero_add]
    have hsm := startOf_lt_midOf k bs
    have hm : midOf k bs = startOf k bs + 2 ^ bs := midOf_eq_start_add k bs
    have hme := midOf_lt_endOf k bs
    have hmN := nChunks_le_of_le_toBytes (by omega) hh
    rw [isEmpty_eq_false hne]
    simp only [Bool.false_eq_true, if_false, nodeLeaf, Nat.zero_add]
    have emin : min (endOf k bs) (nChunks d.length)
        = min (startOf k bs + 2 ^ bs) (nChunks d.length) := by omega
    rw [bytesI_succ_skip (a := startOf k bs) rfl han (by omega), emin]
    have ha : startOf k bs = 2 * k * 2 ^ bs := left_start rfl
    rw [hm] at hr
    refine leaf_step hI fl sel _ ha han hr ?_
    rw [← hm]
    exact size_clip (by omega) hh _
  · -- two chunk groups below an existing node
    intro k rs hne hh hr hrl hrr _ _
    simp only [Nat.zero_add]
    have hmN : midOf k bs < nChunks d.length := lt_nChunks_of_toBytes_lt hh
    have hsm := startOf_lt_midOf k bs
    have hm : midOf k bs = startOf k bs + 2 ^ bs := midOf_eq_start_add k bs
    have he : endOf k bs = midOf k bs + 2 ^ bs := endOf_eq_mid_add k bs
    have hLb := OutboardL.level_bound (k := k) (L := 0) hI.hs
      ((Offsets.exists_iff d.length bs k 0).1 (by rw [Nat.zero_add]; exact hmN))
    rw [hm] at hrl; rw [he] at hrr
    rw [isEmpty_eq_false hne]
    simp only [Bool.false_eq_true, if_false]
    have hL := leaf_sub hI fl sel (j := 2 * k) (a := startOf k bs)
      (sz := toBytes (midOf k bs) - toBytes (startOf k bs)) (left_start rfl)
      (by omega : startOf k bs < nChunks d.length) hrl (by rw [← hm]; exact size_full hh _)
    have hR := leaf_sub hI fl sel (j := 2 * k + 1) (a := midOf k bs)
      (sz := min (toBytes (endOf k bs)) d.length - toBytes (midOf k bs))
      (by rw [hm]; exact right_start rfl) hmN hrr (by unfold toBytes; rw [← he])
    rw [← hm, Nat.min_eq_left (Nat.le_of_lt hmN)] at hL
    rw [← he] at hR
    have := node_run hI fl sel (k := k) (M := bs) (Nat.le_refl _) (by omega) hmN
      (nodeOf k 0 == nodeOf 0 R) hne hr _ _ (lq bs 0 k rs) (rq bs 0 k rs) hL hR
    simp only [nodeParent, leftLeaf, rightLeaf, lq, rq, Nat.zero_add] at this ⊢
    exact this
  · -- an existing inner node
    intro L k rs hne hmN hr ihl ihr hL hk
    have hLb := OutboardL.level_bound (k := k) (L := L + 1) hI.hs
      ((Offsets.exists_iff d.length bs k (L + 1)).1 hmN)
    rw [isEmpty_eq_false hne]
    simp only [Bool.false_eq_true, if_false]
    have hLl := ihl (by omega) (by omega)
    have hRr := ihr (by omega) (by omega)
    simp only [child_ls, child_le, child_rs, child_re, nodeOf_beq_false (by omega : L < R),
      Nat.min_eq_left (Nat.le_of_lt hmN)] at hLl hRr
    rw [show L + bs + 1 = L + 1 + bs by omega] at hLl hRr
    have := node_run hI fl sel (k := k) (M := L + 1 + bs) (by omega) (by omega) hmN
      (nodeOf k (L + 1) == nodeOf 0 R) hne hr _ _ (lq bs (L + 1) k rs) (rq bs (L + 1) k rs)
      hLl hRr
    simp only [nodeParent]
    exact this

end loop

theorem log2ceil_le (f n : Nat) : log2ceil f n ≤ f := by
  induction f generalizing n with
  | zero => simp [log2ceil]
  | succ f ih =>
    unfold log2ceil
    split
    · omega
    · have := ih ((n + 1) / 2); omega

theorem bytesI_top {hf : HashFns H} {d : List UInt8} {n bs : Nat} {sel : Nat → Bool} (hn : 0 < n) :
    ∀ (h' h : Nat), n ≤ 2 ^ h → h ≤ h' →
      bytesI hf d n bs sel h' 0 = bytesI hf d n bs sel h 0 := by
  intro h'
  induction h' with
  | zero => intro h _ hh; have : h = 0 := by omega
            subst this; rfl
  | succ h' ih =>
    intro h hcov hh
    by_cases he : h = h' + 1
    · subst he; rfl
    · have hle : 2 ^ h ≤ 2 ^ h' := Nat.pow_le_pow_right (by decide) (by omega)
      rw [bytesI_succ_skip (a := 0) (by simp) hn (by omega)]
      exact ih h hcov (by omega)

theorem encode_eq_bytesI (hf : HashFns H) (d : List UInt8) (bs : Nat) (q : Ranges) :
    Spec.encode hf d bs q =
      bytesI hf d (nChunks d.length) bs (Spec.selected d.length q)
        (log2ceil 64 (nChunks d.length)) 0 := rfl

theorem encode_eq_bytesI_of_cover (hf : HashFns H) (d : List UInt8) (bs : Nat) (q : Ranges)
    (hs : d.length ≤ 2 ^ 63) {h : Nat} (hcov : nChunks d.length ≤ 2 ^ h) :
    Spec.encode hf d bs q = bytesI hf d (nChunks d.length) bs (Spec.selected d.length q) h 0 := by
  have hn := Ranges.nChunks_pos d.length
  have h2 := Offsets.log2ceil_spec 64 (nChunks d.length) (Offsets.nChunks_le d.length hs)
  rw [encode_eq_bytesI]
  rcases Nat.le_total h (log2ceil 64 (nChunks d.length)) with hle | hle
  · exact bytesI_top hn _ _ hcov hle
  · exact (bytesI_top hn _ _ h2 hle).symm

theorem encode_nil_of_not_selected (hf : HashFns H) (d : List UInt8) (bs : Nat) {q : Ranges}
    (h : ∀ c, Spec.selected d.length q c = false) : Spec.encode hf d bs q = [] := by
  rw [encode_eq_bytesI]
  exact bytesI_none (a := 0) (by simp) (Ranges.nChunks_pos _)
    (anySel_eq_false.2 fun c _ _ => h c)

theorem validated_spec {hf : HashFns H} [BEq H] [LawfulBEq H] {d : List UInt8} {bs : Nat}
    {st : Store H} (hI : Loads hf d bs st) (hroot : st.root = Spec.root hf d) (fl : Flavour)
    {q : Ranges} (hwf : Ranges.WF q = true) :
    encodeRangesValidated hf fl d st q = ⟨Spec.encode hf d bs q, .ok⟩ := by
  have hn := Ranges.nChunks_pos d.length
  obtain ⟨hR63, hrootE, hrootlt⟩ := rootLevel_spec d.length bs hI.hs
  have g := shifted_geo d.length bs hI.hs hI.hbs
  have hcov := rootLevel_covers d.length bs hI.hs
  have hplan := C15.pre_refines (size := d.length) (bs := bs) (ml := 0)
    (q := Ranges.truncate q d.length) hI.hs hI.hbs
  unfold encodeRangesValidated
  rw [hI.tree]
  simp only
  rw [hplan, plan_eq _ _ _ _ hI.hs]
  by_cases htr : Ranges.truncate q d.length = []
  · rw [htr, planPre_nil, encode_nil_of_not_selected hf d bs
      ((C14.truncate_empty_iff d.length hwf).1 htr)]
    split <;> simp [encodeValidatedLoop]
  · have hq : q.isEmpty = false := by
      apply isEmpty_eq_false
      rintro rfl
      exact htr rfl
    simp only [hq, Bool.and_false, Bool.false_eq_true, if_false]
    have hrepr : Repr d.length (Spec.selected d.length q) (Ranges.truncate q d.length)
        (startOf 0 (rootLevel ⟨d.length, bs⟩ + bs)) (endOf 0 (rootLevel ⟨d.length, bs⟩ + bs)) := by
      rw [startOf_zero_left]; exact repr_root hwf hcov
    have := loop_sub hI fl (Spec.selected d.length q) g hrootlt (rootLevel ⟨d.length, bs⟩) 0
      (Ranges.truncate q d.length) hrepr (by rw [startOf_zero_left]; exact hn) (Nat.le_refl _)
      (fun _ => rfl) [] [] []
    rw [List.append_nil, isEmpty_eq_false htr, startOf_zero_left, Nat.min_eq_right hcov] at this
    simp only [Bool.false_eq_true, if_false, beq_self_eq_true, List.append_nil,
      List.nil_append] at this
    have hr : st.root = cv hf d 0 (nChunks d.length) true := hroot
    have h1 : nChunks d.length ≤ 2 ^ (rootLevel ⟨d.length, bs⟩ + bs + 1) := by
      have e : endOf 0 (rootLevel ⟨d.length, bs⟩ + bs) = 2 ^ (rootLevel ⟨d.length, bs⟩ + bs + 1) := by
        unfold endOf; omega
      omega
    rw [hr, this, C05.loop_nil, encode_eq_bytesI_of_cover hf d bs q hI.hs h1]

theorem plain_spec {hf : HashFns H} [BEq H] [LawfulBEq H] {d : List UInt8} {bs : Nat}
    {st : Store H} (hI : Loads hf d bs st) (hroot : st.root = Spec.root hf d) (fl : Flavour)
    {q : Ranges} (hwf : Ranges.WF q = true) :
    encodeRanges hf fl d st q = ⟨Spec.encode hf d bs q, .ok⟩ := by
  have h := validated_spec hI hroot fl hwf
  rw [C08.plain_eq_validated_of_ok hf fl d st q (by rw [h]), h]

theorem mixed_spec {hf : HashFns H} [BEq H] [LawfulBEq H] {d : List UInt8} {bs : Nat}
    {st : Store H} (hI : Loads hf d bs st) (hroot : st.root = Spec.root hf d)
    {q : Ranges} (hwf : Ranges.WF q = true) :
    ∃ items, traverseRangesValidated hf d st q = some items ∧
      items.flatMap (EncodedItem.flatten hf) = Spec.encode hf d bs q ∧
      items.getLast? = some .done := by
  have hv := validated_spec hI hroot .sync hwf
  cases h : traverseRangesValidated hf d st q with
  | none =>
    have := (C08.mixed_panic hf d st q).1 h
    rw [hv] at this
    cases this
  | some items =>
    obtain ⟨mid, last, -, -, hlast, hterm, hflat⟩ := C08.mixed_flatten hf d st q items h
    rw [hv] at hterm hflat
    refine ⟨items, rfl, hflat, ?_⟩
    rcases hterm with ⟨rfl, -⟩ | ⟨e, -, he⟩
    · exact hlast
    · cases he

theorem plan_leaf_repr {size bs filled root : Nat} (g : Geo size bs filled) (sel : Nat → Bool)
    (L k : Nat) (rs : Ranges) (hr : Repr size sel rs (startOf k (L + bs)) (endOf k (L + bs)))
    (han : startOf k (L + bs) < nChunks size) :
    ∀ s z r x, Chunk.leaf s z r x ∈ planPre size bs 0 filled root L k rs →
      ∃ j, s = j * 2 ^ bs ∧ s < nChunks size ∧
        z = min ((s + 2 ^ bs) * 1024) size - s * 1024 ∧ Repr size sel x s (s + 2 ^ bs) := by
  refine planPre_repr_induct g sel
    (P := fun _ _ _ p => ∀ s z r x, Chunk.leaf s z r x ∈ p →
      ∃ j, s = j * 2 ^ bs ∧ s < nChunks size ∧
        z = min ((s + 2 ^ bs) * 1024) size - s * 1024 ∧ Repr size sel x s (s + 2 ^ bs))
    ?_ ?_ ?_ ?_ ?_ L k rs hr han
  · intro L k _ _ s z r x hm
    cases hm
  · intro L k rs _ _ _ _ ih
    exact ih
  · -- half leaf
    intro k rs _ han hh hr s z r x hm
    have hm' := List.mem_singleton.1 hm
    simp only [nodeLeaf, Chunk.leaf.injEq, Nat.zero_add] at hm'
    obtain ⟨rfl, rfl, -, rfl⟩ := hm'
    have hmid : midOf k bs = startOf k bs + 2 ^ bs := midOf_eq_start_add k bs
    have hme := midOf_lt_endOf k bs
    rw [← hmid]
    exact ⟨2 * k, left_start rfl, han, size_clip (by omega) hh _, hr⟩
  · -- chunk group
    intro k rs _ hh hr hrl hrr s z r x hm
    have hmN : midOf k bs < nChunks size := lt_nChunks_of_toBytes_lt hh
    have hsm := startOf_lt_midOf k bs
    have hmid : midOf k bs = startOf k bs + 2 ^ bs := midOf_eq_start_add k bs
    have he : endOf k bs = midOf k bs + 2 ^ bs := endOf_eq_mid_add k bs
    simp only [lq, rq, Nat.zero_add] at hrl hrr
    rcases mem_group hm with ⟨rfl, rfl, rfl, -⟩ | ⟨rfl, rfl, rfl, -⟩
    · rw [← hmid]
      exact ⟨2 * k, left_start rfl, by omega, size_full hh _, hrl⟩
    · refine ⟨2 * k + 1, by rw [hmid]; exact right_start rfl, hmN, ?_, by rw [← he]; exact hrr⟩
      unfold toBytes
      rw [← he]
  · -- inner node
    intro L k rs _ _ _ ihl ihr s z r x hm
    rcases mem_inner rfl hm with hm | hm
    · exact ihl s z r x hm
    · exact ihr s z r x hm

end Bao.EncodeSpec
