import BaoProofs.Lemmas.ItemsEq
import BaoProofs.Lemmas.DecRunL
import BaoProofs.Lemmas.OutboardL
import BaoProofs.Lemmas.C01Inv

/-!
# The bridge: response plan ↔ `Spec.items`, and the honest run

* `Skel R p I` – two lists of the same length, related item by item.
* `Match hf d c it` – a plan item and a specification item describe the same wire item: same node
  and the stored pair of that node / same start chunk, same length, the blob's bytes.
* `node_match` / `plan_items` – the response plan of `(⟨d.length, bs⟩, truncate q)` and
  `Spec.items hf d bs q` have the same skeleton.
* `HonestRun hf p top I` – the decoder run over a plan `p`, with the hashes `top` on the stack, on the
  bytes of the items `I` returns exactly `I` and consumes exactly those bytes; built up from
  `HonestRun.leaf`, `HonestRun.parent` / `HonestRun.node` (the comparison succeeds by `cv_split`; no
  collision-freedom).
* `node_run` – the plan of a subtree and its specification items are an `HonestRun`.
-/

namespace Bao.DecodeSpec
open Bao Bao.Spec Bao.PlanPre Bao.Ranges Bao.Bits

variable {H : Type}

/-- two lists of the same length, related item by item: Batteries' `List.Forall₂`, declared here
because no library module is imported -/
inductive Skel {α β : Type} (R : α → β → Prop) : List α → List β → Prop
  | nil : Skel R [] []
  | cons {a : α} {b : β} {l₁ : List α} {l₂ : List β} : R a b → Skel R l₁ l₂ → Skel R (a :: l₁) (b :: l₂)

theorem Skel.append {α β : Type} {R : α → β → Prop} {a₁ a₂ : List α} {b₁ b₂ : List β}
    (h₁ : Skel R a₁ b₁) (h₂ : Skel R a₂ b₂) : Skel R (a₁ ++ a₂) (b₁ ++ b₂) := by
  induction h₁ with
  | nil => exact h₂
  | cons h _ ih => exact .cons h ih

theorem Skel.length_eq {α β : Type} {R : α → β → Prop} {a : List α} {b : List β}
    (h : Skel R a b) : a.length = b.length := by
  induction h with
  | nil => rfl
  | cons _ _ ih => simp [ih]

theorem Skel.singleton {α β : Type} {R : α → β → Prop} {a : α} {b : β} (h : R a b) :
    Skel R [a] [b] := .cons h .nil

theorem Skel.split_right {α β : Type} {R : α → β → Prop} {a : List α} {b₁ b₂ : List β} {y : β}
    (h : Skel R a (b₁ ++ y :: b₂)) :
    ∃ a₁ x a₂, a = a₁ ++ x :: a₂ ∧ Skel R a₁ b₁ ∧ R x y ∧ Skel R a₂ b₂ := by
  induction b₁ generalizing a with
  | nil =>
    cases h with
    | cons hr ht => exact ⟨[], _, _, rfl, .nil, hr, ht⟩
  | cons z b₁ ih =>
    cases h with
    | cons hr ht =>
      obtain ⟨a₁, x, a₂, rfl, h1, h2, h3⟩ := ih ht
      exact ⟨_ :: a₁, x, a₂, rfl, .cons hr h1, h2, h3⟩

theorem Skel.getElem? {α β : Type} {R : α → β → Prop} {a : List α} {b : List β}
    (h : Skel R a b) {i : Nat} {x : α} {y : β} (hx : a[i]? = some x) (hy : b[i]? = some y) :
    R x y := by
  induction h generalizing i with
  | nil => simp at hx
  | cons hr _ ih =>
    cases i with
    | zero => simp at hx hy; subst hx hy; exact hr
    | succ i => simp at hx hy; exact ih hx hy

/-- a plan item and a specification item that describe the same wire item of blob `d` -/
def Match (hf : HashFns H) (d : List UInt8) : Chunk → SItem → Prop
  | .parent node _ _ _ _, .parent node' bytes => node' = node ∧ bytes = Spec.pairBytes hf d node
  | .leaf start size _ _, .leaf start' bytes =>
    start' = start ∧ bytes.length = size ∧ bytes = (d.drop (start * 1024)).take size
  | _, _ => False

theorem Match.size {hf : HashFns H} {d : List UInt8} (hlen : ∀ h, (hf.toBytes h).length = 32)
    {c : Chunk} {it : SItem} (h : Match hf d c it) : it.bytes.length = c.size := by
  cases c <;> cases it <;> simp only [Match] at h
  · obtain ⟨-, rfl⟩ := h
    simp [SItem.bytes, Chunk.size, pairBytes, hlen]
  · exact h.2.1

theorem nodeParent_zero (root L k : Nat) (rs : Ranges) :
    nodeParent 0 root L k rs = .parent (nodeOf k L) (nodeOf k L == root)
      (!(lq 0 L k rs).isEmpty) (!(rq 0 L k rs).isEmpty) rs := rfl

theorem nodeLeaf_zero (size root L k : Nat) (rs : Ranges) :
    nodeLeaf size 0 root L k rs = .leaf (startOf k L)
      (min (toBytes (endOf k L)) size - toBytes (startOf k L)) (nodeOf k L == root) rs := rfl

theorem leftLeaf_zero (k : Nat) (rs : Ranges) :
    leftLeaf 0 k rs = .leaf (startOf k 0) (toBytes (midOf k 0) - toBytes (startOf k 0)) false
      (lq 0 0 k rs) := rfl

theorem rightLeaf_zero (size k : Nat) (rs : Ranges) :
    rightLeaf size 0 k rs = .leaf (midOf k 0) (min (toBytes (endOf k 0)) size - toBytes (midOf k 0))
      false (rq 0 0 k rs) := rfl

theorem parentItem_eq (hf : HashFns H) (d : List UInt8) {k L : Nat} (hL : L ≤ 64) :
    parentItem hf d k L = .parent (nodeOf k L) (Spec.pairBytes hf d (nodeOf k L)) := by
  unfold parentItem pairBytes pair
  rw [indexOf_nodeOf hL, levelOf_nodeOf hL]

theorem slice_eq_take (d : List UInt8) (a b : Nat) :
    slice d a b = (d.drop (a * 1024)).take (slice d a b).length := by
  unfold slice
  rw [List.take_eq_take_iff, List.length_take]
  exact (Nat.min_eq_left (Nat.min_le_right ..)).symm

theorem slice_clip (d : List UInt8) (s e : Nat) :
    (slice d s (min e (nChunks d.length))).length = min (e * 1024) d.length - s * 1024 := by
  rw [C01.slice_length, Nat.sub_mul, Nat.sub_min_sub_right, ← Nat.mul_min_mul_right, Nat.min_assoc,
    Nat.min_eq_right (C01.nChunks_ge d.length)]

theorem slice_last_chunk (d : List UInt8) {j : Nat} (h : j * 1024 < d.length) :
    (slice d j (j + 1)).length = min ((j + 1) * 1024) d.length - j * 1024 := by
  have := slice_clip d j (j + 1)
  rwa [Nat.min_eq_left (lt_nChunks_of_toBytes_lt h)] at this

theorem slice_full_chunk (d : List UInt8) {j : Nat} (h : (j + 1) * 1024 < d.length) :
    (slice d j (j + 1)).length = 1024 := by
  rw [slice_last_chunk d (Nat.lt_of_le_of_lt (Nat.mul_le_mul_right _ (Nat.le_succ j)) h),
    Nat.min_eq_left (Nat.le_of_lt h), Nat.succ_mul, Nat.add_sub_cancel_left]

theorem match_leaf (hf : HashFns H) {d : List UInt8} {s e z : Nat} (f : Bool) (x : Ranges)
    (hz : (slice d s e).length = z) : Match hf d (.leaf s z f x) (.leaf s (slice d s e)) :=
  ⟨rfl, hz, hz ▸ slice_eq_take d s e⟩

theorem leftLeaf_chunk (k : Nat) (rs : Ranges) :
    leftLeaf 0 k rs = .leaf (2 * k) 1024 false (lq 0 0 k rs) := by
  obtain ⟨e1, e2, -⟩ := two_zero_geom k
  rw [leftLeaf_zero, e1, e2]
  unfold toBytes
  rw [Nat.add_mul, Nat.one_mul, Nat.add_sub_cancel_left]

theorem rightLeaf_chunk (size k : Nat) (rs : Ranges) :
    rightLeaf size 0 k rs
      = .leaf (2 * k + 1) (min ((2 * k + 1 + 1) * 1024) size - (2 * k + 1) * 1024) false
          (rq 0 0 k rs) := by
  obtain ⟨-, e2, e3⟩ := two_zero_geom k
  rw [rightLeaf_zero, e2, e3]
  rfl

section skeleton
variable {hf : HashFns H} {d : List UInt8} {B filled root : Nat} {sel : Nat → Bool}

theorem chunk_match {j z : Nat} {e : Bool} (x : Ranges) (hsel : sel j = !e)
    (hz : (slice d j (j + 1)).length = z) :
    Skel (Match hf d) (if e then [] else [.leaf j z false x])
      (itemsI hf d (nChunks d.length) B sel 0 j) := by
  rw [itemsI_zero, hsel]
  cases e
  · exact .singleton (match_leaf hf false x hz)
  · exact .nil

theorem node_match (g : Geo d.length 0 filled) (L k : Nat) (rs : Ranges) :
    NInv d.length filled sel L k rs →
    Skel (Match hf d) (planPre d.length 0 B filled root L k rs)
      (itemsI hf d (nChunks d.length) B sel (L + 1) k) := by
  refine planPre_induct (size := d.length) (bs := 0) (ml := B) (filled := filled) (root := root)
    (P := fun L k rs p => NInv d.length filled sel L k rs →
      Skel (Match hf d) p (itemsI hf d (nChunks d.length) B sel (L + 1) k))
    ?_ ?_ ?_ ?_ ?_ ?_ ?_ L k rs
  · -- nil
    intro L k h
    rw [items_nil h]; exact .nil
  · -- gone
    intro k rs _ hge h
    exact absurd h.node_lt (Nat.not_lt.2 hge)
  · -- skip
    intro L k rs hne hge ih h
    rw [items_skip g h hne hge]
    exact ih (h.skip g hge)
  · -- query leaf
    intro L k rs hne hlt hq h
    rw [items_queryLeaf g h hne hlt hq]
    exact .singleton (match_leaf hf _ rs (slice_clip d _ _))
  · -- half leaf
    intro k rs hne hlt _ hh h
    rw [items_half g h hne hh]
    exact .singleton (match_leaf hf _ rs (slice_clip d _ _))
  · -- chunk group
    intro k rs hne hlt hq hh h
    have hm : midOf k 0 < nChunks d.length := lt_nChunks_of_toBytes_lt hh
    have hlen : (2 * k + 1) * 1024 < d.length := by rw [← (two_zero_geom k).2.1]; exact hh
    rw [items_parent g h hne hm hq, parentItem_eq hf d (Nat.zero_le _), leftLeaf_chunk,
      rightLeaf_chunk]
    exact .cons ⟨rfl, rfl⟩ (.append
      (chunk_match _ (sel_left_chunk h hm) (slice_full_chunk d hlen))
      (chunk_match _ (sel_right_chunk h hm) (slice_last_chunk d hlen)))
  · -- inner node
    intro L k rs hne hlt hq ihl ihr h
    have hm := g.mid_lt_nChunks hlt
    rw [items_parent g h hne hm hq, parentItem_eq hf d (g.level_le hlt)]
    exact .cons ⟨rfl, rfl⟩ (.append (ihl (h.left hm)) (ihr (h.right g hlt)))

end skeleton

theorem log2ceil_min (f n : Nat) : log2ceil f n = 0 ∨ 2 ^ (log2ceil f n - 1) < n := by
  induction f generalizing n with
  | zero => left; rfl
  | succ f ih =>
    unfold log2ceil
    by_cases h1 : n ≤ 1
    · left; simp [h1]
    · rw [if_neg h1]
      right
      simp only [Nat.add_sub_cancel]
      rcases ih ((n + 1) / 2) with h0 | h0
      · rw [h0]; simp; omega
      · generalize log2ceil f ((n + 1) / 2) = l at h0 ⊢
        cases l with
        | zero => simp at h0 ⊢; omega
        | succ l => simp only [Nat.add_sub_cancel] at h0; rw [Nat.pow_succ]; omega

theorem blocks_zero_eq (size : Nat) : Tree.blocks ⟨size, 0⟩ = nChunks size := by
  rw [Offsets.blocks_eq_nBlocks]
  unfold nBlocks nChunks
  simp

/-- the height of the specification's root interval is the plan's root level plus one (except for
the one-chunk blob, where the specification starts at the chunk itself) -/
theorem log2ceil_rootLevel (size : Nat) (hs : size ≤ 2 ^ 63) (hn : 2 ≤ nChunks size) :
    log2ceil 64 (nChunks size) = rootLevel ⟨size, 0⟩ + 1 := by
  have h1 := Offsets.log2ceil_spec 64 (nChunks size) (Offsets.nChunks_le size hs)
  have h2 := log2ceil_min 64 (nChunks size)
  obtain ⟨h3, h4⟩ := rootLevel_char size 0 hs
  rw [blocks_zero_eq] at h3 h4
  generalize log2ceil 64 (nChunks size) = a at *
  generalize rootLevel ⟨size, 0⟩ = r at *
  generalize nChunks size = n at *
  have ha : a ≠ 0 := by
    rintro rfl; simp at h1; omega
  rcases h2 with h2 | h2
  · exact absurd h2 ha
  have hle : a - 1 < r + 1 :=
    (Nat.pow_lt_pow_iff_right (a := 2) (by decide)).1 (Nat.lt_of_lt_of_le h2 h3)
  rcases h4 with h4 | h4
  · omega
  · have : r < a := (Nat.pow_lt_pow_iff_right (a := 2) (by decide)).1 (Nat.lt_of_lt_of_le h4 h1)
    omega

theorem rootLevel_one_chunk (size : Nat) (hs : size ≤ 2 ^ 63) (hn : nChunks size = 1) :
    rootLevel ⟨size, 0⟩ = 0 := by
  obtain ⟨-, h4⟩ := rootLevel_char size 0 hs
  rw [blocks_zero_eq, hn] at h4
  rcases h4 with h4 | h4
  · exact h4
  · have := two_pow_pos' (rootLevel ⟨size, 0⟩); omega

theorem items_top (hf : HashFns H) (d : List UInt8) (bs : Nat) (q : Ranges)
    (hd : d.length ≤ 2 ^ 63) :
    Spec.items hf d bs q = itemsI hf d (nChunks d.length) bs (Spec.selected d.length q)
      (rootLevel ⟨d.length, 0⟩ + 1) 0 := by
  unfold Spec.items
  simp only
  by_cases hn : 2 ≤ nChunks d.length
  · rw [log2ceil_rootLevel d.length hd hn]
  · have h1 : nChunks d.length = 1 := by have := Ranges.nChunks_pos d.length; omega
    rw [rootLevel_one_chunk d.length hd h1, itemsI_succ]
    obtain ⟨e1, e2, e3⟩ := two_zero_geom 0
    have hl : log2ceil 64 (nChunks d.length) = 0 := by rw [h1]; rfl
    rw [hl, e1, e2, e3, itemsI_zero]
    have hmin : min (2 * 0 + 2) (nChunks d.length) = 1 := by omega
    rw [hmin]
    have hany : anySel (Spec.selected d.length q) (2 * 0) 1 = Spec.selected d.length q 0 := by
      simp [anySel]
    rw [hany]
    cases hsel : Spec.selected d.length q 0
    · simp
    · have hge : 2 * 0 + 1 ≥ nChunks d.length := by omega
      simp [hge]

theorem ninv_root {q : Ranges} (hwf : WF q = true) (size : Nat) (hs : size ≤ 2 ^ 63) :
    NInv size (Tree.shifted ⟨size, 0⟩).2 (Spec.selected size q) (rootLevel ⟨size, 0⟩) 0
      (truncate q size) := by
  obtain ⟨-, hroot, hlt⟩ := rootLevel_spec size 0 hs
  have h0 : startOf 0 (rootLevel ⟨size, 0⟩) = 0 := startOf_zero_left _
  refine ⟨?_, ?_, ?_⟩
  · have hc := rootLevel_covers size 0 hs
    rw [Nat.add_zero] at hc
    rw [h0]; exact QInv.root hwf size hc
  · intro c _ _; exact (C14.truncate_selected size hwf c).symm
  · rw [h0]; omega

/-- **the bridge**: the response plan of `(⟨d.length, bs⟩, truncate q)` and `Spec.items hf d bs q`
have the same skeleton -/
theorem plan_items (hf : HashFns H) (d : List UInt8) (bs : Nat) (q : Ranges)
    (hd : d.length ≤ 2 ^ 63) (hwf : WF q = true) :
    Skel (Match hf d) (plan ⟨d.length, 0⟩ bs (truncate q d.length)) (Spec.items hf d bs q) := by
  rw [items_top hf d bs q hd]
  exact node_match (shifted_geo d.length 0 hd (by omega)) _ _ _ (ninv_root hwf d.length hd)

/-- the item the decoder returns for a specification item -/
def toItem (hf : HashFns H) : SItem → Item H
  | .parent node bytes => .parent node (parsePair hf bytes).1 (parsePair hf bytes).2
  | .leaf s bytes => .leaf (s * 1024) bytes

/-- the stack after a parent with flags `lf`, `rf` -/
def pushLR (lf rf : Bool) (l r : H) (stk : List H) : List H :=
  (if lf then [l] else []) ++ ((if rf then [r] else []) ++ stk)

theorem pushLR_not (a b : Bool) (l r : H) (stk : List H) :
    pushLR (!a) (!b) l r stk = (if a then [] else [l]) ++ ((if b then [] else [r]) ++ stk) := by
  cases a <;> cases b <;> rfl

section run
variable {hf : HashFns H} [BEq H] [LawfulBEq H]

omit [BEq H] [LawfulBEq H] in
theorem parsePair_pair (hrt : ∀ h, hf.ofBytes (hf.toBytes h) = h)
    (hlen : ∀ h, (hf.toBytes h).length = 32) (l r : H) :
    parsePair hf (hf.toBytes l ++ hf.toBytes r) = (l, r) := by
  unfold parsePair
  rw [List.take_left' (hlen l), List.drop_left' (hlen l), List.take_of_length_le (Nat.le_of_eq (hlen r)),
    hrt, hrt]

/-- `HonestRun hf p top I`: with the hashes `top` on the stack, the decoder run over the plan `p` on
the bytes of the specification items `I` (followed by anything) returns exactly the items `I`, pops
`top` and consumes exactly those bytes; every comparison succeeds -/
def HonestRun (hf : HashFns H) [BEq H] (p : List Chunk) (top : List H) (I : List SItem) : Prop :=
  ∀ (stk : List H) (y : List UInt8),
    runL hf p (top ++ stk) (I.flatMap SItem.bytes ++ y) = ⟨I.map (toItem hf), .ok stk y⟩

theorem flatMap_bytes_cons (it : SItem) (I : List SItem) :
    (it :: I).flatMap SItem.bytes = it.bytes ++ I.flatMap SItem.bytes := rfl

omit [LawfulBEq H] in
theorem HonestRun.nil : HonestRun hf [] [] [] := fun _ _ => rfl

theorem runL_cons_bytes (c : Chunk) (p : List Chunk) (stk : List H) {b : List UInt8}
    (hb : b.length = c.size) (rest : List UInt8) :
    runL hf (c :: p) (check hf c b :: stk) (b ++ rest)
      = ⟨itemOf hf c b :: (runL hf p (push hf c b stk) rest).items,
         (runL hf p (push hf c b stk) rest).fin⟩ := by
  rw [runL_cons, stepC_item_of (by rw [List.length_append, hb]; omega)
    (by rw [List.take_left' hb]; exact bne_self_eq_false _), List.take_left' hb, List.drop_left' hb]

theorem HonestRun.leaf {s z : Nat} (flag : Bool) (x : Ranges) {bytes : List UInt8}
    (hz : bytes.length = z) :
    HonestRun hf [.leaf s z flag x] [hashSubtree hf s bytes flag] [.leaf s bytes] := by
  intro stk y
  rw [List.flatMap_singleton]
  exact runL_cons_bytes (.leaf s z flag x) [] stk hz y

/-- a parent against the hash of its pair, then the two sub-plans against the two hashes of the
pair (each only if its flag is set) -/
theorem HonestRun.parent (hrt : ∀ h, hf.ofBytes (hf.toBytes h) = h)
    (hlen : ∀ h, (hf.toBytes h).length = 32) (node : Nat) (flag : Bool) (x : Ranges) {le re : Bool}
    {l r : H} {pl pr : List Chunk} {Il Ir : List SItem}
    (hl : HonestRun hf pl (if le then [] else [l]) Il)
    (hr : HonestRun hf pr (if re then [] else [r]) Ir) :
    HonestRun hf (.parent node flag (!le) (!re) x :: (pl ++ pr)) [hf.parentCv l r flag]
      (.parent node (hf.toBytes l ++ hf.toBytes r) :: (Il ++ Ir)) := by
  intro stk y
  have hp := parsePair_pair hrt hlen l r
  have hc : check hf (.parent node flag (!le) (!re) x) (hf.toBytes l ++ hf.toBytes r)
      = hf.parentCv l r flag := by simp only [check, hp]
  have hpush : push hf (.parent node flag (!le) (!re) x) (hf.toBytes l ++ hf.toBytes r) stk
      = (if le then [] else [l]) ++ ((if re then [] else [r]) ++ stk) := by
    simp only [push, hp]; cases le <;> cases re <;> rfl
  rw [flatMap_bytes_cons, List.flatMap_append, List.append_assoc, List.append_assoc, List.map_cons,
    List.map_append, ← hc]
  show runL hf _ (_ :: stk) ((hf.toBytes l ++ hf.toBytes r) ++ _) = _
  rw [runL_cons_bytes _ _ _ (by simp [Chunk.size, hlen]), hpush, runL_append, hl _ _]
  simp only [Out.bind, hr _ _, itemOf, toItem, hp]

variable {d : List UInt8} {B filled root : Nat} {sel : Nat → Bool}

theorem lt_length_of_lt_nChunks {len m : Nat} (hm0 : 0 < m) (hm : m < nChunks len) :
    m * 1024 < len := by
  unfold nChunks at hm; omega

theorem level_lt_of_mid_lt (hd : d.length ≤ 2 ^ 63) {k L : Nat}
    (hm : midOf k L < nChunks d.length) : L < 64 := by
  have h1 : 2 ^ L < 2 ^ 64 := by
    have : nChunks d.length ≤ 2 ^ 64 := Offsets.nChunks_le _ hd
    rw [midOf_eq] at hm
    omega
  exact (Nat.pow_lt_pow_iff_right (a := 2) (by decide)).1 h1

/-- the parent of node `(k, L)` against the hash of the node's interval (the comparison succeeds by
`cv_split`), then the two halves -/
theorem HonestRun.node (hrt : ∀ h, hf.ofBytes (hf.toBytes h) = h)
    (hlen : ∀ h, (hf.toBytes h).length = 32) {k L : Nat} (hL : L < 64)
    (hm : midOf k L < nChunks d.length) (flag : Bool) (x : Ranges) {le re : Bool}
    {pl pr : List Chunk} {Il Ir : List SItem}
    (hl : HonestRun hf pl (if le then [] else [cv hf d (startOf k L) (midOf k L) false]) Il)
    (hr : HonestRun hf pr
      (if re then [] else [cv hf d (midOf k L) (min (endOf k L) (nChunks d.length)) false]) Ir) :
    HonestRun hf (.parent (nodeOf k L) flag (!le) (!re) x :: (pl ++ pr))
      [cv hf d (startOf k L) (min (endOf k L) (nChunks d.length)) flag]
      (parentItem hf d k L :: (Il ++ Ir)) := by
  rw [OutboardL.cv_split hf d hL (midOf_eq_start_add k L) (Nat.lt_min.2 ⟨midOf_lt_endOf k L, hm⟩)
    (Nat.le_trans (Nat.min_le_left ..) (Nat.le_of_eq (endOf_eq_mid_add k L)))
    (lt_length_of_lt_nChunks (Nat.zero_lt_of_lt (startOf_lt_midOf k L)) hm) flag]
  exact .parent hrt hlen _ _ _ hl hr

theorem HonestRun.chunk {j z : Nat} {e : Bool} (x : Ranges) (hsel : sel j = !e)
    (hz : (slice d j (j + 1)).length = z) :
    HonestRun hf (if e then [] else [.leaf j z false x])
      (if e then [] else [cv hf d j (j + 1) false])
      (itemsI hf d (nChunks d.length) B sel 0 j) := by
  rw [itemsI_zero, hsel]
  cases e
  · exact .leaf false x hz
  · exact .nil

/-- **the honest run of a subtree**: with the `Spec.cv` of the node's interval on top of the stack
(nothing if the sub-query is empty), the decoder run over the node's plan on the node's honest bytes
returns exactly the node's specification items, pops that hash and consumes exactly those bytes -/
theorem node_run (hrt : ∀ h, hf.ofBytes (hf.toBytes h) = h)
    (hlen : ∀ h, (hf.toBytes h).length = 32) (hd : d.length ≤ 2 ^ 63)
    (g : Geo d.length 0 filled) {h : Nat} (hroot : root = nodeOf 0 h) (hrlt : root < filled)
    (L k : Nat) (rs : Ranges) :
    L ≤ h → NInv d.length filled sel L k rs →
      HonestRun hf (planPre d.length 0 B filled root L k rs)
        (if rs.isEmpty then [] else
          [cv hf d (startOf k L) (min (endOf k L) (nChunks d.length)) (nodeOf k L == root)])
        (itemsI hf d (nChunks d.length) B sel (L + 1) k) := by
  subst hroot
  refine planPre_induct (size := d.length) (bs := 0) (ml := B) (filled := filled) (root := nodeOf 0 h)
    (P := fun L k rs p => L ≤ h → NInv d.length filled sel L k rs → HonestRun hf p
      (if rs.isEmpty then [] else
        [cv hf d (startOf k L) (min (endOf k L) (nChunks d.length)) (nodeOf k L == nodeOf 0 h)])
      (itemsI hf d (nChunks d.length) B sel (L + 1) k))
    ?_ ?_ ?_ ?_ ?_ ?_ ?_ L k rs
  · -- nil
    intro L k _ hn
    rw [items_nil hn]; exact .nil
  · -- gone
    intro k rs _ hge _ hn
    exact absurd hn.node_lt (Nat.not_lt.2 hge)
  · -- skip: the node's interval, clipped, is its left child's
    intro L k rs hne hge ih hL hn
    have hm : nChunks d.length ≤ midOf k (L + 1) := g.skip_mid_ge hge
    have := ih (Nat.le_of_succ_le hL) (hn.skip g hge)
    rw [startOf_left, endOf_left, nodeOf_beq_false hL, Nat.min_eq_right hm] at this
    rw [items_skip g hn hne hge, beq_false_of_ne (Nat.ne_of_gt (Nat.lt_of_lt_of_le hrlt hge)),
      Nat.min_eq_right (Nat.le_trans hm (Nat.le_of_lt (midOf_lt_endOf k (L + 1))))]
    exact this
  · -- query leaf
    intro L k rs hne hlt hq _ hn
    rw [items_queryLeaf g hn hne hlt hq, isEmpty_eq_false hne]
    exact .leaf _ rs (slice_clip d _ _)
  · -- half leaf
    intro k rs hne hlt _ hh _ hn
    rw [items_half g hn hne hh, isEmpty_eq_false hne]
    exact .leaf _ rs (slice_clip d _ _)
  · -- chunk group: the parent, then the chunks `2k` and `2k + 1`
    intro k rs hne hlt hq hh _ hn
    have hm : midOf k 0 < nChunks d.length := lt_nChunks_of_toBytes_lt hh
    obtain ⟨e1, e2, e3⟩ := two_zero_geom k
    have hlen2 : (2 * k + 1) * 1024 < d.length := by rw [← e2]; exact hh
    have hmin : min (endOf k 0) (nChunks d.length) = 2 * k + 1 + 1 := by
      rw [e3]; rw [e2] at hm; exact Nat.min_eq_left hm
    rw [items_parent g hn hne hm hq, isEmpty_eq_false hne, nodeParent_zero, leftLeaf_chunk,
      rightLeaf_chunk]
    refine .node hrt hlen (Nat.zero_lt_succ _) hm _ rs ?_ ?_
    · rw [e1, e2]
      exact .chunk (hf := hf) _ (sel_left_chunk hn hm) (slice_full_chunk d hlen2)
    · rw [e2, hmin]
      exact .chunk (hf := hf) _ (sel_right_chunk hn hm) (slice_last_chunk d hlen2)
  · -- inner node: the parent, then the two subtrees
    intro L k rs hne hlt hq ihl ihr hL hn
    have hm : midOf k (L + 1) < nChunks d.length := g.mid_lt_nChunks hlt
    have il := ihl (Nat.le_of_succ_le hL) (hn.left hm)
    have ir := ihr (Nat.le_of_succ_le hL) (hn.right g hlt)
    rw [startOf_left, endOf_left, nodeOf_beq_false hL, Nat.min_eq_left (Nat.le_of_lt hm)] at il
    rw [startOf_right, endOf_right, nodeOf_beq_false hL] at ir
    rw [items_parent g hn hne hm hq, isEmpty_eq_false hne]
    exact .node hrt hlen (level_lt_of_mid_lt hd hm) hm _ rs il ir

end run

end Bao.DecodeSpec
