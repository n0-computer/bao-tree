import BaoModel.Codec
import BaoModel.Spec
import BaoProofs.Lemmas.HashCF
import BaoProofs.Lemmas.NodeIter
import BaoProofs.Lemmas.WriteAtL
import BaoProofs.Props.C12

/-!
# Outboard creation computes the BLAKE3 tree (lemmas for C03)

* `obGen`      – `outboardLoop` and `outboardPostOrderLoop` as ONE loop, parametric in what is done
                 with a finished hash pair (`put`): `outboardLoop_eq`, `outboardPostOrderLoop_eq`.
* slices       – clipping the end of a chunk interval to `nChunks` changes nothing (`slice_min_nChunks`,
                 `drop_min_nChunks`, `pair_eq`); an interval is the concatenation of its parts.
* `cv_split`   – `Spec.cv` of an interval is the parent of the `Spec.cv`s of its halves (`cv_node`: of a
                 node of the blob).
* `run_sub`    – (the heart) running the loop over the plan of the subtree `(k, L)` pushes the
                 `Spec.cv` of its chunk interval, consumes exactly its bytes and `put`s exactly the
                 `Spec.pair`s of its persisted nodes in post-order.
* `run_plan`   – the whole plan.
* stores       – `putAll` on the five store kinds = `WriteAtL.applyWrites` (`putAll_io/mem/empty`); with
                 the C12 bijection the final backing is `Spec.preOutboard` / `Spec.postOutboard`
                 (`outboard_run_layout`, `outboard_run_pre/post/empty`).
* reading back – `load_slot`, `load_persisted`, `slot_unstored`; sizes
                 `preOutboard_length`, `postOutboard_length`.
-/

namespace Bao.OutboardL
open Bao Bao.Spec Bao.Bits Bao.Offsets Bao.NodeIterL Bao.WriteAtL

/-- the two outboard loops as one: `put` is what happens to a finished hash pair -/
def obGen {H σ : Type} (hf : HashFns H) (put : σ → Nat → H × H → Res IoErr σ) :
    List Chunk → List H → List UInt8 → σ → ObRun H σ
  | [], stack, _, s =>
    match stack with
    | [h] => ⟨.ok h, s⟩
    | _ => ⟨.panic, s⟩
  | .parent node isRoot _ _ _ :: plan, stack, data, s =>
    match stack with
    | r :: l :: stack =>
      match put s node (l, r) with
      | .err e => ⟨.err e, s⟩
      | .panic => ⟨.panic, s⟩
      | .ok s' => obGen hf put plan (hf.parentCv l r isRoot :: stack) data s'
    | _ => ⟨.panic, s⟩
  | .leaf start size isRoot _ :: plan, stack, data, s =>
    match readExact data size with
    | .error e => ⟨.err e, s⟩
    | .ok (buf, rest) => obGen hf put plan (hashSubtree hf start buf isRoot :: stack) rest s

/-- `put` of `outboard_impl`: `OutboardMut::save` -/
def putStore {H : Type} (hf : HashFns H) : Store H → Nat → H × H → Res IoErr (Store H) :=
  fun ob n p => ob.save hf n p

/-- `put` of `outboard_post_order_impl`: append to the writer -/
def putWriter {H : Type} (hf : HashFns H) : List UInt8 → Nat → H × H → Res IoErr (List UInt8) :=
  fun out _ p => .ok (out ++ hf.toBytes p.1 ++ hf.toBytes p.2)

section loops
variable {H : Type} (hf : HashFns H)

/-! Both by the recursion of `obGen`: in every case the loop unfolds to the same `match`. -/

theorem outboardLoop_eq (plan : List Chunk) (st : List H) (data : List UInt8) (ob : Store H) :
    outboardLoop hf plan st data ob = obGen hf (putStore hf) plan st data ob := by
  fun_induction obGen hf (putStore hf) plan st data ob <;> simp_all [outboardLoop, putStore]

theorem outboardPostOrderLoop_eq (plan : List Chunk) (st : List H) (data out : List UInt8) :
    outboardPostOrderLoop hf plan st data out = obGen hf (putWriter hf) plan st data out := by
  fun_induction obGen hf (putWriter hf) plan st data out <;>
    simp_all [outboardPostOrderLoop, putWriter]

end loops

/-- apply `put` to a list of `(node, pair)` in order, stopping at the first failure -/
def putAll {H σ : Type} (put : σ → Nat → H × H → Res IoErr σ) : σ → List (Nat × H × H) → Res IoErr σ
  | s, [] => .ok s
  | s, (n, p) :: ws =>
    match put s n p with
    | .ok s' => putAll put s' ws
    | .err e => .err e
    | .panic => .panic

theorem putAll_append {H σ : Type} {put : σ → Nat → H × H → Res IoErr σ} {s s' : σ}
    {a b : List (Nat × H × H)} (h : putAll put s (a ++ b) = .ok s') :
    ∃ s1, putAll put s a = .ok s1 ∧ putAll put s1 b = .ok s' := by
  fun_induction putAll put s a <;> simp_all [putAll]

theorem putAll_single {H σ : Type} {put : σ → Nat → H × H → Res IoErr σ} {s s' : σ}
    {n : Nat} {p : H × H} (h : putAll put s [(n, p)] = .ok s') : put s n p = .ok s' := by
  simp only [putAll] at h
  split at h <;> simp_all

theorem slice_length (d : List UInt8) (a b : Nat) :
    (slice d a b).length = min ((b - a) * 1024) (d.length - a * 1024) := by
  simp [slice, List.length_take, List.length_drop]

theorem le_nChunks_mul (n : Nat) : n ≤ nChunks n * 1024 := by
  unfold nChunks
  omega

theorem slice_of_nChunks_le (d : List UInt8) (a : Nat) {b : Nat} (h : nChunks d.length ≤ b) :
    slice d a b = d.drop (a * 1024) :=
  List.take_of_length_le (by
    rw [List.length_drop, Nat.sub_mul]
    exact Nat.sub_le_sub_right
      (Nat.le_trans (le_nChunks_mul _) (Nat.mul_le_mul_right _ h)) _)

theorem slice_min_nChunks (d : List UInt8) (a c : Nat) :
    slice d a (min c (nChunks d.length)) = slice d a c := by
  rcases Nat.le_total c (nChunks d.length) with h | h
  · rw [Nat.min_eq_left h]
  · rw [Nat.min_eq_right h, slice_of_nChunks_le d a (Nat.le_refl _), slice_of_nChunks_le d a h]

theorem drop_min_nChunks (d : List UInt8) (c : Nat) :
    d.drop (min c (nChunks d.length) * 1024) = d.drop (c * 1024) := by
  rcases Nat.le_total c (nChunks d.length) with h | h
  · rw [Nat.min_eq_left h]
  · have hn := le_nChunks_mul d.length
    rw [Nat.min_eq_right h, List.drop_eq_nil_of_le hn,
      List.drop_eq_nil_of_le (Nat.le_trans hn (Nat.mul_le_mul_right _ h))]

theorem cv_min_nChunks {H : Type} (hf : HashFns H) (d : List UInt8) (a c : Nat) (r : Bool) :
    cv hf d a (min c (nChunks d.length)) r = cv hf d a c r := by
  unfold cv
  rw [slice_min_nChunks]

theorem pair_eq {H : Type} (hf : HashFns H) (d : List UInt8) (k L : Nat) :
    Spec.pair hf d k L
      = (cv hf d (startOf k L) (midOf k L) false, cv hf d (midOf k L) (endOf k L) false) := by
  unfold Spec.pair
  simp only [cv_min_nChunks]

theorem slice_append_slice (d : List UInt8) {a m b : Nat} (h1 : a ≤ m) (h2 : m ≤ b) :
    slice d a m ++ slice d m b = slice d a b := by
  unfold slice
  rw [← Nat.sub_add_sub_cancel h2 h1, Nat.add_comm, Nat.add_mul, List.take_add, List.drop_drop,
    ← Nat.add_mul, Nat.add_sub_cancel' h1]

theorem slice_length_of_le (d : List UInt8) {a b : Nat} (h : b * 1024 ≤ d.length) :
    (slice d a b).length = (b - a) * 1024 := by
  rw [slice_length, Nat.sub_mul]
  exact Nat.min_eq_left (Nat.sub_le_sub_right h _)

theorem cv_split {H : Type} (hf : HashFns H) (d : List UInt8) {a m b j : Nat} (hj : j < 64)
    (hm : m = a + 2 ^ j) (hmb : m < b) (hb : b ≤ m + 2 ^ j) (hlen : m * 1024 < d.length)
    (r : Bool) :
    cv hf d a b r = hf.parentCv (cv hf d a m false) (cv hf d m b false) r := by
  -- the left part is full (`2^j` chunks), the right part is not empty and has at most `2^j` chunks
  have hl : (slice d a m).length = 2 ^ j * 1024 := by
    rw [slice_length_of_le d (Nat.le_of_lt hlen), hm, Nat.add_sub_cancel_left]
  have hr := slice_length d m b
  have h1 : 2 ^ j * 1024 < (slice d a m ++ slice d m b).length := by
    rw [List.length_append, hl, hr]
    exact Nat.lt_add_of_pos_right (Nat.lt_min.2
      ⟨Nat.mul_pos (Nat.sub_pos_of_lt hmb) (by decide), Nat.sub_pos_of_lt hlen⟩)
  have h2 : (slice d a m ++ slice d m b).length ≤ 2 ^ (j + 1) * 1024 := by
    rw [List.length_append, hl, hr, Nat.pow_succ, Nat.mul_two, Nat.add_mul]
    exact Nat.add_le_add_left (Nat.le_trans (Nat.min_le_left _ _)
      (Nat.mul_le_mul_right _ (Nat.sub_le_of_le_add (Nat.add_comm _ _ ▸ hb)))) _
  unfold cv
  rw [← slice_append_slice d (hm ▸ Nat.le_add_right a _) (Nat.le_of_lt hmb),
    hashSubtree_parent h1 h2 hj, List.take_left' hl, List.drop_left' hl, hm]

theorem cv_node {H : Type} (hf : HashFns H) (d : List UInt8) {k L : Nat} (hL : L < 64)
    (hmid : midOf k L < nChunks d.length) (r : Bool) :
    cv hf d (startOf k L) (min (endOf k L) (nChunks d.length)) r
      = hf.parentCv (cv hf d (startOf k L) (midOf k L) false)
          (cv hf d (midOf k L) (min (endOf k L) (nChunks d.length)) false) r :=
  cv_split hf d hL (by rw [startOf_eq, midOf_eq])
    (Nat.lt_min.2 ⟨midOf_lt_endOf k L, hmid⟩)
    (Nat.le_trans (Nat.min_le_left _ _)
      (Nat.le_of_eq (by rw [endOf_eq, midOf_eq, Nat.add_assoc, ← Nat.two_mul])))
    ((lt_nChunks_iff d.length _ (Nat.lt_of_le_of_lt (Nat.zero_le _) (startOf_lt_midOf k L))).mp hmid)
    r

/-- `(node, Spec.pair)` of a node id -/
def nodePair {H : Type} (hf : HashFns H) (d : List UInt8) (x : Nat) : Nat × H × H :=
  (x, Spec.pair hf d (indexOf x) (levelOf x))

theorem nodePair_nodeOf {H : Type} (hf : HashFns H) (d : List UInt8) {k L : Nat} (hL : L ≤ 64) :
    nodePair hf d (nodeOf k L) = (nodeOf k L, Spec.pair hf d k L) := by
  unfold nodePair
  rw [indexOf_nodeOf hL, levelOf_nodeOf hL]

section eqns
variable {H σ : Type} (hf : HashFns H) (put : σ → Nat → H × H → Res IoErr σ)

theorem obGen_nil (h : H) (data : List UInt8) (s : σ) :
    obGen hf put [] [h] data s = ⟨.ok h, s⟩ := by
  rw [obGen]

theorem obGen_parent_ok {node : Nat} {isRoot l r : Bool} {rg : Ranges} {plan : List Chunk}
    {x y : H} {st : List H} {data : List UInt8} {s s' : σ} (h : put s node (y, x) = .ok s') :
    obGen hf put (.parent node isRoot l r rg :: plan) (x :: y :: st) data s
      = obGen hf put plan (hf.parentCv y x isRoot :: st) data s' := by
  rw [obGen]
  simp only [h]

theorem obGen_leaf_ok {start size : Nat} {isRoot : Bool} {rg : Ranges} {plan : List Chunk}
    {st : List H} {data : List UInt8} {s : σ} (h : size ≤ data.length) :
    obGen hf put (.leaf start size isRoot rg :: plan) st data s
      = obGen hf put plan (hashSubtree hf start (data.take size) isRoot :: st) (data.drop size) s := by
  rw [obGen]
  simp only [readExact, if_pos h]

end eqns

section steps
variable {H σ : Type} (hf : HashFns H) (put : σ → Nat → H × H → Res IoErr σ)

theorem parent_step (d : List UInt8) {k Lc : Nat} (hL : Lc < 64)
    (hmid : midOf k Lc < nChunks d.length) (flag l r : Bool) (rg : Ranges) (tail : List Chunk)
    (st : List H) (data : List UInt8) {s s' : σ}
    (hput : put s (nodeOf k Lc) (Spec.pair hf d k Lc) = .ok s') :
    obGen hf put (.parent (nodeOf k Lc) flag l r rg :: tail)
        (cv hf d (midOf k Lc) (min (endOf k Lc) (nChunks d.length)) false
          :: cv hf d (startOf k Lc) (midOf k Lc) false :: st) data s
      = obGen hf put tail
          (cv hf d (startOf k Lc) (min (endOf k Lc) (nChunks d.length)) flag :: st) data s' := by
  have hpair : Spec.pair hf d k Lc
      = (cv hf d (startOf k Lc) (midOf k Lc) false,
         cv hf d (midOf k Lc) (min (endOf k Lc) (nChunks d.length)) false) := rfl
  rw [hpair] at hput
  rw [obGen_parent_ok hf put hput, cv_node hf d hL hmid]

theorem leaf_step (d : List UInt8) (bs b : Nat) {a e : Nat} (ha : a = b * 2 ^ bs)
    (he : e = (b + 1) * 2 ^ bs) (flag : Bool) (tail : List Chunk) (st : List H) (s : σ) :
    obGen hf put (leafItem d.length bs b flag :: tail) st (d.drop (a * 1024)) s
      = obGen hf put tail (cv hf d a (min e (nChunks d.length)) flag :: st)
          (d.drop (min e (nChunks d.length) * 1024)) s := by
  have hea : e = a + 2 ^ bs := by rw [he, ha, Nat.succ_mul]
  unfold leafItem cv
  rw [obGen_leaf_ok hf put (by rw [List.length_drop, ← ha]; exact Nat.min_le_right _ _),
    slice_min_nChunks, drop_min_nChunks, ← ha, ← List.length_drop, ← List.take_eq_take_min,
    ← List.drop_eq_drop_min, List.drop_drop, ← Nat.add_mul, ← hea]
  unfold slice
  rw [hea, Nat.add_sub_cancel_left]

end steps

theorem level_bound {size bs k L : Nat} (hs : size ≤ 2 ^ 63)
    (hx : nodeOf k L < Tree.blocks ⟨size, bs⟩ - 1) : L + bs < 53 := by
  have h := Nat.lt_of_lt_of_le (persisted_mid hx) hs
  rw [nodeOf_succ'] at h
  have h1 : 2 ^ L ≤ (2 * k + 1) * 2 ^ L := Nat.le_mul_of_pos_left _ (Nat.succ_pos _)
  have h3 : 2 ^ (L + bs + 10) < 2 ^ 63 := by
    rw [Nat.pow_add, Nat.pow_add]
    exact Nat.lt_of_le_of_lt (Nat.mul_le_mul_right _ (Nat.mul_le_mul_right _ h1)) h
  exact Nat.lt_of_add_lt_add_right (n := 10) ((Nat.pow_lt_pow_iff_right (a := 2) (by decide)).1 h3)

theorem flag_eq {k L h0 : Nat} (hk : L = h0 → k = 0) :
    (nodeOf k L == nodeOf 0 h0) = decide (L = h0) := by
  by_cases h : L = h0
  · subst h; rw [hk rfl]; simp
  · have : nodeOf k L ≠ nodeOf 0 h0 := fun e => h (C18.nodeOf_inj e).2
    simp [h, this]

section run
variable {H σ : Type} (hf : HashFns H) (put : σ → Nat → H × H → Res IoErr σ)

/-- `(node, Spec.pair)` of the persisted nodes of the shifted subtree `(k, L)`, in post-order -/
def subPairs (d : List UInt8) (bs L k : Nat) : List (Nat × H × H) :=
  (postD (Tree.blocks ⟨d.length, bs⟩ - 1) L k).map fun x => nodePair hf d (up bs x)

/-- **Key lemma.**  Running the loop over the plan of the shifted subtree `(k, L)` (chunk
coordinates `(k, L + bs)`), with the data positioned at its first chunk: the stack gains the
`Spec.cv` of its chunk interval (ROOT flag iff it is the root), exactly its bytes are consumed, and
`put` receives exactly the `Spec.pair`s of its persisted nodes, in post-order. -/
theorem run_sub (d : List UInt8) {bs F : Nat} (g : Geo d.length bs F) (hs : d.length ≤ 2 ^ 63)
    (h0 : Nat) (hroot : nodeOf 0 h0 < F) (L : Nat) :
    ∀ (k : Nat), L ≤ h0 → (L = h0 → k = 0) → startOf k L < F →
    ∀ (tail : List Chunk) (st : List H) (s s' : σ),
      putAll put s (subPairs hf d bs L k) = .ok s' →
      obGen hf put (planRec d.length bs (nodeOf 0 h0) F L k ++ tail) st
          (d.drop (startOf k (L + bs) * 1024)) s
        = obGen hf put tail
            (cv hf d (startOf k (L + bs)) (min (endOf k (L + bs)) (nChunks d.length))
              (decide (L = h0)) :: st)
            (d.drop (min (endOf k (L + bs)) (nChunks d.length) * 1024)) s' := by
  -- an odd shifted id is below `F` iff it is a persisted node
  have hF : ∀ x, x % 2 = 1 → (x < F ↔ x < Tree.blocks ⟨d.length, bs⟩ - 1) := by
    have hodd := g.odd; have hle := g.le; have hge := g.ge
    intro x hx
    omega
  induction L with
  | zero =>
    intro k hL hk hne tail st s s' hput
    rw [Offsets.startOf_zero] at hne
    rw [Nat.zero_add]
    have hsa : startOf k bs = 2 * k * 2 ^ bs := by rw [startOf_eq, Nat.mul_assoc]
    have hma : midOf k bs = (2 * k + 1) * 2 ^ bs := by rw [midOf_eq, odd_mul]
    have hea : endOf k bs = (2 * k + 1 + 1) * 2 ^ bs := by
      rw [endOf_eq, Nat.add_mul, Nat.add_mul, Nat.mul_assoc, Nat.one_mul, Nat.add_assoc,
        ← Nat.two_mul]
    have hfl := flag_eq (k := k) (L := 0) (h0 := h0) hk
    have hex := exists_iff d.length bs k 0
    rw [Nat.zero_add] at hex
    rw [Offsets.nodeOf_zero] at hfl hex
    by_cases hxB : 2 * k < Tree.blocks ⟨d.length, bs⟩ - 1
    · have hmid : midOf k bs < nChunks d.length := hex.mpr hxB
      have hLb := level_bound (k := k) (L := 0) hs (by rw [Offsets.nodeOf_zero]; exact hxB)
      rw [Nat.zero_add] at hLb
      have hsp : subPairs hf d bs 0 k = [(nodeOf k bs, Spec.pair hf d k bs)] := by
        have hu := up_nodeOf bs k 0
        rw [Nat.zero_add, Offsets.nodeOf_zero] at hu
        simp only [subPairs, postD, Offsets.nodeOf_zero, if_pos hxB, List.map_cons, List.map_nil]
        rw [hu, nodePair_nodeOf hf d g.hbs]
      rw [hsp] at hput
      simp only [planRec, if_pos hne, if_pos (Nat.add_lt_of_lt_sub hxB), List.cons_append,
        List.nil_append]
      rw [leaf_step hf put d bs (2 * k) hsa hma, Nat.min_eq_left (Nat.le_of_lt hmid),
        leaf_step hf put d bs (2 * k + 1) hma hea,
        parent_step hf put d (Nat.lt_trans hLb (by decide)) hmid _ _ _ _ _ _ _
          (putAll_single hput), hfl]
    · have hmid : nChunks d.length ≤ midOf k bs := Nat.le_of_not_lt (mt hex.mp hxB)
      have hsp : subPairs hf d bs 0 k = ([] : List (Nat × H × H)) := by
        simp only [subPairs, postD, Offsets.nodeOf_zero, if_neg hxB, List.map_nil]
      rw [hsp] at hput
      cases hput
      simp only [planRec, if_pos hne, if_neg (mt Nat.lt_sub_of_add_lt hxB), List.cons_append,
        List.nil_append]
      rw [leaf_step hf put d bs (2 * k) hsa hma, hfl, Nat.min_eq_right hmid,
        Nat.min_eq_right (Nat.le_trans hmid (Nat.le_of_lt (midOf_lt_endOf k bs)))]
  | succ L ih =>
    intro k hL hk hne tail st s s' hput
    have hlt : L < h0 := hL
    have hf1 : decide (L = h0) = false := decide_eq_false (Nat.ne_of_lt hlt)
    have hk' : ∀ j, L = h0 → j = 0 := fun _ h => absurd h (Nat.ne_of_lt hlt)
    have e : L + 1 + bs = L + bs + 1 := Nat.add_right_comm L 1 bs
    have hex := exists_iff d.length bs k (L + 1)
    rw [e]
    rw [e] at hex
    have hl := ih (2 * k) (Nat.le_of_lt hlt) (hk' _) (by rw [Offsets.startOf_left]; exact hne)
    rw [Bits.startOf_left, Bits.endOf_left] at hl
    by_cases hxB : nodeOf k (L + 1) < Tree.blocks ⟨d.length, bs⟩ - 1
    · have hx : nodeOf k (L + 1) < F := (hF _ (nodeOf_succ_odd k L)).mpr hxB
      have hmid : midOf k (L + bs + 1) < nChunks d.length := hex.mpr hxB
      have hLb := level_bound hs hxB
      rw [e] at hLb
      have hsp : subPairs hf d bs (L + 1) k
          = subPairs hf d bs L (2 * k) ++ subPairs hf d bs L (2 * k + 1)
            ++ [(nodeOf k (L + bs + 1), Spec.pair hf d k (L + bs + 1))] := by
        simp only [subPairs, postD, if_pos hxB, List.map_append, List.map_cons, List.map_nil]
        rw [up_nodeOf, e, nodePair_nodeOf hf d (Nat.le_of_lt (Nat.lt_trans hLb (by decide)))]
      rw [hsp] at hput
      obtain ⟨s2, hput12, hput3⟩ := putAll_append hput
      obtain ⟨s1, hput1, hput2⟩ := putAll_append hput12
      simp only [planRec, if_pos hx, e, List.append_assoc, List.cons_append, List.nil_append]
      have hr := ih (2 * k + 1) (Nat.le_of_lt hlt) (hk' _) (right_nonempty g.odd hx).1
      rw [Bits.startOf_right, Bits.endOf_right] at hr
      rw [hl _ _ _ _ hput1, Nat.min_eq_left (Nat.le_of_lt hmid), hr _ _ _ _ hput2, hf1,
        parent_step hf put d (Nat.lt_trans hLb (by decide)) hmid _ _ _ _ _ _ _
          (putAll_single hput3), flag_eq hk]
    · have hx : ¬ nodeOf k (L + 1) < F := mt (hF _ (nodeOf_succ_odd k L)).mp hxB
      have hmid : nChunks d.length ≤ midOf k (L + bs + 1) := Nat.le_of_not_lt (mt hex.mp hxB)
      have hf2 : decide (L + 1 = h0) = false :=
        decide_eq_false fun h => by rw [hk h, h] at hx; exact hx hroot
      have hsp : subPairs hf d bs (L + 1) k = subPairs hf d bs L (2 * k) := by
        simp only [subPairs, postD, if_neg hxB]
      rw [hsp] at hput
      simp only [planRec, if_neg hx]
      rw [hl _ _ _ _ hput, hf1, hf2, Nat.min_eq_right hmid,
        Nat.min_eq_right (Nat.le_trans hmid (Nat.le_of_lt (midOf_lt_endOf k _)))]

theorem nChunks_le_blocks (size bs : Nat) :
    nChunks size ≤ Tree.blocks ⟨size, bs⟩ * 2 ^ bs := by
  have hB := blocks_pos size bs
  have hp := two_pow_pos' bs
  have hpos : 0 < Tree.blocks ⟨size, bs⟩ * 2 ^ bs := Nat.mul_pos hB hp
  have h1 := mt (lt_blocks_iff size bs (Tree.blocks ⟨size, bs⟩) hB).mpr (Nat.lt_irrefl _)
  rw [Nat.pow_add, ← Nat.mul_assoc] at h1
  have h2 := mt (lt_nChunks_iff size _ hpos).mp h1
  omega

def postPairs (d : List UInt8) (bs : Nat) : List (Nat × H × H) :=
  (persistedPost d.length bs).map (nodePair hf d)

/-- **the whole plan**: if `put` accepts the `Spec.pair`s of the persisted nodes in post-order,
the loop returns the BLAKE3 root and the sink that received exactly these pairs -/
theorem run_plan (d : List UInt8) (bs : Nat) (hs : d.length ≤ 2 ^ 63) (hbs : bs ≤ 10) (s s' : σ)
    (hput : putAll put s (postPairs hf d bs) = .ok s') :
    obGen hf put (Tree.postOrderChunks ⟨d.length, bs⟩) [] d s = ⟨.ok (Spec.root hf d), s'⟩ := by
  obtain ⟨-, e, hlt, hF⟩ := rootLevel_spec d.length bs hs
  have g := shifted_geo d.length bs hs hbs
  have hB : Tree.blocks ⟨d.length, bs⟩ ≤ 2 ^ (rootLevel ⟨d.length, bs⟩ + 1) := Nat.le_trans g.ge hF
  have hpp : postPairs hf d bs = subPairs hf d bs (rootLevel ⟨d.length, bs⟩) 0 := by
    unfold postPairs subPairs
    rw [persistedPost_eq_postD d.length bs _ hs (Nat.lt_of_lt_of_le (Nat.sub_lt (blocks_pos _ _)
      Nat.one_pos) hB), List.map_map]
    rfl
  -- the root's interval covers all chunks
  have hend : nChunks d.length ≤ endOf 0 (rootLevel ⟨d.length, bs⟩ + bs) := by
    rw [endOf, Nat.zero_add, Nat.one_mul, Nat.add_right_comm, Nat.pow_add]
    exact Nat.le_trans (nChunks_le_blocks d.length bs) (Nat.mul_le_mul_right _ hB)
  have hrun := run_sub hf put d g hs _ hlt _ 0 (Nat.le_refl _) (fun _ => rfl)
    (Nat.lt_of_le_of_lt (Nat.le_trans (Nat.le_of_eq (Nat.zero_mul _)) (Nat.zero_le _)) hlt)
    [] [] s s' (hpp ▸ hput)
  rw [startOf, Nat.zero_mul, Nat.zero_mul, List.drop_zero, List.append_nil, ← e,
    ← plan_rec d.length bs hs hbs, Nat.min_eq_right hend, decide_eq_true rfl] at hrun
  rw [hrun, obGen_nil]
  rfl

end run

section sinks
variable {H : Type} (hf : HashFns H)

def wbytes (w : Nat × H × H) : List UInt8 := hf.toBytes w.2.1 ++ hf.toBytes w.2.2

theorem putAll_writer (out : List UInt8) (ws : List (Nat × H × H)) :
    putAll (putWriter hf) out ws = .ok (out ++ ws.flatMap (wbytes hf)) := by
  induction ws generalizing out with
  | nil => simp [putAll]
  | cons w ws ih =>
    obtain ⟨n, p⟩ := w
    simp only [putAll, putWriter, ih, List.flatMap_cons, wbytes, List.append_assoc]

theorem writer_run (d : List UInt8) (bs : Nat) (hs : d.length ≤ 2 ^ 63) (hbs : bs ≤ 10) :
    outboardPostOrder hf d ⟨d.length, bs⟩
      = ⟨.ok (Spec.root hf d), Spec.postOutboard hf d bs⟩ := by
  unfold outboardPostOrder
  rw [outboardPostOrderLoop_eq,
    run_plan hf _ d bs hs hbs [] _ (putAll_writer hf [] _), List.nil_append]
  unfold postPairs Spec.postOutboard
  rw [List.flatMap_map]
  rfl

theorem ne_empty_of_or {k a b : StoreKind} (h : k = a ∨ k = b) (ha : a ≠ .empty := by decide)
    (hb : b ≠ .empty := by decide) : k ≠ .empty := by
  rcases h with rfl | rfl <;> assumption

theorem save_io {ob : Store H} (hk : ob.kind = .preIo ∨ ob.kind = .postIo) {n k : Nat}
    (hsl : ob.slot n = some k) (p : H × H) :
    ob.save hf n p
      = .ok { ob with data := writeAt ob.data (k * 64) (hf.toBytes p.1 ++ hf.toBytes p.2) } := by
  unfold Store.save
  rcases hk with h | h <;> simp only [h, hsl]

theorem save_mem {ob : Store H} (hk : ob.kind = .preMem ∨ ob.kind = .postMem) {n k : Nat}
    (hsl : ob.slot n = some k) (hlen : k * 64 + 64 ≤ ob.data.length) (p : H × H) :
    ob.save hf n p
      = .ok { ob with data := writeAt ob.data (k * 64) (hf.toBytes p.1 ++ hf.toBytes p.2) } := by
  unfold Store.save
  rcases hk with h | h <;> simp only [h, hsl, if_pos hlen]

theorem save_empty {ob : Store H} (hk : ob.kind = .empty) {n : Nat}
    (hrel : ob.tree.isRelevant n = true) (p : H × H) : ob.save hf n p = .ok ob := by
  unfold Store.save
  simp only [hk, hrel, if_true]

/-- `putAll` into a store with slot function `sl` is `applyWrites` of these (`putAll_io`,
`putAll_mem`) -/
def swrites (sl : Nat → Nat) (ws : List (Nat × H × H)) : List (Nat × List UInt8) :=
  ws.map fun w => (sl w.1, wbytes hf w)

theorem putAll_io (ob : Store H) (hk : ob.kind = .preIo ∨ ob.kind = .postIo) (sl : Nat → Nat)
    (ws : List (Nat × H × H)) (hsl : ∀ w ∈ ws, ob.slot w.1 = some (sl w.1)) :
    putAll (putStore hf) ob ws
      = .ok { ob with data := applyWrites ob.data (swrites hf sl ws) } := by
  induction ws generalizing ob with
  | nil => rfl
  | cons w ws ih =>
    obtain ⟨n, p⟩ := w
    have h1 := hsl (n, p) List.mem_cons_self
    simp only [putAll, putStore, save_io hf hk h1]
    exact ih { ob with data := writeAt ob.data (sl n * 64) (hf.toBytes p.1 ++ hf.toBytes p.2) } hk
      (fun w hw => hsl w (List.mem_cons_of_mem _ hw))

theorem putAll_mem (ob : Store H) (hk : ob.kind = .preMem ∨ ob.kind = .postMem) (sl : Nat → Nat)
    (ws : List (Nat × H × H)) (hsl : ∀ w ∈ ws, ob.slot w.1 = some (sl w.1)) (N : Nat)
    (hN : ob.data.length = N * 64) (hlt : ∀ w ∈ ws, sl w.1 < N)
    (hb : ∀ w ∈ ws, (wbytes hf w).length = 64) :
    putAll (putStore hf) ob ws
      = .ok { ob with data := applyWrites ob.data (swrites hf sl ws) } := by
  induction ws generalizing ob with
  | nil => rfl
  | cons w ws ih =>
    obtain ⟨n, p⟩ := w
    have h1 := hsl (n, p) List.mem_cons_self
    have h2 : sl n < N := hlt (n, p) List.mem_cons_self
    have h3 : (hf.toBytes p.1 ++ hf.toBytes p.2).length = 64 := hb (n, p) List.mem_cons_self
    simp only [putAll, putStore, save_mem hf hk h1 (slot_add_le h2 (Nat.le_of_eq hN.symm))]
    exact ih { ob with data := writeAt ob.data (sl n * 64) (hf.toBytes p.1 ++ hf.toBytes p.2) } hk
      (fun w hw => hsl w (List.mem_cons_of_mem _ hw))
      (by rw [length_writeAt, h3, hN]; exact Nat.max_eq_left (slot_add_le h2 (Nat.le_refl _)))
      (fun w hw => hlt w (List.mem_cons_of_mem _ hw))
      (fun w hw => hb w (List.mem_cons_of_mem _ hw))

theorem putAll_store (ob : Store H) (N : Nat)
    (hk : ((ob.kind = .preIo ∨ ob.kind = .postIo) ∧ ob.data.length ≤ N * 64) ∨
          ((ob.kind = .preMem ∨ ob.kind = .postMem) ∧ ob.data.length = N * 64))
    (sl : Nat → Nat) (ws : List (Nat × H × H))
    (hsl : ∀ w ∈ ws, ob.slot w.1 = some (sl w.1) ∧ sl w.1 < N)
    (hb : ∀ w ∈ ws, (wbytes hf w).length = 64) :
    putAll (putStore hf) ob ws
      = .ok { ob with data := applyWrites ob.data (swrites hf sl ws) } := by
  rcases hk with ⟨hk, _⟩ | ⟨hk, hl⟩
  · exact putAll_io hf ob hk sl ws (fun w hw => (hsl w hw).1)
  · exact putAll_mem hf ob hk sl ws (fun w hw => (hsl w hw).1) N hl (fun w hw => (hsl w hw).2) hb

theorem putAll_empty (ob : Store H) (hk : ob.kind = .empty) (ws : List (Nat × H × H))
    (hrel : ∀ w ∈ ws, ob.tree.isRelevant w.1 = true) :
    putAll (putStore hf) ob ws = .ok ob := by
  induction ws with
  | nil => rfl
  | cons w ws ih =>
    obtain ⟨n, p⟩ := w
    simp only [putAll, putStore, save_empty hf hk (hrel (n, p) List.mem_cons_self)]
    exact ih (fun w hw => hrel w (List.mem_cons_of_mem _ hw))

theorem postD_perm_preD (N L k : Nat) : (postD N L k).Perm (preD N L k) := by
  induction L generalizing k with
  | zero => exact List.Perm.refl _
  | succ L ih =>
    by_cases h : nodeOf k (L + 1) < N
    · simp only [postD, preD, if_pos h]
      exact List.perm_append_comm.trans (List.Perm.cons _ ((ih _).append (ih _)))
    · simp only [postD, preD, if_neg h]
      exact ih _

theorem blocks_lt (size bs : Nat) (hs : size ≤ 2 ^ 63) : Tree.blocks ⟨size, bs⟩ - 1 < 2 ^ (63 + 1) :=
  Nat.lt_of_le_of_lt (blocks_le size bs hs) (by decide)

theorem persistedPost_perm (size bs : Nat) (hs : size ≤ 2 ^ 63) :
    (persistedPost size bs).Perm (persistedPre size bs) := by
  rw [persistedPost_eq_postD size bs 63 hs (blocks_lt size bs hs),
    persistedPre_eq_preD size bs 63 hs (blocks_lt size bs hs)]
  exact (postD_perm_preD _ _ _).map _

theorem persisted_coords {size bs x : Nat} (hs : size ≤ 2 ^ 63) (hx : x ∈ persistedPost size bs) :
    ∃ k L, x = nodeOf k L ∧ bs ≤ L ∧ L < 53 ∧ midOf k L * 1024 < size := by
  rw [persistedPost_eq_postD size bs 63 hs (blocks_lt size bs hs)] at hx
  obtain ⟨y, hy, rfl⟩ := List.mem_map.mp hx
  have hyN := mem_postD_lt _ _ _ _ hy
  obtain ⟨k, L, rfl⟩ := C18.coords_exist y
  refine ⟨k, L + bs, up_nodeOf bs k L, Nat.le_add_left _ _, level_bound hs hyN, ?_⟩
  rw [midOf_shift]
  exact persisted_mid hyN

/-- total slot functions for `applyWrites_perm`; on persisted nodes they are the slots (`pre_offset_mem`,
`post_offset_mem`) -/
def slPre (size bs x : Nat) : Nat := (Tree.preOrderOffset ⟨size, bs⟩ x).getD 0
def slPost (size bs x : Nat) : Nat :=
  ((Tree.postOrderOffset ⟨size, bs⟩ x).map Tree.PostOffset.value).getD 0

theorem offset_mem {P : List Nat} {off : Nat → Option Nat} {N x : Nat}
    (h : P.length = N ∧ ∀ i (hi : i < P.length), off P[i] = some i) (hx : x ∈ P) :
    off x = some ((off x).getD 0) ∧ (off x).getD 0 < N := by
  obtain ⟨i, hi, rfl⟩ := List.getElem_of_mem hx
  rw [h.2 i hi]
  exact ⟨rfl, h.1 ▸ hi⟩

theorem pre_offset_mem {size bs x : Nat} (hs : size ≤ 2 ^ 63) (hbs : bs ≤ 10)
    (hx : x ∈ persistedPre size bs) :
    Tree.preOrderOffset ⟨size, bs⟩ x = some (slPre size bs x) ∧
      slPre size bs x < Tree.blocks ⟨size, bs⟩ - 1 :=
  offset_mem (C12.pre size bs hs hbs) hx

theorem post_offset_mem {size bs x : Nat} (hs : size ≤ 2 ^ 63) (hbs : bs ≤ 10)
    (hx : x ∈ persistedPost size bs) :
    (Tree.postOrderOffset ⟨size, bs⟩ x).map Tree.PostOffset.value = some (slPost size bs x) ∧
      slPost size bs x < Tree.blocks ⟨size, bs⟩ - 1 :=
  offset_mem (off := fun x => (Tree.postOrderOffset ⟨size, bs⟩ x).map Tree.PostOffset.value)
    (C12.post size bs hs hbs) hx

theorem isRelevant_of_level_lt {t : Tree} {x : Nat} (h : Node.level x < t.bs) :
    t.isRelevant x = false := by
  unfold Tree.isRelevant
  simp only [if_pos h]

theorem isRelevant_of_level_gt {t : Tree} {x : Nat} (h : t.bs < Node.level x) :
    t.isRelevant x = true := by
  unfold Tree.isRelevant
  simp only [if_neg (Nat.lt_asymm h), gt_iff_lt, if_pos h]

theorem isRelevant_of_level_eq {t : Tree} {x : Nat} (h : Node.level x = t.bs) :
    t.isRelevant x = decide ((x + 1) * 1024 < t.size) := by
  unfold Tree.isRelevant
  simp only [h, Nat.lt_irrefl, if_false, gt_iff_lt]
  rfl

theorem isRelevant_persisted {size bs x : Nat} (hs : size ≤ 2 ^ 63)
    (hx : x ∈ persistedPost size bs) : Tree.isRelevant ⟨size, bs⟩ x = true := by
  obtain ⟨k, L, rfl, hL, hL53, hm⟩ := persisted_coords hs hx
  have hlev : Node.level (nodeOf k L) = L :=
    C18.level_nodeOf (Nat.le_of_lt (Nat.lt_trans hL53 (by decide)))
  rcases Nat.eq_or_lt_of_le hL with rfl | hlt
  · rw [isRelevant_of_level_eq hlev, nodeOf_succ, ← midOf_eq]
    exact decide_eq_true hm
  · exact isRelevant_of_level_gt (hlev.symm ▸ hlt)

theorem pair_bytes_length (hlen : ∀ h, (hf.toBytes h).length = 32) (p : H × H) :
    (hf.toBytes p.1 ++ hf.toBytes p.2).length = 64 := by
  rw [List.length_append, hlen, hlen]

theorem pairBytes_length (hlen : ∀ h, (hf.toBytes h).length = 32) (d : List UInt8) (x : Nat) :
    (pairBytes hf d x).length = 64 :=
  pair_bytes_length hf hlen _

theorem parsePair_bytes (hlen : ∀ h, (hf.toBytes h).length = 32)
    (hrt : ∀ h, hf.ofBytes (hf.toBytes h) = h) (p : H × H) :
    parsePair hf (hf.toBytes p.1 ++ hf.toBytes p.2) = p := by
  unfold parsePair
  rw [List.take_left' (hlen _), List.drop_left' (hlen _),
    List.take_of_length_le (Nat.le_of_eq (hlen _)), hrt, hrt]

theorem swrites_map {α : Type} (sl : Nat → Nat) (l : List α) (g : α → Nat × H × H) :
    swrites hf sl (l.map g) = l.map fun x => (sl (g x).1, wbytes hf (g x)) :=
  List.map_map

theorem swrites_postPairs (sl : Nat → Nat) (d : List UInt8) (bs : Nat) :
    swrites hf sl (postPairs hf d bs)
      = (persistedPost d.length bs).map fun x => (sl x, pairBytes hf d x) :=
  swrites_map hf sl _ _

theorem mem_postPairs {d : List UInt8} {bs : Nat} {w : Nat × H × H}
    (hw : w ∈ postPairs hf d bs) :
    w.1 ∈ persistedPost d.length bs ∧ wbytes hf w = pairBytes hf d w.1 := by
  obtain ⟨x, hx, rfl⟩ := List.mem_map.mp hw
  exact ⟨hx, rfl⟩

theorem slot_pre {ob : Store H} (hk : ob.kind = .preIo ∨ ob.kind = .preMem) (x : Nat) :
    ob.slot x = ob.tree.preOrderOffset x := by
  unfold Store.slot
  rcases hk with h | h <;> simp only [h]

theorem slot_post {ob : Store H} (hk : ob.kind = .postIo ∨ ob.kind = .postMem) (x : Nat) :
    ob.slot x = (ob.tree.postOrderOffset x).map (·.value) := by
  unfold Store.slot
  rcases hk with h | h <;> simp only [h]

/-- `outboard` into an io store (auto-extending, any initial backing not longer than the outboard)
or a memory store (backing of exactly the outboard size) whose slot function enumerates a list `P`
of the persisted nodes: the pairs arrive in post-order and are written at their slots, so the
backing becomes the concatenation of the pairs in `P`-order, every stale byte overwritten -/
theorem outboard_run_layout (d : List UInt8) (bs : Nat) (hpb : ∀ x, (pairBytes hf d x).length = 64)
    (hs : d.length ≤ 2 ^ 63) (hbs : bs ≤ 10) (ob : Store H) (htree : ob.tree = ⟨d.length, bs⟩)
    (hk : ((ob.kind = .preIo ∨ ob.kind = .postIo) ∧
            ob.data.length ≤ (Tree.blocks ⟨d.length, bs⟩ - 1) * 64) ∨
          ((ob.kind = .preMem ∨ ob.kind = .postMem) ∧
            ob.data.length = (Tree.blocks ⟨d.length, bs⟩ - 1) * 64))
    (P : List Nat) (hperm : (persistedPost d.length bs).Perm P)
    (hP : P.length = Tree.blocks ⟨d.length, bs⟩ - 1 ∧
      ∀ i (h : i < P.length), ob.slot P[i] = some i) :
    outboard hf d ob.tree ob
      = ⟨.ok (Spec.root hf d), { ob with data := P.flatMap (pairBytes hf d) }⟩ := by
  unfold outboard
  rw [outboardLoop_eq, htree]
  apply run_plan hf _ d bs hs hbs
  rw [putAll_store hf ob _ hk (fun x => (ob.slot x).getD 0) _
      (fun w hw => offset_mem hP (hperm.mem_iff.mp (mem_postPairs hf hw).1))
      (fun w hw => by rw [(mem_postPairs hf hw).2]; exact hpb _),
    swrites_postPairs,
    applyWrites_perm P _ _ (pairBytes hf d) ob.data hperm (fun i h => by rw [hP.2 i h]; rfl)
      (fun x _ => hpb x) (by rw [hP.1]; exact hk.elim And.right fun h => Nat.le_of_eq h.2),
    htree]

theorem outboard_run_pre (d : List UInt8) (bs : Nat) (hpb : ∀ x, (pairBytes hf d x).length = 64)
    (hs : d.length ≤ 2 ^ 63) (hbs : bs ≤ 10) (ob : Store H) (htree : ob.tree = ⟨d.length, bs⟩)
    (hk : (ob.kind = .preIo ∧ ob.data.length ≤ ob.tree.outboardSize) ∨
          (ob.kind = .preMem ∧ ob.data.length = ob.tree.outboardSize)) :
    outboard hf d ob.tree ob
      = ⟨.ok (Spec.root hf d), { ob with data := Spec.preOutboard hf d bs }⟩ := by
  have hsz : ob.tree.outboardSize = (Tree.blocks ⟨d.length, bs⟩ - 1) * 64 := by rw [htree]; rfl
  rw [hsz] at hk
  refine outboard_run_layout hf d bs hpb hs hbs ob htree
    (hk.imp (And.imp_left .inl) (And.imp_left .inl)) _ (persistedPost_perm d.length bs hs) ?_
  simp only [slot_pre (hk.imp And.left And.left), htree]
  exact C12.pre d.length bs hs hbs

theorem outboard_run_post (d : List UInt8) (bs : Nat) (hpb : ∀ x, (pairBytes hf d x).length = 64)
    (hs : d.length ≤ 2 ^ 63) (hbs : bs ≤ 10) (ob : Store H) (htree : ob.tree = ⟨d.length, bs⟩)
    (hk : (ob.kind = .postIo ∧ ob.data.length ≤ ob.tree.outboardSize) ∨
          (ob.kind = .postMem ∧ ob.data.length = ob.tree.outboardSize)) :
    outboard hf d ob.tree ob
      = ⟨.ok (Spec.root hf d), { ob with data := Spec.postOutboard hf d bs }⟩ := by
  have hsz : ob.tree.outboardSize = (Tree.blocks ⟨d.length, bs⟩ - 1) * 64 := by rw [htree]; rfl
  rw [hsz] at hk
  refine outboard_run_layout hf d bs hpb hs hbs ob htree
    (hk.imp (And.imp_left .inr) (And.imp_left .inr)) _ (List.Perm.refl _) ?_
  simp only [slot_post (hk.imp And.left And.left), htree]
  exact C12.post d.length bs hs hbs

theorem outboard_run_empty (d : List UInt8) (bs : Nat)
    (hs : d.length ≤ 2 ^ 63) (hbs : bs ≤ 10) (ob : Store H) (htree : ob.tree = ⟨d.length, bs⟩)
    (hk : ob.kind = .empty) :
    outboard hf d ob.tree ob = ⟨.ok (Spec.root hf d), ob⟩ := by
  unfold outboard
  rw [outboardLoop_eq, htree]
  apply run_plan hf _ d bs hs hbs
  apply putAll_empty hf ob hk
  intro w hw
  rw [htree]
  exact isRelevant_persisted hs (mem_postPairs hf hw).1

theorem preOutboard_length (d : List UInt8) (bs : Nat) (hpb : ∀ x, (pairBytes hf d x).length = 64)
    (hs : d.length ≤ 2 ^ 63) (hbs : bs ≤ 10) :
    (Spec.preOutboard hf d bs).length = (Tree.blocks ⟨d.length, bs⟩ - 1) * 64 := by
  unfold Spec.preOutboard
  rw [length_flatMap64 _ _ (fun x _ => hpb x), (C12.pre d.length bs hs hbs).1]

theorem postOutboard_length (d : List UInt8) (bs : Nat) (hpb : ∀ x, (pairBytes hf d x).length = 64)
    (hs : d.length ≤ 2 ^ 63) (hbs : bs ≤ 10) :
    (Spec.postOutboard hf d bs).length = (Tree.blocks ⟨d.length, bs⟩ - 1) * 64 := by
  unfold Spec.postOutboard
  rw [length_flatMap64 _ _ (fun x _ => hpb x), (C12.post d.length bs hs hbs).1]

theorem outboardSize_le_postOutboard (hlen : ∀ h, (hf.toBytes h).length = 32) (d : List UInt8)
    (bs : Nat) (hs : d.length ≤ 2 ^ 63) (hbs : bs ≤ 10) :
    Tree.outboardSize ⟨d.length, bs⟩ ≤ (Spec.postOutboard hf d bs).length :=
  Nat.le_of_eq (postOutboard_length hf d bs (pairBytes_length hf hlen d) hs hbs).symm

theorem parsePair_pairBytes (hlen : ∀ h, (hf.toBytes h).length = 32)
    (hrt : ∀ h, hf.ofBytes (hf.toBytes h) = h) (d : List UInt8) (x : Nat) :
    parsePair hf (pairBytes hf d x) = Spec.pair hf d (indexOf x) (levelOf x) :=
  parsePair_bytes hf hlen hrt _

theorem load_slot (fl : Flavour) (ob : Store H) (hk : ob.kind ≠ .empty) {x i : Nat}
    (hsl : ob.slot x = some i) (hle : i * 64 + 64 ≤ ob.data.length) :
    ob.load hf fl x = .ok (some (parsePair hf (blockAt ob.data i))) := by
  unfold Store.load blockAt
  cases hkd : ob.kind with
  | empty => exact (hk hkd).elim
  | preIo => simp only [hsl, if_pos hle]
  | postIo => simp only [hsl, if_pos hle]
  | preMem => simp only [hsl, if_pos hle]
  | postMem => simp only [hsl, if_pos hle]

theorem load_gen {α : Type} (fl : Flavour) (ob : Store H) (hk : ob.kind ≠ .empty) (P : List α)
    (f : α → List UInt8) (hf64 : ∀ x ∈ P, (f x).length = 64) (hdata : ob.data = P.flatMap f)
    (i : Nat) (hi : i < P.length) (x : Nat) (hsl : ob.slot x = some i) :
    ob.load hf fl x = .ok (some (parsePair hf (f P[i]))) := by
  rw [load_slot hf fl ob hk hsl, hdata, blockAt_flatMap P f hf64 i hi]
  exact slot_add_le hi (Nat.le_of_eq (hdata ▸ length_flatMap64 _ _ hf64).symm)

theorem load_none (fl : Flavour) (ob : Store H) (hk : ob.kind ≠ .empty) (x : Nat)
    (hsl : ob.slot x = none) : ob.load hf fl x = .ok none := by
  unfold Store.load
  cases hkd : ob.kind with
  | empty => exact (hk hkd).elim
  | preIo => simp only [hsl]
  | postIo => simp only [hsl]
  | preMem => simp only [hsl]
  | postMem => simp only [hsl]

theorem load_persisted (hlen : ∀ h, (hf.toBytes h).length = 32)
    (hrt : ∀ h, hf.ofBytes (hf.toBytes h) = h) (d : List UInt8) (bs : Nat)
    (hs : d.length ≤ 2 ^ 63) (hbs : bs ≤ 10) (fl : Flavour) (ob : Store H)
    (htree : ob.tree = ⟨d.length, bs⟩)
    (hk : ((ob.kind = .preIo ∨ ob.kind = .preMem) ∧ ob.data = Spec.preOutboard hf d bs) ∨
          ((ob.kind = .postIo ∨ ob.kind = .postMem) ∧ ob.data = Spec.postOutboard hf d bs))
    (x : Nat) (hx : x ∈ persistedPre d.length bs) :
    ob.load hf fl x = .ok (some (Spec.pair hf d (indexOf x) (levelOf x))) := by
  rcases hk with ⟨hk, hd⟩ | ⟨hk, hd⟩
  · obtain ⟨i, hi, rfl⟩ := List.getElem_of_mem hx
    have hne := ne_empty_of_or hk
    rw [load_gen hf fl ob hne _ (pairBytes hf d) (fun x _ => pairBytes_length hf hlen d x) hd i hi,
      parsePair_pairBytes hf hlen hrt]
    rw [slot_pre hk, htree]
    exact (C12.pre d.length bs hs hbs).2 i hi
  · have hx' := (persistedPost_perm d.length bs hs).mem_iff.mpr hx
    obtain ⟨i, hi, rfl⟩ := List.getElem_of_mem hx'
    have hne := ne_empty_of_or hk
    rw [load_gen hf fl ob hne _ (pairBytes hf d) (fun x _ => pairBytes_length hf hlen d x) hd i hi,
      parsePair_pairBytes hf hlen hrt]
    rw [slot_post hk, htree]
    exact (C12.post d.length bs hs hbs).2 i hi

theorem slot_unstored (size bs : Nat) (hs : size ≤ 2 ^ 63) (hbs : bs ≤ 10) (ob : Store H)
    (htree : ob.tree = ⟨size, bs⟩) (hk : ob.kind ≠ .empty) (x : Nat)
    (hx : Node.level x < bs ∨ (Tree.blocks ⟨size, bs⟩ % 2 = 1 ∧
      x = Node.subBs (Tree.blocks ⟨size, bs⟩ - 1) bs)) :
    ob.slot x = none := by
  obtain ⟨p1, p2⟩ := C12.pre_none size bs hs hbs
  obtain ⟨q1, q2⟩ := C12.post_none size bs hs hbs
  unfold Store.slot
  rw [htree]
  cases hkd : ob.kind with
  | empty => exact (hk hkd).elim
  | preIo | preMem =>
    rcases hx with h | ⟨h, rfl⟩
    · exact p1 x h
    · exact p2 h
  | postIo | postMem =>
    rcases hx with h | ⟨h, rfl⟩
    · exact (q1 x h).symm ▸ rfl
    · exact (q2 h).symm ▸ rfl

end sinks

end Bao.OutboardL
