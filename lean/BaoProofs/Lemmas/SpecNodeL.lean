import BaoProofs.Props.C18
import BaoProofs.Lemmas.SpecIndexStr
import BaoModel.Ops1

/-!
# Lemmas for `Props/C18SpecNode.lean`: the `node` / `nodebs` / `noderp` verdicts accept the model

The three verdicts compare the implementation's output string with ONE string computed from the
`(k, L)` coordinates `Spec.indexOf x`, `Spec.levelOf x` (`if impl == spec then none else …`), so
"no false alarm" is the equation `model string = spec string`, which follows component by component
from the C18 theorems (`BaoProofs/Props/C18.lean`).

* `popc_eq`            `Spec.popc` (the verdict's popcount) is the model's `popcountAux`
* `sLc … sPor`         verbatim copies of the `let`s of `Ops.nodeSpecStr` (tied to it by `rfl`:
                       `nodeSpecStr_eq`)
* `*_clause`           one lemma per compared component of `node`
* `nodeStr_eq`         `nodeStr x = nodeSpecStr x` for `x + 1 < 2^64`
* `subBs_clause`, `addBs_clause`, `nodeBsModel_eq`    the two components of `nodebs`
* `up_eq`              the verdict's walk `opNodeRp.up` is `Node.restrictedParentAux`
* `restrictedParent_clause`, `restrictedParent_clause_u64`   … hence `Node.restrictedParent x len`
                       (`x ≠ u64::MAX`, any `len`; or every `u64` id and `len ≤ 2^64`)
* `opNode_eq`, `opNodeBs_eq`, `opNodeRp_eq`   the operations after the argument parse
-/

namespace Bao.SpecNode
open Bao Bao.Bits Bao.Ops Bao.Proto Bao.C18
open Bao.Spec (nodeOf startOf endOf midOf levelOf indexOf)

theorem popc_eq (f x : Nat) : Spec.popc f x = popcountAux f x := by
  induction f generalizing x with
  | zero => rfl
  | succ f ih =>
    simp only [Spec.popc, popcountAux, ih]
    split
    · next h => subst h; simp [popcountAux_zero]
    · rfl

theorem popc64_eq (x : Nat) : Spec.popc 64 x = popcount x := popc_eq 64 x

/-! ## `node`: the components of `nodeSpecStr` as named definitions -/

def sLc (x : Nat) : Option Nat :=
  if levelOf x = 0 then none else some (nodeOf (2 * indexOf x) (levelOf x - 1))

def sRc (x : Nat) : Option Nat :=
  if levelOf x = 0 then none else some (nodeOf (2 * indexOf x + 1) (levelOf x - 1))

def sPar (x : Nat) : Option Nat :=
  if levelOf x = 63 then none else some (nodeOf (indexOf x / 2) (levelOf x + 1))

def sBelow (x : Nat) : Nat := 2 ^ (levelOf x + 1) - 2

def sNla (x : Nat) : Option Nat :=
  if indexOf x = 0 then none else some (x + 1 - 2 ^ levelOf x - 1)

def sNr (x : Nat) : Nat × Nat :=
  (startOf (indexOf x) (levelOf x), startOf (indexOf x) (levelOf x) + 2 ^ (levelOf x + 1) - 1)

def sCr (x : Nat) : Nat × Nat :=
  (startOf (indexOf x) (levelOf x), endOf (indexOf x) (levelOf x))

def sRcnt (x : Nat) : Nat := Spec.popc 64 (x + 1) - 1

def sPoo (x : Nat) : Nat :=
  sBelow x + (startOf (indexOf x) (levelOf x) - Spec.popc 64 (startOf (indexOf x) (levelOf x)))

def sPor (x : Nat) : Nat × Nat := (sPoo x - sBelow x, sPoo x + 1)

/-- the thirteen tokens the `node` verdict expects -/
def specTokens (x : Nat) : List String :=
  [toString (levelOf x), toString (x + 1), bool01 (levelOf x == 0), optNat (sLc x), optNat (sRc x),
    optNat (sPar x), toString (sBelow x), optNat (sNla x), pair (sNr x), pair (sCr x),
    toString (sRcnt x), toString (sPoo x), pair (sPor x)]

/-- the thirteen tokens the model prints -/
def modelTokens (x : Nat) : List String :=
  [toString (Node.level x), toString (Node.mid x), bool01 (Node.isLeaf x),
    optNat (Node.leftChild x), optNat (Node.rightChild x), optNat (Node.parent x),
    toString (Node.countBelow x), optNat (Node.nextLeftAncestor x),
    pair (Node.nodeRange x), pair (Node.chunkRange x), toString (Node.rightCount x),
    toString (Node.postOrderOffset x), pair (Node.postOrderRange x)]

/-- the copies ARE the `let`s of `nodeSpecStr` -/
theorem nodeSpecStr_eq (x : Nat) : nodeSpecStr x = " ".intercalate (specTokens x) := rfl

theorem nodeStr_eq_tokens (x : Nat) : nodeStr x = " ".intercalate (modelTokens x) := rfl

theorem coords_lt {x : Nat} (hx : x + 1 < 2 ^ 64) :
    ∃ k L, L < 64 ∧ x = nodeOf k L ∧ levelOf x = L ∧ indexOf x = k := by
  obtain ⟨k, L, rfl⟩ := coords_exist x
  have hL := level_lt hx
  exact ⟨k, L, hL, rfl, levelOf_nodeOf (by omega), indexOf_nodeOf (by omega)⟩

theorem level_clause {x : Nat} (hx : x < 2 ^ 64) : Node.level x = levelOf x := (coords_eq hx).2

theorem mid_clause (x : Nat) : Node.mid x = x + 1 := rfl

theorem isLeaf_clause {x : Nat} (hx : x < 2 ^ 64) : Node.isLeaf x = (levelOf x == 0) := by
  obtain ⟨k, L, rfl⟩ := coords_exist x
  rw [levelOf_nodeOf (level_le hx), isLeaf_spec]
  cases L <;> rfl

theorem leftChild_clause {x : Nat} (hx : x < 2 ^ 64) : Node.leftChild x = sLc x := by
  obtain ⟨k, L, rfl⟩ := coords_exist x
  have hL := level_le hx
  unfold sLc
  rw [levelOf_nodeOf hL, indexOf_nodeOf hL]
  cases L with
  | zero => simp [leftChild_leaf]
  | succ n => simp [leftChild_spec hL]

theorem rightChild_clause {x : Nat} (hx : x < 2 ^ 64) : Node.rightChild x = sRc x := by
  obtain ⟨k, L, rfl⟩ := coords_exist x
  have hL := level_le hx
  unfold sRc
  rw [levelOf_nodeOf hL, indexOf_nodeOf hL]
  cases L with
  | zero => simp [rightChild_leaf]
  | succ n => simp [rightChild_spec hL]

theorem parent_clause {x : Nat} (hx : x + 1 < 2 ^ 64) : Node.parent x = sPar x := by
  obtain ⟨k, L, hL, rfl, eL, ek⟩ := coords_lt hx
  unfold sPar
  rw [eL, ek]
  by_cases h63 : L = 63
  · subst h63; simp [parent_top]
  · rw [if_neg h63, parent_spec (by omega)]

theorem countBelow_clause {x : Nat} (hx : x + 1 < 2 ^ 64) : Node.countBelow x = sBelow x := by
  obtain ⟨k, L, hL, rfl, eL, ek⟩ := coords_lt hx
  unfold sBelow
  rw [eL, countBelow_spec hx]

theorem nextLeftAncestor_clause {x : Nat} (hx : x < 2 ^ 64) : Node.nextLeftAncestor x = sNla x := by
  obtain ⟨k, L, rfl⟩ := coords_exist x
  have hL := level_le hx
  unfold sNla
  rw [levelOf_nodeOf hL, indexOf_nodeOf hL, nextLeftAncestor_spec, nodeOf_succ, startOf_eq,
    Nat.add_sub_cancel]

theorem nodeRange_clause {x : Nat} (hx : x < 2 ^ 64) : Node.nodeRange x = sNr x := by
  obtain ⟨k, L, rfl⟩ := coords_exist x
  have hL := level_le hx
  unfold sNr
  rw [levelOf_nodeOf hL, indexOf_nodeOf hL, nodeRange_spec hL]

theorem chunkRange_clause {x : Nat} (hx : x < 2 ^ 64) : Node.chunkRange x = sCr x := by
  obtain ⟨k, L, rfl⟩ := coords_exist x
  have hL := level_le hx
  unfold sCr
  rw [levelOf_nodeOf hL, indexOf_nodeOf hL, chunkRange_spec hL]

/-- no bound needed: both sides count the one bits of `x + 1` with fuel 64 -/
theorem rightCount_clause (x : Nat) : Node.rightCount x = sRcnt x := by
  unfold sRcnt Node.rightCount
  rw [popc64_eq]

theorem postOrderOffset_clause {x : Nat} (hx : x + 1 < 2 ^ 64) :
    Node.postOrderOffset x = sPoo x := by
  obtain ⟨k, L, hL, rfl, eL, ek⟩ := coords_lt hx
  unfold sPoo sBelow
  rw [eL, ek, popc64_eq, postOrderOffset_spec hx]

theorem postOrderRange_clause {x : Nat} (hx : x + 1 < 2 ^ 64) :
    Node.postOrderRange x = sPor x := by
  unfold sPor Node.postOrderRange
  rw [postOrderOffset_clause hx, countBelow_clause hx]

theorem modelTokens_eq {x : Nat} (hx : x + 1 < 2 ^ 64) : modelTokens x = specTokens x := by
  have h : x < 2 ^ 64 := by omega
  unfold modelTokens specTokens
  rw [level_clause h, mid_clause, isLeaf_clause h, leftChild_clause h, rightChild_clause h,
    parent_clause hx, countBelow_clause hx, nextLeftAncestor_clause h, nodeRange_clause h,
    chunkRange_clause h, rightCount_clause, postOrderOffset_clause hx, postOrderRange_clause hx]

theorem nodeStr_eq {x : Nat} (hx : x + 1 < 2 ^ 64) : nodeStr x = nodeSpecStr x := by
  rw [nodeStr_eq_tokens, nodeSpecStr_eq, modelTokens_eq hx]

theorem verdict_none_iff (impl spec msg : String) :
    (if impl == spec then none else some msg) = none ↔ impl = spec := by
  by_cases e : impl = spec
  · simp [e]
  · have : (impl == spec) = false := by simpa using e
    simp [this, e]

theorem opNode_eq (a impl : String) (x : Nat) (h : a.toNat? = some x) :
    (opNode [a] impl).model = nodeStr x ∧
    (opNode [a] impl).specFail
      = (if impl == nodeSpecStr x then none else some s!"spec={nodeSpecStr x}") := by
  unfold opNode
  simp only [h, and_self]

/-- the model's output of `nodebs x n` -/
def nodeBsModel (x n : Nat) : String := s!"{Node.subBs x n} {optNat (Node.addBs x n)}"

def sSub (x n : Nat) : Nat := nodeOf (indexOf x) (levelOf x + n)

def sAdd (x n : Nat) : Option Nat :=
  if levelOf x ≥ n then some (nodeOf (indexOf x) (levelOf x - n)) else none

/-- the string the `nodebs` verdict compares with -/
def nodeBsSpec (x n : Nat) : String := s!"{sSub x n} {optNat (sAdd x n)}"

theorem opNodeBs_eq (args : List String) (impl : String) (x n : Nat)
    (h : args.mapM (·.toNat?) = some [x, n]) :
    (opNodeBs args impl).model = nodeBsModel x n ∧
    (opNodeBs args impl).specFail
      = (if impl == nodeBsSpec x n then none else some s!"spec={nodeBsSpec x n}") := by
  unfold opNodeBs
  simp only [h]
  exact ⟨rfl, rfl⟩

theorem subBs_clause {x n : Nat} (hx : x < 2 ^ 64) (h : (x + 1) * 2 ^ n ≤ 2 ^ 64) :
    Node.subBs x n = sSub x n := by
  obtain ⟨k, L, rfl⟩ := coords_exist x
  have hL := level_le hx
  unfold sSub
  rw [levelOf_nodeOf hL, indexOf_nodeOf hL]
  rw [succ_mul_pow] at h
  exact subBs_spec (by omega)

theorem addBs_clause {x n : Nat} (hx : x < 2 ^ 64) : Node.addBs x n = sAdd x n := by
  obtain ⟨k, L, rfl⟩ := coords_exist x
  have hL := level_le hx
  unfold sAdd
  rw [levelOf_nodeOf hL, indexOf_nodeOf hL, addBs_spec]

theorem nodeBsModel_eq {x n : Nat} (hx : x < 2 ^ 64) (h : (x + 1) * 2 ^ n ≤ 2 ^ 64) :
    nodeBsModel x n = nodeBsSpec x n := by
  unfold nodeBsModel nodeBsSpec
  rw [subBs_clause hx h, addBs_clause hx]

theorem up_succ (len f k L : Nat) : opNodeRp.up len (f + 1) k L =
    if L ≥ 63 then none else
      if nodeOf (k / 2) (L + 1) < len then some (nodeOf (k / 2) (L + 1))
      else opNodeRp.up len f (k / 2) (L + 1) := rfl

theorem rpa_succ (f x len : Nat) : Node.restrictedParentAux (f + 1) x len =
    match Node.parent x with
    | none => none
    | some p => if p < len then some p else Node.restrictedParentAux f p len := rfl

/-- the verdict's walk in `(k, L)` coordinates is the model's loop, step by step -/
theorem up_eq (len fuel k L : Nat) (hL : L ≤ 63) :
    opNodeRp.up len fuel k L = Node.restrictedParentAux fuel (nodeOf k L) len := by
  induction fuel generalizing k L with
  | zero => rfl
  | succ f ih =>
    rw [up_succ, rpa_succ]
    by_cases h63 : L = 63
    · have hge : L ≥ 63 := by omega
      rw [if_pos hge, h63, parent_top]
    · have hL' : L < 63 := by omega
      have hn : ¬ L ≥ 63 := by omega
      rw [if_neg hn, parent_spec hL']
      show _ = if nodeOf (k / 2) (L + 1) < len then _ else _
      rw [ih (k / 2) (L + 1) (by omega)]

def sRp (x len : Nat) : Option Nat := opNodeRp.up len 64 (indexOf x) (levelOf x)

theorem restrictedParent_clause {x : Nat} (len : Nat) (hx : x + 1 < 2 ^ 64) :
    Node.restrictedParent x len = sRp x len := by
  obtain ⟨k, L, hL, rfl, eL, ek⟩ := coords_lt hx
  unfold sRp Node.restrictedParent
  rw [eL, ek, up_eq len 64 k L (by omega)]

/-! ### `noderp` at `x = u64::MAX` (level 64), `len` a `u64`

Above `2^64` the model's `parent` (level capped at 64 by the fuel of `trailingOnes`) oscillates
between `2^65 − 1` and `2^65 + 2^64 − 1`, never below `len ≤ 2^64`; the verdict stops at once. -/

theorem parent_max : Node.parent (2 ^ 64 - 1) = some (2 ^ 65 - 1) := by decide +kernel
theorem parent_above₁ : Node.parent (2 ^ 65 - 1) = some (2 ^ 65 + 2 ^ 64 - 1) := by decide +kernel
theorem parent_above₂ : Node.parent (2 ^ 65 + 2 ^ 64 - 1) = some (2 ^ 65 - 1) := by decide +kernel

theorem rpa_above (len f : Nat) (hlen : len ≤ 2 ^ 64) :
    Node.restrictedParentAux f (2 ^ 65 - 1) len = none ∧
    Node.restrictedParentAux f (2 ^ 65 + 2 ^ 64 - 1) len = none := by
  induction f with
  | zero => exact ⟨rfl, rfl⟩
  | succ f ih =>
    rw [rpa_succ, rpa_succ, parent_above₁, parent_above₂]
    simp only
    rw [if_neg (by omega), if_neg (by omega)]
    exact ⟨ih.2, ih.1⟩

theorem restrictedParent_max {len : Nat} (hlen : len ≤ 2 ^ 64) :
    Node.restrictedParent (2 ^ 64 - 1) len = none := by
  unfold Node.restrictedParent
  rw [show (64 : Nat) = 63 + 1 from rfl, rpa_succ, parent_max]
  simp only
  rw [if_neg (by omega)]
  exact (rpa_above len 63 hlen).1

theorem sRp_max (len : Nat) : sRp (2 ^ 64 - 1) len = none := by
  unfold sRp
  rw [show levelOf (2 ^ 64 - 1) = 64 by decide +kernel, show (64 : Nat) = 63 + 1 from rfl, up_succ,
    if_pos (by omega)]

theorem restrictedParent_clause_u64 {x len : Nat} (hx : x < 2 ^ 64) (hlen : len ≤ 2 ^ 64) :
    Node.restrictedParent x len = sRp x len := by
  by_cases h : x + 1 < 2 ^ 64
  · exact restrictedParent_clause len h
  · obtain rfl : x = 2 ^ 64 - 1 := by omega
    rw [restrictedParent_max hlen, sRp_max]

theorem opNodeRp_eq (args : List String) (impl : String) (x len : Nat)
    (h : args.mapM (·.toNat?) = some [x, len]) :
    (opNodeRp args impl).model = optNat (Node.restrictedParent x len) ∧
    (opNodeRp args impl).specFail
      = (if impl == optNat (sRp x len) then none else some s!"spec={optNat (sRp x len)}") := by
  unfold opNodeRp
  rw [h]
  exact ⟨rfl, rfl⟩

theorem mapM_two (x y : Nat) :
    [toString x, toString y].mapM (·.toNat?) = some [x, y] :=
  SpecIndex.mapM_toNat?_toString [x, y]

end Bao.SpecNode
