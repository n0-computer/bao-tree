import BaoModel.Ops1
import BaoProofs.Lemmas.PlanPreTop

/-!
# Lemmas for "the executable predicate `Bao.Ops.planPreWF` never rejects the model"

1. `planPreWF` is cut into named clauses (`emptySelB`, `stackEnd`, `rootFlags`, `leavesOf`,
   `planPreWF.incr`, `inBlobB`, `coverB`, `leafOkB`, `parentsOkB`); `planPreWF_eq` (by `rfl`)
   shows that the predicate is exactly the cascade of these clauses.
2. `PlanOK size bs ml q p`: the `Prop`-level content of the clauses in the vocabulary of C15
   (`stackRun`, `rootFlag`, `leafSpans`, `covered`, `Spec.selected`).
3. one lemma per clause: `PlanOK` field(s) ⇒ the Boolean clause evaluates to `true`
   (`stackEnd_eq`, `rootFlags_ok`, `incr_ok`, `inBlob_ok`, `cover_ok`, `leafOk_ok`,
   `parentsOk_ok`), and `planPreWF_none_of_ok`.
4. three facts about the recursive plan `PlanPre.planPre` that C15 does not state: `leaf_pos` (a
   leaf is empty only in the empty blob), `leaf_height` (a leaf is an aligned unit of `2^h` chunks,
   `h ≤ max bs ml`, `h ≤ bs` unless its ranges are "all") — both read off `PlanPre.leaf_shape` —
   and `parent_meet_aux` (the flags of a parent say which halves of its chunk range contain a
   selected chunk, and its mid lies inside the blob; by `PlanPre.item_sub`).
5. `planOK_plan`: the recursive plan satisfies `PlanOK`; `PlanOK` is stable under
   `Chunk.withoutRanges` and under raising the block size parameter to 0 (response plan).
-/

namespace Bao.SpecPre
open Bao Bao.Ops Bao.Spec Bao.PlanPre Bao.Bits

def selB (size : Nat) (q : Ranges) : Nat → Bool := fun c => Spec.selected size q c

/-- clause 0: no chunk of the blob is selected -/
def emptySelB (size : Nat) (q : Ranges) : Bool :=
  (List.range (Spec.nChunks size)).all (fun c => !selB size q c)

/-- one step of the hash stack of clause 1 -/
def stackStep (h : Option Nat) (c : Chunk) : Option Nat :=
  match h with
  | none => none
  | some h =>
    if h == 0 then none else
    match c with
    | .parent _ _ l r _ => some (h - 1 + (if l then 1 else 0) + (if r then 1 else 0))
    | .leaf .. => some (h - 1)

/-- clause 1: the hash stack after the plan, starting from one expected hash -/
def stackEnd (plan : List Chunk) : Option Nat := plan.foldl stackStep (some 1)

/-- clause 2: the list of `is_root` flags -/
def rootFlags (plan : List Chunk) : List Bool :=
  plan.map fun c => match c with | .parent _ r _ _ _ => r | .leaf _ _ r _ => r

def leavesOf (plan : List Chunk) : List (Nat × Nat) :=
  plan.filterMap fun c => match c with | .leaf s z _ _ => some (s, z) | _ => none

/-- clause 3b: leaves inside the blob, empty only in the empty blob -/
def inBlobB (size : Nat) (leaves : List (Nat × Nat)) : Bool :=
  leaves.all fun (s, z) => s * 1024 + z ≤ size && (z > 0 || size == 0)

def coveredB (leaves : List (Nat × Nat)) (c : Nat) : Bool :=
  leaves.any fun (s, z) => s ≤ c && c * 1024 < s * 1024 + max z 1

/-- clause 4a: every selected chunk is covered -/
def coverB (size : Nat) (q : Ranges) (leaves : List (Nat × Nat)) : Bool :=
  (List.range (Spec.nChunks size)).all fun c => !selB size q c || coveredB leaves c

/-- clause 4b: every leaf is an aligned unit touched by the selection -/
def leafOkB (size bs ml : Nat) (q : Ranges) (leaves : List (Nat × Nat)) : Bool :=
  leaves.all fun (s, z) =>
    let cnt := max 1 ((z + 1023) / 1024)
    let hasSel := (List.range cnt).any fun i => selB size q (s + i)
    let allSel := (List.range cnt).all fun i => selB size q (s + i)
    let aligned := (List.range 64).any fun h => cnt ≤ 2 ^ h && s % 2 ^ h == 0 && 2 ^ h ≤ 2 ^ max bs ml
    hasSel && aligned && (cnt ≤ 2 ^ bs || allSel)

/-- clause 5: parent flags -/
def parentsOkB (size : Nat) (q : Ranges) (plan : List Chunk) : Bool :=
  plan.all fun c =>
    match c with
    | .parent node _ l r _ =>
      let cr := Node.chunkRange node
      let mid := Node.mid node
      let meetL := (List.range (mid - cr.1)).any fun i => selB size q (cr.1 + i)
      let meetR := (List.range (min cr.2 (Spec.nChunks size) - mid)).any fun i => selB size q (mid + i)
      l == meetL && r == meetR && decide (mid < Spec.nChunks size)
    | _ => true

/-- the predicate is the cascade of its clauses (definitional unfolding) -/
theorem planPreWF_eq (size bs ml : Nat) (q : Ranges) (plan : List Chunk) :
    planPreWF size bs ml q plan =
      if emptySelB size q then
        (if plan.isEmpty then none else some "empty selection but non-empty plan")
      else if stackEnd plan != some 0 then some s!"hash stack: {repr (stackEnd plan)}"
      else if rootFlags plan != (true :: List.replicate (plan.length - 1) false) then some "root flag"
      else if !planPreWF.incr (leavesOf plan) then some "leaves not increasing / overlapping"
      else if !inBlobB size (leavesOf plan) then some "leaf outside the blob"
      else if !coverB size q (leavesOf plan) then some "a selected chunk is not covered"
      else if !leafOkB size bs ml q (leavesOf plan) then
        some "a leaf is not an aligned unit touched by the selection"
      else if !parentsOkB size q plan then some "parent flags" else none := rfl

theorem foldl_stackStep_none (p : List Chunk) : p.foldl stackStep none = none := by
  induction p with
  | nil => rfl
  | cons c p ih => exact ih

theorem foldl_stackStep_some (h : Nat) (p : List Chunk) :
    p.foldl stackStep (some h) = stackRun h p := by
  induction p generalizing h with
  | nil => rfl
  | cons c p ih =>
    cases c with
    | parent n ir l r x =>
      simp only [List.foldl_cons, stackStep, stackRun]
      by_cases h0 : h = 0
      · simp [h0, foldl_stackStep_none]
      · simp only [beq_iff_eq, h0, if_false]; exact ih _
    | leaf s z ir x =>
      simp only [List.foldl_cons, stackStep, stackRun]
      by_cases h0 : h = 0
      · simp [h0, foldl_stackStep_none]
      · simp only [beq_iff_eq, h0, if_false]; exact ih _

theorem stackEnd_eq (p : List Chunk) : stackEnd p = stackRun 1 p := foldl_stackStep_some 1 p

theorem rootFlags_eq (p : List Chunk) : rootFlags p = p.map Chunk.rootFlag := by
  unfold rootFlags
  apply List.map_congr_left
  intro c _; cases c <;> rfl

theorem rootFlags_ok {p : List Chunk}
    (h : ∃ c tail, p = c :: tail ∧ c.rootFlag = true ∧ ∀ c' ∈ tail, c'.rootFlag = false) :
    rootFlags p = true :: List.replicate (p.length - 1) false := by
  obtain ⟨c, tail, rfl, hc, ht⟩ := h
  rw [rootFlags_eq, List.map_cons, hc]
  congr 1
  rw [List.eq_replicate_iff]
  refine ⟨by simp, ?_⟩
  intro b hb
  obtain ⟨c', hc', rfl⟩ := List.mem_map.1 hb
  exact ht c' hc'

theorem mem_leavesOf {p : List Chunk} {s z : Nat} :
    (s, z) ∈ leavesOf p ↔ ∃ r x, Chunk.leaf s z r x ∈ p := by
  unfold leavesOf
  rw [List.mem_filterMap]
  constructor
  · rintro ⟨c, hc, e⟩
    cases c with
    | parent => simp at e
    | leaf s' z' r x =>
      simp only [Option.some.injEq, Prod.mk.injEq] at e
      obtain ⟨rfl, rfl⟩ := e
      exact ⟨r, x, hc⟩
  · rintro ⟨r, x, h⟩
    exact ⟨_, h, rfl⟩

theorem leafSpans_eq_map (p : List Chunk) :
    leafSpans p = (leavesOf p).map fun a => (a.1, a.1 + max 1 (chunksOf a.2)) := by
  induction p with
  | nil => rfl
  | cons c p ih =>
    cases c with
    | parent n ir l r x => exact ih
    | leaf s z ir x => exact congrArg ((s, s + max 1 (chunksOf z)) :: ·) ih

theorem incr_of_pairwise : ∀ l : List (Nat × Nat),
    l.Pairwise (fun a b => a.1 + (a.2 + 1023) / 1024 ≤ b.1 ∧ 0 < a.2) →
    planPreWF.incr l = true
  | [], _ => by simp [planPreWF.incr]
  | [_], _ => by simp [planPreWF.incr]
  | (s1, z1) :: (s2, z2) :: rest, h => by
    have h1 := List.pairwise_cons.1 h
    have h2 := h1.1 (s2, z2) (by simp)
    simp only [planPreWF.incr, Bool.and_eq_true, decide_eq_true_eq]
    exact ⟨⟨h2.1, h2.2⟩, incr_of_pairwise _ h1.2⟩

/-- what the clauses of `planPreWF size bs ml q` say about a plan `p`, in the vocabulary of C15 -/
structure PlanOK (size bs ml : Nat) (q : Ranges) (p : List Chunk) : Prop where
  /-- clause 1 -/
  stack : stackRun 1 p = some 0
  /-- clause 2 -/
  root : ∃ c tail, p = c :: tail ∧ c.rootFlag = true ∧ ∀ c' ∈ tail, c'.rootFlag = false
  /-- clause 3: consecutive (indeed all) leaf spans are ordered and disjoint -/
  spans : (leafSpans p).Pairwise (fun a b => a.2 ≤ b.1)
  /-- clause 3b -/
  inBlob : ∀ s z r x, Chunk.leaf s z r x ∈ p → toBytes s + z ≤ size
  /-- clause 3 / 3b: a leaf is empty only in the empty blob -/
  pos : ∀ s z r x, Chunk.leaf s z r x ∈ p → 0 < z ∨ size = 0
  /-- a leaf span ends inside the blob -/
  spanEnd : ∀ s z r x, Chunk.leaf s z r x ∈ p → s + max 1 (chunksOf z) ≤ Spec.nChunks size
  /-- clause 4a -/
  complete : ∀ c, Spec.selected size q c = true → covered p c
  /-- clause 4b, `hasSel` -/
  sound : ∀ s z r x, Chunk.leaf s z r x ∈ p →
    ∃ c, s ≤ c ∧ c < s + max 1 (chunksOf z) ∧ Spec.selected size q c = true
  /-- clause 4b, `aligned` and `cnt ≤ 2^bs || allSel` -/
  unit : ∀ s z r x, Chunk.leaf s z r x ∈ p →
    ∃ h, h < 64 ∧ max 1 (chunksOf z) ≤ 2 ^ h ∧ s % 2 ^ h = 0 ∧ h ≤ max bs ml ∧
      (h ≤ bs ∨ ∀ c, s ≤ c → c < s + max 1 (chunksOf z) → Spec.selected size q c = true)
  /-- clause 5 -/
  parents : ∀ node ir lf rf x, Chunk.parent node ir lf rf x ∈ p →
    (lf = true ↔ ∃ c, (Node.chunkRange node).1 ≤ c ∧ c < Node.mid node ∧
      Spec.selected size q c = true) ∧
    (rf = true ↔ ∃ c, Node.mid node ≤ c ∧
      c < min (Node.chunkRange node).2 (Spec.nChunks size) ∧ Spec.selected size q c = true) ∧
    Node.mid node < Spec.nChunks size

variable {size bs ml : Nat} {q : Ranges} {p : List Chunk}

theorem incr_ok (h : PlanOK size bs ml q p) : planPreWF.incr (leavesOf p) = true := by
  apply incr_of_pairwise
  have hs := h.spans
  rw [leafSpans_eq_map, List.pairwise_map] at hs
  refine List.Pairwise.imp_of_mem ?_ hs
  rintro ⟨s1, z1⟩ ⟨s2, z2⟩ ha hb hab
  obtain ⟨r1, x1, m1⟩ := mem_leavesOf.1 ha
  obtain ⟨r2, x2, m2⟩ := mem_leavesOf.1 hb
  have hp := h.pos s1 z1 r1 x1 m1
  have he := h.spanEnd s2 z2 r2 x2 m2
  simp only at hab ⊢
  rw [Ranges.chunksOf_eq_div] at hab he
  refine ⟨Nat.le_trans (Nat.add_le_add_left (Nat.le_max_right 1 _) s1) hab, ?_⟩
  rcases hp with hp | hp
  · exact hp
  · -- in the empty blob there is room for one leaf only
    subst hp
    have : Spec.nChunks 0 = 1 := by decide
    generalize (z1 + 1023) / 1024 = a at hab
    generalize (z2 + 1023) / 1024 = b at he
    omega

theorem inBlob_ok (h : PlanOK size bs ml q p) : inBlobB size (leavesOf p) = true := by
  unfold inBlobB
  rw [List.all_eq_true]
  rintro ⟨s, z⟩ hm
  obtain ⟨r, x, m⟩ := mem_leavesOf.1 hm
  have h1 := h.inBlob s z r x m
  have h2 := h.pos s z r x m
  unfold toBytes at h1
  simp only [Bool.and_eq_true, Bool.or_eq_true, decide_eq_true_eq, beq_iff_eq]
  exact ⟨h1, h2⟩

/-- the clauses compare bytes, `covered` compares chunks -/
theorem lt_span_iff (s z c : Nat) :
    c < s + max 1 (chunksOf z) ↔ c * 1024 < s * 1024 + max z 1 := by
  rw [Ranges.chunksOf_eq_div]; omega

theorem coveredB_iff {p : List Chunk} {c : Nat} :
    coveredB (leavesOf p) c = true ↔ covered p c := by
  unfold coveredB covered
  simp only [List.any_eq_true, Bool.and_eq_true, decide_eq_true_eq, Prod.exists, mem_leavesOf,
    ← lt_span_iff]
  constructor
  · rintro ⟨s, z, ⟨r, x, m⟩, h1, h2⟩; exact ⟨s, z, r, x, m, h1, h2⟩
  · rintro ⟨s, z, r, x, m, h1, h2⟩; exact ⟨s, z, ⟨r, x, m⟩, h1, h2⟩

theorem cover_ok (h : PlanOK size bs ml q p) : coverB size q (leavesOf p) = true := by
  unfold coverB
  rw [List.all_eq_true]
  intro c _
  cases hs : selB size q c with
  | false => rfl
  | true =>
    simp only [Bool.not_true, Bool.false_or]
    exact coveredB_iff.2 (h.complete c hs)

theorem leafOk_ok (h : PlanOK size bs ml q p) : leafOkB size bs ml q (leavesOf p) = true := by
  unfold leafOkB
  rw [List.all_eq_true]
  rintro ⟨s, z⟩ hm
  obtain ⟨r, x, m⟩ := mem_leavesOf.1 hm
  obtain ⟨c, hc1, hc2, hc3⟩ := h.sound s z r x m
  obtain ⟨e, he, hcnt, hal, hle, hor⟩ := h.unit s z r x m
  rw [Ranges.chunksOf_eq_div] at hc2 hcnt hor
  simp only [Bool.and_eq_true, Bool.or_eq_true, decide_eq_true_eq]
  refine ⟨⟨?_, ?_⟩, ?_⟩
  · have := (any_range_sub_iff (selB size q) s (s + _)).2 ⟨c, hc1, hc2, hc3⟩
    rwa [Nat.add_sub_cancel_left] at this
  · rw [List.any_eq_true]
    refine ⟨e, List.mem_range.2 he, ?_⟩
    simp only [Bool.and_eq_true, decide_eq_true_eq, beq_iff_eq]
    exact ⟨⟨hcnt, hal⟩, Nat.pow_le_pow_right (by decide) hle⟩
  · rcases hor with hor | hor
    · left; exact Nat.le_trans hcnt (Nat.pow_le_pow_right (by decide) hor)
    · have := (all_range_sub_iff (selB size q) s (s + _)).2 hor
      rw [Nat.add_sub_cancel_left] at this
      exact Or.inr this

theorem parentsOk_ok (h : PlanOK size bs ml q p) : parentsOkB size q p = true := by
  unfold parentsOkB
  rw [List.all_eq_true]
  intro c hc
  cases c with
  | leaf => rfl
  | parent node ir lf rf x =>
    obtain ⟨hl, hr, hm⟩ := h.parents node ir lf rf x hc
    simp only [Bool.and_eq_true, decide_eq_true_eq, beq_iff_eq]
    exact ⟨⟨by rw [Bool.eq_iff_iff, hl, any_range_sub_iff]; rfl,
      by rw [Bool.eq_iff_iff, hr, any_range_sub_iff]; rfl⟩, hm⟩

theorem planPreWF_none_of_ok (h0 : emptySelB size q = true → p = [])
    (h : emptySelB size q = false → PlanOK size bs ml q p) :
    planPreWF size bs ml q p = none := by
  rw [planPreWF_eq]
  cases he : emptySelB size q with
  | true => rw [h0 he]; rfl
  | false =>
    have ok := h he
    rw [stackEnd_eq, ok.stack, rootFlags_ok ok.root, incr_ok ok, inBlob_ok ok, cover_ok ok,
      leafOk_ok ok, parentsOk_ok ok]
    simp

section planFacts
variable {filled root : Nat}

theorem leaf_pos (g : Geo size bs filled) (L k : Nat) (rs : Ranges) :
    ∀ s z r x, Chunk.leaf s z r x ∈ planPre size bs ml filled root L k rs → 0 < z ∨ size = 0 := by
  intro s z r x hm
  obtain ⟨e, hse, h0, rfl, -, -⟩ := leaf_shape g hm
  rcases h0 with rfl | h0
  · exact (Nat.eq_zero_or_pos size).symm.imp (fun hs => Nat.lt_min.2 ⟨toBytes_lt hse, hs⟩) id
  · exact Or.inl (Nat.sub_pos_of_lt (Nat.lt_min.2 ⟨toBytes_lt hse, h0⟩))

theorem level_small (g : Geo size bs filled) (hs : size ≤ 2 ^ 63) (hbs : bs ≤ 10) {L k : Nat}
    (hlt : nodeOf k L < filled) : L + bs + 1 < 64 := by
  cases L with
  | zero => omega
  | succ L =>
    have h1 := g.mid_lt hlt
    have h2 : 2 ^ (L + 1 + bs) ≤ midOf k (L + 1 + bs) := by
      rw [midOf_eq]; omega
    unfold toBytes at h1
    have h3 : 2 ^ (L + 1 + bs) * 1024 < 2 ^ 63 := by
      have : 2 ^ (L + 1 + bs) * 1024 ≤ midOf k (L + 1 + bs) * 1024 := Nat.mul_le_mul_right _ h2
      exact Nat.lt_of_le_of_lt this (Nat.lt_of_lt_of_le h1 hs)
    have h3 : 2 ^ (L + 1 + bs + 10) < 2 ^ 63 := by
      rw [Nat.pow_add]; exact h3
    have := (Nat.pow_lt_pow_iff_right (a := 2) (by decide)).1 h3
    omega

/-- every leaf is an aligned unit of `2^h` chunks with `h ≤ max bs ml`; `h ≤ bs` unless the
attached ranges are "all" -/
theorem leaf_height (g : Geo size bs filled) (hs : size ≤ 2 ^ 63) (hbs : bs ≤ 10)
    (L k : Nat) (rs : Ranges) :
    ∀ s z r x, Chunk.leaf s z r x ∈ planPre size bs ml filled root L k rs →
      ∃ h, h < 64 ∧ max 1 (chunksOf z) ≤ 2 ^ h ∧ s % 2 ^ h = 0 ∧ h ≤ max bs ml ∧
        (h ≤ bs ∨ Ranges.isAll x = true) := by
  intro s z r x hm
  obtain ⟨e, hse, -, rfl, hal, rfl | ⟨L', k', hlt, hml, hall, rfl, rfl⟩⟩ := leaf_shape g hm
  ·
    exact ⟨bs, Nat.lt_of_le_of_lt hbs (show 10 < 64 by decide),
      Nat.le_of_add_le_add_left (clipped_span_le hse),
      hal, Nat.le_max_left _ _, Or.inl (Nat.le_refl _)⟩
  ·
    have hX := Nat.le_trans (clipped_span_le (size := size) hse)
      (Nat.le_of_eq (Offsets.endOf_start k' (L' + bs)))
    exact ⟨L' + bs + 1, level_small g hs hbs hlt, Nat.le_of_add_le_add_left hX,
      Nat.mul_mod_left _ _, Nat.le_trans hml (Nat.le_max_right _ _), Or.inr hall⟩

theorem exists_congr_sel {a b : Nat} {f g : Nat → Bool} (h : ∀ c, a ≤ c → c < b → f c = g c) :
    (∃ c, a ≤ c ∧ c < b ∧ f c = true) ↔ (∃ c, a ≤ c ∧ c < b ∧ g c = true) := by
  constructor
  · rintro ⟨c, h1, h2, h3⟩; exact ⟨c, h1, h2, by rwa [← h c h1 h2]⟩
  · rintro ⟨c, h1, h2, h3⟩; exact ⟨c, h1, h2, by rwa [h c h1 h2]⟩

theorem ne_nil_iff_selects {rs : Ranges} {s e : Nat} (hwf : Ranges.WF rs = true) (ht : Tight rs s)
    (hb : Bounded size rs e) (hse : s < e) (hsN : s < nChunks size) :
    rs ≠ [] ↔ ∃ c, s ≤ c ∧ c < min e (nChunks size) ∧ Spec.selected size rs c = true :=
  ⟨fun hne => leaf_witness hwf hne ht hb hse hsN, fun ⟨_, _, _, h⟩ => ne_nil_of_selected h⟩

theorem own_flags {rs : Ranges} {s m e : Nat} (hwf : Ranges.WF rs = true) (ht : Tight rs s)
    (hb : Bounded size rs e) (hsm : s < m) (hme : m < e) (hmN : m < nChunks size) :
    ((!(Ranges.splitInner rs s m).1.isEmpty) = true ↔
      ∃ c, s ≤ c ∧ c < m ∧ Spec.selected size rs c = true) ∧
    ((!(Ranges.splitInner rs s m).2.isEmpty) = true ↔
      ∃ c, m ≤ c ∧ c < min e (nChunks size) ∧ Spec.selected size rs c = true) := by
  have hwfs := C14.splitInner_wf s m hwf
  constructor
  · rw [not_isEmpty_eq_true_iff, ne_nil_iff_selects hwfs.1 (tight_left m ht)
      (Or.inr (left_lt_mid rs s (Nat.zero_lt_of_lt hsm))) hsm (Nat.lt_trans hsm hmN),
      Nat.min_eq_left (Nat.le_of_lt hmN)]
    exact exists_congr_sel fun c h1 h2 => selected_left hwf h1 h2 hmN
  · rw [not_isEmpty_eq_true_iff, ne_nil_iff_selects hwfs.2 (tight_right hwf s m)
      (bounded_right hwf s m (Nat.zero_lt_of_lt hme) hb) hme hmN]
    exact exists_congr_sel fun c h1 _ => selected_right hwf h1

/-- what is claimed about a parent item below node `(k, L)` with sub-query `rs` -/
def ParentFact (size bs : Nat) (L k : Nat) (rs : Ranges) (node : Nat) (lf rf : Bool) : Prop :=
  ∃ k' L', node = nodeOf k' (L' + bs) ∧ L' + bs ≤ 64 ∧
    startOf k (L + bs) ≤ startOf k' (L' + bs) ∧ endOf k' (L' + bs) ≤ endOf k (L + bs) ∧
    midOf k' (L' + bs) < nChunks size ∧
    (lf = true ↔ ∃ c, startOf k' (L' + bs) ≤ c ∧ c < midOf k' (L' + bs) ∧
      Spec.selected size rs c = true) ∧
    (rf = true ↔ ∃ c, midOf k' (L' + bs) ≤ c ∧ c < min (endOf k' (L' + bs)) (nChunks size) ∧
      Spec.selected size rs c = true)

theorem parent_meet_aux (g : Geo size bs filled) (L k : Nat) (rs : Ranges) :
    Ranges.WF rs = true → Tight rs (startOf k (L + bs)) → Bounded size rs (endOf k (L + bs)) →
    ∀ node ir lf rf x, Chunk.parent node ir lf rf x ∈ planPre size bs ml filled root L k rs →
      ParentFact size bs L k rs node lf rf := by
  intro hwf ht hb node ir lf rf x hm
  obtain ⟨L', k', rs', hS, -, hlt, hown⟩ := item_sub g hwf ht hb hm
  rcases hown with ⟨e, -⟩ | ⟨hmid, e | ⟨-, ⟨-, e⟩ | ⟨-, e⟩⟩⟩
  · simp [nodeLeaf] at e
  · -- the parent item of node `(k', L')`: its flags are those of its sub-query `rs'`, which selects
    -- the same chunks of the node's range as `rs`
    simp only [nodeParent, Chunk.parent.injEq] at e
    obtain ⟨rfl, -, rfl, rfl, rfl⟩ := e
    have hsm := startOf_lt_midOf k' (L' + bs)
    have hme := midOf_lt_endOf k' (L' + bs)
    have hmN : midOf k' (L' + bs) < nChunks size := by
      cases L' with
      | zero => rw [Nat.zero_add]; exact lt_nChunks_of_toBytes_lt (hmid rfl)
      | succ n => exact g.mid_lt_nChunks hlt
    have hf := own_flags hS.wf hS.tight hS.bounded hsm hme hmN
    exact ⟨k', L', rfl, g.level_le hlt, hS.lo, hS.hi, hmN,
      hf.1.trans (exists_congr_sel fun c h1 h2 => hS.sel c h1 (Nat.lt_trans h2 hme)),
      hf.2.trans (exists_congr_sel fun c h1 h2 => hS.sel c (Nat.le_trans (Nat.le_of_lt hsm) h1)
        (Nat.lt_of_lt_of_le h2 (Nat.min_le_left _ _)))⟩
  · simp [leftLeaf] at e
  · simp [rightLeaf] at e

end planFacts

theorem emptySelB_iff : emptySelB size q = true ↔ ∀ c, Spec.selected size q c = false := by
  unfold emptySelB selB
  rw [List.all_eq_true]
  constructor
  · intro h c
    by_cases hc : c < nChunks size
    · simpa using h c (List.mem_range.2 hc)
    · cases hsel : Spec.selected size q c with
      | false => rfl
      | true => exact absurd (selected_lt hsel) hc
  · intro h c _; simp [h c]

theorem emptySelB_true_iff (hwf : Ranges.WF q = true) : emptySelB size q = true ↔ q = [] := by
  rw [emptySelB_iff]
  constructor
  · intro h
    apply Classical.byContradiction
    intro hq
    obtain ⟨c, _, _, hc⟩ := leaf_witness (size := size) (s := 0) (e := nChunks size) hwf hq
      (tight_zero hwf) (Or.inl (Nat.le_refl _)) (Ranges.nChunks_pos size) (Ranges.nChunks_pos size)
    rw [h c] at hc; cases hc
  · rintro rfl c; exact Ranges.selected_nil size c

theorem planOK_plan (hs : size ≤ 2 ^ 63) (hbs : bs ≤ 10) (hwf : Ranges.WF q = true)
    (hq : q ≠ []) : PlanOK size bs ml q (plan ⟨size, bs⟩ ml q) where
  stack := plan_stack size bs ml q hs hbs hq
  root := plan_root size bs ml q hs hq
  spans := (plan_spans size bs ml q hs hbs).2
  inBlob := plan_leaf_in_blob size bs ml q hs hbs
  pos := leaf_pos (shifted_geo size bs hs hbs) _ 0 q
  spanEnd := fun s z r x hm => by
    obtain ⟨e, hse, h0, rfl, -, -⟩ := leaf_shape (shifted_geo size bs hs hbs) hm
    rw [span_eq h0 hse]; exact Nat.min_le_right _ _
  complete := fun c hc => plan_cover_complete size bs ml hs hbs q hwf c hc
  sound := plan_cover_sound size bs ml hs hbs q hwf
  unit := fun s z r x hm => by
    obtain ⟨h, h1, h2, h3, h4, h5⟩ :=
      leaf_height (shifted_geo size bs hs hbs) hs hbs _ 0 q s z r x hm
    exact ⟨h, h1, h2, h3, h4,
      h5.imp id fun h5 => plan_all_leaf_selected size bs ml hs hbs q hwf s z r x hm h5⟩
  parents := fun node ir lf rf x hm => by
    obtain ⟨k', L', rfl, h2, -, -, h5, h6, h7⟩ :=
      parent_meet_aux (shifted_geo size bs hs hbs) (rootLevel ⟨size, bs⟩) 0 q hwf
        (by rw [startOf_zero_left]; exact tight_zero hwf)
        (Or.inl (rootLevel_covers size bs hs)) node ir lf rf x hm
    rw [C18.chunkRange_spec h2, C18.mid_spec]
    exact ⟨h6, h7, h5⟩

theorem parent_mem_withoutRanges {p : List Chunk} {node : Nat} {ir lf rf : Bool} {x : Ranges}
    (h : Chunk.parent node ir lf rf x ∈ p.map Chunk.withoutRanges) :
    ∃ x', Chunk.parent node ir lf rf x' ∈ p := by
  obtain ⟨c, hc, e⟩ := List.mem_map.1 h
  cases c with
  | leaf => simp [Chunk.withoutRanges] at e
  | parent n i l r x' =>
    simp only [Chunk.withoutRanges, Chunk.parent.injEq] at e
    obtain ⟨rfl, rfl, rfl, rfl, _⟩ := e
    exact ⟨x', hc⟩

/-- none of the clauses looks at the ranges attached to the items -/
theorem PlanOK.withoutRanges (h : PlanOK size bs ml q p) :
    PlanOK size bs ml q (p.map Chunk.withoutRanges) where
  stack := by rw [stackRun_withoutRanges]; exact h.stack
  root := root_withoutRanges h.root
  spans := by rw [leafSpans_withoutRanges]; exact h.spans
  inBlob := forall_leaf_withoutRanges h.inBlob
  pos := forall_leaf_withoutRanges h.pos
  spanEnd := forall_leaf_withoutRanges h.spanEnd
  complete := fun c hc => (covered_withoutRanges p c).2 (h.complete c hc)
  sound := forall_leaf_withoutRanges h.sound
  unit := forall_leaf_withoutRanges h.unit
  parents := fun node ir lf rf _ hm => by
    obtain ⟨x', hx'⟩ := parent_mem_withoutRanges hm; exact h.parents node ir lf rf x' hx'

/-- the hypotheses of `leaf_pos`, `leaf_height`, `parent_meet_aux` (a `Geo`, the bounds, a
well-formed query, leaf and parent items in the plan) are met by the running example of C15 -/
example : Geo 20000 1 (Tree.shifted ⟨20000, 1⟩).2 := shifted_geo 20000 1 (by decide) (by decide)

example : (20000 : Nat) ≤ 2 ^ 63 ∧ (1 : Nat) ≤ 10 ∧ Ranges.WF [1, 3] = true ∧
    ([1, 3] : Ranges) ≠ [] ∧
    plan ⟨20000, 1⟩ 0 [1, 3] =
      [.parent 15 true true false [1, 3], .parent 7 false true false [1, 3],
       .parent 3 false true false [1, 3], .parent 1 false true true [1, 3],
       .leaf 0 2048 false [1], .leaf 2 2048 false [1, 3]] :=
  ⟨by decide, by decide, by decide, by decide, plan_example⟩

example : PlanOK 20000 1 0 [1, 3] (plan ⟨20000, 1⟩ 0 [1, 3]) :=
  planOK_plan (by decide) (by decide) (by decide) (by decide)

/-- `own_flags`: node `[0, 4)` with mid 2 of a 5-chunk blob, query `[1, 3)` -/
example : Ranges.WF [1, 3] = true ∧ Tight [1, 3] 0 ∧ Bounded 5000 [1, 3] 4 ∧
    (2 : Nat) < nChunks 5000 := by
  refine ⟨by decide, tight_zero (by decide), Or.inr ?_, by decide⟩
  intro b hb; simp at hb; omega

example : planPreWF 3000 0 0 [] [] = none := by decide +kernel

end Bao.SpecPre
