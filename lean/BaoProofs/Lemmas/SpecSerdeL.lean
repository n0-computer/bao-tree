import BaoProofs.Lemmas.SpecObL
import BaoProofs.Props.C19
import BaoModel.Ops4

/-!
# Lemmas for `Props/C19SpecSerde.lean`: the verdict of `serde` (`Ops.opSerde`, C19) accepts the model

* `Val`, `parseVal`, `Val.out`: the value a descriptor denotes and the line the model prints for it;
  `serdeModel` is the verbatim copy of the `let m` of `opSerde` and `serdeVerdict` of its final
  `match` (`opSerde_eq`, by `rfl`); `serdeModel_eq : serdeModel p = (parseVal p).map Val.out`.
* `rtOk`: the round-trip boolean of `serdeOut` (`serdeOut_eq`, by `rfl`); `endsWith_rt`: the line ends
  in `rt=11` iff both booleans are `true` (`serdeOut_endsWith`, `serdeOut_rt11`).
* the derived `BEq` instances of the wire values are reflexive (`beq_parent` … `beq_item`).
* `mkParentV_some`, `mkLeafV_some`: what the descriptor parsers build (`randBytes` of the requested
  lengths), hence `parseVal_wf`: number bounds (`Val.Bound`) give well-formedness (`Val.WF`).
* `parseHex_hex`, `noColon_hex`, `split_str` (`splitOn ":"` of the colon-free tokens joined with `":"`, by
  `SpecIndex.splitOn_intercalate_sep`): for the statements about rendered descriptors.
-/

namespace Bao.SpecSerde
open Bao Bao.Ops Bao.Proto Bao.Serde Bao.SerdeL Bao.SpecIndex Bao.SpecOb

/-- the value a `serde` descriptor denotes, with the codec pair `opSerde` applies to it -/
inductive Val
  | u64 (n : Nat)
  | parent (v : ParentV)
  | leaf (v : LeafV)
  | content (c : ContentV)
  | err (e : EncErrV)
  | item (i : EncItemV)

/-- the model's line for a value -/
def Val.out : Val → String
  | .u64 n => serdeOut n varint readVarint jsNat jsReadNat
  | .parent v => serdeOut v pcParent pcReadParent jsParent jsReadParent
  | .leaf v => serdeOut v pcLeaf pcReadLeaf jsLeaf jsReadLeaf
  | .content c => serdeOut c pcContent pcReadContent jsContent jsReadContent
  | .err e => serdeOut e pcEncErr pcReadEncErr jsEncErr jsReadEncErr
  | .item i => serdeOut i pcEncItem pcReadEncItem jsEncItem jsReadEncItem

/-- the descriptor parser of `opSerde` (same `match`, returning the value, not its line) -/
def parseVal (p : List String) : Option Val :=
  match p with
  | ["node", n] | ["chunk", n] => n.toNat?.map fun n => .u64 n
  | "parent" :: rest => (mkParentV rest).map fun v => .parent v
  | "leaf" :: rest => (mkLeafV rest).map fun v => .leaf v
  | "content" :: "parent" :: rest => (mkParentV rest).map fun v => .content (ContentV.parent v)
  | "content" :: "leaf" :: rest => (mkLeafV rest).map fun v => .content (ContentV.leaf v)
  | "err" :: rest => (mkErrV rest).map fun v => .err v
  | ["item", "size", n] => n.toNat?.map fun n => .item (EncItemV.size n)
  | "item" :: "parent" :: rest => (mkParentV rest).map fun v => .item (EncItemV.parent v)
  | "item" :: "leaf" :: rest => (mkLeafV rest).map fun v => .item (EncItemV.leaf v)
  | "item" :: "error" :: rest => (mkErrV rest).map fun v => .item (EncItemV.error v)
  | ["item", "done"] => some (.item EncItemV.done)
  | _ => none

/-- verbatim copy of the `let m` of `opSerde` -/
def serdeModel (p : List String) : Option String :=
  match p with
  | ["node", n] | ["chunk", n] => n.toNat?.map fun n => serdeOut n varint readVarint jsNat jsReadNat
  | "parent" :: rest => (mkParentV rest).map fun v => serdeOut v pcParent pcReadParent jsParent jsReadParent
  | "leaf" :: rest => (mkLeafV rest).map fun v => serdeOut v pcLeaf pcReadLeaf jsLeaf jsReadLeaf
  | "content" :: "parent" :: rest => (mkParentV rest).map fun v =>
      serdeOut (ContentV.parent v) pcContent pcReadContent jsContent jsReadContent
  | "content" :: "leaf" :: rest => (mkLeafV rest).map fun v =>
      serdeOut (ContentV.leaf v) pcContent pcReadContent jsContent jsReadContent
  | "err" :: rest => (mkErrV rest).map fun v => serdeOut v pcEncErr pcReadEncErr jsEncErr jsReadEncErr
  | ["item", "size", n] => n.toNat?.map fun n => serdeOut (EncItemV.size n) pcEncItem pcReadEncItem jsEncItem jsReadEncItem
  | "item" :: "parent" :: rest => (mkParentV rest).map fun v =>
      serdeOut (EncItemV.parent v) pcEncItem pcReadEncItem jsEncItem jsReadEncItem
  | "item" :: "leaf" :: rest => (mkLeafV rest).map fun v =>
      serdeOut (EncItemV.leaf v) pcEncItem pcReadEncItem jsEncItem jsReadEncItem
  | "item" :: "error" :: rest => (mkErrV rest).map fun v =>
      serdeOut (EncItemV.error v) pcEncItem pcReadEncItem jsEncItem jsReadEncItem
  | ["item", "done"] => some (serdeOut EncItemV.done pcEncItem pcReadEncItem jsEncItem jsReadEncItem)
  | _ => none

/-- verbatim copy of the final `match` of `opSerde` -/
def serdeVerdict (m : Option String) (impl : String) : Verdict :=
  match m with
  | none => bad "serde"
  | some m =>
    { model := m,
      specFail := if impl.endsWith "rt=11" then none else some "a value does not survive serialisation (postcard, json)" }

theorem opSerde_eq (desc impl : String) :
    opSerde [desc] impl = serdeVerdict (serdeModel (desc.splitOn ":")) impl := rfl

theorem serdeModel_eq (p : List String) : serdeModel p = (parseVal p).map Val.out := by
  unfold serdeModel parseVal
  split
  all_goals first | rfl | (simp only [Option.map_map]; rfl)

/-- the round-trip boolean of `serdeOut` (its local `ok`) -/
def rtOk {α : Type} [BEq α] (v : α) (r : Option (α × List UInt8)) : Bool :=
  match r with | some (w, []) => w == v | _ => false

theorem serdeOut_eq {α : Type} [BEq α] (v : α) (pc : α → List UInt8)
    (rpc : List UInt8 → Option (α × List UInt8)) (js : α → List UInt8)
    (rjs : List UInt8 → Option (α × List UInt8)) :
    serdeOut v pc rpc js rjs
      = s!"pc={dig (pc v)} js={dig (js v)} rt={bool01 (rtOk v (rpc (pc v)))}{bool01 (rtOk v (rjs (js v)))}" :=
  rfl

theorem rtOk_some {α : Type} [BEq α] (v : α) (hv : (v == v) = true) : rtOk v (some (v, [])) = true := hv

theorem endsWith_lit (l p : List Char) :
    (String.ofList l).endsWith (String.ofList p) = true ↔ p <:+ l := by
  rw [endsWith_iff, String.toList_ofList, String.toList_ofList]

theorem suffix_same_len {α : Type} {p a b : List α} (h : p <:+ a ++ b) (hl : p.length = b.length) :
    p = b := by
  have hb : b <:+ a ++ b := List.suffix_append a b
  have := List.suffix_of_suffix_length_le h hb (by omega)
  exact this.eq_of_length hl

theorem line_toList (a b : String) (x y : Bool) :
    (s!"pc={a} js={b} rt={bool01 x}{bool01 y}").toList
      = ("pc=".toList ++ a.toList ++ " js=".toList ++ b.toList ++ [' '])
        ++ ['r', 't', '=', (if x then '1' else '0'), (if y then '1' else '0')] := by
  have hb : ∀ z : Bool, (bool01 z).toList = [if z then '1' else '0'] := by intro z; cases z <;> rfl
  show ("pc=" ++ a ++ " js=" ++ b ++ " rt=" ++ bool01 x ++ bool01 y).toList = _
  simp only [String.toList_append, hb, List.append_assoc]
  rfl

theorem endsWith_rt (a b : String) (x y : Bool) :
    (s!"pc={a} js={b} rt={bool01 x}{bool01 y}").endsWith "rt=11" = (x && y) := by
  rw [Bool.eq_iff_iff, endsWith_iff, line_toList]
  constructor
  · intro h
    have := suffix_same_len h (by rfl)
    cases x <;> cases y <;> first | rfl | (exfalso; revert this; decide)
  · intro h
    simp only [Bool.and_eq_true] at h
    rw [h.1, h.2]
    exact List.suffix_append _ _
theorem serdeOut_endsWith {α : Type} [BEq α] (v : α) (pc : α → List UInt8)
    (rpc : List UInt8 → Option (α × List UInt8)) (js : α → List UInt8)
    (rjs : List UInt8 → Option (α × List UInt8)) :
    (serdeOut v pc rpc js rjs).endsWith "rt=11"
      = (rtOk v (rpc (pc v)) && rtOk v (rjs (js v))) := by
  rw [serdeOut_eq]
  exact endsWith_rt _ _ _ _

theorem serdeOut_rt11 {α : Type} [BEq α] (v : α) (pc : α → List UInt8)
    (rpc : List UInt8 → Option (α × List UInt8)) (js : α → List UInt8)
    (rjs : List UInt8 → Option (α × List UInt8)) (hv : (v == v) = true)
    (h1 : rpc (pc v) = some (v, [])) (h2 : rjs (js v) = some (v, [])) :
    (serdeOut v pc rpc js rjs).endsWith "rt=11" = true := by
  rw [serdeOut_eq, h1, h2, rtOk_some v hv]
  exact endsWith_rt _ _ true true

theorem beq_parent (p : ParentV) : (p == p) = true := by
  cases p
  show Bao.Serde.instBEqParentV.beq _ _ = true
  simp [Bao.Serde.instBEqParentV.beq]

theorem beq_leaf (p : LeafV) : (p == p) = true := by
  cases p
  show Bao.Serde.instBEqLeafV.beq _ _ = true
  simp [Bao.Serde.instBEqLeafV.beq]

theorem beq_err (p : EncErrV) : (p == p) = true := by
  cases p <;> (show Bao.Serde.instBEqEncErrV.beq _ _ = true) <;>
  simp [Bao.Serde.instBEqEncErrV.beq]

theorem beq_content (p : ContentV) : (p == p) = true := by
  cases p <;> (show Bao.Serde.instBEqContentV.beq _ _ = true) <;>
  simp [Bao.Serde.instBEqContentV.beq, beq_parent, beq_leaf]

theorem beq_item (p : EncItemV) : (p == p) = true := by
  cases p <;> (show Bao.Serde.instBEqEncItemV.beq _ _ = true) <;>
  simp [Bao.Serde.instBEqEncItemV.beq, beq_parent, beq_leaf, beq_err]

/-- well-formedness in the sense of the C19 theorems (`SerdeL.ParentWF` …, and the `…Len` side
conditions of the length-prefixed format) -/
def Val.WF : Val → Prop
  | .u64 n => n < 2 ^ 64
  | .parent v => ParentWF v
  | .leaf l => LeafWF l ∧ LeafLen l
  | .content c => ContentWF c ∧ ContentLen c
  | .err e => EncErrWF e ∧ EncErrLen e
  | .item i => EncItemWF i ∧ EncItemLen i

/-- the number bounds only: node ids, chunk numbers, offsets, sizes are `u64`; the length of a leaf's
data and of an io error text is a `usize`.  (The 32 bytes of the hashes are not a hypothesis: the
descriptor parser builds them with `randBytes _ 32`.) -/
def Val.Bound : Val → Prop
  | .u64 n => n < 2 ^ 64
  | .parent v => v.node < 2 ^ 64
  | .leaf l => l.offset < 2 ^ 64 ∧ l.data.length < 2 ^ 64
  | .content (.parent v) => v.node < 2 ^ 64
  | .content (.leaf l) => l.offset < 2 ^ 64 ∧ l.data.length < 2 ^ 64
  | .err e => EncErrWF e ∧ EncErrLen e
  | .item (.size n) => n < 2 ^ 64
  | .item (.parent v) => v.node < 2 ^ 64
  | .item (.leaf l) => l.offset < 2 ^ 64 ∧ l.data.length < 2 ^ 64
  | .item (.error e) => EncErrWF e ∧ EncErrLen e
  | .item .done => True

theorem mkParentV_some (rest : List String) (v : ParentV) (h : mkParentV rest = some v) :
    ∃ a b t n seed, rest = a :: b :: t ∧ a.toNat? = some n ∧ b.toNat? = some seed ∧
      v = ⟨n, randBytes seed 32, randBytes (seed + 1) 32⟩ := by
  unfold mkParentV at h
  split at h
  next a b t =>
    cases ha : a.toNat? with
    | none => simp [ha] at h
    | some n =>
      cases hb : b.toNat? with
      | none => simp [ha, hb] at h
      | some seed =>
        simp only [ha, hb, Option.bind_eq_bind, Option.bind_some, Option.pure_def,
          Option.some.injEq] at h
        exact ⟨a, b, t, n, seed, rfl, ha, hb, h.symm⟩
  · cases h

theorem mkParentV_len (rest : List String) (v : ParentV) (h : mkParentV rest = some v) :
    v.l.length = 32 ∧ v.r.length = 32 := by
  obtain ⟨a, b, t, n, seed, -, -, -, rfl⟩ := mkParentV_some rest v h
  exact ⟨randBytes_length _ _, randBytes_length _ _⟩

theorem mkLeafV_some (rest : List String) (v : LeafV) (h : mkLeafV rest = some v) :
    ∃ a b c t off len seed, rest = a :: b :: c :: t ∧ a.toNat? = some off ∧ b.toNat? = some len ∧
      c.toNat? = some seed ∧ v = ⟨off, randBytes seed len⟩ := by
  unfold mkLeafV at h
  split at h
  next a b c t =>
    cases ha : a.toNat? with
    | none => simp [ha] at h
    | some off =>
      cases hb : b.toNat? with
      | none => simp [ha, hb] at h
      | some len =>
        cases hc : c.toNat? with
        | none => simp [ha, hb, hc] at h
        | some seed =>
          simp only [ha, hb, hc, Option.bind_eq_bind, Option.bind_some, Option.pure_def,
            Option.some.injEq] at h
          exact ⟨a, b, c, t, off, len, seed, rfl, ha, hb, hc, h.symm⟩
  · cases h

theorem parseVal_wf (p : List String) (v : Val) (h : parseVal p = some v) (hb : v.Bound) : v.WF := by
  unfold parseVal at h
  split at h
  all_goals
    first
    | (cases h; done)
    | (cases h; exact ⟨trivial, trivial⟩)
    | (obtain ⟨w, hw, rfl⟩ := Option.map_eq_some_iff.1 h
       first
       | exact hb
       | exact ⟨hb, trivial⟩
       | exact ⟨hb, (mkParentV_len _ _ hw).1, (mkParentV_len _ _ hw).2⟩
       | exact ⟨⟨hb, (mkParentV_len _ _ hw).1, (mkParentV_len _ _ hw).2⟩, trivial⟩)

theorem hexVal_hexDigit : ∀ n, n < 16 → hexVal (hexDigit n) = some n := by decide

theorem hexDigit_ne_colon : ∀ n, n < 16 → hexDigit n ≠ ':' := by decide

theorem parseHexAux_hex (m acc : List UInt8) :
    parseHexAux (m.flatMap fun b => [hexDigit (b.toNat / 16), hexDigit (b.toNat % 16)]) acc
      = some (acc.reverse ++ m) := by
  induction m generalizing acc with
  | nil => simp [parseHexAux]
  | cons b m ih =>
    have hb := b.toNat_lt
    simp only [List.flatMap_cons, List.cons_append, List.nil_append, parseHexAux,
      hexVal_hexDigit _ (show b.toNat / 16 < 16 by omega),
      hexVal_hexDigit _ (show b.toNat % 16 < 16 by omega)]
    rw [ih, show 16 * (b.toNat / 16) + b.toNat % 16 = b.toNat by omega]
    simp

theorem parseHex_hex (m : List UInt8) : parseHex (hex m) = some m := by
  cases m with
  | nil => rfl
  | cons b m =>
    unfold parseHex hex
    have hne : ¬ ((String.ofList ((b :: m).flatMap fun b =>
        [hexDigit (b.toNat / 16), hexDigit (b.toNat % 16)]) == "-") = true) := by
      rw [beq_iff_eq]
      intro e
      have := congrArg (fun s => s.toList.length) e
      simp at this
    simp only [List.isEmpty_cons, Bool.false_eq_true, if_false, if_neg hne, String.toList_ofList]
    rw [parseHexAux_hex]
    rfl

theorem noColon_hex (m : List UInt8) : ':' ∉ (hex m).toList := by
  unfold hex
  split
  · decide
  · rw [String.toList_ofList]
    intro h
    obtain ⟨b, -, hb⟩ := List.mem_flatMap.1 h
    have hlt := b.toNat_lt
    simp only [List.mem_cons, List.not_mem_nil, or_false] at hb
    rcases hb with hb | hb
    · exact hexDigit_ne_colon _ (show b.toNat / 16 < 16 by omega) hb.symm
    · exact hexDigit_ne_colon _ (show b.toNat % 16 < 16 by omega) hb.symm

/-- `err` descriptors as the case generator writes them -/
inductive ErrD
  | phm (n : Nat) | lhm (n : Nat) | pw (n : Nat) | lw (n : Nat) | sm
  | io (kind : String) (msg : List UInt8)
  | ios (kind : String) (msg : List UInt8)
  | ioo (errno : String) (kind : String) (msg : List UInt8)

def ErrD.toks : ErrD → List String
  | .phm n => ["phm", toString n]
  | .lhm n => ["lhm", toString n]
  | .pw n => ["pw", toString n]
  | .lw n => ["lw", toString n]
  | .sm => ["sm"]
  | .io k m => ["io", k, hex m]
  | .ios k m => ["ios", k, hex m]
  | .ioo e k m => ["ioo", e, k, hex m]

def ErrD.val : ErrD → EncErrV
  | .phm n => .parentHashMismatch n
  | .lhm n => .leafHashMismatch n
  | .pw n => .parentWrite n
  | .lw n => .leafWrite n
  | .sm => .sizeMismatch
  | .io k m => .io (ioErrorText (str k) m)
  | .ios k m => .io (ioErrorText (str k) m)
  | .ioo _ k m => .io (ioErrorText (str k) m)

def ErrD.NoColon : ErrD → Prop
  | .io k _ => ':' ∉ k.toList
  | .ios k _ => ':' ∉ k.toList
  | .ioo e k _ => ':' ∉ e.toList ∧ ':' ∉ k.toList
  | _ => True

def ErrD.Bound : ErrD → Prop
  | .phm n => n < 2 ^ 64
  | .lhm n => n < 2 ^ 64
  | .pw n => n < 2 ^ 64
  | .lw n => n < 2 ^ 64
  | .sm => True
  | .io k m => k.length + 1 + m.length < 2 ^ 64
  | .ios k m => k.length + 1 + m.length < 2 ^ 64
  | .ioo _ k m => k.length + 1 + m.length < 2 ^ 64

theorem mkErrV_toks (e : ErrD) : mkErrV e.toks = some e.val := by
  cases e <;> simp [ErrD.toks, ErrD.val, mkErrV, parseHex_hex]

/-- the value descriptors of `serde`, as the case generator (`harness/src/gen3.rs`, "C19") writes them:
numbers in decimal, io messages in hex -/
inductive Desc
  | node (n : Nat) | chunk (n : Nat)
  | parent (n seed : Nat) | leaf (off len seed : Nat)
  | contentParent (n seed : Nat) | contentLeaf (off len seed : Nat)
  | err (e : ErrD)
  | itemSize (n : Nat) | itemParent (n seed : Nat) | itemLeaf (off len seed : Nat)
  | itemError (e : ErrD) | itemDone

def Desc.toks : Desc → List String
  | .node n => ["node", toString n]
  | .chunk n => ["chunk", toString n]
  | .parent n seed => ["parent", toString n, toString seed]
  | .leaf off len seed => ["leaf", toString off, toString len, toString seed]
  | .contentParent n seed => ["content", "parent", toString n, toString seed]
  | .contentLeaf off len seed => ["content", "leaf", toString off, toString len, toString seed]
  | .err e => "err" :: e.toks
  | .itemSize n => ["item", "size", toString n]
  | .itemParent n seed => ["item", "parent", toString n, toString seed]
  | .itemLeaf off len seed => ["item", "leaf", toString off, toString len, toString seed]
  | .itemError e => "item" :: "error" :: e.toks
  | .itemDone => ["item", "done"]

def Desc.str (d : Desc) : String := ":".intercalate d.toks

def mkP (n seed : Nat) : ParentV := ⟨n, randBytes seed 32, randBytes (seed + 1) 32⟩
def mkL (off len seed : Nat) : LeafV := ⟨off, randBytes seed len⟩

def Desc.val : Desc → Val
  | .node n => .u64 n
  | .chunk n => .u64 n
  | .parent n seed => .parent (mkP n seed)
  | .leaf off len seed => .leaf (mkL off len seed)
  | .contentParent n seed => .content (.parent (mkP n seed))
  | .contentLeaf off len seed => .content (.leaf (mkL off len seed))
  | .err e => .err e.val
  | .itemSize n => .item (.size n)
  | .itemParent n seed => .item (.parent (mkP n seed))
  | .itemLeaf off len seed => .item (.leaf (mkL off len seed))
  | .itemError e => .item (.error e.val)
  | .itemDone => .item .done

/-- free-text tokens (io error kind, errno) contain no `:` -/
def Desc.NoColon : Desc → Prop
  | .err e => e.NoColon
  | .itemError e => e.NoColon
  | _ => True

/-- bounds on the numbers of a descriptor: ids, chunk numbers, offsets, sizes are `u64`, the length of
a leaf and of an io error text (`kind:message`) is a `usize`; seeds are arbitrary -/
def Desc.Bound : Desc → Prop
  | .node n => n < 2 ^ 64
  | .chunk n => n < 2 ^ 64
  | .parent n _ => n < 2 ^ 64
  | .leaf off len _ => off < 2 ^ 64 ∧ len < 2 ^ 64
  | .contentParent n _ => n < 2 ^ 64
  | .contentLeaf off len _ => off < 2 ^ 64 ∧ len < 2 ^ 64
  | .err e => e.Bound
  | .itemSize n => n < 2 ^ 64
  | .itemParent n _ => n < 2 ^ 64
  | .itemLeaf off len _ => off < 2 ^ 64 ∧ len < 2 ^ 64
  | .itemError e => e.Bound
  | .itemDone => True

instance (e : ErrD) : Decidable e.NoColon := by
  cases e <;> unfold ErrD.NoColon <;> infer_instance

instance (e : ErrD) : Decidable e.Bound := by
  cases e <;> unfold ErrD.Bound <;> infer_instance

instance (d : Desc) : Decidable d.NoColon := by
  cases d <;> unfold Desc.NoColon <;> infer_instance

instance (d : Desc) : Decidable d.Bound := by
  cases d <;> unfold Desc.Bound <;> infer_instance

theorem mkParentV_toks (n seed : Nat) : mkParentV [toString n, toString seed] = some (mkP n seed) := by
  simp only [mkParentV, toNat?_toString, Option.bind_eq_bind, Option.bind_some, Option.pure_def, mkP]

theorem mkLeafV_toks (off len seed : Nat) :
    mkLeafV [toString off, toString len, toString seed] = some (mkL off len seed) := by
  simp only [mkLeafV, toNat?_toString, Option.bind_eq_bind, Option.bind_some, Option.pure_def, mkL]

theorem parseVal_toks (d : Desc) : parseVal d.toks = some d.val := by
  cases d <;>
    simp only [Desc.toks, Desc.val, parseVal, toNat?_toString, mkParentV_toks, mkLeafV_toks,
      mkErrV_toks, Option.map_some]

theorem ioText_length (k : String) (m : List UInt8) :
    (ioErrorText (str k) m).length = k.length + 1 + m.length := by
  simp only [ioErrorText, str, List.length_append, List.length_map, String.length_toList,
    List.length_cons, List.length_nil]

theorem errBound (e : ErrD) (h : e.Bound) : EncErrWF e.val ∧ EncErrLen e.val := by
  cases e
  case io k m => exact ⟨trivial, by show (ioErrorText (str k) m).length < 2 ^ 64; rw [ioText_length]; exact h⟩
  case ios k m => exact ⟨trivial, by show (ioErrorText (str k) m).length < 2 ^ 64; rw [ioText_length]; exact h⟩
  case ioo e k m => exact ⟨trivial, by show (ioErrorText (str k) m).length < 2 ^ 64; rw [ioText_length]; exact h⟩
  all_goals exact ⟨h, trivial⟩

theorem descBound (d : Desc) (h : d.Bound) : d.val.Bound := by
  cases d
  case err e => exact errBound e h
  case itemError e => exact errBound e h
  case leaf off len seed => exact ⟨h.1, by show (randBytes seed len).length < 2 ^ 64; rw [randBytes_length]; exact h.2⟩
  case contentLeaf off len seed => exact ⟨h.1, by show (randBytes seed len).length < 2 ^ 64; rw [randBytes_length]; exact h.2⟩
  case itemLeaf off len seed => exact ⟨h.1, by show (randBytes seed len).length < 2 ^ 64; rw [randBytes_length]; exact h.2⟩
  all_goals exact h

def NC (t : String) : Prop := ':' ∉ t.toList

instance (t : String) : Decidable (NC t) := inferInstanceAs (Decidable (':' ∉ t.toList))

theorem nc_lit (l : List Char) (h : (l.contains ':') = false) : NC (String.ofList l) := by
  unfold NC
  rw [String.toList_ofList]
  intro hm
  rw [List.contains_iff_mem.2 hm] at h
  cases h

theorem nc_nat (n : Nat) : NC (toString n) := noColon_nat n
theorem nc_hex (m : List UInt8) : NC (hex m) := noColon_hex m

theorem noColon_errToks (e : ErrD) (h : e.NoColon) : ∀ t ∈ e.toks, NC t := by
  cases e <;> simp only [ErrD.toks, List.forall_mem_cons, List.not_mem_nil, false_imp_iff, implies_true,
    and_true]
  case io k m => exact ⟨nc_lit _ (by decide), h, nc_hex m⟩
  case ios k m => exact ⟨nc_lit _ (by decide), h, nc_hex m⟩
  case ioo e k m => exact ⟨nc_lit _ (by decide), h.1, h.2, nc_hex m⟩
  case sm => exact nc_lit _ (by decide)
  all_goals exact ⟨nc_lit _ (by decide), nc_nat _⟩

theorem noColon_toks (d : Desc) (h : d.NoColon) : ∀ t ∈ d.toks, NC t := by
  cases d
  case err e => exact List.forall_mem_cons.2 ⟨nc_lit _ (by decide), noColon_errToks e h⟩
  case itemError e =>
    exact List.forall_mem_cons.2 ⟨nc_lit _ (by decide), List.forall_mem_cons.2 ⟨nc_lit _ (by decide), noColon_errToks e h⟩⟩
  all_goals
    simp only [Desc.toks, List.forall_mem_cons, List.not_mem_nil, false_imp_iff, implies_true, and_true]
  case node n => exact ⟨nc_lit _ (by decide), nc_nat _⟩
  case chunk n => exact ⟨nc_lit _ (by decide), nc_nat _⟩
  case parent n seed => exact ⟨nc_lit _ (by decide), nc_nat _, nc_nat _⟩
  case leaf off len seed => exact ⟨nc_lit _ (by decide), nc_nat _, nc_nat _, nc_nat _⟩
  case contentParent n seed => exact ⟨nc_lit _ (by decide), nc_lit _ (by decide), nc_nat _, nc_nat _⟩
  case contentLeaf off len seed => exact ⟨nc_lit _ (by decide), nc_lit _ (by decide), nc_nat _, nc_nat _, nc_nat _⟩
  case itemSize n => exact ⟨nc_lit _ (by decide), nc_lit _ (by decide), nc_nat _⟩
  case itemParent n seed => exact ⟨nc_lit _ (by decide), nc_lit _ (by decide), nc_nat _, nc_nat _⟩
  case itemLeaf off len seed => exact ⟨nc_lit _ (by decide), nc_lit _ (by decide), nc_nat _, nc_nat _, nc_nat _⟩
  case itemDone => exact ⟨nc_lit _ (by decide), nc_lit _ (by decide)⟩

theorem toks_ne_nil (d : Desc) : d.toks ≠ [] := by
  cases d <;> simp [Desc.toks]

theorem split_str (d : Desc) (h : d.NoColon) : d.str.splitOn ":" = d.toks :=
  splitOn_intercalate_sep (c0 := ':') rfl d.toks (toks_ne_nil d) (noColon_toks d h)

end Bao.SpecSerde
