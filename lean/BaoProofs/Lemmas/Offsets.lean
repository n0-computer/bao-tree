import BaoProofs.Props.C18

/-!
# Offsets: pre-order and post-order offsets of the persisted nodes (C12, C13)

Plan of the file.

* arithmetic of `blocks` / `nChunks` (`lt_blocks_iff`, `lt_nChunks_iff`) and the shift by the block
  size (`up bs x = (x+1)·2^bs − 1`, `addBs_up`, `exists_iff`): a node `(k, L+bs)` exists in the blob
  iff its shifted id `nodeOf k L` is `< N := blocks − 1`.  So the persisted nodes are, in shifted
  ids, exactly `0 … N−1` ("dense tree").
* `preD N L k` / `postD N L k`: pre/post-order lists of the ids `< N` of the complete subtree
  `(k, L)`; `Spec.preNodes … (L+bs) k = (preD N L k).map (up bs)`, same for post (`nodes_shift`).
* `preOrderOffsetLoop (nodeOf k L) F = startOf k L − popcount k + ancUp N 64 k L`: nodes in the
  complete subtrees to the left, plus the existing proper ancestors (`preOrderOffsetLoop_eq`).
* lengths (`count_step`, `postD_length`; `preD_perm`: both orders list the same nodes) and offsets:
  `preD_offsets`, `postD_offsets`: the offsets along the lists are consecutive
  (`List.range' base len`), by induction along the recursion of the lists (`base_left`, `base_right`).
* `persisted_dense`, `persistedPre_offsets`, `persistedPost_offsets`: C12.
* non-persisted nodes (`addBs_none_of_level_lt`, `pre_half_leaf`, `post_half_leaf`).
* stable nodes (`stable_iff_coord`, `stable_mono`, `persistedPost_pairwise`, `prefix_of_pairwise`): C13.
-/

namespace Bao.Offsets
open Bao Bao.Spec Bao.Bits

/-- `c < ⌈s/p⌉` (written the way the model writes it) iff `c·p < s` -/
theorem lt_ceil_iff (s p c : Nat) (hp : 0 < p) :
    c < s / p + (if s % p ≠ 0 then 1 else 0) ↔ c * p < s := by
  have hdm := Nat.div_add_mod s p
  have hr := Nat.mod_lt s hp
  generalize s / p = q at *
  generalize s % p = r at *
  subst hdm
  rw [Nat.mul_comm p q]
  by_cases h0 : r = 0
  · subst h0
    simp only [ne_eq, not_true_eq_false, if_false, Nat.add_zero]
    exact (Nat.mul_lt_mul_right hp).symm
  · simp only [ne_eq, h0, not_false_eq_true, if_true]
    constructor
    · intro h
      have : c * p ≤ q * p := Nat.mul_le_mul_right p (by omega)
      omega
    · intro h
      apply Classical.byContradiction
      intro hn
      have : (q + 1) * p ≤ c * p := Nat.mul_le_mul_right p (by omega)
      rw [Nat.add_mul] at this
      omega

theorem lt_blocks_iff (size bs c : Nat) (hc : 0 < c) :
    c < Tree.blocks ⟨size, bs⟩ ↔ c * 2 ^ (bs + 10) < size := by
  unfold Tree.blocks Tree.blocksRaw
  rw [← lt_ceil_iff size (2 ^ (bs + 10)) c (two_pow_pos' _)]
  simp only
  omega

theorem blocks_eq_nBlocks (size bs : Nat) : Tree.blocks ⟨size, bs⟩ = Spec.nBlocks size bs := by
  have hp := two_pow_pos' (bs + 10)
  have key : ∀ c, c < (size + 2 ^ (bs + 10) - 1) / 2 ^ (bs + 10) ↔ c * 2 ^ (bs + 10) < size := by
    intro c
    rw [Nat.lt_iff_add_one_le, Nat.le_div_iff_mul_le hp, Nat.add_mul, Nat.one_mul]
    omega
  have key2 := fun c => lt_ceil_iff size (2 ^ (bs + 10)) c hp
  unfold Tree.blocks Tree.blocksRaw Spec.nBlocks
  simp only
  generalize (size + 2 ^ (bs + 10) - 1) / 2 ^ (bs + 10) = a at *
  generalize size / 2 ^ (bs + 10) + (if size % 2 ^ (bs + 10) ≠ 0 then 1 else 0) = b at *
  have h1 := (key a).trans (key2 a).symm
  have h2 := (key b).trans (key2 b).symm
  omega

theorem lt_nChunks_iff (size c : Nat) (hc : 0 < c) :
    c < Spec.nChunks size ↔ c * 1024 < size := by
  unfold Spec.nChunks
  omega

theorem lt_blocks_iff_bytes (size bs c : Nat) (hc : 0 < c) :
    c < Tree.blocks ⟨size, bs⟩ ↔ c * 2 ^ bs * 1024 < size := by
  rw [lt_blocks_iff size bs c hc, Nat.pow_add, ← Nat.mul_assoc]

theorem blocks_pos (size bs : Nat) : 0 < Tree.blocks ⟨size, bs⟩ := by
  unfold Tree.blocks; omega

theorem lt_blocks_iff_chunks (size bs b : Nat) :
    b < Tree.blocks ⟨size, bs⟩ ↔ b * 2 ^ bs < nChunks size := by
  by_cases hb : b = 0
  · have := blocks_pos size bs
    subst hb
    unfold nChunks
    omega
  · have hq : 0 < b * 2 ^ bs := Nat.mul_pos (by omega) (two_pow_pos' bs)
    rw [lt_blocks_iff_bytes size bs b (by omega), lt_nChunks_iff size _ hq]

/-- shifted id ↦ unshifted id (`TreeNode::subtract_block_size` without the `u64` wrap) -/
def up (bs x : Nat) : Nat := (x + 1) * 2 ^ bs - 1

theorem up_succ (bs x : Nat) : up bs x + 1 = (x + 1) * 2 ^ bs := by
  have : 0 < (x + 1) * 2 ^ bs := Nat.mul_pos (by omega) (two_pow_pos' _)
  unfold up; omega

theorem up_nodeOf (bs k L : Nat) : up bs (nodeOf k L) = nodeOf k (L + bs) := by
  unfold up
  rw [succ_mul_pow, Nat.add_sub_cancel]

theorem up_eq (bs x : Nat) : up bs x = 2 ^ bs * x + (2 ^ bs - 1) := by
  have hp := two_pow_pos' bs
  unfold up
  rw [Nat.add_mul, Nat.mul_comm x]
  omega

theorem addBs_up (bs x : Nat) : Node.addBs (up bs x) bs = some x := by
  have hp := two_pow_pos' bs
  unfold Node.addBs
  rw [up_eq, Nat.mul_add_mod, Nat.mod_eq_of_lt (by omega), Nat.mul_add_div hp,
    Nat.div_eq_of_lt (by omega)]
  simp

theorem subBs_eq_up {bs x : Nat} (h : (x + 1) * 2 ^ bs ≤ 2 ^ 64) : Node.subBs x bs = up bs x :=
  not_shl_not h

/-- through the shifted id; `ValidL.midOf_shift` states the shift as `midOf k L * 2 ^ bs` -/
theorem midOf_shift (k L bs : Nat) : midOf k (L + bs) = (nodeOf k L + 1) * 2 ^ bs := by
  rw [nodeOf_succ', Nat.mul_assoc, ← Nat.pow_add, midOf_eq, odd_mul]

theorem endOf_shift (k L bs : Nat) : endOf k (L + bs) = (k + 1) * 2 ^ (L + 1) * 2 ^ bs := by
  unfold endOf
  rw [Nat.mul_assoc, ← Nat.pow_add]
  congr 2; omega

theorem exists_iff (size bs k L : Nat) :
    midOf k (L + bs) < nChunks size ↔ nodeOf k L < Tree.blocks ⟨size, bs⟩ - 1 := by
  have hpos : 0 < (nodeOf k L + 1) * 2 ^ bs := Nat.mul_pos (by omega) (two_pow_pos' _)
  rw [midOf_shift, lt_nChunks_iff _ _ hpos]
  have := lt_blocks_iff_bytes size bs (nodeOf k L + 1) (by omega)
  omega

/-- pre-order list of the ids `< N` in the complete subtree `(k, L)` (shifted coordinates) -/
def preD (N : Nat) : Nat → Nat → List Nat
  | 0, k => if nodeOf k 0 < N then [nodeOf k 0] else []
  | L + 1, k =>
    if nodeOf k (L + 1) < N then nodeOf k (L + 1) :: (preD N L (2 * k) ++ preD N L (2 * k + 1))
    else preD N L (2 * k)

/-- the same ids in post-order; here too a missing node is replaced by its left child -/
def postD (N : Nat) : Nat → Nat → List Nat
  | 0, k => if nodeOf k 0 < N then [nodeOf k 0] else []
  | L + 1, k =>
    if nodeOf k (L + 1) < N then postD N L (2 * k) ++ postD N L (2 * k + 1) ++ [nodeOf k (L + 1)]
    else postD N L (2 * k)

theorem nodes_lt (n minL L k : Nat) (h : L < minL) :
    preNodes n minL L k = [] ∧ postNodes n minL L k = [] := by
  induction L generalizing k with
  | zero => simp [preNodes, postNodes]; omega
  | succ L ih =>
    have h1 : ¬ (L + 1 ≥ minL) := by omega
    simp [preNodes, postNodes, h1, ih (2 * k) (by omega), ih (2 * k + 1) (by omega)]

theorem nodes_shift (size bs L k : Nat) :
    preNodes (nChunks size) bs (L + bs) k
        = (preD (Tree.blocks ⟨size, bs⟩ - 1) L k).map (up bs) ∧
      postNodes (nChunks size) bs (L + bs) k
        = (postD (Tree.blocks ⟨size, bs⟩ - 1) L k).map (up bs) := by
  induction L generalizing k with
  | zero =>
    have hx := exists_iff size bs k 0
    have hu := up_nodeOf bs k 0
    simp only [Nat.zero_add] at hx hu ⊢
    cases bs with
    | zero =>
      by_cases h : midOf k 0 < nChunks size
      · simp [preNodes, postNodes, preD, postD, h, hx.mp h, hu]
      · simp [preNodes, postNodes, preD, postD, h, mt hx.mpr h]
    | succ b =>
      have hlt := fun k' => nodes_lt (nChunks size) (b + 1) b k' (Nat.lt_succ_self b)
      by_cases h : midOf k (b + 1) < nChunks size
      · simp [preNodes, postNodes, preD, postD, h, hx.mp h, hu, hlt]
      · simp [preNodes, postNodes, preD, postD, h, mt hx.mpr h, hlt]
  | succ L ih =>
    have hx := exists_iff size bs k (L + 1)
    have hu := up_nodeOf bs k (L + 1)
    rw [Nat.add_right_comm] at hx hu ⊢
    have hge : L + bs + 1 ≥ bs := by omega
    by_cases h : midOf k (L + bs + 1) < nChunks size
    · simp [preNodes, postNodes, preD, postD, h, hx.mp h, hu, hge, ih]
    · simp [preNodes, postNodes, preD, postD, h, mt hx.mpr h, ih]

theorem nodeOf_zero (k : Nat) : nodeOf k 0 = 2 * k := by simp [nodeOf]

theorem startOf_zero (k : Nat) : startOf k 0 = 2 * k := by simp [startOf]; omega

theorem startOf_left (k L : Nat) : startOf (2 * k) L = startOf k (L + 1) := Bits.startOf_left k L

/-- in terms of the parent's start; `Bits.startOf_right` gives the same start as `midOf k (L + 1)` -/
theorem startOf_right (k L : Nat) : startOf (2 * k + 1) L = startOf k (L + 1) + 2 ^ (L + 1) := by
  rw [Bits.startOf_right]; rfl

theorem nodeOf_start (k L : Nat) : nodeOf k L = startOf k L + 2 ^ L - 1 := by
  rw [nodeOf_eq, startOf_eq]

theorem endOf_start (k L : Nat) : endOf k L = startOf k L + 2 ^ (L + 1) := by
  unfold endOf startOf
  rw [Nat.add_mul, Nat.one_mul]

theorem startOf_zero_left (L : Nat) : startOf 0 L = 0 := Nat.zero_mul _

theorem endOf_zero_left (L : Nat) : endOf 0 L = 2 ^ (L + 1) := by
  rw [endOf, Nat.zero_add, Nat.one_mul]

theorem nodeOf_zero_left (L : Nat) : nodeOf 0 L = 2 ^ L - 1 := by simp [nodeOf]

theorem le_startOf (k L : Nat) : k ≤ startOf k L := by
  unfold startOf
  exact Nat.le_mul_of_pos_right k (two_pow_pos' _)

theorem popcount_le_startOf (k L : Nat) : popcount k ≤ startOf k L :=
  Nat.le_trans (popcount_le k) (le_startOf k L)

theorem nodeOf_succ_odd (k L : Nat) : nodeOf k (L + 1) % 2 = 1 := by
  rw [nodeOf_succ_level]; omega

theorem two_pow_le_nodeOf_succ (k L : Nat) : 2 ^ L ≤ nodeOf k (L + 1) := by
  have := two_pow_le_nodeOf_add_one k L
  rw [nodeOf_succ_level]; omega

/-- the subtree `(k, L + 1)`, seen from its first id `s` and half span `p`: the node itself, and first
id and end of the two children -/
theorem child_coords (k L : Nat) :
    nodeOf k (L + 1) + 1 = startOf k (L + 1) + 2 ^ (L + 1) ∧
    startOf (2 * k) L = startOf k (L + 1) ∧
    endOf (2 * k) L = startOf k (L + 1) + 2 ^ (L + 1) ∧
    startOf (2 * k + 1) L = startOf k (L + 1) + 2 ^ (L + 1) ∧
    endOf (2 * k + 1) L = startOf k (L + 1) + 2 * 2 ^ (L + 1) ∧
    endOf k (L + 1) = startOf k (L + 1) + 2 * 2 ^ (L + 1) := by
  refine ⟨?_, startOf_left k L, ?_, startOf_right k L, ?_, ?_⟩
  · rw [nodeOf_succ, startOf_eq]
  · rw [endOf_start, startOf_left]
  · rw [endOf_start, startOf_right]; omega
  · rw [endOf_start, Nat.pow_succ 2 (L + 1)]; omega

theorem popcount_two_mul {k : Nat} (h : k < 2 ^ 63) : popcount (2 * k) = popcount k := by
  have := @popcount_mul_pow k 1 (by omega)
  rwa [Nat.pow_one, Nat.mul_comm] at this

theorem popcount_two_mul_add_one {k : Nat} (h : k < 2 ^ 63) :
    popcount (2 * k + 1) = popcount k + 1 := by
  unfold popcount
  rw [popcountAux_two_mul_add_one, ← popcountAux_fuel 63 1 k h]

theorem index_lt_of_start_le {k L N : Nat} (hk : startOf k (L + 1) ≤ N) (hN : N ≤ 2 ^ 63) :
    k < 2 ^ 63 := by
  have h2 : k * 2 ≤ startOf k (L + 1) :=
    Nat.mul_le_mul_left k (by rw [Nat.pow_succ]; have := two_pow_pos' (L + 1); omega)
  omega

/-- `first id − count_ones(index)` (the number of nodes in the complete subtrees to the left) does
not change on the way to the left child (`C18.base_left`, `C18.base_right` are the same steps for
`C18.base`, which counts the ones of the first id) -/
theorem base_left {k : Nat} (L : Nat) (h : k < 2 ^ 63) :
    startOf (2 * k) L - popcount (2 * k) = startOf k (L + 1) - popcount k := by
  rw [popcount_two_mul h, startOf_left]

/-- … and grows by the size of the left subtree on the way to the right child -/
theorem base_right {k : Nat} (L : Nat) (h : k < 2 ^ 63) :
    startOf (2 * k + 1) L - popcount (2 * k + 1)
      = startOf k (L + 1) - popcount k + (2 ^ (L + 1) - 1) := by
  obtain ⟨q, hq⟩ := Nat.exists_eq_add_of_lt (two_pow_pos' (L + 1))
  rw [popcount_two_mul_add_one h, startOf_right, hq, Nat.zero_add, Nat.add_sub_cancel,
    ← Nat.add_assoc, Nat.add_sub_add_right, Nat.sub_add_comm (popcount_le_startOf k (L + 1))]

/-- number of the first `fuel` proper ancestors of `(k, L)` whose id is below `N` -/
def ancUp (N : Nat) : Nat → Nat → Nat → Nat
  | 0, _, _ => 0
  | f + 1, k, L => (if nodeOf (k / 2) (L + 1) < N then 1 else 0) + ancUp N f (k / 2) (L + 1)

theorem ancUp_zero_of_le (N f k L : Nat) (h : N ≤ 2 ^ L) : ancUp N f k L = 0 := by
  induction f generalizing k L with
  | zero => rfl
  | succ f ih =>
    have h1 := two_pow_le_nodeOf_succ (k / 2) L
    have h2 : ¬ nodeOf (k / 2) (L + 1) < N := by omega
    have h3 : N ≤ 2 ^ (L + 1) := by rw [Nat.pow_succ]; omega
    simp [ancUp, h2, ih _ _ h3]

theorem ancUp_fuel (N f k L : Nat) (h : N ≤ 2 ^ (L + f)) : ancUp N (f + 1) k L = ancUp N f k L := by
  induction f generalizing k L with
  | zero => rw [ancUp_zero_of_le N 1 k L h]; rfl
  | succ f ih =>
    have h' : N ≤ 2 ^ (L + 1 + f) := by rwa [Nat.add_assoc, Nat.add_comm 1 f]
    rw [ancUp, ih _ _ h', ancUp]

/-- `N = blocks − 1` persisted ids, `F = shifted.2` ids of the shifted tree: `F` is `N` or, when the
half leaf exists, `N + 1`; the half leaf is a leaf and never an ancestor, so counting ancestors `< F`
(the loop) and `< N` (`ancUp`) is the same -/
theorem preLoop_eq (N F : Nat) (hNF : N ≤ F) (hFN : F ≤ N + 1) (hodd : F % 2 = 1)
    (f k L c : Nat) : Tree.preLoop f (nodeOf k L) (2 ^ L) F c = c + ancUp N f k L := by
  induction f generalizing k L c with
  | zero => simp [Tree.preLoop, ancUp]
  | succ f ih =>
    have hpo := nodeOf_succ_odd (k / 2) L
    have hiff : nodeOf (k / 2) (L + 1) < F ↔ nodeOf (k / 2) (L + 1) < N := by omega
    simp only [Tree.preLoop, ancUp, nodeOf_div_span, nodeOf_parent, hiff]
    by_cases hs : 2 ^ L * 2 ≥ F
    · have hz := ancUp_zero_of_le N f (k / 2) (L + 1) (by rw [Nat.pow_succ]; omega)
      rw [if_pos hs, hz]
      by_cases hc : nodeOf (k / 2) (L + 1) < N <;> simp [hc]
    · rw [if_neg hs, ← Nat.pow_succ, ih]
      by_cases hc : nodeOf (k / 2) (L + 1) < N <;> simp [hc] <;> omega

theorem ancUp_child (N c k L : Nat) (hN : N ≤ 2 ^ 63) (hc : c / 2 = k) :
    ancUp N 64 c L = (if nodeOf k (L + 1) < N then 1 else 0) + ancUp N 64 k (L + 1) := by
  have h3 : N ≤ 2 ^ (L + 1 + 63) :=
    Nat.le_trans hN (Nat.pow_le_pow_right (by decide) (by omega))
  rw [ancUp, hc, ancUp_fuel N 63 k (L + 1) h3]

/-- closed form of `pre_order_offset_loop` in coordinates -/
theorem preOrderOffsetLoop_eq (N F : Nat) (hNF : N ≤ F) (hFN : F ≤ N + 1) (hodd : F % 2 = 1)
    (k L : Nat) (hx : nodeOf k L < 2 ^ 64) :
    Tree.preOrderOffsetLoop (nodeOf k L) F = startOf k L - popcount k + ancUp N 64 k L := by
  have hs : startOf k L < 2 ^ 64 := by
    have := nodeOf_start k L; have := two_pow_pos' L; omega
  unfold Tree.preOrderOffsetLoop
  simp only [trailingOnes_nodeOf hx, nodeOf_mid_sub, popcount_startOf hs,
    preLoop_eq N F hNF hFN hodd 64 k L 0, Nat.zero_add]

/-- one step of the recursion, counted: the subtree with first id `s` and half span `p` has the ids
`s … s + 2p − 2`; its root `s + p − 1` exists iff the right half is not empty -/
theorem count_step (N s p : Nat) (hp : 0 < p) :
    (if s + p - 1 < N then
        min N (s + p - 1) - min N s + (min N (s + p + p - 1) - min N (s + p)) + 1
      else min N (s + p - 1) - min N s)
      = min N (s + p * 2 - 1) - min N s := by
  have e : s + p + p - 1 = s + p * 2 - 1 := by omega
  have hmono : s + p - 1 ≤ s + p * 2 - 1 := by omega
  rw [e]
  by_cases h : s + p - 1 < N
  · have h1 : s + p ≤ N := by omega
    have h2 : s + p ≤ min N (s + p * 2 - 1) := Nat.le_min.mpr ⟨h1, by omega⟩
    rw [if_pos h, Nat.min_eq_right (Nat.le_of_lt h),
      Nat.min_eq_right (Nat.le_trans (Nat.le_add_right s p) h1), Nat.min_eq_right h1]
    -- `p - 1` ids left of the root, the root, and `r` ids right of it
    obtain ⟨r, hr⟩ := Nat.exists_eq_add_of_le h2
    rw [hr, Nat.sub_right_comm, Nat.add_sub_cancel_left, Nat.add_sub_cancel_left, Nat.add_assoc s,
      Nat.add_sub_cancel_left, Nat.add_right_comm, Nat.sub_add_cancel hp]
  · rw [if_neg h, Nat.min_eq_left (Nat.not_lt.mp h),
      Nat.min_eq_left (Nat.le_trans (Nat.not_lt.mp h) hmono)]

theorem postD_length (N L k : Nat) :
    (postD N L k).length = min N (startOf k L + 2 ^ (L + 1) - 1) - min N (startOf k L) := by
  induction L generalizing k with
  | zero =>
    simp only [postD, nodeOf_zero, startOf_zero]
    show _ = min N (2 * k + 1) - min N (2 * k)
    by_cases h : 2 * k < N
    · rw [if_pos h, Nat.min_eq_right (show 2 * k + 1 ≤ N from h), Nat.min_eq_right (Nat.le_of_lt h),
        Nat.add_sub_cancel_left]
      rfl
    · rw [if_neg h, Nat.min_eq_left (Nat.le_succ_of_le (Nat.not_lt.mp h)),
        Nat.min_eq_left (Nat.not_lt.mp h), Nat.sub_self]
      rfl
  | succ L ih =>
    rw [Nat.pow_succ 2 (L + 1), ← count_step N _ _ (two_pow_pos' (L + 1)), ← nodeOf_start]
    simp only [postD, apply_ite List.length, List.length_append, List.length_singleton, ih,
      startOf_left, startOf_right, nodeOf_start k (L + 1)]

theorem preD_perm (N L k : Nat) : (preD N L k).Perm (postD N L k) := by
  induction L generalizing k with
  | zero => exact List.Perm.refl _
  | succ L ih =>
    by_cases h : nodeOf k (L + 1) < N
    · simp only [preD, postD, if_pos h]
      exact (((ih _).append (ih _)).cons _).trans (List.perm_append_singleton _ _).symm
    · simp only [preD, postD, if_neg h]
      exact ih _

theorem preD_length (N L k : Nat) :
    (preD N L k).length = min N (startOf k L + 2 ^ (L + 1) - 1) - min N (startOf k L) := by
  rw [(preD_perm N L k).length_eq, postD_length]

theorem length_left {N L k : Nat} (h : nodeOf k (L + 1) < N) :
    (postD N L (2 * k)).length = 2 ^ (L + 1) - 1 := by
  rw [nodeOf_start] at h
  rw [postD_length, startOf_left, Nat.min_eq_right (Nat.le_of_lt h),
    Nat.min_eq_right (Nat.le_trans (Nat.le_sub_of_add_le
      (Nat.add_le_add_left (two_pow_pos' (L + 1)) _)) (Nat.le_of_lt h)),
    Nat.sub_right_comm, Nat.add_sub_cancel_left]

theorem length_root {N L : Nat} (h : N ≤ 2 ^ L) : (postD N L 0).length = N := by
  have hp := two_pow_pos' L
  rw [postD_length, startOf_zero_left, Nat.zero_add, Nat.pow_succ, Nat.min_eq_left (by omega),
    Nat.min_eq_right (Nat.zero_le N), Nat.sub_zero]

theorem range'_node_pre (b m n : Nat) :
    b :: (List.range' (b + 1) m ++ List.range' (b + 1 + m) n) = List.range' b (m + n + 1) := by
  rw [List.range'_append_1, ← List.range'_succ]

theorem range'_node_post (b m n : Nat) :
    List.range' b m ++ List.range' (b + m) n ++ [b + (m + n)] = List.range' b (m + n + 1) := by
  rw [List.range'_append_1, List.range'_concat, Nat.one_mul]

/-- pre-order offsets along the dense pre-order list are consecutive -/
theorem preD_offsets (N F : Nat) (hNF : N ≤ F) (hFN : F ≤ N + 1) (hodd : F % 2 = 1)
    (hN : N ≤ 2 ^ 63) (L k : Nat) (hk : startOf k L ≤ N) :
    (preD N L k).map (fun x => Tree.preOrderOffsetLoop x F)
      = List.range' (startOf k L - popcount k + ancUp N 64 k L) (preD N L k).length := by
  induction L generalizing k with
  | zero =>
    by_cases h : nodeOf k 0 < N
    · have hx : nodeOf k 0 < 2 ^ 64 := by omega
      simp [preD, h, preOrderOffsetLoop_eq N F hNF hFN hodd k 0 hx]
    · simp [preD, h]
  | succ L ih =>
    have hk63 := index_lt_of_start_le hk hN
    by_cases h : nodeOf k (L + 1) < N
    · have h' := h
      rw [nodeOf_start] at h'
      have ihl := ih (2 * k) (by rw [startOf_left]; exact hk)
      have ihr := ih (2 * k + 1) (by rw [startOf_right]; exact Nat.le_of_pred_lt h')
      rw [base_left L hk63, ancUp_child N _ k L hN (Nat.mul_div_cancel_left k (by decide)), if_pos h,
        Nat.add_comm 1, ← Nat.add_assoc] at ihl
      rw [base_right L hk63, ancUp_child N _ k L hN (by omega), if_pos h, Nat.add_comm 1,
        ← Nat.add_assoc, Nat.add_right_comm _ (2 ^ (L + 1) - 1),
        Nat.add_right_comm _ (2 ^ (L + 1) - 1), ← length_left h,
        ← (preD_perm N L (2 * k)).length_eq] at ihr
      simp only [preD, if_pos h, List.map_cons, List.map_append, List.length_cons,
        List.length_append, ihl, ihr, preOrderOffsetLoop_eq N F hNF hFN hodd k (L + 1) (by omega)]
      exact range'_node_pre _ _ _
    · have ihl := ih (2 * k) (by rw [startOf_left]; exact hk)
      rw [base_left L hk63, ancUp_child N _ k L hN (Nat.mul_div_cancel_left k (by decide)), if_neg h,
        Nat.zero_add] at ihl
      simp only [preD, if_neg h, ihl]

/-- closed form of `TreeNode::post_order_offset` in coordinates -/
theorem node_postOrderOffset_eq (k L : Nat) (hx : nodeOf k L + 1 < 2 ^ 64) :
    Node.postOrderOffset (nodeOf k L) = 2 ^ (L + 1) - 2 + startOf k L - popcount k := by
  have hs : startOf k L < 2 ^ 64 := by
    have := nodeOf_start k L; have := two_pow_pos' L; omega
  rw [C18.postOrderOffset_spec hx, popcount_startOf hs,
    Nat.add_sub_assoc (popcount_le_startOf k L)]

theorem chunkRange_snd (k L : Nat) (hx : nodeOf k L < 2 ^ 64) :
    (Node.chunkRange (nodeOf k L)).2 = endOf k L := by
  rw [C18.chunkRange_spec (level_le_of_lt hx)]

theorem shifted_props (size bs : Nat) :
    Tree.blocks ⟨size, bs⟩ - 1 ≤ (Tree.shifted ⟨size, bs⟩).2 ∧
    (Tree.shifted ⟨size, bs⟩).2 ≤ Tree.blocks ⟨size, bs⟩ - 1 + 1 ∧
    (Tree.shifted ⟨size, bs⟩).2 % 2 = 1 := by
  unfold Tree.shifted Tree.blocks Tree.blocksRaw divCeil2
  simp only [Nat.add_comm 10 bs]
  generalize size / 2 ^ (bs + 10) = q
  generalize (if size % 2 ^ (bs + 10) ≠ 0 then 1 else 0) = r
  omega

theorem blocks_le (size bs : Nat) (hs : size ≤ 2 ^ 63) : Tree.blocks ⟨size, bs⟩ - 1 ≤ 2 ^ 63 := by
  unfold Tree.blocks Tree.blocksRaw
  have := Nat.div_le_self size (2 ^ (bs + 10))
  simp only
  split <;> omega

theorem full_blocks (size bs : Nat) :
    Tree.blocks ⟨size, bs⟩ - 1 ≤ size / 2 ^ (bs + 10) ∧
    size / 2 ^ (bs + 10) ≤ Tree.blocks ⟨size, bs⟩ - 1 + 1 := by
  unfold Tree.blocks Tree.blocksRaw
  simp only
  generalize size / 2 ^ (bs + 10) = q
  by_cases h : size % 2 ^ (bs + 10) ≠ 0
  · rw [if_pos h]; omega
  · rw [if_neg h]; omega

theorem persisted_mid {size bs x : Nat} (hx : x < Tree.blocks ⟨size, bs⟩ - 1) :
    (x + 1) * 2 ^ bs * 1024 < size := by
  exact (lt_blocks_iff_bytes size bs (x + 1) (by omega)).mp (by omega)

theorem pre_shift {size bs x : Nat} (hx : x < Tree.blocks ⟨size, bs⟩ - 1) :
    Tree.preOrderOffset ⟨size, bs⟩ (up bs x)
      = some (Tree.preOrderOffsetLoop x (Tree.shifted ⟨size, bs⟩).2) := by
  have hm := persisted_mid hx
  unfold Tree.preOrderOffset
  simp only [addBs_up, Node.mid, up_succ, toBytes]
  have : ¬ ((x + 1) * 2 ^ bs * 1024 ≥ size) := by omega
  simp [this]

/-- `BaoTree::post_order_offset` of a persisted node, in shifted coordinates -/
theorem post_shift {size bs k L : Nat} (hs : size ≤ 2 ^ 63)
    (hx : nodeOf k L < Tree.blocks ⟨size, bs⟩ - 1) :
    Tree.postOrderOffset ⟨size, bs⟩ (up bs (nodeOf k L))
      = some (if (k + 1) * 2 ^ (L + 1) ≤ size / 2 ^ (bs + 10)
          then .stable (Node.postOrderOffset (nodeOf k L))
          else .unstable (Tree.blocks ⟨size, bs⟩ - 1 - (popcount k + 1))) := by
  have hm := persisted_mid hx
  have hu := up_succ bs (nodeOf k L)
  have hb : up bs (nodeOf k L) + 1 < 2 ^ 64 := by omega
  have hpk : popcount k + 1 ≤ Tree.blocks ⟨size, bs⟩ - 1 := by
    have := popcount_le k
    have := le_startOf k L
    have := nodeOf_start k L
    have := two_pow_pos' L
    omega
  have hend : endOf k (L + bs) * 1024 ≤ size ↔ (k + 1) * 2 ^ (L + 1) ≤ size / 2 ^ (bs + 10) := by
    rw [Nat.le_div_iff_mul_le (two_pow_pos' _), endOf_shift, Nat.pow_add 2 bs 10, Nat.mul_assoc,
      Nat.mul_assoc]
  unfold Tree.postOrderOffset
  have hpc : popcount (up bs (nodeOf k L) + 1) - 1 + 1 = popcount k + 1 := by
    rw [up_nodeOf] at hb ⊢
    rw [popcount_nodeOf_succ hb]
    omega
  simp only [addBs_up, Node.mid, toBytes, Node.rightCount, Tree.outboardPairs, hpc]
  simp only [hu]
  simp only [up_nodeOf] at hb ⊢
  simp only [chunkRange_snd k (L + bs) (by omega)]
  have hnh : ¬ ((nodeOf k L + 1) * 2 ^ bs * 1024 ≥ size) := by omega
  by_cases hst : endOf k (L + bs) * 1024 ≤ size
  · simp [hst, hend.mp hst]
  · have hsub : sub? (Tree.blocks ⟨size, bs⟩ - 1) (popcount k + 1)
        = some (Tree.blocks ⟨size, bs⟩ - 1 - (popcount k + 1)) := by
      unfold sub?
      rw [if_pos (by omega)]
    simp [hst, mt hend.mpr hst, hnh, hsub]

/-- value of `post_order_offset` of a persisted node: the offset of the first node of its subtree plus
the number of the other nodes of the subtree (stable or not) -/
theorem post_value {size bs k L : Nat} (hs : size ≤ 2 ^ 63)
    (hx : nodeOf k L < Tree.blocks ⟨size, bs⟩ - 1) :
    (Tree.postOrderOffset ⟨size, bs⟩ (up bs (nodeOf k L))).map Tree.PostOffset.value
      = some (startOf k L - popcount k + ((postD (Tree.blocks ⟨size, bs⟩ - 1) L k).length - 1)) := by
  have hx64 : nodeOf k L + 1 < 2 ^ 64 := by have := blocks_le size bs hs; omega
  have hpk := popcount_le_startOf k L
  have hsN : startOf k L < Tree.blocks ⟨size, bs⟩ - 1 := by
    have := nodeOf_start k L; have := two_pow_pos' L; omega
  have he : (k + 1) * 2 ^ (L + 1) = startOf k L + 2 ^ (L + 1) := endOf_start k L
  rw [post_shift hs hx, postD_length, Nat.min_eq_right (Nat.le_of_lt hsN), he]
  by_cases h : startOf k L + 2 ^ (L + 1) ≤ size / 2 ^ (bs + 10)
  · have hN : startOf k L + 2 ^ (L + 1) - 1 ≤ Tree.blocks ⟨size, bs⟩ - 1 := by
      have := (full_blocks size bs).2; omega
    rw [if_pos h, Option.map_some, Tree.PostOffset.value, node_postOrderOffset_eq k L hx64,
      Nat.min_eq_right hN, Nat.sub_right_comm (_ + _), Nat.add_sub_cancel_left, Nat.sub_sub,
      Nat.add_comm (_ - 2), Nat.sub_add_comm hpk]
  · have hN : Tree.blocks ⟨size, bs⟩ - 1 ≤ startOf k L + 2 ^ (L + 1) - 1 := by
      have := (full_blocks size bs).1; omega
    rw [if_neg h, Option.map_some, Tree.PostOffset.value, Nat.min_eq_left hN]
    -- with `N = s + m + 1`: both sides are `s - popcount k + m`
    obtain ⟨m, hm⟩ := Nat.exists_eq_add_of_lt hsN
    rw [hm, Nat.add_sub_add_right, Nat.sub_add_comm hpk, Nat.add_assoc, Nat.add_sub_cancel_left,
      Nat.add_sub_cancel]

/-- post-order offsets along the dense post-order list are consecutive -/
theorem postD_offsets (size bs : Nat) (hs : size ≤ 2 ^ 63) (L k : Nat)
    (hk : startOf k L ≤ Tree.blocks ⟨size, bs⟩ - 1) :
    (postD (Tree.blocks ⟨size, bs⟩ - 1) L k).map
        (fun x => (Tree.postOrderOffset ⟨size, bs⟩ (up bs x)).map Tree.PostOffset.value)
      = (List.range' (startOf k L - popcount k)
          (postD (Tree.blocks ⟨size, bs⟩ - 1) L k).length).map some := by
  induction L generalizing k with
  | zero =>
    by_cases h : nodeOf k 0 < Tree.blocks ⟨size, bs⟩ - 1
    · have hv := post_value hs h
      simp only [postD, if_pos h, List.length_singleton] at hv ⊢
      simp [hv]
    · simp [postD, h]
  | succ L ih =>
    have hk63 := index_lt_of_start_le hk (blocks_le size bs hs)
    by_cases h : nodeOf k (L + 1) < Tree.blocks ⟨size, bs⟩ - 1
    · have h' := h
      rw [nodeOf_start] at h'
      have hv := post_value hs h
      have ihl := ih (2 * k) (by rw [startOf_left]; exact hk)
      have ihr := ih (2 * k + 1) (by rw [startOf_right]; exact Nat.le_of_pred_lt h')
      rw [base_left L hk63] at ihl
      rw [base_right L hk63, ← length_left h] at ihr
      simp only [postD, if_pos h, List.map_append, List.map_cons, List.map_nil, List.length_append,
        List.length_singleton, Nat.add_sub_cancel, ihl, ihr] at hv ⊢
      rw [hv, ← range'_node_post, List.map_append, List.map_append]
      rfl
    · have ihl := ih (2 * k) (by rw [startOf_left]; exact hk)
      rw [base_left L hk63] at ihl
      simp only [postD, if_neg h, ihl]

theorem nextPow2Aux_spec (fuel i x : Nat) (h : x ≤ 2 ^ (i + fuel)) :
    ∃ j, i ≤ j ∧ nextPow2Aux fuel (2 ^ i) x = 2 ^ j ∧ x ≤ 2 ^ j ∧ (j = i ∨ 2 ^ (j - 1) < x) := by
  induction fuel generalizing i with
  | zero => exact ⟨i, Nat.le_refl _, rfl, h, Or.inl rfl⟩
  | succ f ih =>
    unfold nextPow2Aux
    by_cases hx : x ≤ 2 ^ i
    · rw [if_pos hx]; exact ⟨i, Nat.le_refl _, rfl, hx, Or.inl rfl⟩
    · rw [if_neg hx, ← Nat.pow_succ']
      obtain ⟨j, hj, e, hle, hmin⟩ :=
        ih (i + 1) (by rw [show i + 1 + f = i + (f + 1) by omega]; exact h)
      refine ⟨j, by omega, e, hle, Or.inr ?_⟩
      rcases hmin with rfl | hmin
      · simp only [Nat.add_sub_cancel]; omega
      · exact hmin

/-- `next_power_of_two`: a power of two `≥ x`, minimal -/
theorem nextPow2_spec {x : Nat} (h : x ≤ 2 ^ 63) :
    ∃ j, j ≤ 63 ∧ nextPow2 x = 2 ^ j ∧ x ≤ 2 ^ j ∧ (j = 0 ∨ 2 ^ (j - 1) < x) := by
  have h64 : x ≤ 2 ^ (0 + 64) := by omega
  obtain ⟨j, _, e, hle, hmin⟩ := nextPow2Aux_spec 64 0 x h64
  refine ⟨j, ?_, e, hle, hmin⟩
  rcases hmin with rfl | hmin
  · omega
  · have : 2 ^ (j - 1) < 2 ^ 63 := Nat.lt_of_lt_of_le hmin h
    have := (Nat.pow_lt_pow_iff_right (a := 2) (by decide)).1 this
    omega

theorem log2ceil_spec (f n : Nat) (h : n ≤ 2 ^ f) : n ≤ 2 ^ (log2ceil f n) := by
  induction f generalizing n with
  | zero => simpa [log2ceil] using h
  | succ f ih =>
    unfold log2ceil
    by_cases h1 : n ≤ 1
    · simp [h1]
    · rw [if_neg h1]
      have := ih ((n + 1) / 2) (by rw [Nat.pow_succ] at h; omega)
      rw [Nat.pow_succ]
      omega

theorem nChunks_le (size : Nat) (hs : size ≤ 2 ^ 63) : nChunks size ≤ 2 ^ 64 := by
  unfold nChunks; omega

theorem blocks_le_of_nChunks_le {size bs L : Nat} (h : nChunks size ≤ 2 ^ (L + bs)) :
    Tree.blocks ⟨size, bs⟩ ≤ 2 ^ L := by
  apply Nat.le_of_not_lt
  intro hn
  have := (lt_blocks_iff_chunks size bs (2 ^ L)).mp hn
  rw [← Nat.pow_add] at this
  omega

theorem persisted_dense (size bs : Nat) (hs : size ≤ 2 ^ 63) :
    ∃ L, Tree.blocks ⟨size, bs⟩ ≤ 2 ^ L ∧
      persistedPre size bs = (preD (Tree.blocks ⟨size, bs⟩ - 1) L 0).map (up bs) ∧
      persistedPost size bs = (postD (Tree.blocks ⟨size, bs⟩ - 1) L 0).map (up bs) := by
  have hH := log2ceil_spec 64 (nChunks size) (nChunks_le size hs)
  unfold persistedPre persistedPost
  generalize log2ceil 64 (nChunks size) = H at *
  by_cases hHb : H < bs
  · have hB : Tree.blocks ⟨size, bs⟩ ≤ 2 ^ 0 :=
      blocks_le_of_nChunks_le
        (Nat.le_trans hH (Nat.pow_le_pow_right (by decide) (by omega)))
    have hN : Tree.blocks ⟨size, bs⟩ - 1 = 0 := by omega
    rw [(nodes_lt _ _ _ _ hHb).1, (nodes_lt _ _ _ _ hHb).2, hN]
    exact ⟨0, hB, rfl, rfl⟩
  · obtain ⟨L, rfl⟩ : ∃ L, H = L + bs := ⟨H - bs, by omega⟩
    exact ⟨L, blocks_le_of_nChunks_le hH, nodes_shift size bs L 0⟩

theorem mem_postD (N L k x : Nat) (h : x ∈ postD N L k) :
    ∃ k' L', x = nodeOf k' L' ∧ L' ≤ L ∧ x < N ∧
      startOf k L ≤ startOf k' L' ∧ endOf k' L' ≤ endOf k L := by
  induction L generalizing k with
  | zero =>
    by_cases h0 : nodeOf k 0 < N
    · simp only [postD, if_pos h0, List.mem_singleton] at h
      exact ⟨k, 0, h, Nat.le_refl _, h ▸ h0, Nat.le_refl _, Nat.le_refl _⟩
    · simp [postD, h0] at h
  | succ L ih =>
    -- a member of the list of a child `c`, whose interval lies inside that of `(k, L + 1)`
    have hsub : ∀ c, startOf k (L + 1) ≤ startOf c L → endOf c L ≤ endOf k (L + 1) →
        x ∈ postD N L c → ∃ k' L', x = nodeOf k' L' ∧ L' ≤ L + 1 ∧ x < N ∧
          startOf k (L + 1) ≤ startOf k' L' ∧ endOf k' L' ≤ endOf k (L + 1) := by
      intro c h1 h2 hc
      obtain ⟨k', L', e, hL, hN, h5, h6⟩ := ih c hc
      exact ⟨k', L', e, Nat.le_succ_of_le hL, hN, Nat.le_trans h1 h5, Nat.le_trans h6 h2⟩
    have hleft := hsub (2 * k) (Nat.le_of_eq (Bits.startOf_left k L).symm)
      (by rw [Bits.endOf_left]; exact Nat.le_of_lt (midOf_lt_endOf _ _))
    by_cases h0 : nodeOf k (L + 1) < N
    · simp only [postD, if_pos h0, List.mem_append, List.mem_singleton] at h
      rcases h with (h | h) | h
      · exact hleft h
      · exact hsub _ (by rw [Bits.startOf_right]; exact Nat.le_of_lt (startOf_lt_midOf _ _))
          (Nat.le_of_eq (Bits.endOf_right k L)) h
      · exact ⟨k, L + 1, h, Nat.le_refl _, h ▸ h0, Nat.le_refl _, Nat.le_refl _⟩
    · simp only [postD, if_neg h0] at h
      exact hleft h

theorem mem_preD_lt (N L k x : Nat) (h : x ∈ preD N L k) : x < N := by
  obtain ⟨_, _, _, _, h3, _⟩ := mem_postD N L k x ((preD_perm N L k).mem_iff.mp h)
  exact h3

theorem getElem_of_map_eq_range {α : Type} (P : List α) (f : α → Option Nat) (b : Nat)
    (h : P.map f = (List.range' b P.length).map some) (i : Nat) (hi : i < P.length) :
    f P[i] = some (b + i) := by
  have := congrArg (fun l => l[i]?) h
  simpa [hi] using this

/-- C12, pre-order: the offsets along `persistedPre` are `0, 1, 2, …` -/
theorem persistedPre_offsets (size bs : Nat) (hs : size ≤ 2 ^ 63) :
    (persistedPre size bs).length = Tree.blocks ⟨size, bs⟩ - 1 ∧
    (persistedPre size bs).map (Tree.preOrderOffset ⟨size, bs⟩)
      = (List.range' 0 (persistedPre size bs).length).map some := by
  obtain ⟨L, hB, e, _⟩ := persisted_dense size bs hs
  obtain ⟨hNF, hFN, hodd⟩ := shifted_props size bs
  have hs0 := startOf_zero_left L
  have hoff := preD_offsets _ _ hNF hFN hodd (blocks_le size bs hs) L 0 (by rw [hs0]; omega)
  rw [hs0, ancUp_zero_of_le _ 64 0 L (by omega), Nat.zero_sub] at hoff
  rw [e, List.length_map, List.map_map]
  refine ⟨(preD_perm _ L 0).length_eq.trans (length_root (by omega)), ?_⟩
  rw [← hoff, List.map_map]
  apply List.map_congr_left
  intro x hx
  exact pre_shift (mem_preD_lt _ L 0 x hx)

/-- C12, post-order: the offsets along `persistedPost` are `0, 1, 2, …` -/
theorem persistedPost_offsets (size bs : Nat) (hs : size ≤ 2 ^ 63) :
    (persistedPost size bs).length = Tree.blocks ⟨size, bs⟩ - 1 ∧
    (persistedPost size bs).map
        (fun x => (Tree.postOrderOffset ⟨size, bs⟩ x).map Tree.PostOffset.value)
      = (List.range' 0 (persistedPost size bs).length).map some := by
  obtain ⟨L, hB, _, e⟩ := persisted_dense size bs hs
  have hs0 := startOf_zero_left L
  have hoff := postD_offsets size bs hs L 0 (by rw [hs0]; omega)
  rw [hs0] at hoff
  rw [e, List.length_map, List.map_map]
  exact ⟨length_root (by omega), hoff⟩

theorem trailingOnesAux_ge (n fuel x : Nat) (h : x % 2 ^ n = 2 ^ n - 1) (hf : n ≤ fuel) :
    n ≤ trailingOnesAux fuel x := by
  induction n generalizing fuel x with
  | zero => omega
  | succ n ih =>
    cases fuel with
    | zero => omega
    | succ f =>
      have hp := two_pow_pos' n
      rw [Nat.pow_succ, Nat.mul_comm, Nat.mod_mul] at h
      have hlt := Nat.mod_lt (x / 2) hp
      have h1 : x % 2 = 1 := by omega
      have h2 : x / 2 % 2 ^ n = 2 ^ n - 1 := by omega
      have := ih f (x / 2) h2 (by omega)
      simp only [trailingOnesAux, h1, if_true]
      omega

theorem addBs_none_of_level_lt {x bs : Nat} (h : Node.level x < bs) (hbs : bs ≤ 64) :
    Node.addBs x bs = none := by
  unfold Node.addBs
  by_cases hc : x % 2 ^ bs = 2 ^ bs - 1
  · have := trailingOnesAux_ge bs 64 x hc hbs
    unfold Node.level trailingOnes at h
    omega
  · rw [if_neg hc]

theorem blocks_mul_le (size bs : Nat) (hs : size ≤ 2 ^ 63) (hbs : bs ≤ 10) :
    (Tree.blocks ⟨size, bs⟩ - 1 + 1) * 2 ^ bs ≤ 2 ^ 64 := by
  have hp : (2 : Nat) ^ bs ≤ 2 ^ 10 := Nat.pow_le_pow_right (by decide) hbs
  have hpp := two_pow_pos' bs
  by_cases h1 : Tree.blocks ⟨size, bs⟩ - 1 = 0
  · rw [h1]; omega
  · have := (lt_blocks_iff_bytes size bs (Tree.blocks ⟨size, bs⟩ - 1) (by omega)).mp (by omega)
    rw [Nat.add_mul]
    generalize (Tree.blocks ⟨size, bs⟩ - 1) * 2 ^ bs = q at *
    omega

/-- the half-filled last leaf (odd number of blocks): its mid is not inside the blob -/
theorem half_leaf_facts (size bs : Nat) (hs : size ≤ 2 ^ 63) (hbs : bs ≤ 10) :
    Node.subBs (Tree.blocks ⟨size, bs⟩ - 1) bs = up bs (Tree.blocks ⟨size, bs⟩ - 1) ∧
    size ≤ (Tree.blocks ⟨size, bs⟩ - 1 + 1) * 2 ^ bs * 1024 := by
  refine ⟨subBs_eq_up (blocks_mul_le size bs hs hbs), ?_⟩
  have hBp := blocks_pos size bs
  have e : Tree.blocks ⟨size, bs⟩ - 1 + 1 = Tree.blocks ⟨size, bs⟩ := by omega
  rw [e]
  have := mt (lt_blocks_iff_bytes size bs (Tree.blocks ⟨size, bs⟩) hBp).mpr (by omega)
  omega

theorem pre_half_leaf (size bs : Nat) (hs : size ≤ 2 ^ 63) (hbs : bs ≤ 10)
    (hodd : Tree.blocks ⟨size, bs⟩ % 2 = 1) :
    Tree.preOrderOffset ⟨size, bs⟩ (Node.subBs (Tree.blocks ⟨size, bs⟩ - 1) bs) = none := by
  obtain ⟨e, hge⟩ := half_leaf_facts size bs hs hbs
  have hl : Node.isLeaf (Tree.blocks ⟨size, bs⟩ - 1) = true := by
    unfold Node.isLeaf; simp; omega
  rw [e]
  unfold Tree.preOrderOffset
  simp only [addBs_up, Node.mid, up_succ, toBytes, hl]
  simp [hge]

theorem post_half_leaf (size bs : Nat) (hs : size ≤ 2 ^ 63) (hbs : bs ≤ 10)
    (hodd : Tree.blocks ⟨size, bs⟩ % 2 = 1) :
    Tree.postOrderOffset ⟨size, bs⟩ (Node.subBs (Tree.blocks ⟨size, bs⟩ - 1) bs) = none := by
  obtain ⟨e, hge⟩ := half_leaf_facts size bs hs hbs
  have hl : Node.isLeaf (Tree.blocks ⟨size, bs⟩ - 1) = true := by
    unfold Node.isLeaf; simp; omega
  rw [e]
  unfold Tree.postOrderOffset
  have hsp := two_pow_pos' (Node.level (up bs (Tree.blocks ⟨size, bs⟩ - 1)))
  have hns : ¬ ((up bs (Tree.blocks ⟨size, bs⟩ - 1) + 1
      + 2 ^ Node.level (up bs (Tree.blocks ⟨size, bs⟩ - 1))) * 1024 ≤ size) := by
    simp only [up_succ]; omega
  simp only [addBs_up, Node.mid, toBytes, hl, Node.chunkRange, if_neg hns]
  simp only [up_succ]
  simp [hge]

/-- `post_order_offset` says "stable" exactly when the chunk range ends inside the blob -/
theorem stable_iff_raw (size bs x sh : Nat) (h : Node.addBs x bs = some sh) (v : Nat) :
    Tree.postOrderOffset ⟨size, bs⟩ x = some (.stable v) ↔
      (toBytes (Node.chunkRange x).2 ≤ size ∧ v = Node.postOrderOffset sh) := by
  unfold Tree.postOrderOffset
  simp only [h]
  by_cases hc : toBytes (Node.chunkRange x).2 ≤ size
  · simp [hc, eq_comm]
  · simp only [hc, if_false, false_and, iff_false]
    split
    · simp
    · split <;> simp

theorem stable_mono (size size' bs x v : Nat) (hle : size ≤ size')
    (h : Tree.postOrderOffset ⟨size, bs⟩ x = some (.stable v)) :
    Tree.postOrderOffset ⟨size', bs⟩ x = some (.stable v) := by
  cases ha : Node.addBs x bs with
  | none =>
    unfold Tree.postOrderOffset at h
    simp [ha] at h
  | some sh =>
    rw [stable_iff_raw size bs x sh ha] at h
    rw [stable_iff_raw size' bs x sh ha]
    exact ⟨by omega, h.2⟩

theorem stable_iff_coord (size bs k L : Nat) (hs : size ≤ 2 ^ 63) (hL : bs ≤ L) (v : Nat) :
    Tree.postOrderOffset ⟨size, bs⟩ (nodeOf k L) = some (.stable v) ↔
      (endOf k L * 1024 ≤ size ∧ v = Node.postOrderOffset (nodeOf k (L - bs))) := by
  obtain ⟨L', rfl⟩ : ∃ L', L = L' + bs := ⟨L - bs, by omega⟩
  have ha : Node.addBs (nodeOf k (L' + bs)) bs = some (nodeOf k L') := by
    rw [← up_nodeOf, addBs_up]
  rw [stable_iff_raw size bs _ _ ha, Nat.add_sub_cancel]
  by_cases hx : nodeOf k (L' + bs) < 2 ^ 64
  · rw [chunkRange_snd k _ hx]; rfl
  · have h1 : ¬ (toBytes (Node.chunkRange (nodeOf k (L' + bs))).2 ≤ size) := by
      have := two_pow_pos' (Node.level (nodeOf k (L' + bs)))
      unfold Node.chunkRange toBytes
      simp only
      omega
    have h2 : ¬ (endOf k (L' + bs) * 1024 ≤ size) := by
      have := nodeOf_succ k (L' + bs)
      have := endOf_eq k (L' + bs)
      have := two_pow_pos' (L' + bs)
      omega
    simp [h1, h2]

/-- "`post_order_offset` classifies the node as stable" -/
def isStable (t : Tree) (x : Nat) : Bool :=
  match Tree.postOrderOffset t x with
  | some (.stable _) => true
  | _ => false

theorem isStable_iff (t : Tree) (x : Nat) :
    isStable t x = true ↔ ∃ v, Tree.postOrderOffset t x = some (.stable v) := by
  unfold isStable
  split
  · rename_i v h; simp [h]
  · rename_i h
    simp only [Bool.false_eq_true, false_iff]
    rintro ⟨v, hv⟩
    exact h v hv

theorem isStable_shift {size bs k L : Nat} (hs : size ≤ 2 ^ 63)
    (hx : nodeOf k L < Tree.blocks ⟨size, bs⟩ - 1) :
    isStable ⟨size, bs⟩ (up bs (nodeOf k L)) = true ↔ endOf k L ≤ size / 2 ^ (bs + 10) := by
  unfold isStable endOf
  rw [post_shift hs hx]
  by_cases h : (k + 1) * 2 ^ (L + 1) ≤ size / 2 ^ (bs + 10) <;> simp [h]

/-- no stable node after an unstable one: along the post-order list the chunk ranges end later and
later, and a node is stable iff its range ends inside the blob -/
theorem postD_pairwise (size bs : Nat) (hs : size ≤ 2 ^ 63) (L k : Nat) :
    (postD (Tree.blocks ⟨size, bs⟩ - 1) L k).Pairwise
      (fun a b => isStable ⟨size, bs⟩ (up bs b) = true → isStable ⟨size, bs⟩ (up bs a) = true) := by
  have hfb := full_blocks size bs
  induction L generalizing k with
  | zero =>
    by_cases h0 : nodeOf k 0 < Tree.blocks ⟨size, bs⟩ - 1
    · simp [postD, h0]
    · simp [postD, h0]
  | succ L ih =>
    by_cases h0 : nodeOf k (L + 1) < Tree.blocks ⟨size, bs⟩ - 1
    · obtain ⟨hx, -, hel, -, -, -⟩ := child_coords k L
      simp only [postD, if_pos h0]
      rw [List.append_assoc, List.pairwise_append]
      refine ⟨ih _, ?_, ?_⟩
      · -- the right subtree ends where the node ends
        rw [List.pairwise_append]
        refine ⟨ih _, List.pairwise_singleton _ _, ?_⟩
        intro a ha b hb hst
        rw [List.mem_singleton] at hb
        subst hb
        obtain ⟨k', L', h1, _, h2, _, h3⟩ := mem_postD _ _ _ _ ha
        subst h1
        rw [isStable_shift hs h0] at hst
        rw [isStable_shift hs h2]
        exact Nat.le_trans (Bits.endOf_right k L ▸ h3) hst
      · -- the left subtree ends below the node, which exists
        intro a ha b _ _
        obtain ⟨k', L', h1, _, h2, _, h3⟩ := mem_postD _ _ _ _ ha
        subst h1
        rw [isStable_shift hs h2]
        rw [hel, ← hx] at h3
        exact Nat.le_trans h3 (Nat.le_trans h0 hfb.1)
    · simp only [postD, if_neg h0]
      exact ih _

theorem persistedPost_pairwise (size bs : Nat) (hs : size ≤ 2 ^ 63) :
    (persistedPost size bs).Pairwise
      (fun a b => isStable ⟨size, bs⟩ b = true → isStable ⟨size, bs⟩ a = true) := by
  obtain ⟨L, _, _, e⟩ := persisted_dense size bs hs
  rw [e, List.pairwise_map]
  exact postD_pairwise size bs hs L 0

/-- `p` downward closed along the list: the positions where it holds form a prefix -/
theorem prefix_of_pairwise {α : Type} (p : α → Bool) (l : List α)
    (h : l.Pairwise (fun a b => p b = true → p a = true)) (i : Nat) (hi : i < l.length) :
    p l[i] = true ↔ i < l.countP p := by
  induction l generalizing i with
  | nil => simp at hi
  | cons a l ih =>
    rw [List.pairwise_cons] at h
    by_cases hpa : p a = true
    · cases i with
      | zero => simp [hpa]
      | succ j =>
        have := ih h.2 j (by simpa using hi)
        simp [hpa, this]
    · have hall : ∀ b ∈ l, p b = false := by
        intro b hb
        have := mt (h.1 b hb) hpa
        simpa using this
      have hc : l.countP p = 0 := by
        rw [List.countP_eq_zero]
        intro b hb
        simp [hall b hb]
      cases i with
      | zero => simp [hpa, hc]
      | succ j =>
        have hj : j < l.length := by simpa using hi
        have := hall l[j] (List.getElem_mem hj)
        simp [hpa, hc, this]

end Bao.Offsets
