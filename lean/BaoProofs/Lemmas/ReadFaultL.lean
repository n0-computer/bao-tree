import BaoModel.FaultRead
import BaoProofs.Lemmas.C01InvLoc
import BaoProofs.Lemmas.DecSim
import BaoProofs.Lemmas.DecRunL

/-!
# Lemmas for `decodeRangesR` (`decode_ranges` with one failing read of the stream)

* `nextR_eq` – a decoder step is "pull a plan item, read, `post`" (`C01.next_eq`); the step with
  the read counter differs only in the read;
* `readExactR_clear`, `readExactR_fail` – the read with a counter: none of its calls fails / one does;
* `act`, `aux_succ`, `rAux_succ`, `calls_succ` – one iteration of the `decode_ranges` loop;
* `rAux_none` – no fault: the plain model;
* `rAux_trace`, `rAux_start` – the faulty run in terms of the read calls of the fault-free run: reached → the
  fault-free run stopped after `m` items (fuel `m`), terminal replaced; not reached → the fault-free run;
* `loop_go`, `calls_induct` – what an iteration that goes round again has done; induction over
  the read calls of the loop, used for `cut_aux` and the three `calls_…` lemmas;
* `cut_aux` – the run on the stream cut in front of a (non-empty) item is that fuel-limited run too;
* `aux_fuel_prefix`, `runEvalsAux_fuel`, `aux_panic` – fuel-limited runs are prefixes;
* `calls_items`, `calls_fsm_item`, `calls_plan` – where a read call is: item index, stream offset,
  plan item (over the iterator states `st …` / `pending` of `Lemmas/DecRunL.lean`).
-/

namespace Bao.C01Read
open Bao Bao.C01

variable {H : Type} (hf : HashFns H) [BEq H] (fl : Flavour) (tree : Tree)

/-- the plain step's answer with the read counter `c` attached to its state: the counting step is
`withC` of `post` (`nextR_eq`) -/
def withC (c : Nat) : DecNext H (Dec H) → DecNext H (Dec H × Nat)
  | .item i d => .item i (d, c)
  | .err e d => .err e (d, c)
  | .done d => .done (d, c)
  | .panic => .panic

theorem nextR_eq (f : Option ReadFault) (d : Dec H) (n : Nat) :
    d.nextR hf fl f n =
      match Response.next d.iter with
      | .done => .done (d, n)
      | .panic => .panic
      | .item c it =>
        withC (readExactR fl f d.encoded c.size n).2
          (post hf fl c it d (readExactR fl f d.encoded c.size n).1) := by
  cases hn : Response.next d.iter with
  | done => cases fl <;> simp only [Dec.nextR, Dec.nextSyncR, Dec.nextFsmR, hn]
  | panic => cases fl <;> simp only [Dec.nextR, Dec.nextSyncR, Dec.nextFsmR, hn]
  | item c it =>
    -- the same walk for both kinds of item and both flavours
    cases c <;> cases fl
    all_goals
      simp only [Dec.nextR, Dec.nextSyncR, Dec.nextFsmR, hn, Chunk.size]
      generalize readExactR _ f d.encoded _ n = r
      obtain ⟨r1, c'⟩ := r
      cases r1 with
      | error e => rfl
      | ok p =>
        simp only [post]
        cases d.stack with
        | nil => rfl
        | cons top st => simp only [apply_ite (withC _)]; rfl

theorem sync_beq : (Flavour.sync == Flavour.sync) = true := rfl
theorem fsm_beq : (Flavour.fsm == Flavour.sync) = false := rfl

theorem callsOf_fsm (s : List UInt8) (n : Nat) : readCallsOf .fsm s n = 1 := by
  unfold readCallsOf
  simp only [fsm_beq, Bool.false_and, Bool.false_eq_true, if_false]
  split <;> rfl

theorem readExactR_clear (fl : Flavour) (f : Option ReadFault) (s : List UInt8) (n c : Nat)
    (h : ∀ j, j < readCallsOf fl s n → ReadFault.hits f (c + j) = none) :
    readExactR fl f s n c = (readExact s n, c + readCallsOf fl s n) := by
  unfold readCallsOf at h ⊢
  unfold readExactR readExact
  by_cases hz : (fl == .sync && n == 0) = true
  · have hn : n = 0 := by simp only [Bool.and_eq_true, beq_iff_eq] at hz; exact hz.2
    subst hn
    simp only [hz, if_true]
    rfl
  · simp only [hz, Bool.false_eq_true, if_false] at h ⊢
    by_cases hl : n ≤ s.length
    · simp only [hl, if_true] at h ⊢
      rw [show ReadFault.hits f c = none from h 0 Nat.one_pos]
    · by_cases hs : (fl == .sync && !s.isEmpty) = true
      · simp only [hl, hs, if_true, if_false] at h ⊢
        rw [show ReadFault.hits f c = none from h 0 (by decide), h 1 (by decide)]
      · simp only [hl, hs, Bool.false_eq_true, if_false] at h ⊢
        rw [show ReadFault.hits f c = none from h 0 Nat.one_pos]

theorem readExactR_fail (fl : Flavour) (f : Option ReadFault) (s : List UInt8) (n c : Nat)
    (e : IoErr) (j : Nat) (hj : j < readCallsOf fl s n)
    (h : ∀ i, i < j → ReadFault.hits f (c + i) = none) (he : ReadFault.hits f (c + j) = some e) :
    (readExactR fl f s n c).1 = .error e := by
  unfold readCallsOf at hj
  unfold readExactR
  by_cases hz : (fl == .sync && n == 0) = true
  · simp only [hz, if_true] at hj; omega
  · simp only [hz, Bool.false_eq_true, if_false] at hj ⊢
    cases j with
    | zero => rw [Nat.add_zero] at he; rw [he]
    | succ j =>
      rw [show ReadFault.hits f c = none from h 0 (Nat.succ_pos j)]
      by_cases hl : n ≤ s.length
      · simp only [hl, if_true] at hj; omega
      · by_cases hs : (fl == .sync && !s.isEmpty) = true
        · simp only [hl, hs, if_true, if_false] at hj ⊢
          have : j = 0 := by omega
          subst this
          rw [he]
        · simp only [hl, hs, Bool.false_eq_true, if_false] at hj; omega

theorem hits_ne {k c : Nat} (e : IoErr) (h : k ≠ c) : ReadFault.hits (some ⟨k, e⟩) c = none :=
  if_neg (by rw [beq_iff_eq]; exact h)

/-- what the loop does with the decoder's answer: return, or go round again -/
inductive Act (H : Type)
  | stop (r : DecodeRangesRun H)
  | go (d : Dec H) (sink : Sink H) (ws : List (Nat × Nat)) (ss : List Nat)

def act (hf : HashFns H) (tree : Tree) (d : Dec H) (sink : Sink H) (ws : List (Nat × Nat))
    (ss : List Nat) : DecNext H (Dec H) → Act H
  | .done d' => .stop ⟨sink, .done, d'.encoded, ws.reverse, ss.reverse⟩
  | .err e d' => .stop ⟨sink, .err e, d'.encoded, ws.reverse, ss.reverse⟩
  | .panic => .stop ⟨sink, .panic, d.encoded, ws.reverse, ss.reverse⟩
  | .item (.parent node l r) d' =>
    if tree.isRelevant node then
      match sink.ob.save hf node (l, r) with
      | .ok ob => .go d' { sink with ob } ws (node :: ss)
      | .err e => .stop ⟨sink, .err (.io e), d'.encoded, ws.reverse, (node :: ss).reverse⟩
      | .panic => .stop ⟨sink, .panic, d'.encoded, ws.reverse, (node :: ss).reverse⟩
    else .go d' sink ws ss
  | .item (.leaf off data) d' =>
    .go d' { sink with target := writeAt sink.target off data } ((off, data.length) :: ws) ss

theorem aux_succ (fuel : Nat) (d : Dec H) (sink : Sink H) (ws : List (Nat × Nat)) (ss : List Nat) :
    decodeRangesAux hf fl tree (fuel + 1) d sink ws ss =
      match act hf tree d sink ws ss (d.next hf fl) with
      | .stop r => r
      | .go d' s' w' x' => decodeRangesAux hf fl tree fuel d' s' w' x' := by
  rw [decodeRangesAux]
  cases d.next hf fl with
  | done d' => rfl
  | err e d' => rfl
  | panic => rfl
  | item i d' =>
    cases i with
    | parent node l r =>
      simp only [act]
      by_cases hr : tree.isRelevant node = true
      · simp only [hr, if_true]
        cases sink.ob.save hf node (l, r) <;> rfl
      · simp only [hr, Bool.false_eq_true, if_false]
    | leaf off data => rfl

theorem rAux_succ (f : Option ReadFault)
    (fuel : Nat) (d : Dec H) (c c' : Nat) (nx : DecNext H (Dec H)) (sink : Sink H)
    (ws : List (Nat × Nat)) (ss : List Nat) (h : d.nextR hf fl f c = withC c' nx) :
    decodeRangesRAux hf fl tree f (fuel + 1) d c sink ws ss =
      match act hf tree d sink ws ss nx with
      | .stop r => r
      | .go d' s' w' x' => decodeRangesRAux hf fl tree f fuel d' c' s' w' x' := by
  rw [decodeRangesRAux, h]
  cases nx with
  | done d' => rfl
  | err e d' => rfl
  | panic => rfl
  | item i d' =>
    cases i with
    | parent node l r =>
      simp only [act, withC]
      by_cases hr : tree.isRelevant node = true
      · simp only [hr, if_true]
        cases sink.ob.save hf node (l, r) <;> rfl
      · simp only [hr, Bool.false_eq_true, if_false]
    | leaf off data => rfl

theorem calls_succ (fuel : Nat) (d : Dec H)
    (sink : Sink H) (ws : List (Nat × Nat)) (ss : List Nat) (j off : Nat) {ch : Chunk}
    {it : PrePartial} (hn : Response.next d.iter = .item ch it) :
    readCallsAux hf fl tree (fuel + 1) d sink.ob j off =
      List.replicate (readCallsOf fl d.encoded ch.size) ⟨j, off, ch⟩ ++
      match act hf tree d sink ws ss (d.next hf fl) with
      | .stop _ => []
      | .go d' s' _ _ => readCallsAux hf fl tree fuel d' s'.ob (j + 1) (off + ch.size) := by
  rw [readCallsAux, hn]
  simp only
  congr 1
  cases d.next hf fl with
  | done d' => rfl
  | err e d' => rfl
  | panic => rfl
  | item i d' =>
    cases i with
    | parent node l r =>
      simp only [act]
      by_cases hr : tree.isRelevant node = true
      · simp only [hr, if_true]
        cases sink.ob.save hf node (l, r) <;> rfl
      · simp only [hr, Bool.false_eq_true, if_false]
    | leaf off data => rfl

theorem item_or_not (it0 : PrePartial) :
    (∀ ch it, Response.next it0 ≠ .item ch it) ∨ ∃ ch it, Response.next it0 = .item ch it := by
  cases Response.next it0 with
  | item ch it => exact .inr ⟨ch, it, rfl⟩
  | done => exact .inl fun _ _ h => nomatch h
  | panic => exact .inl fun _ _ h => nomatch h

theorem calls_stop (fuel : Nat) (d : Dec H)
    (ob : Store H) (j off : Nat) (hn : ∀ ch it, Response.next d.iter ≠ .item ch it) :
    readCallsAux hf fl tree (fuel + 1) d ob j off = [] := by
  rw [readCallsAux]
  split
  · rename_i c it h; exact absurd h (hn c it)
  · rfl

theorem nextR_noitem (f : Option ReadFault) (d : Dec H)
    (c : Nat) (hn : ∀ ch it, Response.next d.iter ≠ .item ch it) :
    d.nextR hf fl f c = withC c (d.next hf fl) := by
  rw [nextR_eq, next_eq]
  cases h : Response.next d.iter with
  | done => rfl
  | panic => rfl
  | item ch it => exact absurd h (hn ch it)

theorem nextR_item_miss (k : Nat) (e : IoErr) (d : Dec H)
    (c : Nat) {ch : Chunk} {it : PrePartial} (hn : Response.next d.iter = .item ch it)
    (h : c + readCallsOf fl d.encoded ch.size ≤ k) :
    d.nextR hf fl (some ⟨k, e⟩) c =
      withC (c + readCallsOf fl d.encoded ch.size) (d.next hf fl) := by
  rw [nextR_eq, next_eq, hn]
  simp only [readExactR_clear fl (some ⟨k, e⟩) d.encoded ch.size c fun j hj => hits_ne e (by omega)]

theorem nextR_item_hit (k : Nat) (e : IoErr) (d : Dec H)
    (c : Nat) {ch : Chunk} {it : PrePartial} (hn : Response.next d.iter = .item ch it)
    (h1 : c ≤ k) (h2 : k < c + readCallsOf fl d.encoded ch.size) :
    ∃ c', d.nextR hf fl (some ⟨k, e⟩) c = withC c' (.err (failOf ch e) { d with iter := it }) := by
  rw [nextR_eq, hn]
  -- call number `k - c` of this read is the failing one
  simp only [readExactR_fail fl (some ⟨k, e⟩) d.encoded ch.size c e (k - c) (by omega)
    (fun i hi => hits_ne e (by omega))
    (by rw [Nat.add_sub_cancel' h1]; exact if_pos (beq_self_eq_true k))]
  exact ⟨_, rfl⟩

theorem nextR_none (d : Dec H) (c : Nat) :
    ∃ c', d.nextR hf fl none c = withC c' (d.next hf fl) := by
  rw [nextR_eq, next_eq]
  cases Response.next d.iter with
  | done => exact ⟨c, rfl⟩
  | panic => exact ⟨c, rfl⟩
  | item ch it => simp only [readExactR_clear fl none _ _ c fun _ _ => rfl]; exact ⟨_, rfl⟩

theorem fail_eq (j off : Nat) (ch : Chunk) (e : IoErr) :
    (ReadCall.mk j off ch).fail e = failOf ch e := by
  cases ch <;> rfl

omit [BEq H] in
theorem rAux_none (hf : HashFns H) [BEq H] (fl : Flavour) (tree : Tree) :
    ∀ (fuel : Nat) (d : Dec H) (c : Nat) (sink : Sink H) (ws : List (Nat × Nat)) (ss : List Nat),
      decodeRangesRAux hf fl tree none fuel d c sink ws ss
        = decodeRangesAux hf fl tree fuel d sink ws ss := by
  intro fuel
  induction fuel with
  | zero => intros; rfl
  | succ n ih =>
    intro d c sink ws ss
    obtain ⟨c', hc⟩ := nextR_none hf fl d c
    rw [rAux_succ hf fl tree none n d c c' _ sink ws ss hc, aux_succ]
    cases act hf tree d sink ws ss (d.next hf fl) with
    | stop r => rfl
    | go d' s' w' x' => exact ih ..

theorem rAux_noitem (f : Option ReadFault)
    (n : Nat) (d : Dec H) (c : Nat) (sink : Sink H) (ws : List (Nat × Nat)) (ss : List Nat)
    (hni : ∀ ch it, Response.next d.iter ≠ .item ch it) :
    decodeRangesRAux hf fl tree f (n + 1) d c sink ws ss
      = decodeRangesAux hf fl tree (n + 1) d sink ws ss := by
  rw [rAux_succ hf fl tree f n d c c _ sink ws ss (nextR_noitem hf fl f d c hni), aux_succ, next_eq]
  cases hn : Response.next d.iter with
  | done => rfl
  | panic => rfl
  | item ch it => exact absurd hn (hni ch it)

/-- **the faulty run in terms of the read calls of the fault-free run.**  `c ≤ k` calls have been
made; the remaining trace is `T`.  If `T` has a call number `k - c` – made for item `j + m` – the
run is the fault-free run stopped in front of that item (fuel `m`), with the terminal replaced by
the mapped injected error; if `T` is too short, the run is the fault-free run. -/
theorem rAux_trace (k : Nat) (e : IoErr) :
    ∀ fuel d c sink ws ss j off, c ≤ k →
      (∀ rc, (readCallsAux hf fl tree fuel d sink.ob j off)[k - c]? = some rc →
        ∃ m, rc.item = j + m ∧ m < fuel ∧
          decodeRangesRAux hf fl tree (some ⟨k, e⟩) fuel d c sink ws ss =
            { decodeRangesAux hf fl tree m d sink ws ss with terminal := .err (rc.fail e) }) ∧
      ((readCallsAux hf fl tree fuel d sink.ob j off).length ≤ k - c →
        decodeRangesRAux hf fl tree (some ⟨k, e⟩) fuel d c sink ws ss
          = decodeRangesAux hf fl tree fuel d sink ws ss) := by
  intro fuel
  induction fuel with
  | zero =>
    intro d c sink ws ss j off _
    exact ⟨fun rc h => by simp [readCallsAux] at h, fun _ => rfl⟩
  | succ n ih =>
    intro d c sink ws ss j off hck
    rcases item_or_not d.iter with hni | ⟨ch, it, hn⟩
    · rw [calls_stop hf fl tree n d sink.ob j off hni]
      exact ⟨fun rc h => by simp at h, fun _ => rAux_noitem hf fl tree _ n d c sink ws ss hni⟩
    · rw [calls_succ hf fl tree n d sink ws ss j off hn]
      by_cases hk : k < c + readCallsOf fl d.encoded ch.size
      · -- the failing call is made for this item
        obtain ⟨c', hx⟩ := nextR_item_hit hf fl k e d c hn hck hk
        have hR : decodeRangesRAux hf fl tree (some ⟨k, e⟩) (n + 1) d c sink ws ss
            = ⟨sink, .err (failOf ch e), d.encoded, ws.reverse, ss.reverse⟩ := by
          rw [rAux_succ hf fl tree _ n d c c' _ sink ws ss hx]; rfl
        constructor
        · intro rc hrc
          rw [List.getElem?_append_left (by rw [List.length_replicate]; omega),
            List.getElem?_replicate, if_pos (by omega)] at hrc
          injection hrc with hrc
          subst hrc
          refine ⟨0, rfl, Nat.succ_pos _, ?_⟩
          rw [hR, fail_eq]; rfl
        · intro hlen
          rw [List.length_append, List.length_replicate] at hlen
          omega
      · -- all calls of this item succeed as in the fault-free run
        have hk' : c + readCallsOf fl d.encoded ch.size ≤ k := by omega
        have hx := nextR_item_miss hf fl k e d c hn hk'
        rw [rAux_succ hf fl tree _ n d c _ _ sink ws ss hx]
        cases ha : act hf tree d sink ws ss (d.next hf fl) with
        | stop r =>
          constructor
          · intro rc hrc
            rw [List.getElem?_append_right (by rw [List.length_replicate]; omega)] at hrc
            simp at hrc
          · intro _
            rw [aux_succ, ha]
        | go d' s' w' x' =>
          obtain ⟨ih1, ih2⟩ := ih d' (c + readCallsOf fl d.encoded ch.size) s' w' x' (j + 1)
            (off + ch.size) hk'
          constructor
          · intro rc hrc
            rw [List.getElem?_append_right (by rw [List.length_replicate]; omega),
              List.length_replicate] at hrc
            have hidx : k - c - readCallsOf fl d.encoded ch.size
                = k - (c + readCallsOf fl d.encoded ch.size) := by omega
            rw [hidx] at hrc
            obtain ⟨m, hm, hmn, hR⟩ := ih1 rc hrc
            refine ⟨m + 1, by omega, by omega, ?_⟩
            rw [aux_succ, ha]
            exact hR
          · intro hlen
            rw [List.length_append, List.length_replicate] at hlen
            simp only at hlen
            rw [aux_succ, ha]
            exact ih2 (by omega)

theorem rAux_start (f : ReadFault) (fuel : Nat) (d : Dec H) (sink : Sink H) :
    (∀ rc, (readCallsAux hf fl tree fuel d sink.ob 0 0)[f.k]? = some rc →
      rc.item < fuel ∧
        decodeRangesRAux hf fl tree (some f) fuel d 0 sink [] [] =
          { decodeRangesAux hf fl tree rc.item d sink [] [] with
            terminal := .err (rc.fail f.err) }) ∧
    ((readCallsAux hf fl tree fuel d sink.ob 0 0).length ≤ f.k →
      decodeRangesRAux hf fl tree (some f) fuel d 0 sink [] []
        = decodeRangesAux hf fl tree fuel d sink [] []) := by
  obtain ⟨k, e⟩ := f
  obtain ⟨h1, h2⟩ := rAux_trace hf fl tree k e fuel d 0 sink [] [] 0 0 (Nat.zero_le _)
  refine ⟨fun rc hrc => ?_, h2⟩
  obtain ⟨m, hm, hlt, hR⟩ := h1 rc hrc
  rw [Nat.zero_add] at hm
  subst hm
  exact ⟨hlt, hR⟩

/-- the decoder put on another stream (the cut one in `cut_aux`) -/
def setEnc (d : Dec H) (s : List UInt8) : Dec H := { d with encoded := s }

/-- a change of the decoder state carried through a step's answer: a step on the cut stream is
`mapSt (setEnc · _)` of the step on the whole one (`post_ok_setEnc`) -/
def mapSt (g : Dec H → Dec H) : DecNext H (Dec H) → DecNext H (Dec H)
  | .item i d => .item i (g d)
  | .err e d => .err e (g d)
  | .done d => .done (g d)
  | .panic => .panic

theorem post_ok_setEnc (c : Chunk) (it : PrePartial) (d : Dec H) (x buf r r' : List UInt8) :
    post hf fl c it (setEnc d x) (.ok (buf, r'))
      = mapSt (setEnc · r') (post hf fl c it d (.ok (buf, r))) := by
  simp only [post, setEnc]
  cases d.stack with
  | nil => rfl
  | cons top st => simp only [apply_ite (mapSt _)]; rfl

omit [BEq H] in
theorem act_go_item (hf : HashFns H) (tree : Tree) (d : Dec H) (sink : Sink H)
    (ws : List (Nat × Nat)) (ss : List Nat) {nx : DecNext H (Dec H)} {d' : Dec H} {s' : Sink H}
    {w' : List (Nat × Nat)} {x' : List Nat} (h : act hf tree d sink ws ss nx = .go d' s' w' x') :
    ∃ i, nx = .item i d' ∧ ∀ (ws₂ : List (Nat × Nat)) (ss₂ : List Nat), ∃ w₂ x₂,
      ∀ (d0 : Dec H) (g : Dec H → Dec H),
        act hf tree d0 sink ws₂ ss₂ (.item i (g d')) = .go (g d') s' w₂ x₂ := by
  cases nx with
  | done d1 => cases h
  | err e d1 => cases h
  | panic => cases h
  | item i d1 =>
    cases i with
    | parent node l r =>
      simp only [act] at h ⊢
      by_cases hr : tree.isRelevant node = true
      · simp only [hr, if_true] at h ⊢
        cases hs : sink.ob.save hf node (l, r) with
        | ok ob =>
          simp only [hs] at h ⊢
          injection h with h1 h2 h3 h4
          subst h1 h2 h3 h4
          exact ⟨_, rfl, fun _ _ => ⟨_, _, fun _ _ => by simp only [hr, hs, if_true]; rfl⟩⟩
        | err e => simp [hs] at h
        | panic => simp [hs] at h
      · simp only [hr, Bool.false_eq_true, if_false] at h ⊢
        injection h with h1 h2 h3 h4
        subst h1 h2 h3 h4
        exact ⟨_, rfl, fun _ _ => ⟨_, _, fun _ _ => by simp only [hr, Bool.false_eq_true, if_false]; rfl⟩⟩
    | leaf off data =>
      simp only [act] at h ⊢
      injection h with h1 h2 h3 h4
      subst h1 h2 h3 h4
      exact ⟨_, rfl, fun _ _ => ⟨_, _, fun _ _ => rfl⟩⟩

omit [BEq H] in
/-- an iteration that pulls the plan item `ch` and goes round again: the decoder has read
`ch.size` bytes from the front of the stream and answered an item of that wire size, the state it
hands back has the iterator `it` and the rest of the stream; and what the loop does with the item
does not depend on the decoder state -/
theorem loop_go {hf : HashFns H} [BEq H] {fl : Flavour} {tree : Tree} {d : Dec H} {sink : Sink H}
    {ws : List (Nat × Nat)} {ss : List Nat} {ch : Chunk} {it : PrePartial} {d' : Dec H}
    {s' : Sink H} {w' : List (Nat × Nat)} {x' : List Nat}
    (hn : Response.next d.iter = .item ch it)
    (ha : act hf tree d sink ws ss (d.next hf fl) = .go d' s' w' x') :
    ∃ i, d.next hf fl = .item i d' ∧
      post hf fl ch it d (.ok (d.encoded.take ch.size, d.encoded.drop ch.size)) = .item i d' ∧
      ch.size ≤ d.encoded.length ∧ d'.iter = it ∧ d'.encoded = d.encoded.drop ch.size ∧
      DecSim.itemSize i = ch.size ∧
      ∀ (ws₂ : List (Nat × Nat)) (ss₂ : List Nat), ∃ w₂ x₂, ∀ (d0 : Dec H) (g : Dec H → Dec H),
        act hf tree d0 sink ws₂ ss₂ (.item i (g d')) = .go (g d') s' w₂ x₂ := by
  obtain ⟨i, hi, hact⟩ := act_go_item hf tree d sink ws ss ha
  have hp : post hf fl ch it d (readExact d.encoded ch.size) = .item i d' := by
    rw [← hi, next_eq, hn]
  obtain ⟨c, it', st', s', hn', hsc, rfl⟩ := (DecSim.next_item_iff hf).1 hi
  obtain ⟨rfl, rfl⟩ : c = ch ∧ it' = it := by
    rw [hn] at hn'
    injection hn' with h1 h2
    exact ⟨h1.symm, h2.symm⟩
  obtain ⟨hl, top, st, -, -, rfl, -, rfl⟩ := DecodeSpec.stepC_item hsc
  have hlen : (d.encoded.take c.size).length = c.size := by
    rw [List.length_take, Nat.min_eq_left hl]
  rw [readExact, if_pos hl] at hp
  exact ⟨_, hi, hp, hl, rfl, rfl, (DecSim.itemSize_itemOf hf hlen).trans hlen, hact⟩

/-- **induction over the read calls of the loop**: a property of the call at index `r` of the
trace holds if it holds of a call made for the item pulled first (`here`) and passes from the rest
of the trace, made after an iteration that goes round again, to the whole (`later`) -/
theorem calls_induct {P : Nat → Dec H → Sink H → Nat → Nat → Nat → ReadCall → Prop}
    (here : ∀ n d sink j off r ch it, Response.next d.iter = .item ch it →
      r < readCallsOf fl d.encoded ch.size → P (n + 1) d sink j off r ⟨j, off, ch⟩)
    (later : ∀ n d sink j off r rc ch it d' s' w' x', Response.next d.iter = .item ch it →
      readCallsOf fl d.encoded ch.size ≤ r →
      act hf tree d sink [] [] (d.next hf fl) = .go d' s' w' x' →
      P n d' s' (j + 1) (off + ch.size) (r - readCallsOf fl d.encoded ch.size) rc →
      P (n + 1) d sink j off r rc) :
    ∀ fuel d (sink : Sink H) j off (r : Nat) (rc : ReadCall),
      (readCallsAux hf fl tree fuel d sink.ob j off)[r]? = some rc → P fuel d sink j off r rc := by
  intro fuel
  induction fuel with
  | zero => intro d sink j off r rc h; simp [readCallsAux] at h
  | succ n ih =>
    intro d sink j off r rc h
    rcases item_or_not d.iter with hni | ⟨ch, it, hn⟩
    · rw [calls_stop hf fl tree n d sink.ob j off hni] at h
      simp at h
    · rw [calls_succ hf fl tree n d sink [] [] j off hn] at h
      by_cases hr : r < readCallsOf fl d.encoded ch.size
      · rw [List.getElem?_append_left (by rw [List.length_replicate]; exact hr),
          List.getElem?_replicate, if_pos hr] at h
        injection h with h
        subst h
        exact here n d sink j off r ch it hn hr
      · rw [List.getElem?_append_right (by rw [List.length_replicate]; omega),
          List.length_replicate] at h
        cases ha : act hf tree d sink [] [] (d.next hf fl) with
        | stop r0 => rw [ha] at h; simp at h
        | go d' s' w' x' =>
          rw [ha] at h
          exact later n d sink j off r rc ch it d' s' w' x' hn (Nat.le_of_not_lt hr) ha
            (ih d' s' (j + 1) (off + ch.size) _ rc h)

theorem readExact_take (s : List UInt8) (n b : Nat) (h : n ≤ s.length) (hb : b ≤ (s.drop n).length) :
    readExact (s.take (n + b)) n = .ok (s.take n, (s.drop n).take b) := by
  unfold readExact
  have hb' : b ≤ s.length - n := by rw [← List.length_drop]; exact hb
  rw [if_pos (by rw [List.length_take]; omega), List.take_take, List.drop_take,
    Nat.min_eq_left (by omega)]
  congr 3
  omega

/-- **cut stream**: if the fault-free run on `d.encoded` makes a read call `rc` for a non-empty
item, then the run on the stream cut in front of that item is the run stopped in front of it
(fuel `m`), ending with the not-found error of the item -/
theorem cut_aux :
    ∀ fuel d (sink : Sink H) j off (r : Nat) (rc : ReadCall),
      (readCallsAux hf fl tree fuel d sink.ob j off)[r]? = some rc → 0 < rc.chunk.size →
      ∀ ws ss,
      ∃ m b, rc.item = j + m ∧ rc.off = off + b ∧ b ≤ d.encoded.length ∧ m < fuel ∧
        ∃ rest', decodeRangesAux hf fl tree fuel (setEnc d (d.encoded.take b)) sink ws ss =
          { decodeRangesAux hf fl tree m d sink ws ss with
            terminal := .err (rc.fail ⟨.unexpectedEof, false⟩), rest := rest' } := by
  refine calls_induct hf fl tree ?_ ?_
  · -- the call is made for the item pulled first: the cut stream is empty
    intro n d sink j off r ch it hn _ hpos ws ss
    refine ⟨0, 0, rfl, rfl, Nat.zero_le _, Nat.succ_pos _, [], ?_⟩
    have hnx : (setEnc d (d.encoded.take 0)).next hf fl
        = .err (failOf ch ⟨.unexpectedEof, false⟩) { setEnc d [] with iter := it } := by
      rw [next_eq]
      simp only [setEnc, List.take_zero, hn]
      have : readExact ([] : List UInt8) ch.size = .error ⟨.unexpectedEof, false⟩ := by
        unfold readExact
        rw [if_neg (by simp only [List.length_nil]; simp only at hpos; omega)]
      rw [this]; rfl
    rw [aux_succ, hnx, fail_eq]
    rfl
  · -- the first item is read from the cut stream as from the whole one
    intro n d sink j off r rc ch it d' s' w₀ x₀ hn _ ha₀ ih hpos ws ss
    obtain ⟨i, hi, hp, hl, -, henc, -, hact⟩ := loop_go hn ha₀
    obtain ⟨w', x', hact⟩ := hact ws ss
    have ha : act hf tree d sink ws ss (d.next hf fl) = .go d' s' w' x' := hi ▸ hact d id
    obtain ⟨m, b, hm, hb', hbl, hmn, rest', hR⟩ := ih hpos w' x'
    rw [henc] at hbl
    refine ⟨m + 1, ch.size + b, by omega, by omega, ?_, by omega, rest', ?_⟩
    · rw [List.length_drop] at hbl; omega
    · have hnx : (setEnc d (d.encoded.take (ch.size + b))).next hf fl
          = .item i (setEnc d' ((d.encoded.drop ch.size).take b)) := by
        rw [next_eq]
        simp only [setEnc, hn]
        rw [readExact_take d.encoded ch.size b hl hbl]
        have := post_ok_setEnc hf fl ch it d (d.encoded.take (ch.size + b)) (d.encoded.take ch.size)
          (d.encoded.drop ch.size) ((d.encoded.drop ch.size).take b)
        simp only [setEnc] at this
        rw [this, hp]
        rfl
      rw [aux_succ, hnx, hact _ (setEnc · ((d.encoded.drop ch.size).take b))]
      simp only
      rw [aux_succ hf fl tree m d, ha, ← henc]
      exact hR

omit [BEq H] in
theorem act_ext (hf : HashFns H) (tree : Tree) (d : Dec H) (sink : Sink H)
    (ws : List (Nat × Nat)) (ss : List Nat) (nx : DecNext H (Dec H)) :
    match act hf tree d sink ws ss nx with
    | .stop r => ∃ a b, r.writes = ws.reverse ++ a ∧ r.saves = ss.reverse ++ b
    | .go _ _ w' x' => ∃ a b, w'.reverse = ws.reverse ++ a ∧ x'.reverse = ss.reverse ++ b := by
  cases nx with
  | done d1 => exact ⟨[], [], by simp, by simp⟩
  | err e d1 => exact ⟨[], [], by simp, by simp⟩
  | panic => exact ⟨[], [], by simp, by simp⟩
  | item i d1 =>
    cases i with
    | parent node l r =>
      simp only [act]
      by_cases hr : tree.isRelevant node = true
      · simp only [hr, if_true]
        cases sink.ob.save hf node (l, r) with
        | ok ob => exact ⟨[], [node], by simp, by simp⟩
        | err e => exact ⟨[], [node], by simp, by simp⟩
        | panic => exact ⟨[], [node], by simp, by simp⟩
      · simp only [hr, Bool.false_eq_true, if_false]
        exact ⟨[], [], by simp, by simp⟩
    | leaf off data => exact ⟨[(off, data.length)], [], by simp, by simp⟩

theorem aux_extend :
    ∀ fuel d sink ws ss,
      ∃ a b, (decodeRangesAux hf fl tree fuel d sink ws ss).writes = ws.reverse ++ a ∧
        (decodeRangesAux hf fl tree fuel d sink ws ss).saves = ss.reverse ++ b := by
  intro fuel
  induction fuel with
  | zero => intro d sink ws ss; exact ⟨[], [], by simp [decodeRangesAux], by simp [decodeRangesAux]⟩
  | succ n ih =>
    intro d sink ws ss
    rw [aux_succ]
    have h := act_ext hf tree d sink ws ss (d.next hf fl)
    cases ha : act hf tree d sink ws ss (d.next hf fl) with
    | stop r => rw [ha] at h; exact h
    | go d' s' w' x' =>
      rw [ha] at h
      obtain ⟨a, b, h1, h2⟩ := h
      obtain ⟨a', b', k1, k2⟩ := ih d' s' w' x'
      exact ⟨a ++ a', b ++ b', by rw [k1, h1, List.append_assoc], by rw [k2, h2, List.append_assoc]⟩

omit [BEq H] in
theorem aux_fuel_prefix (hf : HashFns H) [BEq H] (fl : Flavour) (tree : Tree) :
    ∀ (m fuel : Nat) (d : Dec H) (sink : Sink H) (ws : List (Nat × Nat)) (ss : List Nat), m ≤ fuel →
      (decodeRangesAux hf fl tree m d sink ws ss).writes
        <+: (decodeRangesAux hf fl tree fuel d sink ws ss).writes ∧
      (decodeRangesAux hf fl tree m d sink ws ss).saves
        <+: (decodeRangesAux hf fl tree fuel d sink ws ss).saves := by
  intro m
  induction m with
  | zero =>
    intro fuel d sink ws ss _
    obtain ⟨a, b, h1, h2⟩ := aux_extend hf fl tree fuel d sink ws ss
    exact ⟨⟨a, by rw [h1]; rfl⟩, ⟨b, by rw [h2]; rfl⟩⟩
  | succ m ih =>
    intro fuel d sink ws ss hm
    obtain ⟨n, rfl⟩ : ∃ n, fuel = n + 1 := ⟨fuel - 1, by omega⟩
    rw [aux_succ, aux_succ hf fl tree n]
    cases act hf tree d sink ws ss (d.next hf fl) with
    | stop r => exact ⟨List.prefix_refl _, List.prefix_refl _⟩
    | go d' s' w' x' => exact ih n d' s' w' x' (by omega)

theorem runEvalsAux_fuel :
    ∀ m fuel d, m ≤ fuel →
      ∀ x ∈ runEvalsAux hf fl m d, x ∈ runEvalsAux hf fl fuel d := by
  intro m
  induction m with
  | zero => intro fuel d _ x hx; simp [runEvalsAux] at hx
  | succ m ih =>
    intro fuel d hm x hx
    obtain ⟨n, rfl⟩ : ∃ n, fuel = n + 1 := ⟨fuel - 1, by omega⟩
    unfold runEvalsAux at hx ⊢
    rw [List.mem_append] at hx ⊢
    rcases hx with hx | hx
    · exact .inl hx
    · refine .inr ?_
      cases hn : d.next hf fl with
      | item i d' => rw [hn] at hx; exact ih n d' (by omega) x hx
      | err e d' => rw [hn] at hx; simp at hx
      | done d' => rw [hn] at hx; simp at hx
      | panic => rw [hn] at hx; simp at hx

omit [BEq H] in
theorem save_kind (hf : HashFns H) {s s' : Store H} {node : Nat} {p : H × H}
    (h : s.save hf node p = .ok s') : s'.kind = s.kind := by
  unfold Store.save at h
  repeat' split at h
  all_goals cases h
  all_goals rfl

omit [BEq H] in
theorem save_no_panic_io (hf : HashFns H) (s : Store H) (hk : s.kind ≠ .preMem ∧ s.kind ≠ .postMem)
    (node : Nat) (p : H × H) : s.save hf node p ≠ .panic := by
  unfold Store.save
  cases hkd : s.kind with
  | preMem => exact absurd hkd hk.1
  | postMem => exact absurd hkd hk.2
  | empty => simp only; split <;> exact fun h => by cases h
  | preIo => simp only; split <;> exact fun h => by cases h
  | postIo => simp only; split <;> exact fun h => by cases h

/-- with an io-backed (or empty) outboard `decode_ranges` panics only where the decoder does -/
theorem aux_panic :
    ∀ fuel d sink ws ss,
      sink.ob.kind ≠ .preMem ∧ sink.ob.kind ≠ .postMem →
      (decodeRangesAux hf fl tree fuel d sink ws ss).terminal = .panic →
      (Dec.runAux hf fl fuel d).terminal = .panic := by
  intro fuel
  induction fuel with
  | zero => intro d sink ws ss _ _; rfl
  | succ n ih =>
    intro d sink ws ss hk h
    rw [aux_succ] at h
    unfold Dec.runAux
    cases hn : d.next hf fl with
    | done d' => rw [hn] at h; cases h
    | err e d' => rw [hn] at h; cases h
    | panic => rfl
    | item i d' =>
      rw [hn] at h
      simp only
      cases i with
      | parent node l r =>
        simp only [act] at h
        by_cases hr : tree.isRelevant node = true
        · simp only [hr, if_true] at h
          cases hs : sink.ob.save hf node (l, r) with
          | ok ob =>
            rw [hs] at h
            refine ih d' _ ws _ ?_ h
            rw [show ({ sink with ob := ob } : Sink H).ob.kind = sink.ob.kind from save_kind hf hs]
            exact hk
          | err e => rw [hs] at h; cases h
          | panic => exact absurd hs (save_no_panic_io hf sink.ob hk node (l, r))
        · simp only [hr, Bool.false_eq_true, if_false] at h
          exact ih d' sink ws ss hk h
      | leaf off data =>
        simp only [act] at h
        exact ih d' { sink with target := writeAt sink.target off data } _ ss hk h

theorem calls_items :
    ∀ fuel d (sink : Sink H) j off (r : Nat) (rc : ReadCall),
      (readCallsAux hf fl tree fuel d sink.ob j off)[r]? = some rc →
      ∃ m, rc.item = j + m ∧ m ≤ (Dec.runAux hf fl fuel d).items.length ∧
        rc.off = off + DecSim.itemsSize ((Dec.runAux hf fl fuel d).items.take m) := by
  refine calls_induct hf fl tree ?_ ?_
  · intro n d sink j off r ch it _ _
    exact ⟨0, rfl, Nat.zero_le _, by simp [DecSim.itemsSize]⟩
  · intro n d sink j off r rc ch it d' s' w' x' hn _ ha ih
    obtain ⟨i, hi, -, -, -, -, hsz, -⟩ := loop_go hn ha
    obtain ⟨m, hm, hml, hoff⟩ := ih
    refine ⟨m + 1, by omega, ?_, ?_⟩
    · unfold Dec.runAux; rw [hi]; simp only [List.length_cons]; omega
    · unfold Dec.runAux; rw [hi]
      simp only [List.take_succ_cons, DecSim.itemsSize_cons, hsz]
      omega

theorem calls_fsm_item :
    ∀ fuel d (sink : Sink H) j off (r : Nat) (rc : ReadCall),
      (readCallsAux hf .fsm tree fuel d sink.ob j off)[r]? = some rc → rc.item = j + r := by
  refine calls_induct hf .fsm tree ?_ ?_
  · intro n d sink j off r ch it _ hr
    rw [callsOf_fsm] at hr
    show j = j + r
    omega
  · intro n d sink j off r rc ch it d' s' w' x' _ hr _ ih
    rw [callsOf_fsm] at hr ih
    omega

section plan
open Bao.PlanPre Bao.DecodeSpec

theorem size_withoutRanges (c : Chunk) : c.withoutRanges.size = c.size := by cases c <;> rfl

theorem calls_plan {size ml filled root : Nat} (g : Geo size 0 filled) :
    ∀ fuel d (sink : Sink H) j off (r : Nat) (rc : ReadCall),
      (readCallsAux hf fl tree fuel d sink.ob j off)[r]? = some rc →
      ∀ stack buffer,
        d.iter = st size 0 ml filled root stack buffer → (∀ e ∈ stack, Valid filled e) →
        ∃ m c, rc.item = j + m ∧ (pending size 0 ml filled root stack buffer)[m]? = some c ∧
          rc.chunk = c.withoutRanges ∧
          rc.off = off + psize ((pending size 0 ml filled root stack buffer).take m) := by
  -- the plan item pulled from the iterator state is the first pending one
  have pull : ∀ {d : Dec H} {ch : Chunk} {it : PrePartial} {stack : List (Nat × Ranges)}
      {buffer : List Chunk}, Response.next d.iter = .item ch it →
      d.iter = st size 0 ml filled root stack buffer → (∀ e ∈ stack, Valid filled e) →
      ∃ c stack' buf', ch = c.withoutRanges ∧ it = st size 0 ml filled root stack' buf' ∧
        (∀ e ∈ stack', Valid filled e) ∧
        pending size 0 ml filled root stack buffer
          = c :: pending size 0 ml filled root stack' buf' := by
    intro d ch it stack buffer hn hd hv
    rw [hd] at hn
    unfold Response.next at hn
    rcases iter_next (ml := ml) (root := root) g stack buffer hv with
      ⟨_, hn'⟩ | ⟨c, stack', buf', hn', hv', he⟩
    · rw [hn'] at hn; cases hn
    · rw [hn'] at hn
      injection hn with h1 h2
      exact ⟨c, stack', buf', h1.symm, h2.symm, hv', he⟩
  refine calls_induct hf fl tree ?_ ?_
  · intro n d sink j off r ch it hn _ stack buffer hd hv
    obtain ⟨c, stack', buf', rfl, -, -, he⟩ := pull hn hd hv
    rw [he]
    exact ⟨0, c, rfl, rfl, rfl, by simp⟩
  · intro n d sink j off r rc ch it d' s' w' x' hn _ ha ih stack buffer hd hv
    obtain ⟨c, stack', buf', rfl, rfl, hv', he⟩ := pull hn hd hv
    obtain ⟨i, -, -, -, hit, -, -, -⟩ := loop_go hn ha
    obtain ⟨m, c', hm, hc', hch, hoff⟩ := ih stack' buf' hit hv'
    rw [he]
    refine ⟨m + 1, c', by omega, by rw [List.getElem?_cons_succ]; exact hc', hch, ?_⟩
    rw [List.take_succ_cons, psize_cons, hoff, size_withoutRanges]
    omega

end plan

end Bao.C01Read
