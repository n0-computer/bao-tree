import BaoModel.Hash

/-!
# Collision freedom of the hash abstraction and the unfolding of `hashSubtree`

`CollisionFree hf`: the two primitives `chunkCv` / `parentCv`, seen as ONE function on the
tagged union of their inputs, are injective (each injective in all arguments, ranges disjoint).

Proved here (all for an arbitrary `hf`):

* `cvLevel_mono`     – the level bound of `cvLevel` is irrelevant once the data fits
* `hashSubtree_chunk`, `hashSubtree_parent` – one unfolding step of the tree hash
* `termHash_cf`      – the free term algebra is a collision free instance (satisfiability)

Injectivity of the tree hash (`cv_inj`) is in `Lemmas/HashCFLoc.lean`, as the special case of the
localised form `cv_inj_on`.
-/

namespace Bao

/-- an input of one of the two hash primitives -/
inductive HashIn (H : Type)
  | chunk (c : Nat) (b : List UInt8) (r : Bool)
  | parent (l r : H) (f : Bool)

/-- the two primitives as one function -/
def HashFns.eval (hf : HashFns H) : HashIn H → H
  | .chunk c b r => hf.chunkCv c b r
  | .parent l r f => hf.parentCv l r f

/-- `Function.Injective hf.eval` -/
def CollisionFree (hf : HashFns H) : Prop := ∀ x y : HashIn H, hf.eval x = hf.eval y → x = y

section
variable {H : Type} {hf : HashFns H}

theorem CollisionFree.chunk_inj (cf : CollisionFree hf) {c₁ c₂ : Nat} {b₁ b₂ : List UInt8}
    {r₁ r₂ : Bool} (h : hf.chunkCv c₁ b₁ r₁ = hf.chunkCv c₂ b₂ r₂) :
    c₁ = c₂ ∧ b₁ = b₂ ∧ r₁ = r₂ := by
  have := cf (.chunk c₁ b₁ r₁) (.chunk c₂ b₂ r₂) h
  injection this with h1 h2 h3
  exact ⟨h1, h2, h3⟩

theorem CollisionFree.parent_inj (cf : CollisionFree hf) {l₁ l₂ r₁ r₂ : H} {f₁ f₂ : Bool}
    (h : hf.parentCv l₁ r₁ f₁ = hf.parentCv l₂ r₂ f₂) : l₁ = l₂ ∧ r₁ = r₂ ∧ f₁ = f₂ := by
  have := cf (.parent l₁ r₁ f₁) (.parent l₂ r₂ f₂) h
  injection this with h1 h2 h3
  exact ⟨h1, h2, h3⟩

theorem CollisionFree.chunk_ne_parent (cf : CollisionFree hf) {c : Nat} {b : List UInt8}
    {r : Bool} {l₂ r₂ : H} {f₂ : Bool} (h : hf.chunkCv c b r = hf.parentCv l₂ r₂ f₂) : False := by
  have := cf (.chunk c b r) (.parent l₂ r₂ f₂) h
  injection this

theorem cvLevel_zero (c : Nat) (b : List UInt8) (r : Bool) :
    cvLevel hf 0 c b r = hf.chunkCv c b r := rfl

theorem cvLevel_succ_le {L : Nat} {b : List UInt8} (h : b.length ≤ 2 ^ L * 1024) (c : Nat)
    (r : Bool) : cvLevel hf (L + 1) c b r = cvLevel hf L c b r := by
  simp [cvLevel, chunkLen, h]

theorem cvLevel_succ_gt {L : Nat} {b : List UInt8} (h : 2 ^ L * 1024 < b.length) (c : Nat)
    (r : Bool) :
    cvLevel hf (L + 1) c b r =
      hf.parentCv (cvLevel hf L c (b.take (2 ^ L * 1024)) false)
        (cvLevel hf L (c + 2 ^ L) (b.drop (2 ^ L * 1024)) false) r := by
  have : ¬ b.length ≤ 2 ^ L * 1024 := by omega
  simp [cvLevel, chunkLen, this]

theorem cvLevel_mono {L L' : Nat} {b : List UInt8} (h : b.length ≤ 2 ^ L * 1024) (hL : L ≤ L')
    (c : Nat) (r : Bool) : cvLevel hf L' c b r = cvLevel hf L c b r := by
  induction hL with
  | refl => rfl
  | @step K hK ih =>
    have hp : 2 ^ L ≤ 2 ^ K := Nat.pow_le_pow_right (by decide) hK
    rw [cvLevel_succ_le (Nat.le_trans h (Nat.mul_le_mul_right 1024 hp)), ih]

theorem hashSubtree_chunk {b : List UInt8} (h : b.length ≤ 1024) (c : Nat) (r : Bool) :
    hashSubtree hf c b r = hf.chunkCv c b r :=
  cvLevel_mono (L := 0) (by simpa using h) (Nat.zero_le 64) c r

theorem take_len_le (b : List UInt8) (n : Nat) : (b.take n).length ≤ n := by
  simp [List.length_take]; omega

theorem pow_succ_1024 (L : Nat) : 2 ^ (L + 1) * 1024 = 2 ^ L * 1024 + 2 ^ L * 1024 := by
  rw [Nat.pow_succ]; omega

theorem cvLevel_parent {L M N : Nat} {b : List UInt8} (h1 : 2 ^ L * 1024 < b.length)
    (h2 : b.length ≤ 2 ^ (L + 1) * 1024) (hM : L + 1 ≤ M) (hN : L ≤ N) (c : Nat) (r : Bool) :
    cvLevel hf M c b r =
      hf.parentCv (cvLevel hf N c (b.take (2 ^ L * 1024)) false)
        (cvLevel hf N (c + 2 ^ L) (b.drop (2 ^ L * 1024)) false) r := by
  rw [cvLevel_mono h2 hM, cvLevel_succ_gt h1]
  have hd : (b.drop (2 ^ L * 1024)).length ≤ 2 ^ L * 1024 := by
    rw [List.length_drop]; have := pow_succ_1024 L; omega
  rw [cvLevel_mono (take_len_le b _) hN, cvLevel_mono hd hN]

/-- the tree hash of more than one chunk is the parent of the hashes of its two halves, split
at the largest power of two (in chunks) strictly below the length -/
theorem hashSubtree_parent {L : Nat} {b : List UInt8} (h1 : 2 ^ L * 1024 < b.length)
    (h2 : b.length ≤ 2 ^ (L + 1) * 1024) (hL : L < 64) (c : Nat) (r : Bool) :
    hashSubtree hf c b r =
      hf.parentCv (hashSubtree hf c (b.take (2 ^ L * 1024)) false)
        (hashSubtree hf (c + 2 ^ L) (b.drop (2 ^ L * 1024)) false) r :=
  cvLevel_parent h1 h2 (by omega) (by omega) c r

theorem exists_level {n : Nat} (h1 : 1024 < n) : ∀ {M : Nat}, n ≤ 2 ^ M * 1024 →
    ∃ L, L < M ∧ 2 ^ L * 1024 < n ∧ n ≤ 2 ^ (L + 1) * 1024 := by
  intro M
  induction M with
  | zero => intro h; simp at h; omega
  | succ M ih =>
    intro h
    by_cases hle : n ≤ 2 ^ M * 1024
    · obtain ⟨L, hL, h⟩ := ih hle
      exact ⟨L, by omega, h⟩
    · exact ⟨M, by omega, by omega, h⟩

theorem level_unique {n L L' : Nat} (h1 : 2 ^ L * 1024 < n) (h2 : n ≤ 2 ^ (L + 1) * 1024)
    (h1' : 2 ^ L' * 1024 < n) (h2' : n ≤ 2 ^ (L' + 1) * 1024) : L = L' := by
  apply Nat.le_antisymm
  · apply Nat.le_of_lt_succ
    apply (Nat.pow_lt_pow_iff_right (a := 2) (by decide)).1
    omega
  · apply Nat.le_of_lt_succ
    apply (Nat.pow_lt_pow_iff_right (a := 2) (by decide)).1
    omega

end

inductive Term
  | chunk (c : Nat) (b : List UInt8) (r : Bool)
  | parent (l r : Term) (f : Bool)
  | raw (b : List UInt8)
deriving DecidableEq

/-- hashing = building the term -/
def termHash : HashFns Term where
  chunkCv := Term.chunk
  parentCv := Term.parent
  ofBytes := Term.raw
  toBytes := fun _ => []

theorem termHash_cf : CollisionFree termHash := by
  intro x y h
  cases x <;> cases y <;> simp only [HashFns.eval, termHash] at h <;> first
    | (injection h with h1 h2 h3; subst h1 h2 h3; rfl)
    | (injection h)

end Bao
