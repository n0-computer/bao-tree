import BaoProofs.Lemmas.HashCF

/-!
# Localised collision freedom

`CollisionFree hf` (global injectivity of the two primitives, `Lemmas/HashCF.lean`) is false of
every function into 32 bytes.  The meaningful hypothesis is LOCAL: injectivity on the finite set of
inputs that are actually evaluated.

* `CollisionFreeOn hf S`   – `hf.eval` is injective on the inputs satisfying `S`
* `evalsOf hf L c b r`     – the list of inputs evaluated by `cvLevel hf L c b r` (top call first,
                             then the left half, then the right half)
* `hashEvals hf c b r`     – the same for `hashSubtree hf c b r`
* `cvInjOn_all` / `cv_inj_on` – the tree hash is injective as soon as `hf` is collision free on the
                             union of the two evaluation lists; `cv_inj` (global hypothesis) is
                             the instance at `CollisionFree.on`
* `collisionFreeOn_list`, `collisionFreeOn_keys`, `findCollision` – deciding collision freedom on
                             a finite list, searching it for a collision
* `toy32`                  – an instance with the 32-byte wire round trip
-/

namespace Bao

/-- `hf.eval` is injective on the inputs in `S` -/
def CollisionFreeOn {H : Type} (hf : HashFns H) (S : HashIn H → Prop) : Prop :=
  ∀ x y : HashIn H, S x → S y → hf.eval x = hf.eval y → x = y

/-- the inputs evaluated by `cvLevel hf L c b r`: the input of the top call, then (recursively)
those of the two halves.  (`DecodeSpec.hashInputs`, which the statement of C09 uses, is the same
function: `DecodeSpec.evalsOf_eq_hashInputs`.) -/
def evalsOf {H : Type} (hf : HashFns H) : Nat → Nat → List UInt8 → Bool → List (HashIn H)
  | 0, start, data, isRoot => [.chunk start data isRoot]
  | L + 1, start, data, isRoot =>
    if data.length ≤ 2 ^ L * chunkLen then evalsOf hf L start data isRoot
    else
      .parent
        (cvLevel hf L start (data.take (2 ^ L * chunkLen)) false)
        (cvLevel hf L (start + 2 ^ L) (data.drop (2 ^ L * chunkLen)) false)
        isRoot ::
      (evalsOf hf L start (data.take (2 ^ L * chunkLen)) false ++
        evalsOf hf L (start + 2 ^ L) (data.drop (2 ^ L * chunkLen)) false)

def hashEvals {H : Type} (hf : HashFns H) (start : Nat) (data : List UInt8) (isRoot : Bool) :
    List (HashIn H) :=
  evalsOf hf 64 start data isRoot

section
variable {H : Type} {hf : HashFns H}

theorem CollisionFree.on (cf : CollisionFree hf) (S : HashIn H → Prop) : CollisionFreeOn hf S :=
  fun x y _ _ h => cf x y h

theorem CollisionFreeOn.mono {S T : HashIn H → Prop} (cf : CollisionFreeOn hf T)
    (h : ∀ x, S x → T x) : CollisionFreeOn hf S :=
  fun x y hx hy e => cf x y (h x hx) (h y hy) e

theorem CollisionFreeOn.chunk_inj {S : HashIn H → Prop} (cf : CollisionFreeOn hf S) {c₁ c₂ : Nat}
    {b₁ b₂ : List UInt8} {r₁ r₂ : Bool} (h1 : S (.chunk c₁ b₁ r₁)) (h2 : S (.chunk c₂ b₂ r₂))
    (h : hf.chunkCv c₁ b₁ r₁ = hf.chunkCv c₂ b₂ r₂) : c₁ = c₂ ∧ b₁ = b₂ ∧ r₁ = r₂ := by
  have := cf (.chunk c₁ b₁ r₁) (.chunk c₂ b₂ r₂) h1 h2 h
  injection this with h1 h2 h3
  exact ⟨h1, h2, h3⟩

theorem CollisionFreeOn.parent_inj {S : HashIn H → Prop} (cf : CollisionFreeOn hf S)
    {l₁ l₂ r₁ r₂ : H} {f₁ f₂ : Bool} (h1 : S (.parent l₁ r₁ f₁)) (h2 : S (.parent l₂ r₂ f₂))
    (h : hf.parentCv l₁ r₁ f₁ = hf.parentCv l₂ r₂ f₂) : l₁ = l₂ ∧ r₁ = r₂ ∧ f₁ = f₂ := by
  have := cf (.parent l₁ r₁ f₁) (.parent l₂ r₂ f₂) h1 h2 h
  injection this with h1 h2 h3
  exact ⟨h1, h2, h3⟩

theorem CollisionFreeOn.chunk_ne_parent {S : HashIn H → Prop} (cf : CollisionFreeOn hf S) {c : Nat}
    {b : List UInt8} {r : Bool} {l₂ r₂ : H} {f₂ : Bool} (h1 : S (.chunk c b r))
    (h2 : S (.parent l₂ r₂ f₂)) (h : hf.chunkCv c b r = hf.parentCv l₂ r₂ f₂) : False := by
  have := cf (.chunk c b r) (.parent l₂ r₂ f₂) h1 h2 h
  injection this

theorem evalsOf_zero (c : Nat) (b : List UInt8) (r : Bool) :
    evalsOf hf 0 c b r = [.chunk c b r] := rfl

theorem evalsOf_succ_le {L : Nat} {b : List UInt8} (h : b.length ≤ 2 ^ L * 1024) (c : Nat)
    (r : Bool) : evalsOf hf (L + 1) c b r = evalsOf hf L c b r := by
  simp [evalsOf, chunkLen, h]

theorem evalsOf_succ_gt {L : Nat} {b : List UInt8} (h : 2 ^ L * 1024 < b.length) (c : Nat)
    (r : Bool) :
    evalsOf hf (L + 1) c b r =
      .parent (cvLevel hf L c (b.take (2 ^ L * 1024)) false)
        (cvLevel hf L (c + 2 ^ L) (b.drop (2 ^ L * 1024)) false) r ::
      (evalsOf hf L c (b.take (2 ^ L * 1024)) false ++
        evalsOf hf L (c + 2 ^ L) (b.drop (2 ^ L * 1024)) false) := by
  have : ¬ b.length ≤ 2 ^ L * 1024 := by omega
  simp [evalsOf, chunkLen, this]

theorem evalsOf_mono {L L' : Nat} {b : List UInt8} (h : b.length ≤ 2 ^ L * 1024) (hL : L ≤ L')
    (c : Nat) (r : Bool) : evalsOf hf L' c b r = evalsOf hf L c b r := by
  induction hL with
  | refl => rfl
  | @step K hK ih =>
    have hp : 2 ^ L ≤ 2 ^ K := Nat.pow_le_pow_right (by decide) hK
    rw [evalsOf_succ_le (Nat.le_trans h (Nat.mul_le_mul_right 1024 hp)), ih]

theorem evalsOf_parent {L M N : Nat} {b : List UInt8} (h1 : 2 ^ L * 1024 < b.length)
    (h2 : b.length ≤ 2 ^ (L + 1) * 1024) (hM : L + 1 ≤ M) (hN : L ≤ N) (c : Nat) (r : Bool) :
    evalsOf hf M c b r =
      .parent (cvLevel hf N c (b.take (2 ^ L * 1024)) false)
        (cvLevel hf N (c + 2 ^ L) (b.drop (2 ^ L * 1024)) false) r ::
      (evalsOf hf N c (b.take (2 ^ L * 1024)) false ++
        evalsOf hf N (c + 2 ^ L) (b.drop (2 ^ L * 1024)) false) := by
  rw [evalsOf_mono h2 hM, evalsOf_succ_gt h1]
  have hd : (b.drop (2 ^ L * 1024)).length ≤ 2 ^ L * 1024 := by
    rw [List.length_drop]; have := pow_succ_1024 L; omega
  rw [cvLevel_mono (take_len_le b _) hN, cvLevel_mono hd hN,
    evalsOf_mono (take_len_le b _) hN, evalsOf_mono hd hN]

/-- shape of the hash and of the evaluation list of data that fits level `M`: a chunk input, or
(children taken at any level `N` that holds them) a parent input followed by the evaluation lists of
the two halves -/
theorem evalsOf_shape {M : Nat} {b : List UInt8} (h : b.length ≤ 2 ^ M * 1024) (c : Nat)
    (r : Bool) :
    (b.length ≤ 1024 ∧ cvLevel hf M c b r = hf.chunkCv c b r ∧
      evalsOf hf M c b r = [.chunk c b r]) ∨
    (∃ L, L < M ∧ 2 ^ L * 1024 < b.length ∧ b.length ≤ 2 ^ (L + 1) * 1024 ∧ ∀ N, L ≤ N →
      cvLevel hf M c b r =
        hf.parentCv (cvLevel hf N c (b.take (2 ^ L * 1024)) false)
          (cvLevel hf N (c + 2 ^ L) (b.drop (2 ^ L * 1024)) false) r ∧
      evalsOf hf M c b r =
        .parent (cvLevel hf N c (b.take (2 ^ L * 1024)) false)
          (cvLevel hf N (c + 2 ^ L) (b.drop (2 ^ L * 1024)) false) r ::
        (evalsOf hf N c (b.take (2 ^ L * 1024)) false ++
          evalsOf hf N (c + 2 ^ L) (b.drop (2 ^ L * 1024)) false)) := by
  by_cases h1 : b.length ≤ 1024
  · have h0 : b.length ≤ 2 ^ 0 * 1024 := by simpa using h1
    exact .inl ⟨h1, cvLevel_mono h0 (Nat.zero_le _) c r, evalsOf_mono h0 (Nat.zero_le _) c r⟩
  · obtain ⟨L, hL, ha, hb⟩ := exists_level (by omega) h
    exact .inr ⟨L, hL, ha, hb, fun N hN =>
      ⟨cvLevel_parent ha hb hL hN c r, evalsOf_parent ha hb hL hN c r⟩⟩

theorem hashEvals_shape {b : List UInt8} (h : b.length ≤ 2 ^ 64 * 1024) (c : Nat) (r : Bool) :
    (b.length ≤ 1024 ∧ hashSubtree hf c b r = hf.chunkCv c b r ∧
      hashEvals hf c b r = [.chunk c b r]) ∨
    (∃ L, L < 64 ∧ 2 ^ L * 1024 < b.length ∧ b.length ≤ 2 ^ (L + 1) * 1024 ∧
      hashSubtree hf c b r =
        hf.parentCv (hashSubtree hf c (b.take (2 ^ L * 1024)) false)
          (hashSubtree hf (c + 2 ^ L) (b.drop (2 ^ L * 1024)) false) r ∧
      hashEvals hf c b r =
        .parent (hashSubtree hf c (b.take (2 ^ L * 1024)) false)
          (hashSubtree hf (c + 2 ^ L) (b.drop (2 ^ L * 1024)) false) r ::
        (hashEvals hf c (b.take (2 ^ L * 1024)) false ++
          hashEvals hf (c + 2 ^ L) (b.drop (2 ^ L * 1024)) false)) :=
  (evalsOf_shape h c r).imp id fun ⟨L, hL, ha, hb, hN⟩ => ⟨L, hL, ha, hb, hN 64 (Nat.le_of_lt hL)⟩

/-- `cvLevel hf L` is injective on every pair of arguments such that no input evaluated for the one
collides with an input evaluated for the other -/
def CvInjOn (hf : HashFns H) (L : Nat) : Prop :=
  ∀ (c₁ c₂ : Nat) (b₁ b₂ : List UInt8) (r₁ r₂ : Bool),
    (∀ x ∈ evalsOf hf L c₁ b₁ r₁, ∀ y ∈ evalsOf hf L c₂ b₂ r₂, hf.eval x = hf.eval y → x = y) →
    cvLevel hf L c₁ b₁ r₁ = cvLevel hf L c₂ b₂ r₂ → c₁ = c₂ ∧ b₁ = b₂ ∧ r₁ = r₂

/-- a tree that fits the left half never collides with one that does not -/
private theorem cvInjOn_mixed {L : Nat} (ih : CvInjOn hf L) {c₁ c₂ : Nat} {b₁ b₂ : List UInt8}
    {r₁ r₂ : Bool} (h1 : b₁.length ≤ 2 ^ L * 1024) (h2 : 2 ^ L * 1024 < b₂.length)
    (hnc : ∀ x ∈ evalsOf hf L c₁ b₁ r₁, ∀ y ∈ evalsOf hf (L + 1) c₂ b₂ r₂,
      hf.eval x = hf.eval y → x = y)
    (h : cvLevel hf L c₁ b₁ r₁ = cvLevel hf (L + 1) c₂ b₂ r₂) : False := by
  rw [cvLevel_succ_gt h2] at h
  rw [evalsOf_succ_gt h2] at hnc
  rcases evalsOf_shape (hf := hf) h1 c₁ r₁ with ⟨_, e, ee⟩ | ⟨L', hL', ha, _, hN⟩
  · rw [e] at h
    rw [ee] at hnc
    exact nomatch hnc _ (List.mem_singleton_self _) _ List.mem_cons_self h
  · obtain ⟨e, ee⟩ := hN L (Nat.le_of_lt hL')
    rw [e] at h
    rw [ee] at hnc
    injection hnc _ List.mem_cons_self _ List.mem_cons_self h with hl
    -- equal left halves, of `2^L'` resp. `2^L` chunks
    have hb := (ih _ _ _ _ _ _
      (fun x hx y hy => hnc x (List.mem_cons_of_mem _ (List.mem_append_left _ hx))
        y (List.mem_cons_of_mem _ (List.mem_append_left _ hy))) hl).2.1
    have hlen := congrArg List.length hb
    simp only [List.length_take] at hlen
    have hp : 2 ^ L' < 2 ^ L := Nat.pow_lt_pow_right (by decide) hL'
    omega

theorem cvInjOn_all : ∀ L, CvInjOn hf L := by
  intro L
  induction L with
  | zero =>
    intro c₁ c₂ b₁ b₂ r₁ r₂ hnc h
    injection hnc _ (List.mem_singleton_self _) _ (List.mem_singleton_self _) h with e1 e2 e3
    exact ⟨e1, e2, e3⟩
  | succ L ih =>
    intro c₁ c₂ b₁ b₂ r₁ r₂ hnc h
    by_cases h1 : b₁.length ≤ 2 ^ L * 1024 <;> by_cases h2 : b₂.length ≤ 2 ^ L * 1024
    · rw [cvLevel_succ_le h1, cvLevel_succ_le h2] at h
      rw [evalsOf_succ_le h1, evalsOf_succ_le h2] at hnc
      exact ih _ _ _ _ _ _ hnc h
    · rw [cvLevel_succ_le h1] at h
      rw [evalsOf_succ_le h1] at hnc
      exact (cvInjOn_mixed ih h1 (by omega) hnc h).elim
    · rw [cvLevel_succ_le h2] at h
      rw [evalsOf_succ_le h2] at hnc
      exact (cvInjOn_mixed ih h2 (by omega) (fun x hx y hy e => (hnc y hy x hx e.symm).symm)
        h.symm).elim
    · have g1 : 2 ^ L * 1024 < b₁.length := by omega
      have g2 : 2 ^ L * 1024 < b₂.length := by omega
      rw [cvLevel_succ_gt g1, cvLevel_succ_gt g2] at h
      rw [evalsOf_succ_gt g1, evalsOf_succ_gt g2] at hnc
      -- the parents do not collide, so the children's hashes agree; then the halves by induction
      injection hnc _ List.mem_cons_self _ List.mem_cons_self h with hl hr hf'
      obtain ⟨hc, ht, _⟩ := ih _ _ _ _ _ _
        (fun x hx y hy => hnc x (List.mem_cons_of_mem _ (List.mem_append_left _ hx))
          y (List.mem_cons_of_mem _ (List.mem_append_left _ hy))) hl
      obtain ⟨_, hd, _⟩ := ih _ _ _ _ _ _
        (fun x hx y hy => hnc x (List.mem_cons_of_mem _ (List.mem_append_right _ hx))
          y (List.mem_cons_of_mem _ (List.mem_append_right _ hy))) hr
      refine ⟨hc, ?_, hf'⟩
      rw [← List.take_append_drop (2 ^ L * 1024) b₁, ← List.take_append_drop (2 ^ L * 1024) b₂,
        ht, hd]

/-- **the tree hash is injective wherever `hf` is locally collision free**: equal subtree hashes
mean equal position, equal data and equal root flag, provided `hf` has no collision on a set that
contains the inputs evaluated by the two computations.  (No bound on the data lengths is
needed.) -/
theorem cv_inj_on' {S : HashIn H → Prop} (cf : CollisionFreeOn hf S) {c₁ c₂ : Nat}
    {b₁ b₂ : List UInt8} {r₁ r₂ : Bool} (h1 : ∀ x ∈ hashEvals hf c₁ b₁ r₁, S x)
    (h2 : ∀ x ∈ hashEvals hf c₂ b₂ r₂, S x)
    (h : hashSubtree hf c₁ b₁ r₁ = hashSubtree hf c₂ b₂ r₂) : c₁ = c₂ ∧ b₁ = b₂ ∧ r₁ = r₂ :=
  cvInjOn_all 64 _ _ _ _ _ _ (fun x hx y hy => cf x y (h1 x hx) (h2 y hy)) h

theorem cv_inj_on {c₁ c₂ : Nat} {b₁ b₂ : List UInt8} {r₁ r₂ : Bool}
    (cf : CollisionFreeOn hf (fun x => x ∈ hashEvals hf c₁ b₁ r₁ ∨ x ∈ hashEvals hf c₂ b₂ r₂))
    (h : hashSubtree hf c₁ b₁ r₁ = hashSubtree hf c₂ b₂ r₂) : c₁ = c₂ ∧ b₁ = b₂ ∧ r₁ = r₂ :=
  cv_inj_on' cf (fun _ => .inl) (fun _ => .inr) h

/-- **the tree hash is injective** under the global hypothesis (no bound on the data lengths).
`cv_inj`, `cv_inj_bounded` (with the `2^64` chunk bounds as unused hypotheses) and
`cv_inj_of_global` are one statement under the three names the property files use. -/
theorem cv_inj (cf : CollisionFree hf) {c₁ c₂ : Nat} {b₁ b₂ : List UInt8} {r₁ r₂ : Bool}
    (h : hashSubtree hf c₁ b₁ r₁ = hashSubtree hf c₂ b₂ r₂) : c₁ = c₂ ∧ b₁ = b₂ ∧ r₁ = r₂ :=
  cv_inj_on (cf.on _) h

theorem cv_inj_bounded (cf : CollisionFree hf) {c₁ c₂ : Nat} {b₁ b₂ : List UInt8} {r₁ r₂ : Bool}
    (_ : b₁.length ≤ 2 ^ 64 * 1024) (_ : b₂.length ≤ 2 ^ 64 * 1024)
    (h : hashSubtree hf c₁ b₁ r₁ = hashSubtree hf c₂ b₂ r₂) : c₁ = c₂ ∧ b₁ = b₂ ∧ r₁ = r₂ :=
  cv_inj cf h

theorem cv_inj_of_global (cf : CollisionFree hf) {c₁ c₂ : Nat} {b₁ b₂ : List UInt8} {r₁ r₂ : Bool}
    (h : hashSubtree hf c₁ b₁ r₁ = hashSubtree hf c₂ b₂ r₂) : c₁ = c₂ ∧ b₁ = b₂ ∧ r₁ = r₂ :=
  cv_inj_on (cf.on _) h

theorem evalsOf_head (L c : Nat) (b : List UInt8) (r : Bool) :
    ∃ x rest, evalsOf hf L c b r = x :: rest ∧ hf.eval x = cvLevel hf L c b r := by
  induction L with
  | zero => exact ⟨_, [], rfl, rfl⟩
  | succ L ih =>
    by_cases h : b.length ≤ 2 ^ L * 1024
    · rw [evalsOf_succ_le h, cvLevel_succ_le h]; exact ih
    · have g : 2 ^ L * 1024 < b.length := by omega
      rw [evalsOf_succ_gt g, cvLevel_succ_gt g]
      exact ⟨_, _, rfl, rfl⟩

end

deriving instance DecidableEq for HashIn

/-- collision freedom on a list, in the bounded-quantifier form that `decide` understands -/
theorem collisionFreeOn_list {H : Type} {hf : HashFns H} {l : List (HashIn H)}
    (h : ∀ x ∈ l, ∀ y ∈ l, hf.eval x = hf.eval y → x = y) :
    CollisionFreeOn hf (fun x => x ∈ l) :=
  fun x y hx hy e => h x hx y hy e

/-- collision freedom on a list, from one check per unordered pair that compares injective keys
instead of the inputs themselves -/
theorem collisionFreeOn_keys {H : Type} {hf : HashFns H} {K : Type} (key : HashIn H → K)
    (hk : ∀ x y, key x = key y → x = y) {l : List (HashIn H)}
    (h : l.Pairwise fun x y => hf.eval x = hf.eval y → key x = key y) :
    CollisionFreeOn hf (fun x => x ∈ l) := by
  induction l with
  | nil => intro x _ hx; cases hx
  | cons a l ih =>
    rw [List.pairwise_cons] at h
    intro x y hx hy e
    rcases List.mem_cons.1 hx with rfl | hx'
    · rcases List.mem_cons.1 hy with rfl | hy'
      · rfl
      · exact hk _ _ (h.1 y hy' e)
    · rcases List.mem_cons.1 hy with rfl | hy'
      · exact (hk _ _ (h.1 x hx' e.symm)).symm
      · exact ih h.2 x y hx' hy' e

/-- the first pair `(x, y)` of `l × l` (row major) with `x ≠ y` and `hf.eval x = hf.eval y` -/
def findCollision {H : Type} [DecidableEq H] (hf : HashFns H) (l : List (HashIn H)) :
    Option (HashIn H × HashIn H) :=
  (l.flatMap fun x => l.map fun y => (x, y)).find?
    fun p => decide (p.1 ≠ p.2) && decide (hf.eval p.1 = hf.eval p.2)

theorem findCollision_some {H : Type} [DecidableEq H] {hf : HashFns H} {l : List (HashIn H)}
    {x y : HashIn H} (h : findCollision hf l = some (x, y)) :
    x ∈ l ∧ y ∈ l ∧ x ≠ y ∧ hf.eval x = hf.eval y := by
  unfold findCollision at h
  have hp := List.find?_some h
  have hm := List.mem_of_find?_eq_some h
  simp only [Bool.and_eq_true, decide_eq_true_eq] at hp
  simp only [List.mem_flatMap, List.mem_map] at hm
  obtain ⟨a, ha, b, hb, hab⟩ := hm
  injection hab with h1 h2
  subst h1 h2
  exact ⟨ha, hb, hp.1, hp.2⟩

theorem findCollision_complete {H : Type} [DecidableEq H] {hf : HashFns H} {l : List (HashIn H)}
    {x y : HashIn H} (hx : x ∈ l) (hy : y ∈ l) (hne : x ≠ y) (he : hf.eval x = hf.eval y) :
    ∃ x' y', findCollision hf l = some (x', y') := by
  have : (findCollision hf l).isSome = true := by
    unfold findCollision
    rw [List.find?_isSome]
    refine ⟨(x, y), ?_, ?_⟩
    · simp only [List.mem_flatMap, List.mem_map]
      exact ⟨x, hx, y, hy, rfl⟩
    · simp only [Bool.and_eq_true, decide_eq_true_eq]
      exact ⟨hne, he⟩
  obtain ⟨⟨x', y'⟩, h⟩ := Option.isSome_iff_exists.1 this
  exact ⟨x', y', h⟩

theorem collision_of_not_cf {H : Type} {hf : HashFns H} {l₁ l₂ : List (HashIn H)}
    (h : ¬ CollisionFreeOn hf (fun x => x ∈ l₁ ∨ x ∈ l₂)) :
    ∃ x y, x ∈ l₁ ++ l₂ ∧ y ∈ l₁ ++ l₂ ∧ x ≠ y ∧ hf.eval x = hf.eval y := by
  apply Classical.byContradiction
  intro hno
  apply h
  intro x y hx hy e
  apply Classical.byContradiction
  intro hne
  exact hno ⟨x, y, List.mem_append.2 hx, List.mem_append.2 hy, hne, e⟩

theorem findCollision_of_not_cf {H : Type} [DecidableEq H] {hf : HashFns H}
    {l₁ l₂ : List (HashIn H)} (h : ¬ CollisionFreeOn hf (fun x => x ∈ l₁ ∨ x ∈ l₂)) :
    ∃ x y, findCollision hf (l₁ ++ l₂) = some (x, y) ∧
      x ∈ l₁ ++ l₂ ∧ y ∈ l₁ ++ l₂ ∧ x ≠ y ∧ hf.eval x = hf.eval y := by
  obtain ⟨x, y, hx, hy, hne, he⟩ := collision_of_not_cf h
  obtain ⟨x', y', hf'⟩ := findCollision_complete hx hy hne he
  exact ⟨x', y', hf', findCollision_some hf'⟩

/-! ## a toy instance WITH the 32-byte wire round trip

Hashes are byte strings of length 32, `toBytes` is the identity on them and `ofBytes` its inverse,
so `hrt` and `hlen` hold.  By pigeonhole (`Lemmas/CFUnsat.lean`) such an instance can not be
globally collision free (`toy32_not_cf` shows a collision); it can be collision free on the
finitely many inputs of a concrete run, which `decide` checks. -/

abbrev H32 : Type := { l : List UInt8 // l.length = 32 }

def pad32 (l : List UInt8) : H32 :=
  ⟨(l ++ List.replicate 32 0).take 32, by simp [List.length_take]⟩

def flagByte (r : Bool) : UInt8 := if r then 1 else 0

def checksum (b : List UInt8) : Nat := b.foldl (fun a x => (a * 31 + x.toNat) % 65521) 7

/-- a toy hash into 32 bytes (tag, root flag, counter / lengths / checksum of the data, resp. 15
bytes of each child) -/
def toy32 : HashFns H32 where
  chunkCv c b r :=
    pad32 [0, flagByte r, UInt8.ofNat c, UInt8.ofNat b.length, UInt8.ofNat (b.length / 256),
      UInt8.ofNat (checksum b), UInt8.ofNat (checksum b / 256)]
  parentCv l r f := pad32 ([1, flagByte f] ++ l.1.take 15 ++ r.1.take 15)
  ofBytes b := if h : b.length = 32 then ⟨b, h⟩ else pad32 []
  toBytes h := h.1

/-! ### keys for the inputs of a hash into 32 bytes

The same chunk is evaluated by the honest hashing and by the decoder, so a check of collision
freedom on an evaluation list has to recognise equal inputs.  Comparing two 1024-byte lists element
by element is what makes that check slow in the kernel; as numbers they are compared in one step. -/

/-- a byte string as one number: base 256 under a leading 1 -/
def bytesKey : List UInt8 → Nat
  | [] => 1
  | x :: b => bytesKey b * 256 + x.toNat

theorem bytesKey_pos : ∀ b, 0 < bytesKey b
  | [] => Nat.one_pos
  | x :: b => by have := bytesKey_pos b; simp only [bytesKey]; omega

theorem bytesKey_inj : ∀ a b, bytesKey a = bytesKey b → a = b
  | [], [] => fun _ => rfl
  | [], y :: b => fun h => by
    have := bytesKey_pos b; simp only [bytesKey] at h; omega
  | x :: a, [] => fun h => by
    have := bytesKey_pos a; simp only [bytesKey] at h; omega
  | x :: a, y :: b => fun h => by
    have := x.toNat_lt; have := y.toNat_lt
    simp only [bytesKey] at h
    rw [bytesKey_inj a b (by omega), UInt8.toNat_inj.1 (show x.toNat = y.toNat by omega)]

def key32 : HashIn H32 → Nat × Nat × Nat × Bool
  | .chunk c b r => (0, c, bytesKey b, r)
  | .parent l r f => (1, bytesKey l.1, bytesKey r.1, f)

theorem key32_inj (x y : HashIn H32) (h : key32 x = key32 y) : x = y := by
  cases x <;> cases y <;> simp only [key32, Prod.mk.injEq] at h
  · obtain ⟨-, rfl, hb, rfl⟩ := h
    rw [bytesKey_inj _ _ hb]
  · exact absurd h.1 (by decide)
  · exact absurd h.1 (by decide)
  · obtain ⟨-, hl, hr, rfl⟩ := h
    rw [Subtype.ext (bytesKey_inj _ _ hl), Subtype.ext (bytesKey_inj _ _ hr)]

theorem toy32_len : ∀ h, (toy32.toBytes h).length = 32 := fun h => h.2

theorem toy32_rt : ∀ h, toy32.ofBytes (toy32.toBytes h) = h := by
  intro h
  simp only [toy32, h.2, dite_true]

/-- the toy hash is (of course) not globally collision free: the chunk counter is taken mod 256 -/
theorem toy32_not_cf : ¬ CollisionFree toy32 := by
  intro cf
  have := cf (.chunk 0 [] false) (.chunk 256 [] false) (by decide)
  injection this with h
  exact absurd h (by decide)

end Bao
