import BaoModel.Codec
import BaoProofs.Lemmas.CallSplit

/-!
# Lemmas for C10: the fault-aware `decode_ranges` driver against its call log
-/

namespace Bao.FaultL

open Bao

variable {H : Type}

def injected : DecEnd := .err (.io ⟨.other, true⟩)

/-- one call on the target or on the outboard -/
inductive Ev (H : Type)
  | write (off : Nat) (data : List UInt8)
  | save (node : Nat) (l r : H)

/-- `OutboardMut::save` as a state update: a failing call leaves the outboard as it is -/
def saveOrKeep (hf : HashFns H) (ob : Store H) (c : Nat × H × H) : Store H :=
  match ob.save hf c.1 (c.2.1, c.2.2) with
  | .ok ob' => ob'
  | _ => ob

def applyEv (hf : HashFns H) (sink : Sink H) : Ev H → Sink H
  | .write off data => { sink with target := writeAt sink.target off data }
  | .save node l r => { sink with ob := saveOrKeep hf sink.ob (node, l, r) }

def applyEvs (hf : HashFns H) (sink : Sink H) (es : List (Ev H)) : Sink H :=
  es.foldl (applyEv hf) sink

def writes : List (Ev H) → List (Nat × List UInt8)
  | [] => []
  | .write off data :: es => (off, data) :: writes es
  | .save .. :: es => writes es

def saves : List (Ev H) → List (Nat × H × H)
  | [] => []
  | .write .. :: es => saves es
  | .save node l r :: es => (node, l, r) :: saves es

def applyWrites (t : List UInt8) (ws : List (Nat × List UInt8)) : List UInt8 :=
  ws.foldl (fun t w => writeAt t w.1 w.2) t

def applySaves (hf : HashFns H) (ob : Store H) (ss : List (Nat × H × H)) : Store H :=
  ss.foldl (saveOrKeep hf) ob

/-- instrumented twin of `decodeRangesFAux … none none`: the calls made on the target and on the
outboard (every call, also a `save` that fails by itself, which is then the last one), and the
terminal -/
def logAux (hf : HashFns H) [BEq H] (fl : Flavour) (tree : Tree) :
    Nat → Dec H → Sink H → List (Ev H) × DecEnd
  | 0, _, _ => ([], .panic)
  | fuel + 1, d, sink =>
    match d.next hf fl with
    | .done _ => ([], .done)
    | .err e _ => ([], .err e)
    | .panic => ([], .panic)
    | .item (.parent node l r) d' =>
      if tree.isRelevant node then
        match sink.ob.save hf node (l, r) with
        | .ok ob =>
          let p := logAux hf fl tree fuel d' { sink with ob }
          (.save node l r :: p.1, p.2)
        | .err e => ([.save node l r], .err (.io e))
        | .panic => ([.save node l r], .panic)
      else logAux hf fl tree fuel d' sink
    | .item (.leaf off data) d' =>
      if fl == .sync && data.isEmpty then logAux hf fl tree fuel d' sink
      else
        let p := logAux hf fl tree fuel d' { sink with target := writeAt sink.target off data }
        (.write off data :: p.1, p.2)

/-- where a fault script `(fw, fs)` cuts a log, the counters standing at `nw`, `ns`:
`some pre` = the calls completed before the failing one, `none` = no call fails -/
def cut (fw fs : Option Nat) : Nat → Nat → List (Ev H) → Option (List (Ev H))
  | _, _, [] => none
  | nw, ns, .write off data :: es =>
    if fw == some nw then some [] else (cut fw fs (nw + 1) ns es).map (.write off data :: ·)
  | nw, ns, .save node l r :: es =>
    if fs == some ns then some [] else (cut fw fs nw (ns + 1) es).map (.save node l r :: ·)

theorem applyEvs_cons (hf : HashFns H) (sink : Sink H) (e : Ev H) (es : List (Ev H)) :
    applyEvs hf sink (e :: es) = applyEvs hf (applyEv hf sink e) es := rfl

theorem applyEvs_nil (hf : HashFns H) (sink : Sink H) : applyEvs hf sink [] = sink := rfl

/-- the pivot for `decode_ranges`: the faulty driver performs the log of the fault-free twin, `cut` at
the first call the script hits -/
theorem faux_eq (hf : HashFns H) [BEq H] (fl : Flavour) (tree : Tree) (fw fs : Option Nat)
    (fuel : Nat) (d : Dec H) (sink : Sink H) (nw ns : Nat) :
    decodeRangesFAux hf fl tree fw fs fuel d sink nw ns =
      match cut fw fs nw ns (logAux hf fl tree fuel d sink).1 with
      | none => (applyEvs hf sink (logAux hf fl tree fuel d sink).1, (logAux hf fl tree fuel d sink).2)
      | some pre => (applyEvs hf sink pre, injected) := by
  induction fuel generalizing d sink nw ns with
  | zero => simp [decodeRangesFAux, logAux, cut, applyEvs]
  | succ fuel ih =>
    unfold decodeRangesFAux logAux
    cases hn : d.next hf fl with
    | done d' | err e d' | panic => simp [cut, applyEvs]
    | item i d' =>
      cases i with
      | parent node l r =>
        simp only
        by_cases hrel : tree.isRelevant node = true
        · simp only [hrel, if_true]
          by_cases hfs : (fs == some ns) = true
          · simp only [hfs, if_true]
            cases hsv : sink.ob.save hf node (l, r) <;> simp [cut, hfs, applyEvs, injected]
          · simp only [hfs]
            cases hsv : sink.ob.save hf node (l, r) with
            | ok ob =>
              simp only [cut, hfs, Bool.false_eq_true, if_false]
              rw [ih]
              cases hc : cut fw fs nw (ns + 1) (logAux hf fl tree fuel d' { sink with ob := ob }).1 with
              | none => simp [applyEvs_cons, applyEv, saveOrKeep, hsv]
              | some pre => simp [applyEvs_cons, applyEv, saveOrKeep, hsv]
            | err e | panic => simp [cut, hfs, applyEvs, applyEv, saveOrKeep, hsv]
        · simp only [hrel, Bool.false_eq_true, if_false]
          exact ih ..
      | leaf off data =>
        simp only
        by_cases hskip : (fl == Flavour.sync && data.isEmpty) = true
        · simp only [hskip, if_true]
          exact ih ..
        · simp only [hskip, Bool.false_eq_true, if_false]
          by_cases hfw : (fw == some nw) = true
          · simp [cut, hfw, applyEvs, injected]
          · simp only [hfw, Bool.false_eq_true, if_false, cut]
            rw [ih]
            cases hc : cut fw fs (nw + 1) ns
              (logAux hf fl tree fuel d' { sink with target := writeAt sink.target off data }).1 with
            | none => simp [applyEvs_cons, applyEv]
            | some pre => simp [applyEvs_cons, applyEv]

theorem cut_none_none (nw ns : Nat) (es : List (Ev H)) : cut none none nw ns es = none := by
  induction es generalizing nw ns with
  | nil => rfl
  | cons e es ih => cases e <;> simp [cut, ih]

def beforeWrite : Nat → List (Ev H) → List (Ev H)
  | _, [] => []
  | 0, .write .. :: _ => []
  | j + 1, .write off data :: es => .write off data :: beforeWrite j es
  | j, .save node l r :: es => .save node l r :: beforeWrite j es

def beforeSave : Nat → List (Ev H) → List (Ev H)
  | _, [] => []
  | 0, .save .. :: _ => []
  | j + 1, .save node l r :: es => .save node l r :: beforeSave j es
  | j, .write off data :: es => .write off data :: beforeSave j es

theorem cut_write_add (j nw ns : Nat) (es : List (Ev H)) :
    cut (some (nw + j)) none nw ns es =
      if j < (writes es).length then some (beforeWrite j es) else none := by
  induction es generalizing j nw ns with
  | nil => rfl
  | cons e es ih =>
    cases e with
    | save node l r =>
      rw [cut, writes, beforeWrite, if_neg (by simp), ih]
      split <;> rfl
    | write off data =>
      cases j with
      | zero => rw [cut, if_pos (by simp)]; rfl
      | succ j =>
        have hk : nw + (j + 1) = nw + 1 + j := by omega
        rw [cut, if_neg (by simp), hk, ih, writes, beforeWrite, List.length_cons]
        by_cases hlt : j < (writes es).length
        · rw [if_pos hlt, if_pos (by omega)]; rfl
        · rw [if_neg hlt, if_neg (by omega)]; rfl

theorem cut_write (k ns : Nat) (es : List (Ev H)) :
    cut (some k) none 0 ns es =
      if k < (writes es).length then some (beforeWrite k es) else none := by
  rw [← cut_write_add k 0 ns es, Nat.zero_add]

theorem cut_save_add (j nw ns : Nat) (es : List (Ev H)) :
    cut none (some (ns + j)) nw ns es =
      if j < (saves es).length then some (beforeSave j es) else none := by
  induction es generalizing j nw ns with
  | nil => rfl
  | cons e es ih =>
    cases e with
    | write off data =>
      rw [cut, saves, beforeSave, if_neg (by simp), ih]
      split <;> rfl
    | save node l r =>
      cases j with
      | zero => rw [cut, if_pos (by simp)]; rfl
      | succ j =>
        have hk : ns + (j + 1) = ns + 1 + j := by omega
        rw [cut, if_neg (by simp), hk, ih, saves, beforeSave, List.length_cons]
        by_cases hlt : j < (saves es).length
        · rw [if_pos hlt, if_pos (by omega)]; rfl
        · rw [if_neg hlt, if_neg (by omega)]; rfl

theorem cut_save (k nw : Nat) (es : List (Ev H)) :
    cut none (some k) nw 0 es =
      if k < (saves es).length then some (beforeSave k es) else none := by
  rw [← cut_save_add k nw 0 es, Nat.zero_add]

theorem cut_some (fw fs : Option Nat) (nw ns : Nat) (es pre : List (Ev H))
    (h : cut fw fs nw ns es = some pre) : ∃ e post, es = pre ++ e :: post := by
  induction es generalizing nw ns pre with
  | nil => cases h
  | cons e es ih =>
    cases e with
    | write off data =>
      rw [cut] at h
      split at h
      · cases h; exact ⟨_, _, rfl⟩
      · obtain ⟨p, hc, rfl⟩ := Option.map_eq_some_iff.mp h
        obtain ⟨e, post, rfl⟩ := ih _ _ _ hc
        exact ⟨e, post, rfl⟩
    | save node l r =>
      rw [cut] at h
      split at h
      · cases h; exact ⟨_, _, rfl⟩
      · obtain ⟨p, hc, rfl⟩ := Option.map_eq_some_iff.mp h
        obtain ⟨e, post, rfl⟩ := ih _ _ _ hc
        exact ⟨e, post, rfl⟩

theorem cut_prefix (fw fs : Option Nat) (nw ns : Nat) (es pre : List (Ev H))
    (h : cut fw fs nw ns es = some pre) : pre <+: es := by
  obtain ⟨e, post, rfl⟩ := cut_some fw fs nw ns es pre h
  exact List.prefix_append _ _

theorem cut_length_lt (fw fs : Option Nat) (nw ns : Nat) (es pre : List (Ev H))
    (h : cut fw fs nw ns es = some pre) : pre.length < es.length := by
  obtain ⟨e, post, rfl⟩ := cut_some fw fs nw ns es pre h
  rw [List.length_append, List.length_cons]
  omega

theorem writes_append (a b : List (Ev H)) : writes (a ++ b) = writes a ++ writes b := by
  induction a with
  | nil => rfl
  | cons e a ih => cases e <;> simp [writes, ih]

theorem saves_append (a b : List (Ev H)) : saves (a ++ b) = saves a ++ saves b := by
  induction a with
  | nil => rfl
  | cons e a ih => cases e <;> simp [saves, ih]

theorem writes_prefix {a b : List (Ev H)} (h : a <+: b) : writes a <+: writes b := by
  obtain ⟨c, rfl⟩ := h; rw [writes_append]; exact List.prefix_append _ _

theorem saves_prefix {a b : List (Ev H)} (h : a <+: b) : saves a <+: saves b := by
  obtain ⟨c, rfl⟩ := h; rw [saves_append]; exact List.prefix_append _ _

theorem applyEvs_target (hf : HashFns H) (sink : Sink H) (es : List (Ev H)) :
    (applyEvs hf sink es).target = applyWrites sink.target (writes es) := by
  induction es generalizing sink with
  | nil => rfl
  | cons e es ih =>
    rw [applyEvs_cons, ih]
    cases e <;> simp [applyEv, writes, applyWrites]

theorem applyEvs_ob (hf : HashFns H) (sink : Sink H) (es : List (Ev H)) :
    (applyEvs hf sink es).ob = applySaves hf sink.ob (saves es) := by
  induction es generalizing sink with
  | nil => rfl
  | cons e es ih =>
    rw [applyEvs_cons, ih]
    cases e <;> simp [applyEv, saves, applySaves]

theorem beforeWrite_prefix (j : Nat) (es : List (Ev H)) : beforeWrite j es <+: es := by
  fun_induction beforeWrite j es <;> simp_all

theorem beforeSave_prefix (j : Nat) (es : List (Ev H)) : beforeSave j es <+: es := by
  fun_induction beforeSave j es <;> simp_all

theorem writes_beforeWrite (j : Nat) (es : List (Ev H)) :
    writes (beforeWrite j es) = (writes es).take j := by
  fun_induction beforeWrite j es <;> simp_all [writes]

theorem saves_beforeSave (j : Nat) (es : List (Ev H)) :
    saves (beforeSave j es) = (saves es).take j := by
  fun_induction beforeSave j es <;> simp_all [saves]

theorem prefix_eq_take {α : Type} {a b : List α} (h : a <+: b) : a = b.take a.length := by
  obtain ⟨c, rfl⟩ := h; simp

@[simp] theorem sync_beq_sync : (Flavour.sync == Flavour.sync) = true := rfl
@[simp] theorem fsm_beq_sync : (Flavour.fsm == Flavour.sync) = false := rfl

theorem writeAt_zero_nil (t : List UInt8) : writeAt t 0 [] = t := by
  simp [writeAt]

/-- the log accumulators of `decodeRangesAux` are only prepended to -/
theorem aux_acc (hf : HashFns H) [BEq H] (fl : Flavour) (tree : Tree) (fuel : Nat) (d : Dec H)
    (sink : Sink H) (ws : List (Nat × Nat)) (ss : List Nat) :
    decodeRangesAux hf fl tree fuel d sink ws ss =
      ⟨(decodeRangesAux hf fl tree fuel d sink [] []).sink,
       (decodeRangesAux hf fl tree fuel d sink [] []).terminal,
       (decodeRangesAux hf fl tree fuel d sink [] []).rest,
       ws.reverse ++ (decodeRangesAux hf fl tree fuel d sink [] []).writes,
       ss.reverse ++ (decodeRangesAux hf fl tree fuel d sink [] []).saves⟩ := by
  induction fuel generalizing d sink ws ss with
  | zero => simp [decodeRangesAux]
  | succ fuel ih =>
    unfold decodeRangesAux
    cases hn : d.next hf fl with
    | done d' | err e d' | panic => simp
    | item i d' =>
      cases i with
      | parent node l r =>
        simp only
        by_cases hrel : tree.isRelevant node = true
        · simp only [hrel, if_true]
          cases hsv : sink.ob.save hf node (l, r) with
          | ok ob =>
            simp only
            rw [ih d' _ ws (node :: ss), ih d' _ [] [node]]
            simp
          | err e | panic => simp
        · simp only [hrel, Bool.false_eq_true, if_false]
          exact ih ..
      | leaf off data =>
        simp only
        rw [ih d' _ ((off, data.length) :: ws) ss, ih d' _ [(off, data.length)] []]
        simp

/-- if every empty leaf write of the plain run is at offset 0 (where `writeAt t 0 [] = t`), the
fault-free faulty driver also ends with the same target; for the fsm flavour nothing is needed -/
theorem faux_none_eq (hf : HashFns H) [BEq H] (fl : Flavour) (tree : Tree) (fuel : Nat)
    (d : Dec H) (sink : Sink H) (nw ns : Nat)
    (h : fl = .sync → ∀ p ∈ (decodeRangesAux hf fl tree fuel d sink [] []).writes, p.2 = 0 → p.1 = 0) :
    decodeRangesFAux hf fl tree none none fuel d sink nw ns =
      ((decodeRangesAux hf fl tree fuel d sink [] []).sink,
       (decodeRangesAux hf fl tree fuel d sink [] []).terminal) := by
  induction fuel generalizing d sink nw ns with
  | zero => simp [decodeRangesFAux, decodeRangesAux]
  | succ fuel ih =>
    unfold decodeRangesFAux
    unfold decodeRangesAux at h ⊢
    cases hn : d.next hf fl with
    | done d' | err e d' | panic => simp
    | item i d' =>
      rw [hn] at h
      cases i with
      | parent node l r =>
        simp only at h ⊢
        by_cases hrel : tree.isRelevant node = true
        · have h0 : ((none : Option Nat) == some ns) = false := rfl
          simp only [hrel, if_true, h0, Bool.false_eq_true, if_false] at h ⊢
          cases hsv : sink.ob.save hf node (l, r) with
          | ok ob =>
            rw [hsv] at h
            simp only at h ⊢
            rw [aux_acc] at h ⊢
            simp only at h ⊢
            exact ih d' _ _ _ h
          | err e | panic => simp
        · simp only [hrel, Bool.false_eq_true, if_false] at h ⊢
          exact ih d' _ _ _ h
      | leaf off data =>
        have h0 : ((none : Option Nat) == some nw) = false := rfl
        simp only [h0, Bool.false_eq_true, if_false] at h ⊢
        rw [aux_acc] at h ⊢
        simp only [List.reverse_cons, List.reverse_nil, List.nil_append, List.singleton_append,
          List.mem_cons] at h ⊢
        have h' : fl = .sync → ∀ p ∈ (decodeRangesAux hf fl tree fuel d'
            { sink with target := writeAt sink.target off data } [] []).writes, p.2 = 0 → p.1 = 0 :=
          fun hfl p hp => h hfl p (Or.inr hp)
        by_cases hskip : (fl == Flavour.sync && data.isEmpty) = true
        · simp only [hskip, if_true]
          simp only [Bool.and_eq_true, List.isEmpty_iff] at hskip
          obtain ⟨hfl, hd⟩ := hskip
          have hfl : fl = .sync := by cases fl <;> first | rfl | exact absurd hfl (by decide)
          have hoff : off = 0 := h hfl (off, data.length) (Or.inl rfl) (by simp [hd])
          subst hoff hd
          rw [writeAt_zero_nil] at h' ⊢
          exact ih d' _ _ _ h'
        · simp only [hskip, Bool.false_eq_true, if_false]
          exact ih d' _ _ _ h'

/-- the saves of the instrumented twin are the `saves` log of the plain driver, the writes are its
`writes` log without the (sync) empty ones; the terminals agree, and the plain driver ends with the
outboard on which the logged saves were performed -/
theorem logAux_model (hf : HashFns H) [BEq H] (fl : Flavour) (tree : Tree) (fuel : Nat)
    (d : Dec H) (sink sink' : Sink H) (hob : sink.ob = sink'.ob) :
    (saves (logAux hf fl tree fuel d sink).1).map (·.1) =
        (decodeRangesAux hf fl tree fuel d sink' [] []).saves ∧
      (writes (logAux hf fl tree fuel d sink).1).map (fun w => (w.1, w.2.length)) =
        (decodeRangesAux hf fl tree fuel d sink' [] []).writes.filter
          (fun p => !(fl == .sync && p.2 == 0)) ∧
      (logAux hf fl tree fuel d sink).2 = (decodeRangesAux hf fl tree fuel d sink' [] []).terminal ∧
      (decodeRangesAux hf fl tree fuel d sink' [] []).sink.ob =
        applySaves hf sink.ob (saves (logAux hf fl tree fuel d sink).1) := by
  induction fuel generalizing d sink sink' with
  | zero => simp [logAux, decodeRangesAux, saves, writes, applySaves, hob]
  | succ fuel ih =>
    unfold logAux decodeRangesAux
    cases hn : d.next hf fl with
    | done d' | err e d' | panic => simp [saves, writes, applySaves, hob]
    | item i d' =>
      cases i with
      | parent node l r =>
        simp only
        by_cases hrel : tree.isRelevant node = true
        · simp only [hrel, if_true]
          rw [← hob]
          cases hsv : sink.ob.save hf node (l, r) with
          | ok ob =>
            simp only
            rw [aux_acc]
            obtain ⟨h1, h2, h3, h4⟩ := ih d' { sink with ob := ob } { sink' with ob := ob } rfl
            simp only [saves, writes, List.map_cons, h1, h2, h3, h4]
            simp [applySaves, saveOrKeep, hsv]
          | err e | panic => simp [saves, writes, applySaves, saveOrKeep, hsv, ← hob]
        · simp only [hrel, Bool.false_eq_true, if_false]
          exact ih d' _ _ hob
      | leaf off data =>
        simp only
        rw [aux_acc]
        obtain ⟨h1, h2, h3, h4⟩ := ih d' { sink with target := writeAt sink.target off data }
          { sink' with target := writeAt sink'.target off data } hob
        obtain ⟨h1', h2', h3', h4'⟩ := ih d' sink
          { sink' with target := writeAt sink'.target off data } hob
        cases fl with
        | fsm =>
          simp only [fsm_beq_sync, Bool.false_and, Bool.false_eq_true, if_false, saves, writes,
            List.map_cons, Bool.not_false] at h1 h2 h3 h4 ⊢
          simp [h1, h2, h3, h4]
        | sync =>
          cases data with
          | nil =>
            simp only [sync_beq_sync, List.isEmpty_nil, Bool.and_self, if_true, h1', h2', h3', h4']
            simp
          | cons a t =>
            simp only [sync_beq_sync, List.isEmpty_cons, Bool.and_false, Bool.false_eq_true,
              if_false, saves, writes, List.map_cons, h1, h2, h3, h4]
            simp

/-- the calls and the terminal of the fault-free `decodeRangesF` -/
def callLog (hf : HashFns H) [BEq H] (fl : Flavour) (encoded : List UInt8) (ranges : Ranges)
    (sink : Sink H) : List (Ev H) × DecEnd :=
  let tree := sink.ob.tree
  let d := Dec.new sink.ob.root tree ranges encoded
  logAux hf fl tree (PrePartial.fuelFor d.iter.tree + 1) d sink

theorem decodeRangesF_eq (hf : HashFns H) [BEq H] (fl : Flavour) (s : List UInt8) (q : Ranges)
    (sink : Sink H) (fw fs : Option Nat) :
    decodeRangesF hf fl s q sink fw fs =
      match cut fw fs 0 0 (callLog hf fl s q sink).1 with
      | none => (applyEvs hf sink (callLog hf fl s q sink).1, (callLog hf fl s q sink).2)
      | some pre => (applyEvs hf sink pre, injected) := by
  unfold decodeRangesF callLog
  exact faux_eq ..

/-! ## a fault-free run, evaluated once

The sync flavour on the stream of a 1500-byte blob (parent pair and two leaves, all bytes `1`), query
`[0]`, under `CallSplit.zeroHash`, into the outboard `CallSplit.zeroOb` and an empty target: the instrumented run `r` and the run `r'` of the plain driver - the runs the examples
of `Props/C10.lean` speak about.  Evaluated in one statement, so that what the two share (the decoder
steps) is evaluated once; stated for any `r` equal to the run, so that it applies to the run
however its arguments are spelt. -/

theorem callLog_runs (r : List (Ev Nat) × DecEnd) (r' : DecodeRangesRun Nat)
    (h : r = callLog CallSplit.zeroHash .sync (List.replicate 1564 1) [0] ⟨CallSplit.zeroOb, []⟩)
    (h' : r' = decodeRanges CallSplit.zeroHash .sync (List.replicate 1564 1) [0]
      ⟨CallSplit.zeroOb, []⟩) :
    (saves r.1).length = 1 ∧
    (writes r.1).map (fun w => (w.1, w.2.length)) = [(0, 1024), (1024, 476)] ∧ r.2 = .done ∧
    (saves (beforeWrite 1 r.1)).length = 1 ∧ (writes (beforeSave 0 r.1)).length = 0 ∧
    ∀ p ∈ r'.writes, p.2 = 0 → p.1 = 0 := by
  rw [h, h']
  decide +kernel

end Bao.FaultL
