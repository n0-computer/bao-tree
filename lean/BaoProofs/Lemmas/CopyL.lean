import BaoProofs.Lemmas.OutboardL

/-!
# `copy` / `flip` between outboards (C12, last sentence)

`copy` walks the pre-order node iterator of the source tree, `load`s every node from the source and
`save`s what it got to the target.  With the slot bijections of C12 (`C12.pre`, `C12.post`) and the
positional-write lemma `WriteAtL.applyWrites_perm` this gives a closed form for the result:

  `copy hf fl src dst = .ok { dst with data := P.flatMap fun x => reenc hf (blockAt src.data (slotD src x)) }`

where `P` is the persisted-node list in the order of the TARGET (`plist dst.kind …`), `slotD src x` the
slot of `x` in the SOURCE, and `reenc` what parsing + re-serialising does to a 64-byte record (the
identity under the byte round trip `hbt`).
-/

namespace Bao.CopyL
open Bao Bao.Spec Bao.WriteAtL Bao.OutboardL Bao.NodeIterL

section
variable {H : Type} (hf : HashFns H)

/-- what `load` (parse) followed by `save` (serialise) does to a 64-byte record -/
def reenc (b : List UInt8) : List UInt8 :=
  hf.toBytes (hf.ofBytes (b.take 32)) ++ hf.toBytes (hf.ofBytes ((b.drop 32).take 32))

theorem reenc_length (hlen : ∀ h, (hf.toBytes h).length = 32) (b : List UInt8) :
    (reenc hf b).length = 64 :=
  pair_bytes_length hf hlen (parsePair hf b)

theorem reenc_id (hbt : ∀ b : List UInt8, b.length = 32 → hf.toBytes (hf.ofBytes b) = b)
    (b : List UInt8) (hb : b.length = 64) : reenc hf b = b := by
  unfold reenc
  have hd : (b.drop 32).length = 32 := by rw [List.length_drop, hb]
  rw [List.take_of_length_le (Nat.le_of_eq hd), hbt _ (by rw [List.length_take, hb]; rfl), hbt _ hd,
    List.take_append_drop]

theorem reenc_pairBytes (hlen : ∀ h, (hf.toBytes h).length = 32)
    (hrt : ∀ h, hf.ofBytes (hf.toBytes h) = h) (d : List UInt8) (x : Nat) :
    reenc hf (pairBytes hf d x) = pairBytes hf d x := by
  show hf.toBytes (parsePair hf _).1 ++ hf.toBytes (parsePair hf _).2 = _
  rw [parsePair_pairBytes hf hlen hrt]
  rfl

theorem wbytes_parsePair (x : Nat) (b : List UInt8) :
    wbytes hf (x, parsePair hf b) = reenc hf b := rfl

theorem blockAt_take (data : List UInt8) (N i : Nat) (hi : i < N) :
    blockAt (data.take (N * 64)) i = blockAt data i := by
  apply List.ext_getElem?
  intro j
  rw [getElem?_blockAt, getElem?_blockAt]
  by_cases hj : j < 64
  · rw [if_pos hj, if_pos hj, List.getElem?_take_of_lt (Nat.lt_of_lt_of_le
      (Nat.add_lt_add_left hj _) (slot_add_le hi (Nat.le_refl _)))]
  · rw [if_neg hj, if_neg hj]

theorem flatMap_blocks_eq_take {α : Type} (P : List α) (sl : α → Nat) (data : List UInt8)
    (hsl : ∀ i (h : i < P.length), sl P[i] = i) (hd : P.length * 64 ≤ data.length) :
    P.flatMap (fun x => blockAt data (sl x)) = data.take (P.length * 64) := by
  have h64 : ∀ x ∈ P, (blockAt data (sl x)).length = 64 := by
    intro x hx
    obtain ⟨i, hi, rfl⟩ := List.getElem_of_mem hx
    rw [hsl i hi]
    exact length_blockAt data i (slot_add_le hi hd)
  apply ext_blockAt _ _ P.length (length_flatMap64 P _ h64)
    (by rw [List.length_take, Nat.min_eq_left hd])
  intro i hi
  rw [blockAt_flatMap P _ h64 i hi, hsl i hi, blockAt_take data P.length i hi]

theorem copyLoop_nil (fl : Flavour) (src dst : Store H) : copyLoop hf fl src [] dst = .ok dst := rfl

theorem copyLoop_none (fl : Flavour) (src dst : Store H) (xs : List Nat)
    (h : ∀ x ∈ xs, src.load hf fl x = .ok none) : copyLoop hf fl src xs dst = .ok dst := by
  induction xs with
  | nil => rfl
  | cons x xs ih =>
    simp only [copyLoop, h x List.mem_cons_self]
    exact ih (fun y hy => h y (List.mem_cons_of_mem _ hy))

theorem copyLoop_append (fl : Flavour) (src : Store H) (xs ys : List Nat) (dst d1 : Store H)
    (h : copyLoop hf fl src xs dst = .ok d1) :
    copyLoop hf fl src (xs ++ ys) dst = copyLoop hf fl src ys d1 := by
  fun_induction copyLoop hf fl src xs dst <;> simp_all [copyLoop]

theorem copyLoop_putAll (fl : Flavour) (src : Store H) (hk : src.kind ≠ .empty) (sl : Nat → Nat)
    (xs : List Nat)
    (hsl : ∀ x ∈ xs, src.slot x = some (sl x) ∧ sl x * 64 + 64 ≤ src.data.length)
    (dst : Store H) :
    copyLoop hf fl src xs dst
      = putAll (putStore hf) dst (xs.map fun x => (x, parsePair hf (blockAt src.data (sl x)))) := by
  induction xs generalizing dst with
  | nil => rfl
  | cons x xs ih =>
    obtain ⟨h1, h2⟩ := hsl x List.mem_cons_self
    simp only [copyLoop, load_slot hf fl src hk h1 h2, List.map_cons, putAll, putStore]
    cases hsv : dst.save hf x (parsePair hf (blockAt src.data (sl x))) with
    | err e => rfl
    | panic => rfl
    | ok d2 => exact ih (fun y hy => hsl y (List.mem_cons_of_mem _ hy)) d2

/-- the persisted nodes in the order in which a store of kind `k` lays them out -/
def plist (k : StoreKind) (size bs : Nat) : List Nat :=
  match k with
  | .postIo | .postMem => persistedPost size bs
  | _ => persistedPre size bs

def slotD (s : Store H) (x : Nat) : Nat := (s.slot x).getD 0

theorem plist_pre {k : StoreKind} (hk : k = .preIo ∨ k = .preMem) (size bs : Nat) :
    plist k size bs = persistedPre size bs := by
  rcases hk with h | h <;> rw [h] <;> rfl

theorem plist_post {k : StoreKind} (hk : k = .postIo ∨ k = .postMem) (size bs : Nat) :
    plist k size bs = persistedPost size bs := by
  rcases hk with h | h <;> rw [h] <;> rfl

theorem kind_cases (s : Store H) (hk : s.kind ≠ .empty) :
    (s.kind = .preIo ∨ s.kind = .preMem) ∨ (s.kind = .postIo ∨ s.kind = .postMem) := by
  cases hkd : s.kind with
  | empty => exact (hk hkd).elim
  | preIo => exact .inl (.inl rfl)
  | preMem => exact .inl (.inr rfl)
  | postIo => exact .inr (.inl rfl)
  | postMem => exact .inr (.inr rfl)

theorem plist_perm (k : StoreKind) (size bs : Nat) (hs : size ≤ 2 ^ 63) :
    (plist k size bs).Perm (persistedPre size bs) := by
  cases k with
  | postIo => exact persistedPost_perm size bs hs
  | postMem => exact persistedPost_perm size bs hs
  | preIo => exact List.Perm.refl _
  | preMem => exact List.Perm.refl _
  | empty => exact List.Perm.refl _

theorem plist_length (k : StoreKind) (size bs : Nat) (hs : size ≤ 2 ^ 63) (hbs : bs ≤ 10) :
    (plist k size bs).length = Tree.blocks ⟨size, bs⟩ - 1 := by
  rw [(plist_perm k size bs hs).length_eq]
  exact (C12.pre size bs hs hbs).1

theorem slot_plist (s : Store H) (hk : s.kind ≠ .empty) (size bs : Nat) (hs : size ≤ 2 ^ 63)
    (hbs : bs ≤ 10) (ht : s.tree = ⟨size, bs⟩) (i : Nat) (h : i < (plist s.kind size bs).length) :
    s.slot (plist s.kind size bs)[i] = some i := by
  rcases kind_cases s hk with hk' | hk'
  · have e := plist_pre hk' size bs
    rw [slot_pre hk', ht]
    simp only [e]
    exact (C12.pre size bs hs hbs).2 i (by rw [← e]; exact h)
  · have e := plist_post hk' size bs
    rw [slot_post hk', ht]
    simp only [e]
    exact (C12.post size bs hs hbs).2 i (by rw [← e]; exact h)

theorem slotD_plist (s : Store H) (hk : s.kind ≠ .empty) (size bs : Nat) (hs : size ≤ 2 ^ 63)
    (hbs : bs ≤ 10) (ht : s.tree = ⟨size, bs⟩) (i : Nat) (h : i < (plist s.kind size bs).length) :
    slotD s (plist s.kind size bs)[i] = i := by
  unfold slotD
  rw [slot_plist s hk size bs hs hbs ht i h]
  rfl

theorem slot_persisted (s : Store H) (hk : s.kind ≠ .empty) (size bs : Nat) (hs : size ≤ 2 ^ 63)
    (hbs : bs ≤ 10) (ht : s.tree = ⟨size, bs⟩) (x : Nat) (hx : x ∈ persistedPre size bs) :
    s.slot x = some (slotD s x) ∧ slotD s x < Tree.blocks ⟨size, bs⟩ - 1 := by
  have hx' := (plist_perm s.kind size bs hs).mem_iff.mpr hx
  obtain ⟨i, hi, rfl⟩ := List.getElem_of_mem hx'
  rw [slotD_plist s hk size bs hs hbs ht i hi, slot_plist s hk size bs hs hbs ht i hi]
  exact ⟨rfl, by rw [← plist_length s.kind size bs hs hbs]; exact hi⟩

theorem plist_slotD (s : Store H) (hk : s.kind ≠ .empty) (size bs : Nat) (hs : size ≤ 2 ^ 63)
    (hbs : bs ≤ 10) (ht : s.tree = ⟨size, bs⟩) (x : Nat) (hx : x ∈ persistedPre size bs) :
    ∃ h : slotD s x < (plist s.kind size bs).length, (plist s.kind size bs)[slotD s x] = x := by
  have hx' := (plist_perm s.kind size bs hs).mem_iff.mpr hx
  obtain ⟨i, hi, e⟩ := List.getElem_of_mem hx'
  have h1 := slotD_plist s hk size bs hs hbs ht i hi
  rw [e] at h1
  subst h1
  exact ⟨hi, e⟩

theorem slot_halfLeaf (s : Store H) (hk : s.kind ≠ .empty) (size bs : Nat) (hs : size ≤ 2 ^ 63)
    (hbs : bs ≤ 10) (ht : s.tree = ⟨size, bs⟩) (x : Nat) (hx : x ∈ halfLeaf ⟨size, bs⟩) :
    s.slot x = none := by
  unfold halfLeaf at hx
  split at hx
  · rename_i hb
    exact slot_unstored size bs hs hbs s ht hk x (.inr ⟨hb, List.mem_singleton.mp hx⟩)
  · cases hx

/-- the data a copy from `src` leaves in a store of kind `k` -/
def copied (src : Store H) (k : StoreKind) (size bs : Nat) : List UInt8 :=
  (plist k size bs).flatMap fun x => reenc hf (blockAt src.data (slotD src x))

/-- MAIN: `copy` succeeds and the target's backing becomes the concatenation, in the target's
order, of the (re-encoded) source records of the persisted nodes, provided each of these records
re-encodes to 64 bytes -/
theorem copy_run_of_len (size bs : Nat) (hs : size ≤ 2 ^ 63)
    (hbs : bs ≤ 10) (fl : Flavour) (src dst : Store H)
    (hst : src.tree = ⟨size, bs⟩) (hdt : dst.tree = ⟨size, bs⟩)
    (hsk : src.kind ≠ .empty) (hsd : (Tree.blocks ⟨size, bs⟩ - 1) * 64 ≤ src.data.length)
    (hdk : ((dst.kind = .preIo ∨ dst.kind = .postIo) ∧
              dst.data.length ≤ (Tree.blocks ⟨size, bs⟩ - 1) * 64) ∨
           ((dst.kind = .preMem ∨ dst.kind = .postMem) ∧
              dst.data.length = (Tree.blocks ⟨size, bs⟩ - 1) * 64))
    (hrl : ∀ x ∈ persistedPre size bs,
      (reenc hf (blockAt src.data (slotD src x))).length = 64) :
    copy hf fl src dst = .ok { dst with data := copied hf src dst.kind size bs } := by
  have hdne : dst.kind ≠ .empty := hdk.elim (fun h => ne_empty_of_or h.1) fun h => ne_empty_of_or h.1
  -- over the persisted nodes the loop is `putAll` of the parsed source records …
  have hsrc : ∀ x ∈ persistedPre size bs,
      src.slot x = some (slotD src x) ∧ slotD src x * 64 + 64 ≤ src.data.length := by
    intro x hx
    obtain ⟨h1, h2⟩ := slot_persisted src hsk size bs hs hbs hst x hx
    exact ⟨h1, slot_add_le h2 hsd⟩
  have h1 : copyLoop hf fl src (persistedPre size bs) dst
      = .ok { dst with data := copied hf src dst.kind size bs } := by
    rw [copyLoop_putAll hf fl src hsk (slotD src) _ hsrc dst,
      putAll_store hf dst _ hdk (slotD dst) _
        (fun w hw => by
          obtain ⟨x, hx, rfl⟩ := List.mem_map.mp hw
          exact slot_persisted dst hdne size bs hs hbs hdt x hx)
        (fun w hw => by
          obtain ⟨x, hx, rfl⟩ := List.mem_map.mp hw
          exact hrl x hx),
      swrites_map]
    -- … which are positional writes of the re-encoded records, in pre-order, at the target's slots
    exact congrArg (fun l => Res.ok { dst with data := l }) (applyWrites_perm
      (plist dst.kind size bs) (persistedPre size bs) (slotD dst)
      (fun x => reenc hf (blockAt src.data (slotD src x))) dst.data
      (plist_perm dst.kind size bs hs).symm
      (fun i h => slotD_plist dst hdne size bs hs hbs hdt i h)
      (fun x hx => hrl x ((plist_perm dst.kind size bs hs).mem_iff.mp hx))
      (by rw [plist_length dst.kind size bs hs hbs]
          exact hdk.elim And.right fun h => Nat.le_of_eq h.2))
  -- the half leaf, if any, is not stored and skipped
  unfold copy
  rw [hst, preIter_eq size bs hs hbs, copyLoop_append hf fl src _ _ dst _ h1]
  exact copyLoop_none hf fl src _ _
    fun x hx => load_none hf fl src hsk x (slot_halfLeaf src hsk size bs hs hbs hst x hx)

theorem copy_run (hlen : ∀ h, (hf.toBytes h).length = 32) (size bs : Nat) (hs : size ≤ 2 ^ 63)
    (hbs : bs ≤ 10) (fl : Flavour) (src dst : Store H)
    (hst : src.tree = ⟨size, bs⟩) (hdt : dst.tree = ⟨size, bs⟩)
    (hsk : src.kind ≠ .empty) (hsd : (Tree.blocks ⟨size, bs⟩ - 1) * 64 ≤ src.data.length)
    (hdk : ((dst.kind = .preIo ∨ dst.kind = .postIo) ∧
              dst.data.length ≤ (Tree.blocks ⟨size, bs⟩ - 1) * 64) ∨
           ((dst.kind = .preMem ∨ dst.kind = .postMem) ∧
              dst.data.length = (Tree.blocks ⟨size, bs⟩ - 1) * 64)) :
    copy hf fl src dst = .ok { dst with data := copied hf src dst.kind size bs } :=
  copy_run_of_len hf size bs hs hbs fl src dst hst hdt hsk hsd hdk fun _ _ => reenc_length hf hlen _

theorem copied_length (hlen : ∀ h, (hf.toBytes h).length = 32) (src : Store H) (k : StoreKind)
    (size bs : Nat) (hs : size ≤ 2 ^ 63) (hbs : bs ≤ 10) :
    (copied hf src k size bs).length = (Tree.blocks ⟨size, bs⟩ - 1) * 64 := by
  unfold copied
  rw [length_flatMap64 _ _ (fun x _ => reenc_length hf hlen _), plist_length k size bs hs hbs]

theorem blockAt_copied (hlen : ∀ h, (hf.toBytes h).length = 32) (src t : Store H)
    (size bs : Nat) (hs : size ≤ 2 ^ 63) (hbs : bs ≤ 10) (htk : t.kind ≠ .empty)
    (htt : t.tree = ⟨size, bs⟩) (x : Nat) (hx : x ∈ persistedPre size bs) :
    blockAt (copied hf src t.kind size bs) (slotD t x)
      = reenc hf (blockAt src.data (slotD src x)) := by
  obtain ⟨hi, e⟩ := plist_slotD t htk size bs hs hbs htt x hx
  unfold copied
  rw [blockAt_flatMap _ _ (fun x _ => reenc_length hf hlen _) _ hi, e]

theorem copied_hbt (hbt : ∀ b : List UInt8, b.length = 32 → hf.toBytes (hf.ofBytes b) = b)
    (src : Store H) (hsk : src.kind ≠ .empty) (k : StoreKind) (size bs : Nat) (hs : size ≤ 2 ^ 63)
    (hbs : bs ≤ 10) (hst : src.tree = ⟨size, bs⟩)
    (hsd : (Tree.blocks ⟨size, bs⟩ - 1) * 64 ≤ src.data.length) :
    copied hf src k size bs = (plist k size bs).flatMap fun x => blockAt src.data (slotD src x) := by
  unfold copied
  apply flatMap_congr'
  intro x hx
  have hx' := (plist_perm k size bs hs).mem_iff.mp hx
  obtain ⟨_, h2⟩ := slot_persisted src hsk size bs hs hbs hst x hx'
  exact reenc_id hf hbt _ (length_blockAt _ _ (slot_add_le h2 hsd))

theorem copied_same (hbt : ∀ b : List UInt8, b.length = 32 → hf.toBytes (hf.ofBytes b) = b)
    (src : Store H) (hsk : src.kind ≠ .empty) (k : StoreKind) (size bs : Nat) (hs : size ≤ 2 ^ 63)
    (hbs : bs ≤ 10) (hst : src.tree = ⟨size, bs⟩)
    (hsd : (Tree.blocks ⟨size, bs⟩ - 1) * 64 ≤ src.data.length)
    (hk : plist k size bs = plist src.kind size bs) :
    copied hf src k size bs = src.data.take ((Tree.blocks ⟨size, bs⟩ - 1) * 64) := by
  rw [copied_hbt hf hbt src hsk k size bs hs hbs hst hsd, hk,
    ← plist_length src.kind size bs hs hbs]
  exact flatMap_blocks_eq_take _ _ _ (fun i h => slotD_plist src hsk size bs hs hbs hst i h)
    (by rw [plist_length src.kind size bs hs hbs]; exact hsd)

theorem range_map_getElem {α β : Type} (P : List α) (g : α → β) (F : Nat → β)
    (h : ∀ i (hi : i < P.length), F i = g P[i]) : (List.range P.length).map F = P.map g := by
  apply List.ext_getElem
  · rw [List.length_map, List.length_map, List.length_range]
  · intro i h1 h2
    rw [List.getElem_map, List.getElem_map, List.getElem_range]
    exact h i (by simpa using h2)

theorem blocks_store (s : Store H) (hk : s.kind ≠ .empty) (size bs : Nat) (hs : size ≤ 2 ^ 63)
    (hbs : bs ≤ 10) (ht : s.tree = ⟨size, bs⟩) :
    (List.range (Tree.blocks ⟨size, bs⟩ - 1)).map (blockAt s.data)
      = (plist s.kind size bs).map fun x => blockAt s.data (slotD s x) := by
  rw [← plist_length s.kind size bs hs hbs]
  exact range_map_getElem _ _ _
    (fun i hi => by rw [slotD_plist s hk size bs hs hbs ht i hi])

theorem blocks_copied_perm (hlen : ∀ h, (hf.toBytes h).length = 32) (src : Store H)
    (hsk : src.kind ≠ .empty) (k : StoreKind) (size bs : Nat) (hs : size ≤ 2 ^ 63) (hbs : bs ≤ 10)
    (hst : src.tree = ⟨size, bs⟩) :
    ((List.range (Tree.blocks ⟨size, bs⟩ - 1)).map (blockAt (copied hf src k size bs))).Perm
      ((List.range (Tree.blocks ⟨size, bs⟩ - 1)).map fun i => reenc hf (blockAt src.data i)) := by
  have e1 : (List.range (Tree.blocks ⟨size, bs⟩ - 1)).map (blockAt (copied hf src k size bs))
      = (plist k size bs).map fun x => reenc hf (blockAt src.data (slotD src x)) := by
    rw [← plist_length k size bs hs hbs]
    exact range_map_getElem _ _ _
      (fun i hi => blockAt_flatMap _ _ (fun x _ => reenc_length hf hlen _) i hi)
  -- the source's records along its own layout, re-encoded
  have e2 := congrArg (List.map (reenc hf)) (blocks_store src hsk size bs hs hbs hst)
  rw [List.map_map, List.map_map] at e2
  rw [e1]
  exact ((plist_perm k size bs hs).trans (plist_perm src.kind size bs hs).symm).map _ |>.trans
    (List.Perm.of_eq e2.symm)

/-- a store holding the specification outboard of its kind -/
def specData (d : List UInt8) (k : StoreKind) (bs : Nat) : List UInt8 :=
  (plist k d.length bs).flatMap (pairBytes hf d)

theorem specData_pre (d : List UInt8) {k : StoreKind} (hk : k = .preIo ∨ k = .preMem) (bs : Nat) :
    specData hf d k bs = Spec.preOutboard hf d bs := by
  unfold specData Spec.preOutboard
  rw [plist_pre hk]

theorem specData_post (d : List UInt8) {k : StoreKind} (hk : k = .postIo ∨ k = .postMem) (bs : Nat) :
    specData hf d k bs = Spec.postOutboard hf d bs := by
  unfold specData Spec.postOutboard
  rw [plist_post hk]

theorem specData_ite (d : List UInt8) (k : StoreKind) (bs : Nat) :
    specData hf d k bs = if k = .postIo ∨ k = .postMem then Spec.postOutboard hf d bs
      else Spec.preOutboard hf d bs := by
  cases k <;> simp only [reduceCtorEq, or_self, or_true, true_or, if_true, if_false] <;> rfl

theorem copied_spec (hlen : ∀ h, (hf.toBytes h).length = 32)
    (hcodec : (∀ h, hf.ofBytes (hf.toBytes h) = h) ∨
      (∀ b : List UInt8, b.length = 32 → hf.toBytes (hf.ofBytes b) = b))
    (d : List UInt8) (bs : Nat) (hs : d.length ≤ 2 ^ 63) (hbs : bs ≤ 10) (src : Store H)
    (hsk : src.kind ≠ .empty) (hst : src.tree = ⟨d.length, bs⟩)
    (hsd : src.data = specData hf d src.kind bs) (k : StoreKind) :
    copied hf src k d.length bs = specData hf d k bs := by
  unfold copied specData
  apply flatMap_congr'
  intro x hx
  have hx' := (plist_perm k d.length bs hs).mem_iff.mp hx
  obtain ⟨hi, e⟩ := plist_slotD src hsk d.length bs hs hbs hst x hx'
  have hb : blockAt src.data (slotD src x) = pairBytes hf d x := by
    rw [hsd]
    unfold specData
    rw [blockAt_flatMap _ _ (fun x _ => pairBytes_length hf hlen d x) _ hi, e]
  rw [hb]
  rcases hcodec with hrt | hbt
  · exact reenc_pairBytes hf hlen hrt d x
  · exact reenc_id hf hbt _ (pairBytes_length hf hlen d x)

theorem specData_length (hlen : ∀ h, (hf.toBytes h).length = 32) (d : List UInt8) (k : StoreKind)
    (bs : Nat) (hs : d.length ≤ 2 ^ 63) (hbs : bs ≤ 10) :
    (specData hf d k bs).length = (Tree.blocks ⟨d.length, bs⟩ - 1) * 64 := by
  unfold specData
  rw [length_flatMap64 _ _ (fun x _ => pairBytes_length hf hlen d x), plist_length k _ bs hs hbs]

/-- the `kind'` of `flip` -/
def flipKind (k : StoreKind) : StoreKind :=
  match k with
  | .postMem | .postIo => .preMem
  | _ => .postMem

theorem flipKind_mem (k : StoreKind) : flipKind k = .preMem ∨ flipKind k = .postMem := by
  cases k <;> simp [flipKind]

theorem flip_run (hlen : ∀ h, (hf.toBytes h).length = 32) (size bs : Nat) (hs : size ≤ 2 ^ 63)
    (hbs : bs ≤ 10) (s : Store H) (hst : s.tree = ⟨size, bs⟩) (hsk : s.kind ≠ .empty)
    (hsd : (Tree.blocks ⟨size, bs⟩ - 1) * 64 ≤ s.data.length) :
    flip hf s = .ok ⟨flipKind s.kind, s.root, s.tree, copied hf s (flipKind s.kind) size bs⟩ := by
  have h := copy_run hf hlen size bs hs hbs .sync s
    ⟨flipKind s.kind, s.root, s.tree, List.replicate s.tree.outboardSize 0⟩ hst hst hsk hsd
    (.inr ⟨flipKind_mem s.kind, by rw [hst, List.length_replicate]; rfl⟩)
  unfold flip
  simp only
  change (match copy hf .sync s ⟨flipKind s.kind, s.root, s.tree,
      List.replicate s.tree.outboardSize 0⟩ with | .ok t => Res.ok t | _ => Res.panic) = _
  rw [h]

theorem copied_copied (hlen : ∀ h, (hf.toBytes h).length = 32)
    (hbt : ∀ b : List UInt8, b.length = 32 → hf.toBytes (hf.ofBytes b) = b)
    (size bs : Nat) (hs : size ≤ 2 ^ 63) (hbs : bs ≤ 10) (s t : Store H)
    (hst : s.tree = ⟨size, bs⟩) (hsk : s.kind ≠ .empty)
    (hsd : s.data.length = (Tree.blocks ⟨size, bs⟩ - 1) * 64)
    (htt : t.tree = ⟨size, bs⟩) (htk : t.kind ≠ .empty)
    (htd : t.data = copied hf s t.kind size bs) :
    copied hf t s.kind size bs = s.data := by
  have htl : (Tree.blocks ⟨size, bs⟩ - 1) * 64 ≤ t.data.length := by
    rw [htd, copied_length hf hlen s t.kind size bs hs hbs]
    exact Nat.le_refl _
  rw [copied_hbt hf hbt t htk s.kind size bs hs hbs htt htl]
  have e : ((plist s.kind size bs).flatMap fun x => blockAt t.data (slotD t x))
      = (plist s.kind size bs).flatMap fun x => blockAt s.data (slotD s x) := by
    apply flatMap_congr'
    intro x hx
    have hx' := (plist_perm s.kind size bs hs).mem_iff.mp hx
    obtain ⟨_, h2⟩ := slot_persisted s hsk size bs hs hbs hst x hx'
    rw [htd, blockAt_copied hf hlen s t size bs hs hbs htk htt x hx']
    exact reenc_id hf hbt _ (length_blockAt _ _ (slot_add_le h2 (Nat.le_of_eq hsd.symm)))
  have hl := plist_length s.kind size bs hs hbs
  rw [e, flatMap_blocks_eq_take _ _ _ (fun i h => slotD_plist s hsk size bs hs hbs hst i h)
    (by rw [hl, hsd]; exact Nat.le_refl _)]
  exact List.take_of_length_le (by rw [hl, hsd]; exact Nat.le_refl _)

/-- the 64-byte record of node `x` in store `s`: the block at its slot (`[]` if it has no slot) -/
def recordOf (s : Store H) (x : Nat) : List UInt8 :=
  match s.slot x with
  | some i => blockAt s.data i
  | none => []

theorem recordOf_persisted (s : Store H) (hk : s.kind ≠ .empty) (size bs : Nat) (hs : size ≤ 2 ^ 63)
    (hbs : bs ≤ 10) (ht : s.tree = ⟨size, bs⟩) (x : Nat) (hx : x ∈ persistedPre size bs) :
    recordOf s x = blockAt s.data (slotD s x) := by
  unfold recordOf
  rw [(slot_persisted s hk size bs hs hbs ht x hx).1]

theorem copied_eq_records (src : Store H) (hsk : src.kind ≠ .empty) (k : StoreKind) (size bs : Nat)
    (hs : size ≤ 2 ^ 63) (hbs : bs ≤ 10) (hst : src.tree = ⟨size, bs⟩) :
    copied hf src k size bs = (plist k size bs).flatMap fun x => reenc hf (recordOf src x) := by
  unfold copied
  apply flatMap_congr'
  intro x hx
  rw [recordOf_persisted src hsk size bs hs hbs hst x ((plist_perm k size bs hs).mem_iff.mp hx)]

theorem copy_node (hlen : ∀ h, (hf.toBytes h).length = 32)
    (hbt : ∀ b : List UInt8, b.length = 32 → hf.toBytes (hf.ofBytes b) = b)
    (size bs : Nat) (hs : size ≤ 2 ^ 63) (hbs : bs ≤ 10) (src dst' : Store H)
    (hst : src.tree = ⟨size, bs⟩) (hdt : dst'.tree = ⟨size, bs⟩)
    (hsk : src.kind ≠ .empty) (hdk : dst'.kind ≠ .empty)
    (hsd : (Tree.blocks ⟨size, bs⟩ - 1) * 64 ≤ src.data.length)
    (hdd : dst'.data = copied hf src dst'.kind size bs)
    (x : Nat) (hx : x ∈ persistedPre size bs) :
    ∃ i j, src.slot x = some i ∧ dst'.slot x = some j ∧
      i < Tree.blocks ⟨size, bs⟩ - 1 ∧ j < Tree.blocks ⟨size, bs⟩ - 1 ∧
      blockAt dst'.data j = blockAt src.data i ∧
      ∀ fl fl', src.load hf fl x = .ok (some (parsePair hf (blockAt src.data i))) ∧
        dst'.load hf fl' x = src.load hf fl x := by
  obtain ⟨s1, s2⟩ := slot_persisted src hsk size bs hs hbs hst x hx
  obtain ⟨d1, d2⟩ := slot_persisted dst' hdk size bs hs hbs hdt x hx
  have hb : blockAt dst'.data (slotD dst' x) = blockAt src.data (slotD src x) := by
    rw [hdd, blockAt_copied hf hlen src dst' size bs hs hbs hdk hdt x hx]
    exact reenc_id hf hbt _ (length_blockAt _ _ (slot_add_le s2 hsd))
  have hdl : (Tree.blocks ⟨size, bs⟩ - 1) * 64 ≤ dst'.data.length := by
    rw [hdd, copied_length hf hlen src _ size bs hs hbs]
    exact Nat.le_refl _
  refine ⟨slotD src x, slotD dst' x, s1, d1, s2, d2, hb, fun fl fl' => ?_⟩
  have hls := load_slot hf fl src hsk s1 (slot_add_le s2 hsd)
  have hld := load_slot hf fl' dst' hdk d1 (slot_add_le d2 hdl)
  exact ⟨hls, by rw [hls, hld, hb]⟩

end

end Bao.CopyL
