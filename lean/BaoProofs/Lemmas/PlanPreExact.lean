import BaoProofs.Lemmas.PlanPreCover

/-!
# The recursive pre-order plan: exact coverage

Consequences of `leaf_shape` (`Lemmas/PlanPre.lean`: a leaf is one chunk group, or a whole node
with ranges "all") and `leaf_query` (`Lemmas/PlanPreCover.lean`: the ranges attached to a leaf
select the same chunks of its span as the query):

* `all_leaf_selected` (G): every chunk of a leaf whose attached ranges are "all" (in particular
  of every query leaf) is selected.
* `cover_exact_aux`, `plan_cover_exact` (F): for a block-size-0 tree and any `ml` (the response
  plan) every chunk of every leaf is selected; the leaves cover exactly the selected chunks.
* `leaf_aligned_span`: every leaf is a run of whole chunk groups clipped to the blob.
* `plan_cover_groups_any`, `plan_cover_groups` (E): the leaves of the public plan cover exactly
  the chunk groups the selection touches.
-/

namespace Bao.PlanPre
open Bao Bao.Spec Bao.Bits

variable {size bs ml filled root : Nat}

theorem nChunks_le_of_le_toBytes {size m : Nat} (hm : 0 < m) (h : size ≤ toBytes m) :
    nChunks size ≤ m := by
  unfold toBytes at h; unfold nChunks; omega

theorem selected_all (size c : Nat) :
    Spec.selected size [0] c = decide (c < nChunks size) := by
  rw [Ranges.selected_eq_reachesPast, Ranges.contains_singleton]
  simp

theorem div_eq_of_aligned {p s x : Nat} (hs : s % p = 0) (h1 : s ≤ x) (h2 : x < s + p) :
    x / p = s / p := by
  have hp : 0 < p := by omega
  obtain ⟨t, rfl⟩ := Nat.dvd_of_mod_eq_zero hs
  rw [Nat.mul_div_cancel_left _ hp]
  exact Nat.div_eq_of_lt_le (by rw [Nat.mul_comm]; exact h1)
    (by rw [Nat.add_mul, Nat.one_mul, Nat.mul_comm]; exact h2)

theorem mem_group {k : Nat} {rs : Ranges} {s z : Nat} {r : Bool} {x : Ranges}
    (hm : Chunk.leaf s z r x ∈ nodeParent bs root 0 k rs ::
      ((if (lq bs 0 k rs).isEmpty then [] else [leftLeaf bs k rs]) ++
       (if (rq bs 0 k rs).isEmpty then [] else [rightLeaf size bs k rs]))) :
    (s = startOf k bs ∧ z = toBytes (midOf k bs) - toBytes (startOf k bs) ∧
        x = (Ranges.splitInner rs (startOf k bs) (midOf k bs)).1 ∧ x ≠ []) ∨
    (s = midOf k bs ∧ z = min (toBytes (endOf k bs)) size - toBytes (midOf k bs) ∧
        x = (Ranges.splitInner rs (startOf k bs) (midOf k bs)).2 ∧ x ≠ []) := by
  simp only [List.mem_cons, List.mem_append] at hm
  rcases hm with hm | hm | hm
  · unfold nodeParent at hm; cases hm
  · by_cases hl : lq bs 0 k rs = []
    · rw [hl] at hm; simp at hm
    · rw [isEmpty_eq_false hl] at hm
      simp only [Bool.false_eq_true, if_false, List.mem_singleton, leftLeaf,
        Chunk.leaf.injEq] at hm
      obtain ⟨rfl, rfl, -, rfl⟩ := hm
      simp only [lq, Nat.zero_add] at hl ⊢
      exact Or.inl ⟨trivial, trivial, trivial, hl⟩
  · by_cases hr : rq bs 0 k rs = []
    · rw [hr] at hm; simp at hm
    · rw [isEmpty_eq_false hr] at hm
      simp only [Bool.false_eq_true, if_false, List.mem_singleton, rightLeaf,
        Chunk.leaf.injEq] at hm
      obtain ⟨rfl, rfl, -, rfl⟩ := hm
      simp only [rq, Nat.zero_add] at hr ⊢
      exact Or.inr ⟨trivial, trivial, trivial, hr⟩

theorem mem_inner {p : Chunk} {pl pr : List Chunk} {L k : Nat} {rs : Ranges} {s z : Nat}
    {r : Bool} {x : Ranges} (hp : p = nodeParent bs root L k rs)
    (hm : Chunk.leaf s z r x ∈ p :: (pl ++ pr)) :
    Chunk.leaf s z r x ∈ pl ∨ Chunk.leaf s z r x ∈ pr := by
  simp only [List.mem_cons, List.mem_append] at hm
  rcases hm with hm | hm | hm
  · rw [hp] at hm; unfold nodeParent at hm; cases hm
  · exact Or.inl hm
  · exact Or.inr hm

theorem all_leaf_selected (g : Geo size bs filled) (L k : Nat) (rs : Ranges)
    (hwf : Ranges.WF rs = true) (ht : Tight rs (startOf k (L + bs)))
    (hb : Bounded size rs (endOf k (L + bs))) :
    ∀ s z r x, Chunk.leaf s z r x ∈ planPre size bs ml filled root L k rs →
      Ranges.isAll x = true →
      ∀ c, s ≤ c → c < s + max 1 (chunksOf z) → Spec.selected size rs c = true := by
  intro s z r x hm hx c h1 h2
  obtain ⟨-, -, e, -, hspan, -, -, hsel⟩ := leaf_query g hwf ht hb hm
  rw [← hsel c h1 (by omega), isAll_eq hx, selected_all]
  simp only [decide_eq_true_eq]; omega

/-- (F) block size 0, any `ml`: every chunk of every leaf is selected.  A leaf is a single chunk,
which is the selected chunk it contains, or its ranges are "all". -/
theorem cover_exact_aux (g : Geo size 0 filled) (L k : Nat) (rs : Ranges)
    (hwf : Ranges.WF rs = true) (ht : Tight rs (startOf k (L + 0)))
    (hb : Bounded size rs (endOf k (L + 0))) :
    ∀ s z r x, Chunk.leaf s z r x ∈ planPre size 0 ml filled root L k rs →
      ∀ c, s ≤ c → c < s + max 1 (chunksOf z) → Spec.selected size rs c = true := by
  intro s z r x hm c h1 h2
  obtain ⟨e, hse, h0, rfl, -, he | ⟨-, -, -, -, hall, -, -⟩⟩ := leaf_shape g hm
  · obtain ⟨c0, h3, h4, h5⟩ := cover_sound g L k rs hwf ht hb s _ r x hm
    rw [span_eq h0 hse] at h2 h4
    have : c = c0 := by omega
    rw [this]; exact h5
  · exact all_leaf_selected g L k rs hwf ht hb s _ r x hm hall c h1 h2

theorem plan_cover_exact (size ml : Nat) (hs : size ≤ 2 ^ 63) (q : Ranges)
    (hwf : Ranges.WF q = true) (c : Nat) :
    covered (plan ⟨size, 0⟩ ml q) c ↔ Spec.selected size q c = true := by
  constructor
  · rintro ⟨s, z, r, x, hm, h1, h2⟩
    exact cover_exact_aux (shifted_geo size 0 hs (Nat.zero_le _)) (rootLevel ⟨size, 0⟩) 0 q hwf
      (by rw [startOf_zero_left]; exact tight_zero hwf)
      (Or.inl (rootLevel_covers size 0 hs)) s z r x hm c h1 h2
  · exact plan_cover_complete size 0 ml hs (Nat.zero_le _) q hwf c

theorem plan_all_leaf_selected (size bs ml : Nat) (hs : size ≤ 2 ^ 63) (hbs : bs ≤ 10)
    (q : Ranges) (hwf : Ranges.WF q = true) :
    ∀ s z r x, Chunk.leaf s z r x ∈ plan ⟨size, bs⟩ ml q → Ranges.isAll x = true →
      ∀ c, s ≤ c → c < s + max 1 (chunksOf z) → Spec.selected size q c = true :=
  all_leaf_selected (shifted_geo size bs hs hbs) (rootLevel ⟨size, bs⟩) 0 q hwf
    (by rw [startOf_zero_left]; exact tight_zero hwf) (Or.inl (rootLevel_covers size bs hs))

theorem group_in_aligned {p s e x c : Nat} (hp : 0 < p) (hs : s % p = 0) (he : e % p = 0)
    (h1 : s ≤ x) (h2 : x < e) (h : c / p = x / p) : s ≤ c ∧ c < e := by
  obtain ⟨a, rfl⟩ := Nat.dvd_of_mod_eq_zero hs
  obtain ⟨b, rfl⟩ := Nat.dvd_of_mod_eq_zero he
  have h3 : a ≤ x / p := (Nat.le_div_iff_mul_le hp).2 (by rw [Nat.mul_comm]; exact h1)
  have h4 : x / p < b := Nat.div_lt_of_lt_mul h2
  have h5 := Nat.div_add_mod c p
  have h6 := Nat.mod_lt c hp
  rw [h] at h5
  have h7 : p * a ≤ p * (x / p) := Nat.mul_le_mul_left p h3
  have h8 : p * (x / p + 1) ≤ p * b := Nat.mul_le_mul_left p h4
  rw [Nat.mul_add, Nat.mul_one] at h8
  omega

theorem leaf_aligned_span (g : Geo size bs filled) (L k : Nat) (rs : Ranges) :
    ∀ s z r x, Chunk.leaf s z r x ∈ planPre size bs ml filled root L k rs →
      s % 2 ^ bs = 0 ∧ ∃ e', e' % 2 ^ bs = 0 ∧ s < e' ∧
        s + max 1 (chunksOf z) = min e' (Spec.nChunks size) ∧
        (Ranges.isAll x = true ∨ e' = s + 2 ^ bs) := by
  intro s z r x hm
  obtain ⟨e, hse, h0, rfl, hal, he⟩ := leaf_shape g hm
  refine ⟨hal, e, ?_, hse, span_eq h0 hse, he.symm.imp (fun ⟨_, _, _, _, h, _⟩ => h) id⟩
  rcases he with rfl | ⟨L', k', -, -, -, -, rfl⟩
  · rw [Nat.add_mod_right]; exact hal
  · exact endOf_mod_shift k' L' bs

theorem plan_cover_groups_any (size bs ml : Nat) (hs : size ≤ 2 ^ 63) (hbs : bs ≤ 10)
    (q : Ranges) (hwf : Ranges.WF q = true) (c : Nat) (hc : c < Spec.nChunks size) :
    covered (plan ⟨size, bs⟩ ml q) c ↔
      ∃ x, x / 2 ^ bs = c / 2 ^ bs ∧ Spec.selected size q x = true := by
  have g := shifted_geo size bs hs hbs
  have hp := two_pow_pos' bs
  constructor
  · rintro ⟨s, z, r, x, hm, h1, h2⟩
    obtain ⟨hal, e', _, _, hspan, hor⟩ :=
      leaf_aligned_span g (rootLevel ⟨size, bs⟩) 0 q s z r x hm
    rcases hor with hall | he
    · exact ⟨c, rfl, plan_all_leaf_selected size bs ml hs hbs q hwf s z r x hm hall c h1 h2⟩
    · obtain ⟨y, hy1, hy2, hy3⟩ := plan_cover_sound size bs ml hs hbs q hwf s z r x hm
      have hle : s + max 1 (chunksOf z) ≤ s + 2 ^ bs := by
        rw [hspan, ← he]; exact Nat.min_le_left _ _
      refine ⟨y, ?_, hy3⟩
      rw [div_eq_of_aligned hal hy1 (Nat.lt_of_lt_of_le hy2 hle),
        div_eq_of_aligned hal h1 (Nat.lt_of_lt_of_le h2 hle)]
  · rintro ⟨y, hy1, hy2⟩
    obtain ⟨s, z, r, x, hm, h1, h2⟩ := plan_cover_complete size bs ml hs hbs q hwf y hy2
    obtain ⟨hal, e', hal', _, hspan, _⟩ :=
      leaf_aligned_span g (rootLevel ⟨size, bs⟩) 0 q s z r x hm
    rw [hspan] at h2
    have h4 := group_in_aligned hp hal hal' h1
      (Nat.lt_of_lt_of_le h2 (Nat.min_le_left _ _)) hy1.symm
    exact ⟨s, z, r, x, hm, h4.1, by rw [hspan]; exact Nat.lt_min.2 ⟨h4.2, hc⟩⟩

/-- (E) for `ml ≤ bs` the leaves cover exactly the chunk groups the selection touches -/
theorem plan_cover_groups (size bs ml : Nat) (hs : size ≤ 2 ^ 63) (hbs : bs ≤ 10) (hml : ml ≤ bs)
    (q : Ranges) (hwf : Ranges.WF q = true) (c : Nat) (hc : c < Spec.nChunks size) :
    covered (plan ⟨size, bs⟩ ml q) c ↔
      ∃ x, x / 2 ^ bs = c / 2 ^ bs ∧ Spec.selected size q x = true :=
  -- `plan_cover_groups_any`: the statement holds for every `ml`
  let _ := hml
  plan_cover_groups_any size bs ml hs hbs q hwf c hc

/-- non-vacuity of (E)/(F): hypotheses met by `size = 5000`, `bs = 1`, `ml = 0`, `q = [1, 2]`,
`c = 0` (chunk 1 is selected and lies in the group of chunk 0) -/
example : (5000 : Nat) ≤ 2 ^ 63 ∧ (1 : Nat) ≤ 10 ∧ (0 : Nat) ≤ 1 ∧ Ranges.WF [1, 2] = true ∧
    0 < Spec.nChunks 5000 ∧ 1 / 2 ^ 1 = 0 / 2 ^ 1 ∧ Spec.selected 5000 [1, 2] 1 = true := by
  decide

end Bao.PlanPre
