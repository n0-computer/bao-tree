import BaoModel.Store

/-!
# Positional 64-byte writes into a `Vec<u8>` backing (`writeAt`)

`writeAt` has two shapes (`writeAt_of_le`: the write starts inside the backing, `writeAt_of_lt`: behind
its end, the gap is zero-filled); from them its length and bytes.  Writing the blocks of a list in
any order at their slots reproduces the concatenation (`applyWrites_perm`).
-/

namespace Bao.WriteAtL
open Bao

/-- the `i`-th 64-byte block -/
def blockAt (data : List UInt8) (i : Nat) : List UInt8 := (data.drop (i * 64)).take 64

/-- apply positional 64-byte writes `(slot, bytes)` in order -/
def applyWrites (data : List UInt8) (ws : List (Nat × List UInt8)) : List UInt8 :=
  ws.foldl (fun acc w => writeAt acc (w.1 * 64) w.2) data

theorem applyWrites_nil (data : List UInt8) : applyWrites data [] = data := rfl

theorem applyWrites_cons (data : List UInt8) (w : Nat × List UInt8) (ws : List (Nat × List UInt8)) :
    applyWrites data (w :: ws) = applyWrites (writeAt data (w.1 * 64) w.2) ws := rfl

theorem writeAt_of_le {data : List UInt8} {off : Nat} (bytes : List UInt8)
    (h : off ≤ data.length) :
    writeAt data off bytes = data.take off ++ bytes ++ data.drop (off + bytes.length) := by
  unfold writeAt
  simp only [if_neg (Nat.not_lt.2 h)]

theorem writeAt_of_lt {data : List UInt8} {off : Nat} (bytes : List UInt8)
    (h : data.length < off) :
    writeAt data off bytes = data ++ List.replicate (off - data.length) 0 ++ bytes := by
  have hl : (data ++ List.replicate (off - data.length) 0).length = off := by
    rw [List.length_append, List.length_replicate, Nat.add_sub_cancel' (Nat.le_of_lt h)]
  unfold writeAt
  simp only [if_pos h]
  rw [List.take_of_length_le (Nat.le_of_eq hl),
    List.drop_eq_nil_of_le (Nat.le_trans (Nat.le_of_eq hl) (Nat.le_add_right _ _)), List.append_nil]

theorem length_writeAt (data : List UInt8) (off : Nat) (bytes : List UInt8) :
    (writeAt data off bytes).length = max data.length (off + bytes.length) := by
  rcases Nat.lt_or_ge data.length off with h | h
  · rw [writeAt_of_lt _ h, List.length_append, List.length_append, List.length_replicate,
      Nat.add_sub_cancel' (Nat.le_of_lt h),
      Nat.max_eq_right (Nat.le_trans (Nat.le_of_lt h) (Nat.le_add_right _ _))]
  · rw [writeAt_of_le _ h, List.length_append, List.length_append, List.length_take,
      List.length_drop, Nat.min_eq_left h, Nat.add_comm, Nat.sub_add_eq_max]

theorem getElem?_writeAt (data : List UInt8) (off : Nat) (bytes : List UInt8) (i : Nat) :
    (writeAt data off bytes)[i]? =
      if i < off then (if i < data.length then data[i]? else some 0)
      else if i < off + bytes.length then bytes[i - off]? else data[i]? := by
  rcases Nat.lt_or_ge data.length off with h | h
  · have hl : (data ++ List.replicate (off - data.length) 0).length = off := by
      rw [List.length_append, List.length_replicate, Nat.add_sub_cancel' (Nat.le_of_lt h)]
    rw [writeAt_of_lt _ h]
    by_cases h1 : i < off
    · rw [if_pos h1, List.getElem?_append_left (Nat.lt_of_lt_of_eq h1 hl.symm)]
      by_cases h2 : i < data.length
      · rw [if_pos h2, List.getElem?_append_left h2]
      · rw [if_neg h2, List.getElem?_append_right (Nat.le_of_not_lt h2), List.getElem?_replicate,
          if_pos (Nat.sub_lt_sub_right (Nat.le_of_not_lt h2) h1)]
    · rw [if_neg h1,
        List.getElem?_append_right (Nat.le_trans (Nat.le_of_eq hl) (Nat.le_of_not_lt h1)), hl]
      by_cases h2 : i < off + bytes.length
      · rw [if_pos h2]
      · rw [if_neg h2, List.getElem?_eq_none (Nat.le_sub_of_add_le' (Nat.le_of_not_lt h2)),
          List.getElem?_eq_none (Nat.le_trans (Nat.le_of_lt h) (Nat.le_of_not_lt h1))]
  · have hl : (data.take off).length = off := by rw [List.length_take, Nat.min_eq_left h]
    rw [writeAt_of_le _ h, List.append_assoc]
    by_cases h1 : i < off
    · rw [if_pos h1, if_pos (Nat.lt_of_lt_of_le h1 h),
        List.getElem?_append_left (Nat.lt_of_lt_of_eq h1 hl.symm), List.getElem?_take_of_lt h1]
    · rw [if_neg h1,
        List.getElem?_append_right (Nat.le_trans (Nat.le_of_eq hl) (Nat.le_of_not_lt h1)), hl]
      by_cases h2 : i < off + bytes.length
      · rw [if_pos h2,
          List.getElem?_append_left (Nat.sub_lt_left_of_lt_add (Nat.le_of_not_lt h1) h2)]
      · rw [if_neg h2, List.getElem?_append_right (Nat.le_sub_of_add_le' (Nat.le_of_not_lt h2)),
          List.getElem?_drop, Nat.sub_sub, Nat.add_sub_cancel' (Nat.le_of_not_lt h2)]

theorem getElem?_writeAt_of_le {data : List UInt8} {off : Nat} {bytes : List UInt8}
    (h : off + bytes.length ≤ data.length) (i : Nat) :
    (writeAt data off bytes)[i]? =
      if off ≤ i ∧ i < off + bytes.length then bytes[i - off]? else data[i]? := by
  rw [getElem?_writeAt]
  by_cases h1 : i < off
  · rw [if_pos h1, if_pos (Nat.lt_of_lt_of_le (Nat.lt_add_right _ h1) h),
      if_neg (fun h2 => Nat.not_le.2 h1 h2.1)]
  · rw [if_neg h1]
    by_cases h2 : i < off + bytes.length
    · rw [if_pos h2, if_pos ⟨Nat.le_of_not_lt h1, h2⟩]
    · rw [if_neg h2, if_neg (fun h3 => h2 h3.2)]

theorem getElem?_blockAt (data : List UInt8) (k j : Nat) :
    (blockAt data k)[j]? = if j < 64 then data[k * 64 + j]? else none := by
  unfold blockAt
  rw [List.getElem?_take, List.getElem?_drop]

theorem slot_add_le {k N n : Nat} (hk : k < N) (hn : N * 64 ≤ n) : k * 64 + 64 ≤ n :=
  Nat.le_trans (Nat.succ_mul k 64 ▸ Nat.mul_le_mul_right 64 hk) hn

theorem length_blockAt (data : List UInt8) (k : Nat) (h : k * 64 + 64 ≤ data.length) :
    (blockAt data k).length = 64 := by
  unfold blockAt
  rw [List.length_take, List.length_drop]
  exact Nat.min_eq_left (Nat.le_sub_of_add_le' h)

theorem blockAt_writeAt_self (data : List UInt8) (k : Nat) (b : List UInt8)
    (hb : b.length = 64) : blockAt (writeAt data (k * 64) b) k = b := by
  apply List.ext_getElem?
  intro j
  rw [getElem?_blockAt, getElem?_writeAt, if_neg (Nat.not_lt.2 (Nat.le_add_right _ _)), hb,
    Nat.add_sub_cancel_left]
  by_cases hj : j < 64
  · rw [if_pos hj, if_pos (Nat.add_lt_add_left hj _)]
  · rw [if_neg hj, List.getElem?_eq_none (hb ▸ Nat.le_of_not_lt hj)]

theorem blockAt_writeAt_ne (data : List UInt8) (k : Nat) (b : List UInt8) (j : Nat)
    (hb : b.length = 64) (hjk : j ≠ k) (hj : j * 64 + 64 ≤ data.length) :
    blockAt (writeAt data (k * 64) b) j = blockAt data j := by
  have hslot : ∀ {j k : Nat}, j < k → j * 64 + 64 ≤ k * 64 := by omega
  apply List.ext_getElem?
  intro t
  rw [getElem?_blockAt, getElem?_blockAt, getElem?_writeAt, hb]
  by_cases ht : t < 64
  · rw [if_pos ht, if_pos ht]
    rcases Nat.lt_or_gt_of_ne hjk with hlt | hgt
    · rw [if_pos (Nat.lt_of_lt_of_le (Nat.add_lt_add_left ht _) (hslot hlt)),
        if_pos (Nat.lt_of_lt_of_le (Nat.add_lt_add_left ht _) hj)]
    · have h := Nat.le_trans (hslot hgt) (Nat.le_add_right _ t)
      rw [if_neg (Nat.not_lt.2 (Nat.le_trans (Nat.le_add_right _ _) h)), if_neg (Nat.not_lt.2 h)]
  · rw [if_neg ht, if_neg ht]

theorem getElem?_eq_blockAt (data : List UInt8) (i : Nat) :
    data[i]? = (blockAt data (i / 64))[i % 64]? := by
  rw [getElem?_blockAt, if_pos (Nat.mod_lt _ (by decide)), Nat.div_add_mod']

theorem ext_blockAt (A B : List UInt8) (N : Nat) (hA : A.length = N * 64)
    (hB : B.length = N * 64) (h : ∀ i, i < N → blockAt A i = blockAt B i) : A = B := by
  apply List.ext_getElem?
  intro i
  by_cases hi : i < N * 64
  · rw [getElem?_eq_blockAt A, getElem?_eq_blockAt B,
      h _ ((Nat.div_lt_iff_lt_mul (by decide)).2 hi)]
  · rw [List.getElem?_eq_none (hA ▸ Nat.le_of_not_lt hi),
      List.getElem?_eq_none (hB ▸ Nat.le_of_not_lt hi)]

theorem flatMap_congr' {α β : Type} (l : List α) (f g : α → List β) (h : ∀ x ∈ l, f x = g x) :
    l.flatMap f = l.flatMap g := by
  rw [List.flatMap_def, List.flatMap_def, List.map_congr_left h]

theorem length_flatMap64 {α : Type} (l : List α) (f : α → List UInt8)
    (hf : ∀ x ∈ l, (f x).length = 64) : (l.flatMap f).length = l.length * 64 := by
  induction l with
  | nil => rfl
  | cons a t ih =>
    rw [List.flatMap_cons, List.length_append, ih (fun x hx => hf x (List.mem_cons_of_mem _ hx)),
      hf a (List.mem_cons_self ..), List.length_cons, Nat.succ_mul, Nat.add_comm]

theorem blockAt_flatMap {α : Type} (l : List α) (f : α → List UInt8)
    (hf : ∀ x ∈ l, (f x).length = 64) (i : Nat) (hi : i < l.length) :
    blockAt (l.flatMap f) i = f l[i] := by
  induction l generalizing i with
  | nil => exact absurd hi (Nat.not_lt_zero _)
  | cons a t ih =>
    have ha : (f a).length = 64 := hf a (List.mem_cons_self ..)
    rw [List.flatMap_cons]
    cases i with
    | zero =>
      unfold blockAt
      rw [Nat.zero_mul, List.drop_zero, List.take_left' ha, List.getElem_cons_zero]
    | succ i =>
      rw [List.getElem_cons_succ,
        ← ih (fun x hx => hf x (List.mem_cons_of_mem _ hx)) i (Nat.lt_of_succ_lt_succ hi)]
      unfold blockAt
      rw [Nat.succ_mul, Nat.add_comm, ← List.drop_drop, List.drop_left' ha]

theorem length_applyWrites_ge (data : List UInt8) (ws : List (Nat × List UInt8)) :
    data.length ≤ (applyWrites data ws).length := by
  induction ws generalizing data with
  | nil => exact Nat.le_refl _
  | cons w ws ih =>
    exact Nat.le_trans (by rw [length_writeAt]; exact Nat.le_max_left _ _) (ih _)

theorem length_applyWrites_ge_of_mem (data : List UInt8) (ws : List (Nat × List UInt8))
    (w : Nat × List UInt8) (hm : w ∈ ws) :
    w.1 * 64 + w.2.length ≤ (applyWrites data ws).length := by
  induction ws generalizing data with
  | nil => cases hm
  | cons w' ws ih =>
    rcases List.mem_cons.1 hm with h | h
    · subst h
      exact Nat.le_trans (by rw [length_writeAt]; exact Nat.le_max_right _ _)
        (length_applyWrites_ge _ ws)
    · exact ih _ h

theorem length_applyWrites_le (init : List UInt8) (ws : List (Nat × List UInt8)) (N : Nat)
    (hws : ∀ w ∈ ws, w.1 < N ∧ w.2.length = 64) (hinit : init.length ≤ N * 64) :
    (applyWrites init ws).length ≤ N * 64 := by
  induction ws generalizing init with
  | nil => exact hinit
  | cons w ws ih =>
    apply ih _ (fun w' hw' => hws w' (List.mem_cons_of_mem _ hw'))
    obtain ⟨h1, h2⟩ := hws w (List.mem_cons_self ..)
    rw [length_writeAt, h2]
    exact Nat.max_le.2 ⟨hinit, Nat.le_trans (Nat.le_of_eq (Nat.succ_mul _ _).symm)
      (Nat.mul_le_mul_right 64 h1)⟩

theorem length_applyWrites_eq (init : List UInt8) (ws : List (Nat × List UInt8)) (N : Nat)
    (hws : ∀ w ∈ ws, w.1 < N ∧ w.2.length = 64) (hinit : init.length = N * 64) :
    (applyWrites init ws).length = N * 64 :=
  Nat.le_antisymm (length_applyWrites_le init ws N hws (Nat.le_of_eq hinit))
    (hinit ▸ length_applyWrites_ge init ws)

theorem blockAt_applyWrites_of_not_mem (data : List UInt8) (ws : List (Nat × List UInt8))
    (s : Nat) (hws : ∀ w ∈ ws, w.2.length = 64) (hs : s ∉ ws.map Prod.fst)
    (hlen : s * 64 + 64 ≤ data.length) :
    blockAt (applyWrites data ws) s = blockAt data s := by
  induction ws generalizing data with
  | nil => rfl
  | cons w ws ih =>
    rw [List.map_cons, List.mem_cons, not_or] at hs
    rw [applyWrites_cons, ih _ (fun w' hw' => hws w' (List.mem_cons_of_mem _ hw')) hs.2
      (by rw [length_writeAt]; exact Nat.le_trans hlen (Nat.le_max_left _ _))]
    exact blockAt_writeAt_ne data w.1 w.2 s (hws w (List.mem_cons_self ..)) hs.1 hlen

theorem blockAt_applyWrites_of_mem (data : List UInt8) (ws : List (Nat × List UInt8))
    (hws : ∀ w ∈ ws, w.2.length = 64) (hnd : (ws.map Prod.fst).Nodup)
    (s : Nat) (b : List UInt8) (hm : (s, b) ∈ ws) :
    blockAt (applyWrites data ws) s = b := by
  induction ws generalizing data with
  | nil => cases hm
  | cons w ws ih =>
    rw [List.map_cons, List.nodup_cons] at hnd
    have hws' : ∀ w' ∈ ws, w'.2.length = 64 := fun w' hw' => hws w' (List.mem_cons_of_mem _ hw')
    rcases List.mem_cons.1 hm with h | h
    · subst h
      have hb : b.length = 64 := hws (s, b) (List.mem_cons_self ..)
      rw [applyWrites_cons, blockAt_applyWrites_of_not_mem _ ws s hws' hnd.1
        (by rw [length_writeAt, hb]; exact Nat.le_max_right _ _)]
      exact blockAt_writeAt_self data s b hb
    · exact ih _ hws' hnd.2 h

/-- MAIN: writing, in ANY order `T` (a permutation of `P`), the block `f x` at slot `slot x`, where
`slot` enumerates `P` (`slot P[i] = i`), onto any initial backing not longer than the result
(stale bytes allowed, shorter backings are zero-extended by `writeAt`) yields exactly the
concatenation of the blocks in `P`-order. -/
theorem applyWrites_perm {α : Type} (P T : List α) (slot : α → Nat) (f : α → List UInt8)
    (init : List UInt8) (hperm : T.Perm P) (hslot : ∀ i (h : i < P.length), slot P[i] = i)
    (hf : ∀ x ∈ P, (f x).length = 64) (hinit : init.length ≤ P.length * 64) :
    applyWrites init (T.map fun x => (slot x, f x)) = P.flatMap f := by
  have hnd : ((T.map fun x => (slot x, f x)).map Prod.fst).Nodup := by
    have hP : P.map slot = List.range P.length :=
      List.ext_getElem (by rw [List.length_map, List.length_range])
        (fun i h1 _ => by rw [List.getElem_map, List.getElem_range, hslot i])
    rw [List.map_map, (hperm.map _).nodup_iff]
    exact hP ▸ List.nodup_range
  generalize hwsdef : (T.map fun x => (slot x, f x)) = ws at hnd
  have hmem : ∀ i (h : i < P.length), (i, f P[i]) ∈ ws := by
    intro i h
    have h2 : (slot P[i], f P[i]) ∈ T.map (fun x => (slot x, f x)) :=
      List.mem_map.2 ⟨P[i], hperm.mem_iff.2 (List.getElem_mem h), rfl⟩
    rwa [hslot i h, hwsdef] at h2
  have hws : ∀ w ∈ ws, w.1 < P.length ∧ w.2.length = 64 := by
    intro w hw
    rw [← hwsdef] at hw
    obtain ⟨x, hx, rfl⟩ := List.mem_map.1 hw
    obtain ⟨i, h, rfl⟩ := List.mem_iff_getElem.1 (hperm.mem_iff.1 hx)
    exact ⟨(hslot i h).symm ▸ h, hf _ (List.getElem_mem h)⟩
  -- the last slot is written, so the result is not shorter than `P.length * 64`
  have hlen : (applyWrites init ws).length = P.length * 64 := by
    apply Nat.le_antisymm (length_applyWrites_le init ws P.length hws hinit)
    cases hP : P.length with
    | zero => exact Nat.le_trans (Nat.le_of_eq (Nat.zero_mul _)) (Nat.zero_le _)
    | succ n =>
      have hn : n < P.length := hP ▸ Nat.lt_succ_self n
      have h1 := length_applyWrites_ge_of_mem init ws _ (hmem n hn)
      rw [(hws _ (hmem n hn)).2] at h1
      exact Nat.succ_mul n 64 ▸ h1
  apply ext_blockAt _ _ P.length hlen (length_flatMap64 P f hf)
  intro i hi
  rw [blockAt_flatMap P f hf i hi]
  exact blockAt_applyWrites_of_mem init ws (fun w hw => (hws w hw).2) hnd i _ (hmem i hi)

theorem applyWrites_seq {α : Type} (P : List α) (slot : α → Nat) (f : α → List UInt8)
    (init : List UInt8) (hslot : ∀ i (h : i < P.length), slot P[i] = i)
    (hf : ∀ x ∈ P, (f x).length = 64) (hinit : init.length ≤ P.length * 64) :
    applyWrites init (P.map fun x => (slot x, f x)) = P.flatMap f :=
  applyWrites_perm P P slot f init (List.Perm.refl P) hslot hf hinit

end Bao.WriteAtL
