import BaoModel.Fault
import BaoProofs.Lemmas.CallSplit

/-!
# Lemmas for C10: fault-aware outboard creation, copy and validators against their call log

`BaoModel/Fault.lean` defines `outboardPostOrderF`, `outboardF` (and `initFromF` on top of it), `copyF`,
`validRangesF`, `validOutboardRangesF`: the fault-free functions with an injected fault, call counters and the log
of io calls.  Here every such run is shown to be the *replay* of the fault-free log:

* `replay ap fault log st nd no nw ns nt` – replay a log against a fault: the counters are the
  numbers of calls made so far on data / outboard / writer / copy source / copy target, the first call
  whose counter is hit fails (it is logged, nothing follows), every other entry is applied to the
  state (`ap`);
* `splitNth (isOn o) n log` – the log split at the `n`-th call on `o` (`replay_some`: closed form);
* `gen_*` – what follows for any operation that is the replay of its fault-free log;
* the validators recurse, so their replay statement is an invariant of validator steps: `VC` (a run for
  every fault and pair of counters), `Good` (it is the replay of its own fault-free log, returns the
  counters of the calls made, yields what it logs), kept by `vPure`, `vLoad`, `vThen`, `yieldRangeF`, of
  which `validateRecF` is built (`validateRecF_good`).
-/

namespace Bao.OpsFaultL

open Bao
open Bao.CallSplit

variable {H H' σ T : Type}

theorem beq_obj (a b : FObj) : (a == b) = decide (a = b) := by
  cases a <;> cases b <;> rfl

instance : LawfulBEq FObj where
  eq_of_beq {a b} h := by rw [beq_obj] at h; exact of_decide_eq_true h
  rfl {a} := by rw [beq_obj]; exact decide_eq_true rfl

theorem hits_none (o : FObj) (n : Nat) : Fault.hits none o n = none := rfl

theorem hits_some (obj : FObj) (k : Nat) (kind : IoKind) (o : FObj) (n : Nat) :
    Fault.hits (some ⟨obj, k, kind⟩) o n =
      if obj = o ∧ k = n then some ⟨kind, true⟩ else none := by
  simp [Fault.hits]

def sel (o : FObj) (nd no nw ns nt : Nat) : Nat :=
  match o with
  | .data => nd
  | .ob => no
  | .w => nw
  | .src => ns
  | .dst => nt

def delta (o : FObj) (e : FEv H) : Nat := if e.obj = some o then 1 else 0

def ncalls (o : FObj) : List (FEv H) → Nat
  | [] => 0
  | e :: es => delta o e + ncalls o es

theorem ncalls_append (o : FObj) (a b : List (FEv H)) :
    ncalls o (a ++ b) = ncalls o a + ncalls o b := by
  induction a with
  | nil => simp [ncalls]
  | cons e a ih => simp only [List.cons_append, ncalls, ih]; omega

theorem ncalls_eq_count (o : FObj) (es : List (FEv H)) :
    ncalls o es = (es.map FEv.obj).count (some o) := by
  induction es with
  | nil => rfl
  | cons e es ih =>
    simp only [ncalls, delta, List.map_cons, List.count_cons, ih, beq_iff_eq]
    omega

def isOn (o : FObj) (e : FEv H) : Bool := e.obj == some o

theorem isOn_iff {o : FObj} {e : FEv H} : isOn o e = true ↔ e.obj = some o := beq_iff_eq

theorem ncalls_eq_countP (o : FObj) (es : List (FEv H)) : ncalls o es = es.countP (isOn o) := by
  rw [ncalls_eq_count, count_map]
  rfl

/-- replay a call log against a fault; a call that fails is logged and ends the replay with its
error, every other entry `e` is applied to the state (`ap st e`) and bumps the counter of its
object.  Result: the calls made, the state, the error of the failing call (if any). -/
def replay (ap : σ → FEv H → σ) (fault : Option Fault) :
    List (FEv H) → σ → Nat → Nat → Nat → Nat → Nat → List (FEv H) × σ × Option IoErr
  | [], st, _, _, _, _, _ => ([], st, none)
  | e :: es, st, nd, no, nw, ns, nt =>
    match (match e.obj with
      | some o => Fault.hits fault o (sel o nd no nw ns nt)
      | none => none) with
    | some err => ([e], st, some err)
    | none =>
      let r := replay ap fault es (ap st e) (nd + delta .data e) (no + delta .ob e)
        (nw + delta .w e) (ns + delta .src e) (nt + delta .dst e)
      (e :: r.1, r.2)

theorem replay_cons (ap : σ → FEv H → σ) (fault : Option Fault) (e : FEv H) (es : List (FEv H))
    (st : σ) (nd no nw ns nt : Nat) :
    replay ap fault (e :: es) st nd no nw ns nt =
      match (match e.obj with
        | some o => Fault.hits fault o (sel o nd no nw ns nt)
        | none => none) with
      | some err => ([e], st, some err)
      | none =>
        (e :: (replay ap fault es (ap st e) (nd + delta .data e) (no + delta .ob e)
            (nw + delta .w e) (ns + delta .src e) (nt + delta .dst e)).1,
          (replay ap fault es (ap st e) (nd + delta .data e) (no + delta .ob e)
            (nw + delta .w e) (ns + delta .src e) (nt + delta .dst e)).2) := rfl

theorem sel_bump (o : FObj) (e : FEv H) (nd no nw ns nt : Nat) :
    sel o (nd + delta .data e) (no + delta .ob e) (nw + delta .w e) (ns + delta .src e)
      (nt + delta .dst e) = sel o nd no nw ns nt + delta o e := by
  cases o <;> rfl

theorem replay_none (ap : σ → FEv H → σ) (es : List (FEv H)) :
    ∀ (st : σ) (nd no nw ns nt : Nat),
    replay ap none es st nd no nw ns nt = (es, es.foldl ap st, none) := by
  induction es with
  | nil => intros; rfl
  | cons e es ih =>
    intro st nd no nw ns nt
    have h : (match e.obj with
      | some o => Fault.hits none o (sel o nd no nw ns nt)
      | none => none) = none := by cases e.obj <;> rfl
    simp only [replay, h, ih, List.foldl_cons]

theorem replay_some (ap : σ → FEv H → σ) (o : FObj) (k : Nat) (kind : IoKind)
    (es : List (FEv H)) :
    ∀ (st : σ) (nd no nw ns nt j : Nat), k = sel o nd no nw ns nt + j →
    replay ap (some ⟨o, k, kind⟩) es st nd no nw ns nt =
      match splitNth (isOn o) j es with
      | some (pre, e, _) => (pre ++ [e], pre.foldl ap st, some ⟨kind, true⟩)
      | none => (es, es.foldl ap st, none) := by
  induction es with
  | nil => intros; rfl
  | cons e es ih =>
    intro st nd no nw ns nt j h
    rw [replay_cons]
    by_cases he : e.obj = some o
    · have hq : isOn o e = true := isOn_iff.mpr he
      have hd : delta o e = 1 := if_pos he
      simp only [he, hits_some, true_and]
      cases j with
      | zero => rw [if_pos (by omega), splitNth_cons_zero hq]; rfl
      | succ j =>
        rw [if_neg (by omega), splitNth_cons_succ hq,
          ih _ _ _ _ _ _ j (by rw [sel_bump, hd]; omega)]
        cases splitNth (isOn o) j es <;> rfl
    · have hq : isOn o e = false := by rw [isOn]; exact beq_false_of_ne he
      have hd : delta o e = 0 := if_neg he
      have hn : (match e.obj with
          | some o' => Fault.hits (some ⟨o, k, kind⟩) o' (sel o' nd no nw ns nt)
          | none => none) = none := by
        cases ho : e.obj with
        | none => rfl
        | some o' =>
          simp only [hits_some]
          rw [if_neg]
          rintro ⟨rfl, _⟩
          exact he ho
      rw [hn, splitNth_cons_neg hq, ih _ _ _ _ _ _ j (by rw [sel_bump, hd]; omega)]
      cases splitNth (isOn o) j es <;> rfl

theorem sel_zero (o : FObj) : sel o 0 0 0 0 0 = 0 := by cases o <;> rfl

section steps

variable (ap : σ → FEv H → σ) (fault : Option Fault) (es : List (FEv H)) (st : σ)
  (nd no nw ns nt : Nat)

theorem replay_read (z : Nat) :
    replay ap fault (.read z :: es) st nd no nw ns nt =
      match Fault.hits fault .data nd with
      | some err => ([.read z], st, some err)
      | none =>
        (.read z :: (replay ap fault es (ap st (.read z)) (nd + 1) no nw ns nt).1,
          (replay ap fault es (ap st (.read z)) (nd + 1) no nw ns nt).2) := rfl

theorem replay_readAt (a z : Nat) :
    replay ap fault (.readAt a z :: es) st nd no nw ns nt =
      match Fault.hits fault .data nd with
      | some err => ([.readAt a z], st, some err)
      | none =>
        (.readAt a z :: (replay ap fault es (ap st (.readAt a z)) (nd + 1) no nw ns nt).1,
          (replay ap fault es (ap st (.readAt a z)) (nd + 1) no nw ns nt).2) := rfl

theorem replay_write (b : List UInt8) :
    replay ap fault (.write b :: es) st nd no nw ns nt =
      match Fault.hits fault .w nw with
      | some err => ([.write b], st, some err)
      | none =>
        (.write b :: (replay ap fault es (ap st (.write b)) nd no (nw + 1) ns nt).1,
          (replay ap fault es (ap st (.write b)) nd no (nw + 1) ns nt).2) := rfl

theorem replay_save_ob (n : Nat) (l r : H) :
    replay ap fault (.save .ob n l r :: es) st nd no nw ns nt =
      match Fault.hits fault .ob no with
      | some err => ([.save .ob n l r], st, some err)
      | none =>
        (.save .ob n l r :: (replay ap fault es (ap st (.save .ob n l r)) nd (no + 1) nw ns nt).1,
          (replay ap fault es (ap st (.save .ob n l r)) nd (no + 1) nw ns nt).2) := rfl

theorem replay_load_ob (n : Nat) :
    replay ap fault (.load .ob n :: es) st nd no nw ns nt =
      match Fault.hits fault .ob no with
      | some err => ([.load .ob n], st, some err)
      | none =>
        (.load .ob n :: (replay ap fault es (ap st (.load .ob n)) nd (no + 1) nw ns nt).1,
          (replay ap fault es (ap st (.load .ob n)) nd (no + 1) nw ns nt).2) := rfl

theorem replay_load_src (n : Nat) :
    replay ap fault (.load .src n :: es) st nd no nw ns nt =
      match Fault.hits fault .src ns with
      | some err => ([.load .src n], st, some err)
      | none =>
        (.load .src n :: (replay ap fault es (ap st (.load .src n)) nd no nw (ns + 1) nt).1,
          (replay ap fault es (ap st (.load .src n)) nd no nw (ns + 1) nt).2) := rfl

theorem replay_save_dst (n : Nat) (l r : H) :
    replay ap fault (.save .dst n l r :: es) st nd no nw ns nt =
      match Fault.hits fault .dst nt with
      | some err => ([.save .dst n l r], st, some err)
      | none =>
        (.save .dst n l r :: (replay ap fault es (ap st (.save .dst n l r)) nd no nw ns (nt + 1)).1,
          (replay ap fault es (ap st (.save .dst n l r)) nd no nw ns (nt + 1)).2) := rfl

theorem replay_yield (a b : Nat) :
    replay ap fault (.yield a b :: es) st nd no nw ns nt =
      (.yield a b :: (replay ap fault es (ap st (.yield a b)) nd no nw ns nt).1,
        (replay ap fault es (ap st (.yield a b)) nd no nw ns nt).2) := rfl

theorem replay_nil : replay ap fault ([] : List (FEv H)) st nd no nw ns nt = ([], st, none) := rfl

end steps

/-- assemble a run from a replay: the calls made, the state, and the terminal - the injected error
if the replay was cut, the terminal `t0` of the fault-free run otherwise -/
def asm (errT : IoErr → T) (r : List (FEv H) × σ × Option IoErr) (t0 : T) : List (FEv H) × σ × T :=
  (r.1, r.2.1, match r.2.2 with | some e => errT e | none => t0)

theorem asm_cons (errT : IoErr → T) (e : FEv H) (r : List (FEv H) × σ × Option IoErr) (t0 : T) :
    asm errT (e :: r.1, r.2) t0 = (e :: (asm errT r t0).1, (asm errT r t0).2) := rfl

section generic

variable (ap : σ → FEv H → σ) (errT : IoErr → T) (st0 : σ)
  (V : Option Fault → List (FEv H) × σ × T)
  (hrep : ∀ fault, V fault = asm errT (replay ap fault (V none).1 st0 0 0 0 0 0) (V none).2.2)

include hrep

theorem gen_sound : (V none).2.1 = (V none).1.foldl ap st0 := by
  have h := hrep none
  rw [replay_none] at h
  exact congrArg (fun x => x.2.1) h

theorem gen_some (obj : FObj) (k : Nat) (kind : IoKind) :
    V (some ⟨obj, k, kind⟩) =
      match splitNth (isOn obj) k (V none).1 with
      | some (pre, e, _) => (pre ++ [e], pre.foldl ap st0, errT ⟨kind, true⟩)
      | none => V none := by
  have h0 := hrep none
  rw [replay_none] at h0
  rw [hrep (some ⟨obj, k, kind⟩),
    replay_some ap obj k kind _ st0 0 0 0 0 0 k (by rw [sel_zero, Nat.zero_add])]
  cases splitNth (isOn obj) k (V none).1 with
  | none => exact h0.symm
  | some p => rfl

theorem gen_cut (obj : FObj) (k : Nat) (kind : IoKind) (hk : k < ncalls obj (V none).1) :
    ∃ pre e post, (V none).1 = pre ++ e :: post ∧ e.obj = some obj ∧ ncalls obj pre = k ∧
      V (some ⟨obj, k, kind⟩) = (pre ++ [e], pre.foldl ap st0, errT ⟨kind, true⟩) := by
  rw [ncalls_eq_countP] at hk
  cases hs : splitNth (isOn obj) k (V none).1 with
  | none => exact absurd (splitNth_none.mp hs) (Nat.not_le.mpr hk)
  | some p =>
    obtain ⟨pre, e, post⟩ := p
    obtain ⟨h1, h2, h3⟩ := splitNth_some hs
    have hr := gen_some ap errT st0 V hrep obj k kind
    rw [hs] at hr
    exact ⟨pre, e, post, h1, isOn_iff.mp h2, (ncalls_eq_countP obj pre).trans h3, hr⟩

theorem gen_unreached (obj : FObj) (k : Nat) (kind : IoKind) (hk : ncalls obj (V none).1 ≤ k) :
    V (some ⟨obj, k, kind⟩) = V none := by
  have hr := gen_some ap errT st0 V hrep obj k kind
  rw [splitNth_none.mpr (ncalls_eq_countP obj _ ▸ hk)] at hr
  exact hr

theorem gen_dichotomy (fault : Option Fault) :
    (∃ obj k kind pre e post, fault = some ⟨obj, k, kind⟩ ∧ (V none).1 = pre ++ e :: post ∧
      e.obj = some obj ∧ ncalls obj pre = k ∧
      V fault = (pre ++ [e], pre.foldl ap st0, errT ⟨kind, true⟩)) ∨
    V fault = V none := by
  cases fault with
  | none => exact Or.inr rfl
  | some f =>
    obtain ⟨obj, k, kind⟩ := f
    by_cases hk : k < ncalls obj (V none).1
    · obtain ⟨pre, e, post, h1, h2, h3, h4⟩ := gen_cut ap errT st0 V hrep obj k kind hk
      exact Or.inl ⟨obj, k, kind, pre, e, post, rfl, h1, h2, h3, h4⟩
    · exact Or.inr (gen_unreached ap errT st0 V hrep obj k kind (Nat.le_of_not_lt hk))

theorem gen_log_prefix (fault : Option Fault) : (V fault).1 <+: (V none).1 := by
  rcases gen_dichotomy ap errT st0 V hrep fault with ⟨_, _, _, pre, e, post, _, h1, _, _, h4⟩ | h
  · rw [h4, h1]
    exact ⟨post, by simp⟩
  · rw [h]; exact List.prefix_refl _

theorem gen_state_prefix (fault : Option Fault) :
    ∃ pre rest, (V none).1 = pre ++ rest ∧ (V fault).2.1 = pre.foldl ap st0 ∧
      (V none).2.1 = rest.foldl ap (V fault).2.1 := by
  have hs := gen_sound ap errT st0 V hrep
  rcases gen_dichotomy ap errT st0 V hrep fault with ⟨_, _, _, pre, e, post, _, h1, _, _, h4⟩ | h
  · refine ⟨pre, e :: post, h1, by rw [h4], ?_⟩
    rw [hs, h4, h1, List.foldl_append]
  · refine ⟨(V none).1, [], by simp, by rw [h, hs], ?_⟩
    rw [h]; rfl

theorem gen_terminal (obj : FObj) (k : Nat) (kind : IoKind) (hk : k < ncalls obj (V none).1) :
    (V (some ⟨obj, k, kind⟩)).2.2 = errT ⟨kind, true⟩ := by
  obtain ⟨pre, e, post, _, _, _, h4⟩ := gen_cut ap errT st0 V hrep obj k kind hk
  rw [h4]

theorem gen_terminal_cases (fault : Option Fault) :
    (V fault).2.2 = (V none).2.2 ∨ ∃ kind, (V fault).2.2 = errT ⟨kind, true⟩ := by
  rcases gen_dichotomy ap errT st0 V hrep fault with ⟨_, _, kind, pre, e, post, _, _, _, _, h4⟩ | h
  · exact Or.inr ⟨kind, by rw [h4]⟩
  · exact Or.inl (by rw [h])

end generic

theorem decomp_unique (obj : FObj) (k : Nat) (log : List (FEv H))
    (pre pre' post post' : List (FEv H)) (e e' : FEv H)
    (h : log = pre ++ e :: post) (he : e.obj = some obj) (hc : ncalls obj pre = k)
    (h' : log = pre' ++ e' :: post') (he' : e'.obj = some obj) (hc' : ncalls obj pre' = k) :
    pre = pre' ∧ e = e' ∧ post = post' :=
  split_unique h (isOn_iff.mpr he) h' (isOn_iff.mpr he')
    (by rw [← ncalls_eq_countP, ← ncalls_eq_countP, hc, hc'])

def FEv.bytes : FEv H → List UInt8
  | .write b => b
  | _ => []

def apW (out : List UInt8) : FEv H → List UInt8
  | .write b => out ++ b
  | _ => out

def outOf : List (FEv H) → List UInt8
  | [] => []
  | e :: es => FEv.bytes e ++ outOf es

theorem outOf_append (a b : List (FEv H)) : outOf (a ++ b) = outOf a ++ outOf b := by
  induction a with
  | nil => rfl
  | cons e a ih => simp only [List.cons_append, outOf, ih, List.append_assoc]

theorem foldl_apW (es : List (FEv H)) : ∀ out : List UInt8, es.foldl apW out = out ++ outOf es := by
  induction es with
  | nil => intro out; simp [outOf]
  | cons e es ih =>
    intro out
    cases e <;> simp [List.foldl_cons, ih, apW, outOf, FEv.bytes]

/-- outboard state: a `save` that succeeds is applied, anything else leaves the store as it is -/
def apS (hf : HashFns H) (s : Store H) (e : FEv H) : Store H :=
  match e with
  | .save _ node l r =>
    match s.save hf node (l, r) with
    | .ok s' => s'
    | _ => s
  | _ => s

def savedOf (hf : HashFns H) (s : Store H) (es : List (FEv H)) : Store H := es.foldl (apS hf) s

theorem savedOf_append (hf : HashFns H) (s : Store H) (a b : List (FEv H)) :
    savedOf hf s (a ++ b) = savedOf hf (savedOf hf s a) b := List.foldl_append ..

def savesOf : List (FEv H) → List (Nat × H × H)
  | [] => []
  | .save _ n l r :: es => (n, l, r) :: savesOf es
  | _ :: es => savesOf es

theorem savesOf_append (a b : List (FEv H)) : savesOf (a ++ b) = savesOf a ++ savesOf b := by
  induction a with
  | nil => rfl
  | cons e a ih => cases e <;> simp [savesOf, ih]

theorem savesOf_prefix {log pre rest : List (FEv H)} (h : log = pre ++ rest) :
    savesOf pre <+: savesOf log := by
  rw [h, savesOf_append]
  exact List.prefix_append _ _

def yieldsOf : List (FEv H) → List (Nat × Nat)
  | [] => []
  | .yield s e :: es => (s, e) :: yieldsOf es
  | _ :: es => yieldsOf es

theorem yieldsOf_append (a b : List (FEv H)) : yieldsOf (a ++ b) = yieldsOf a ++ yieldsOf b := by
  induction a with
  | nil => rfl
  | cons e a ih => cases e <;> simp [yieldsOf, ih]

theorem yieldsOf_yieldEvs (ys : List (Nat × Nat)) : yieldsOf (yieldEvs ys : List (FEv H)) = ys := by
  induction ys with
  | nil => rfl
  | cons y ys ih => simp only [yieldEvs, List.map_cons, yieldsOf] at ih ⊢; rw [ih]

theorem yieldsOf_call {e : FEv H} {o : FObj} (h : e.obj = some o) : yieldsOf [e] = [] := by
  cases e <;> first | rfl | cases h

def viewOb (r : List (FEv H) × ObRun H' σ) : List (FEv H) × σ × Res IoErr H' :=
  (r.1, r.2.sink, r.2.res)

def asmOb (r : List (FEv H) × σ × Option IoErr) (res0 : Res IoErr H') :
    List (FEv H) × ObRun H' σ :=
  (r.1, ⟨match r.2.2 with | some e => .err e | none => res0, r.2.1⟩)

theorem viewOb_eq {r : List (FEv H) × ObRun H' σ} {a : List (FEv H)} {s : σ} {t : Res IoErr H'}
    (h : viewOb r = (a, s, t)) : r = (a, ⟨t, s⟩) := by
  obtain ⟨l, ⟨res, sink⟩⟩ := r
  simp only [viewOb, Prod.mk.injEq] at h
  obtain ⟨rfl, rfl, rfl⟩ := h
  rfl

theorem viewOb_inj {r r' : List (FEv H) × ObRun H' σ} (h : viewOb r = viewOb r') : r = r' := by
  obtain ⟨l, ⟨res, sink⟩⟩ := r'
  exact viewOb_eq h

theorem viewOb_asmOb (r : List (FEv H) × σ × Option IoErr) (res0 : Res IoErr H') :
    viewOb (asmOb r res0) = asm .err r res0 := rfl

theorem asmOb_cons (ap : σ → FEv H → σ) (fault : Option Fault) (e : FEv H) (es : List (FEv H))
    (st : σ) (nd no nw ns nt : Nat) (res0 : Res IoErr H') :
    asmOb (replay ap fault (e :: es) st nd no nw ns nt) res0 =
      match (match e.obj with
        | some o => Fault.hits fault o (sel o nd no nw ns nt)
        | none => none) with
      | some err => ([e], ⟨.err err, st⟩)
      | none =>
        (e :: (asmOb (replay ap fault es (ap st e) (nd + delta .data e) (no + delta .ob e)
            (nw + delta .w e) (ns + delta .src e) (nt + delta .dst e)) res0).1,
          (asmOb (replay ap fault es (ap st e) (nd + delta .data e) (no + delta .ob e)
            (nw + delta .w e) (ns + delta .src e) (nt + delta .dst e)) res0).2) := by
  rw [replay_cons]
  cases e.obj with
  | none => rfl
  | some o =>
    simp only []
    cases Fault.hits fault o (sel o nd no nw ns nt) <;> rfl

theorem obpoLoop_replay (hf : HashFns H) (fault : Option Fault) (plan : List Chunk) :
    ∀ (stack : List H) (data out : List UInt8) (nd nw : Nat),
    outboardPostOrderLoopF hf fault plan stack data out nd nw =
      asmOb (replay apW fault (outboardPostOrderLoopF hf none plan stack data out nd nw).1
        out nd 0 nw 0 0) (outboardPostOrderLoopF hf none plan stack data out nd nw).2.res := by
  induction plan with
  | nil =>
    intro stack data out nd nw
    match stack with
    | [] => rfl
    | [_] => rfl
    | _ :: _ :: _ => rfl
  | cons c plan ih =>
    intro stack data out nd nw
    cases c with
    | parent node isRoot left right rs =>
      match stack with
      | [] => rfl
      | [_] => rfl
      | r :: l :: stack =>
        simp only [outboardPostOrderLoopF, hits_none, replay_write]
        cases Fault.hits fault .w nw with
        | some e => rfl
        | none =>
          cases Fault.hits fault .w (nw + 1) with
          | some e => rfl
          | none =>
            simp only [ih, apW, List.append_assoc]
            rfl
    | leaf start size isRoot rs =>
      simp only [outboardPostOrderLoopF, hits_none]
      cases readExact data size with
      | error e => simp only [asmOb_cons]; rfl
      | ok p => simp only [asmOb_cons, ih]; rfl

theorem obpo_replay (hf : HashFns H) (data : List UInt8) (tree : Tree) (fault : Option Fault) :
    outboardPostOrderF hf data tree fault =
      asmOb (replay apW fault (outboardPostOrderF hf data tree none).1 [] 0 0 0 0 0)
        (outboardPostOrderF hf data tree none).2.res := by
  unfold outboardPostOrderF
  exact obpoLoop_replay ..

theorem obpoLoop_none (hf : HashFns H) (plan : List Chunk) :
    ∀ (stack : List H) (data out : List UInt8) (nd nw : Nat),
    (outboardPostOrderLoopF hf none plan stack data out nd nw).2 =
      outboardPostOrderLoop hf plan stack data out := by
  intro stack data out nd nw
  fun_induction outboardPostOrderLoop hf plan stack data out generalizing nd nw <;>
    simp_all [outboardPostOrderLoopF, hits_none]

theorem obLoop_replay (hf : HashFns H) (fault : Option Fault) (plan : List Chunk) :
    ∀ (stack : List H) (data : List UInt8) (ob : Store H) (nd no : Nat),
    outboardLoopF hf fault plan stack data ob nd no =
      asmOb (replay (apS hf) fault (outboardLoopF hf none plan stack data ob nd no).1
        ob nd no 0 0 0) (outboardLoopF hf none plan stack data ob nd no).2.res := by
  induction plan with
  | nil =>
    intro stack data ob nd no
    match stack with
    | [] => rfl
    | [_] => rfl
    | _ :: _ :: _ => rfl
  | cons c plan ih =>
    intro stack data ob nd no
    cases c with
    | parent node isRoot left right rs =>
      match stack with
      | [] => rfl
      | [_] => rfl
      | r :: l :: stack =>
        simp only [outboardLoopF, hits_none]
        cases hs : ob.save hf node (l, r) with
        | err e | panic => simp only [asmOb_cons, apS, hs]; rfl
        | ok ob' => simp only [asmOb_cons, apS, hs, ih]; rfl
    | leaf start size isRoot rs =>
      simp only [outboardLoopF, hits_none]
      cases readExact data size with
      | error e => simp only [asmOb_cons]; rfl
      | ok p => simp only [asmOb_cons, ih]; rfl

theorem ob_replay (hf : HashFns H) (data : List UInt8) (tree : Tree) (ob : Store H)
    (fault : Option Fault) :
    outboardF hf data tree ob fault =
      asmOb (replay (apS hf) fault (outboardF hf data tree ob none).1 ob 0 0 0 0 0)
        (outboardF hf data tree ob none).2.res := by
  unfold outboardF
  exact obLoop_replay ..

theorem obLoop_none (hf : HashFns H) (plan : List Chunk) :
    ∀ (stack : List H) (data : List UInt8) (ob : Store H) (nd no : Nat),
    (outboardLoopF hf none plan stack data ob nd no).2 = outboardLoop hf plan stack data ob := by
  intro stack data ob nd no
  fun_induction outboardLoop hf plan stack data ob generalizing nd no <;>
    simp_all [outboardLoopF, hits_none]

theorem copyLoop_replay (hf : HashFns H) (fl : Flavour) (fault : Option Fault) (src : Store H)
    (nodes : List Nat) :
    ∀ (dst : Store H) (ns nt : Nat),
    copyLoopF hf fl fault src nodes dst ns nt =
      asmOb (replay (apS hf) fault (copyLoopF hf fl none src nodes dst ns nt).1 dst 0 0 0 ns nt)
        (copyLoopF hf fl none src nodes dst ns nt).2.res := by
  induction nodes with
  | nil => intros; rfl
  | cons node nodes ih =>
    intro dst ns nt
    simp only [copyLoopF, hits_none]
    rcases src.load hf fl node with (_ | ⟨l, r⟩) | e | _
    · simp only [replay_load_src]
      cases Fault.hits fault .src ns with
      | some e => rfl
      | none =>
        simp only []
        rw [ih]
        rfl
    · simp only []
      cases hs : dst.save hf node (l, r) with
      | err e | panic =>
        simp only [replay_load_src, replay_save_dst, replay_nil]
        cases Fault.hits fault .src ns with
        | some e => rfl
        | none =>
          simp only []
          cases Fault.hits fault .dst nt <;> simp only [apS, hs] <;> rfl
      | ok dst' =>
        simp only [replay_load_src, replay_save_dst]
        cases Fault.hits fault .src ns with
        | some e => rfl
        | none =>
          simp only []
          cases Fault.hits fault .dst nt with
          | some e => rfl
          | none =>
            simp only []
            rw [ih]
            simp only [apS, hs]
            rfl
    · simp only [replay_load_src, replay_nil]
      cases Fault.hits fault .src ns <;> rfl
    · simp only [replay_load_src, replay_nil]
      cases Fault.hits fault .src ns <;> rfl

theorem copy_replay (hf : HashFns H) (fl : Flavour) (src dst : Store H) (fault : Option Fault) :
    copyF hf fl src dst fault =
      asmOb (replay (apS hf) fault (copyF hf fl src dst none).1 dst 0 0 0 0 0)
        (copyF hf fl src dst none).2.res := by
  unfold copyF
  exact copyLoop_replay ..

theorem copyLoop_none (hf : HashFns H) (fl : Flavour) (src : Store H) (nodes : List Nat) :
    ∀ (dst : Store H) (ns nt : Nat),
    (copyLoopF hf fl none src nodes dst ns nt).2.toRes = copyLoop hf fl src nodes dst := by
  intro dst ns nt
  fun_induction copyLoop hf fl src nodes dst generalizing ns nt <;>
    simp_all [copyLoopF, hits_none, ObRun.toRes]

theorem replay_uncut (ap : σ → FEv H → σ) (fault : Option Fault) (es : List (FEv H)) :
    ∀ (st : σ) (nd no nw ns nt : Nat), (replay ap fault es st nd no nw ns nt).2.2 = none →
    replay ap fault es st nd no nw ns nt = (es, es.foldl ap st, none) := by
  intro st nd no nw ns nt
  fun_induction replay ap fault es st nd no nw ns nt <;> simp_all +zetaDelta

theorem replay_append (ap : σ → FEv H → σ) (fault : Option Fault) (a b : List (FEv H)) :
    ∀ (st : σ) (nd no nw ns nt : Nat),
    replay ap fault (a ++ b) st nd no nw ns nt =
      match (replay ap fault a st nd no nw ns nt).2.2 with
      | some _ => replay ap fault a st nd no nw ns nt
      | none =>
        (a ++ (replay ap fault b (a.foldl ap st) (nd + ncalls .data a) (no + ncalls .ob a)
            (nw + ncalls .w a) (ns + ncalls .src a) (nt + ncalls .dst a)).1,
          (replay ap fault b (a.foldl ap st) (nd + ncalls .data a) (no + ncalls .ob a)
            (nw + ncalls .w a) (ns + ncalls .src a) (nt + ncalls .dst a)).2) := by
  induction a with
  | nil => intros; rfl
  | cons e a ih =>
    intro st nd no nw ns nt
    simp only [List.cons_append]
    rw [replay_cons, replay_cons]
    split
    · rfl
    · simp only [ih, ncalls, List.foldl_cons, Nat.add_assoc]
      split <;> rfl

/-- validators have no state besides their log -/
def apU (_ : Unit) (_ : FEv H) : Unit := ()

def viewVal (r : ValF H) : List (FEv H) × Unit × ValEnd := (r.log, (), r.run.terminal)

/-- a validator step: a run for every fault and every pair of counters -/
abbrev VC (H : Type) := Option Fault → Nat → Nat → ValF H

/-- a step is *good*: every run is the replay of the fault-free log, the counters it returns are
the numbers of calls made, and its yields are the yields of its log -/
structure Good (X : VC H) : Prop where
  rep : ∀ fault nd no nw ns nt (u : Unit), viewVal (X fault nd no) =
    asm ValEnd.err (replay apU fault (X none nd no).log u nd no nw ns nt) (X none nd no).run.terminal
  cnt : ∀ fault nd no, (X fault nd no).nd = nd + ncalls .data (X fault nd no).log ∧
    (X fault nd no).no = no + ncalls .ob (X fault nd no).log
  yld : ∀ fault nd no, (X fault nd no).run.yields = yieldsOf (X fault nd no).log

theorem Good.congr {X Y : VC H} (h : ∀ f nd no, X f nd no = Y f nd no) (g : Good Y) : Good X := by
  have : X = Y := funext fun f => funext fun nd => funext fun no => h f nd no
  rw [this]; exact g

/-- `validateRecF` is built from these: `vPure t` - no call, terminal `t`; `vLoad node R` - the `load`,
then `R` unless the fault hits it; `vThen A B` - `A`, then `B` from the counters `A` returns if `A`
ended `ok`.  Each keeps `Good`. -/
def vPure (t : ValEnd) : VC H := fun _ nd no => ⟨[], ⟨[], t⟩, nd, no⟩

def vThen (A B : VC H) : VC H := fun f nd no => (A f nd no).andThen (B f)

def vLoad (node : Nat) (R : VC H) : VC H := fun f nd no =>
  match Fault.hits f .ob no with
  | some e => ⟨[.load .ob node], ⟨[], .err e⟩, nd, no + 1⟩
  | none =>
    let rest := R f nd (no + 1)
    ⟨.load .ob node :: rest.log, rest.run, rest.nd, rest.no⟩

theorem good_pure (t : ValEnd) : Good (vPure t : VC H) where
  rep _ _ _ _ _ _ _ := rfl
  cnt _ _ _ := ⟨rfl, rfl⟩
  yld _ _ _ := rfl

theorem ncalls_yieldEvs (o : FObj) (ys : List (Nat × Nat)) :
    ncalls o (yieldEvs ys : List (FEv H)) = 0 := by
  induction ys with
  | nil => rfl
  | cons y ys ih =>
    simp only [yieldEvs, List.map_cons, ncalls] at ih ⊢
    rw [ih]; rfl

theorem replay_yieldEvs (fault : Option Fault) (ys : List (Nat × Nat)) (u : Unit)
    (nd no nw ns nt : Nat) :
    replay apU fault (yieldEvs ys : List (FEv H)) u nd no nw ns nt = (yieldEvs ys, (), none) := by
  induction ys generalizing u with
  | nil => rfl
  | cons y ys ih =>
    simp only [yieldEvs, List.map_cons] at ih ⊢
    rw [replay_yield, ih]

theorem good_yieldRange (hf : HashFns H) [BEq H] (withData : Bool) (data : List UInt8)
    (s e : Nat) (h : H) (root : Bool) :
    Good (fun f nd no => yieldRangeF hf withData data f s e h root nd no) := by
  cases withData with
  | false => exact ⟨fun _ _ _ _ _ _ _ => rfl, fun _ _ _ => ⟨rfl, rfl⟩, fun _ _ _ => rfl⟩
  | true =>
    refine ⟨fun f nd no nw ns nt u => ?_, fun f nd no => ?_, fun f nd no => ?_⟩
    · simp only [yieldRangeF, if_true, hits_none]
      cases yieldIfValid hf data s e h root with
      | error err =>
        simp only [replay_readAt, replay_nil]
        cases Fault.hits f .data nd <;> rfl
      | ok ys =>
        simp only [replay_readAt, replay_yieldEvs]
        cases Fault.hits f .data nd <;> rfl
    · simp only [yieldRangeF, if_true]
      cases Fault.hits f .data nd with
      | some err => exact ⟨rfl, rfl⟩
      | none =>
        cases yieldIfValid hf data s e h root with
        | error err => exact ⟨rfl, rfl⟩
        | ok ys =>
          simp only [ncalls, ncalls_yieldEvs]
          exact ⟨rfl, rfl⟩
    · simp only [yieldRangeF, if_true]
      cases Fault.hits f .data nd with
      | some err => rfl
      | none =>
        cases yieldIfValid hf data s e h root with
        | error err => rfl
        | ok ys => simp only [yieldsOf, yieldsOf_yieldEvs]

theorem good_load (node : Nat) {R : VC H} (g : Good R) : Good (vLoad node R) := by
  refine ⟨fun f nd no nw ns nt u => ?_, fun f nd no => ?_, fun f nd no => ?_⟩
  · simp only [vLoad, hits_none, replay_load_ob]
    cases Fault.hits f .ob no with
    | some e => rfl
    | none =>
      have h := g.rep f nd (no + 1) nw ns nt (apU u (.load .ob node : FEv H))
      simp only [viewVal, asm, Prod.mk.injEq] at h ⊢
      exact ⟨by rw [h.1], trivial, h.2.2⟩
  · simp only [vLoad]
    cases Fault.hits f .ob no with
    | some e => exact ⟨rfl, by simp [ncalls, delta, FEv.obj]⟩
    | none =>
      have h := g.cnt f nd (no + 1)
      simp only [ncalls, delta, FEv.obj] at h ⊢
      simp only [h.1, h.2]
      simp
      omega
  · simp only [vLoad]
    cases Fault.hits f .ob no with
    | some e => rfl
    | none => exact g.yld f nd (no + 1)

theorem andThen_ok {a : ValF H} (b : Nat → Nat → ValF H) (h : a.run.terminal = .ok) :
    a.andThen b = ⟨a.log ++ (b a.nd a.no).log,
      ⟨a.run.yields ++ (b a.nd a.no).run.yields, (b a.nd a.no).run.terminal⟩,
      (b a.nd a.no).nd, (b a.nd a.no).no⟩ := by
  unfold ValF.andThen; rw [h]

theorem andThen_not_ok {a : ValF H} (b : Nat → Nat → ValF H) (h : a.run.terminal ≠ .ok) :
    a.andThen b = a := by
  unfold ValF.andThen
  split
  · rename_i h'; exact absurd h' h
  · rfl

theorem good_then {A B : VC H} (ga : Good A) (gb : Good B) : Good (vThen A B) := by
  refine ⟨fun f nd no nw ns nt u => ?_, fun f nd no => ?_, fun f nd no => ?_⟩
  · have ha := ga.rep f nd no nw ns nt u
    have hca := ga.cnt f nd no
    have hc0 := ga.cnt none nd no
    simp only [vThen]
    by_cases h0 : (A none nd no).run.terminal = .ok
    · rw [andThen_ok (a := A none nd no) _ h0]
      simp only []
      rw [replay_append]
      rw [h0] at ha
      cases hr : (replay apU f (A none nd no).log u nd no nw ns nt).2.2 with
      | some err =>
        simp only []
        simp only [viewVal, asm, hr, Prod.mk.injEq] at ha ⊢
        rw [andThen_not_ok _ (by rw [ha.2.2]; intro hc; cases hc)]
        exact ⟨ha.1, trivial, ha.2.2⟩
      | none =>
        simp only []
        rw [replay_uncut _ _ _ _ _ _ _ _ _ hr] at ha
        simp only [viewVal, asm, Prod.mk.injEq] at ha
        have hnd : (A f nd no).nd = (A none nd no).nd := by rw [hca.1, hc0.1, ha.1]
        have hno : (A f nd no).no = (A none nd no).no := by rw [hca.2, hc0.2, ha.1]
        rw [andThen_ok _ ha.2.2, hnd, hno]
        have hb := gb.rep f (A none nd no).nd (A none nd no).no (nw + ncalls .w (A none nd no).log)
          (ns + ncalls .src (A none nd no).log) (nt + ncalls .dst (A none nd no).log)
          ((A none nd no).log.foldl apU u)
        rw [hc0.1, hc0.2] at hb
        simp only [viewVal, asm, Prod.mk.injEq] at hb ⊢
        rw [hc0.1, hc0.2]
        exact ⟨by rw [ha.1, hb.1], trivial, hb.2.2⟩
    · rw [andThen_not_ok (a := A none nd no) _ h0]
      have hne : (A f nd no).run.terminal ≠ .ok := by
        simp only [viewVal, asm, Prod.mk.injEq] at ha
        rw [ha.2.2]
        split
        · intro hc; cases hc
        · exact h0
      rw [andThen_not_ok _ hne]
      exact ha
  · simp only [vThen]
    have hca := ga.cnt f nd no
    by_cases h0 : (A f nd no).run.terminal = .ok
    · rw [andThen_ok _ h0]
      have hcb := gb.cnt f (A f nd no).nd (A f nd no).no
      simp only [ncalls_append]
      omega
    · rw [andThen_not_ok _ h0]; exact hca
  · simp only [vThen]
    by_cases h0 : (A f nd no).run.terminal = .ok
    · rw [andThen_ok _ h0]
      simp only [yieldsOf_append, ga.yld f nd no, gb.yld f]
    · rw [andThen_not_ok _ h0]; exact ga.yld f nd no

theorem good_ite (c : Prop) [Decidable c] {A B : VC H} (ga : Good A) (gb : Good B) :
    Good (fun f nd no => if c then A f nd no else B f nd no) := by
  by_cases h : c
  · exact Good.congr (fun f nd no => by simp only [if_pos h]) ga
  · exact Good.congr (fun f nd no => by simp only [if_neg h]) gb

/-- by induction on the fuel: under the equations of a branch `validateRecF … (fuel + 1)` is one of the
combinators above applied to smaller steps (`Good.congr`), which are `Good` -/
theorem validateRecF_good (hf : HashFns H) [BEq H] (fl : Flavour) (wd : Bool) (ob : Store H)
    (data : List UInt8) (filled : Nat) :
    ∀ (fuel : Nat) (ph : H) (sh : Nat) (isRoot : Bool) (rs : Ranges),
    Good (fun f nd no => validateRecF hf fl wd ob data filled f fuel ph sh isRoot rs nd no) := by
  intro fuel
  induction fuel with
  | zero =>
    intro ph sh isRoot rs
    exact Good.congr (Y := vPure .panic) (fun f nd no => by simp only [validateRecF]; rfl)
      (good_pure _)
  | succ fuel ih =>
    intro ph sh isRoot rs
    by_cases he : rs.isEmpty = true
    · exact Good.congr (Y := vPure .ok)
        (fun f nd no => by simp only [validateRecF, he, if_true]; rfl) (good_pure _)
    · rcases hl : ob.tree.leafByteRanges3 (Node.subBs sh ob.tree.bs) with ⟨l, m, r⟩
      by_cases hr : (!ob.tree.isRelevant (Node.subBs sh ob.tree.bs)) = true
      · exact Good.congr (Y := fun f nd no => yieldRangeF hf wd data f l r ph isRoot nd no)
          (fun f nd no => by simp only [validateRecF, he, hl, hr, if_true]; rfl)
          (good_yieldRange ..)
      · rcases hld : ob.load hf fl (Node.subBs sh ob.tree.bs) with (_ | ⟨lh, rh⟩) | e | _
        · exact Good.congr (Y := vLoad (Node.subBs sh ob.tree.bs) (vPure .ok))
            (fun f nd no => by
              simp only [validateRecF, he, hl, hr, hld, vLoad, vPure]
              cases Fault.hits f .ob no <;> rfl)
            (good_load _ (good_pure _))
        · by_cases hm : (hf.parentCv lh rh isRoot != ph) = true
          · exact Good.congr (Y := vLoad (Node.subBs sh ob.tree.bs) (vPure .ok))
              (fun f nd no => by
                simp only [validateRecF, he, hl, hr, hld, hm, if_true, vLoad, vPure]
                cases Fault.hits f .ob no <;> rfl)
              (good_load _ (good_pure _))
          · rcases hsp : Ranges.splitNode rs (Node.subBs sh ob.tree.bs) with ⟨lr, rr⟩
            by_cases hleaf : Node.isLeaf sh = true
            · exact Good.congr (Y := vLoad (Node.subBs sh ob.tree.bs) (vThen
                  (fun f nd no => if (!lr.isEmpty) = true then
                    yieldRangeF hf wd data f l m lh false nd no else vPure .ok f nd no)
                  (fun f nd no => if (!rr.isEmpty) = true then
                    yieldRangeF hf wd data f m r rh false nd no else vPure .ok f nd no)))
                (fun f nd no => by
                  simp only [validateRecF, he, hl, hr, hld, hm, hsp, hleaf, if_true, 
                    vLoad, vPure, vThen]
                  cases Fault.hits f .ob no <;> rfl)
                (good_load _ (good_then (good_ite _ (good_yieldRange ..) (good_pure _))
                  (good_ite _ (good_yieldRange ..) (good_pure _))))
            · rcases hlc : Node.leftChild sh with _ | left
              · exact Good.congr (Y := vLoad (Node.subBs sh ob.tree.bs) (vPure .panic))
                  (fun f nd no => by
                    simp only [validateRecF, he, hl, hr, hld, hm, hsp, hleaf, hlc, 
                      vLoad, vPure]
                    cases Fault.hits f .ob no <;> rfl)
                  (good_load _ (good_pure _))
              · rcases hrd : Node.rightDescendant sh filled with _ | right
                · exact Good.congr (Y := vLoad (Node.subBs sh ob.tree.bs) (vPure .panic))
                    (fun f nd no => by
                      simp only [validateRecF, he, hl, hr, hld, hm, hsp, hleaf, hlc, hrd, 
                        vLoad, vPure]
                      cases Fault.hits f .ob no <;> rfl)
                    (good_load _ (good_pure _))
                · exact Good.congr (Y := vLoad (Node.subBs sh ob.tree.bs) (vThen
                      (fun f nd no => validateRecF hf fl wd ob data filled f fuel lh left false lr
                        nd no)
                      (fun f nd no => validateRecF hf fl wd ob data filled f fuel rh right false rr
                        nd no)))
                    (fun f nd no => by
                      simp only [validateRecF, he, hl, hr, hld, hm, hsp, hleaf, hlc, hrd, 
                        vLoad, vThen]
                      cases Fault.hits f .ob no <;> rfl)
                    (good_load _ (good_then (ih ..) (ih ..)))
        · exact Good.congr (Y := vLoad (Node.subBs sh ob.tree.bs) (vPure (.err e)))
            (fun f nd no => by
              simp only [validateRecF, he, hl, hr, hld, vLoad, vPure]
              cases Fault.hits f .ob no <;> rfl)
            (good_load _ (good_pure _))
        · exact Good.congr (Y := vLoad (Node.subBs sh ob.tree.bs) (vPure .panic))
            (fun f nd no => by
              simp only [validateRecF, he, hl, hr, hld, vLoad, vPure]
              cases Fault.hits f .ob no <;> rfl)
            (good_load _ (good_pure _))

theorem andThen_run (a : ValF H) (b : Nat → Nat → ValF H) :
    (a.andThen b).run = a.run.andThen fun _ => (b a.nd a.no).run := by
  unfold ValF.andThen ValRun.andThen
  cases a.run.terminal <;> rfl

theorem yieldRangeF_none_run (hf : HashFns H) [BEq H] (wd : Bool) (data : List UInt8)
    (s e : Nat) (h : H) (root : Bool) (nd no : Nat) :
    (yieldRangeF hf wd data none s e h root nd no).run =
      if wd then
        match yieldIfValid hf data s e h root with
        | .error err => ⟨[], .err err⟩
        | .ok ys => ⟨ys, .ok⟩
      else ⟨[(fullChunksOf s, chunksOf e)], .ok⟩ := by
  cases wd with
  | false => rfl
  | true =>
    simp only [yieldRangeF, if_true, hits_none]
    cases yieldIfValid hf data s e h root <;> rfl

theorem validateRecF_none_run (hf : HashFns H) [BEq H] (fl : Flavour) (wd : Bool) (ob : Store H)
    (data : List UInt8) (filled : Nat) :
    ∀ (fuel : Nat) (ph : H) (sh : Nat) (isRoot : Bool) (rs : Ranges) (nd no : Nat),
    (validateRecF hf fl wd ob data filled none fuel ph sh isRoot rs nd no).run =
      validateRec hf fl wd ob data filled fuel ph sh isRoot rs := by
  intro fuel ph sh isRoot rs nd no
  fun_induction validateRec hf fl wd ob data filled fuel ph sh isRoot rs generalizing nd no <;>
    simp_all +zetaDelta [validateRecF, hits_none, andThen_run, apply_ite ValF.run,
      yieldRangeF_none_run]
  all_goals rfl

def viewV (r : List (FEv H) × ValRun) : List (FEv H) × Unit × ValEnd := (r.1, (), r.2.terminal)

theorem validRanges_replay (hf : HashFns H) [BEq H] (fl : Flavour) (ob : Store H)
    (data : List UInt8) (q : Ranges) (fault : Option Fault) :
    viewV (validRangesF hf fl ob data q fault) =
      asm ValEnd.err (replay apU fault (validRangesF hf fl ob data q none).1 () 0 0 0 0 0)
        (validRangesF hf fl ob data q none).2.terminal := by
  by_cases hb : (ob.tree.blocks == 1) = true
  · simp only [validRangesF, hb, if_true, hits_none]
    cases readExactAt data 0 ob.tree.size with
    | error e =>
      simp only [viewV, replay_readAt, replay_nil]
      cases Fault.hits fault .data 0 <;> rfl
    | ok tmp =>
      simp only []
      by_cases hh : (hashSubtree hf 0 tmp true == ob.root) = true
      · simp only [hh, if_true, viewV, replay_readAt, replay_yield, replay_nil]
        cases Fault.hits fault .data 0 <;> rfl
      · simp only [hh, Bool.false_eq_true, if_false, viewV, replay_readAt, replay_nil]
        cases Fault.hits fault .data 0 <;> rfl
  · rcases hs : ob.tree.shifted with ⟨root, filled⟩
    simp only [validRangesF, hb, Bool.false_eq_true, if_false, hs]
    exact (validateRecF_good hf fl true ob data filled 65 ob.root root true
      (Ranges.truncate q ob.tree.size)).rep fault 0 0 0 0 0 ()

theorem validRanges_yields (hf : HashFns H) [BEq H] (fl : Flavour) (ob : Store H)
    (data : List UInt8) (q : Ranges) (fault : Option Fault) :
    (validRangesF hf fl ob data q fault).2.yields = yieldsOf (validRangesF hf fl ob data q fault).1 := by
  by_cases hb : (ob.tree.blocks == 1) = true
  · simp only [validRangesF, hb, if_true]
    cases Fault.hits fault .data 0 with
    | some e => rfl
    | none =>
      simp only []
      cases readExactAt data 0 ob.tree.size with
      | error e => rfl
      | ok tmp =>
        simp only []
        by_cases hh : (hashSubtree hf 0 tmp true == ob.root) = true
        · simp only [hh, if_true]; rfl
        · simp only [hh, Bool.false_eq_true, if_false]; rfl
  · rcases hs : ob.tree.shifted with ⟨root, filled⟩
    simp only [validRangesF, hb, Bool.false_eq_true, if_false, hs]
    exact (validateRecF_good hf fl true ob data filled 65 ob.root root true
      (Ranges.truncate q ob.tree.size)).yld fault 0 0

theorem validRangesF_none_run (hf : HashFns H) [BEq H] (fl : Flavour) (ob : Store H)
    (data : List UInt8) (q : Ranges) :
    (validRangesF hf fl ob data q none).2 = validRanges hf fl ob data q := by
  by_cases hb : (ob.tree.blocks == 1) = true
  · simp only [validRangesF, validRanges, hb, if_true, hits_none]
    cases readExactAt data 0 ob.tree.size with
    | error e => rfl
    | ok tmp =>
      simp only []
      by_cases hh : (hashSubtree hf 0 tmp true == ob.root) = true
      · simp only [hh, if_true]
      · simp only [hh, Bool.false_eq_true, if_false]
  · rcases hs : ob.tree.shifted with ⟨root, filled⟩
    simp only [validRangesF, validRanges, hb, Bool.false_eq_true, if_false, hs]
    exact validateRecF_none_run ..

theorem validOb_replay (hf : HashFns H) [BEq H] (fl : Flavour) (ob : Store H)
    (q : Ranges) (fault : Option Fault) :
    viewV (validOutboardRangesF hf fl ob q fault) =
      asm ValEnd.err (replay apU fault (validOutboardRangesF hf fl ob q none).1 () 0 0 0 0 0)
        (validOutboardRangesF hf fl ob q none).2.terminal := by
  by_cases hb : (ob.tree.blocks == 1) = true
  · simp only [validOutboardRangesF, hb, if_true]
    rfl
  · rcases hs : ob.tree.shifted with ⟨root, filled⟩
    simp only [validOutboardRangesF, hb, Bool.false_eq_true, if_false, hs]
    exact (validateRecF_good hf fl false ob [] filled 65 ob.root root true
      (Ranges.truncate q ob.tree.size)).rep fault 0 0 0 0 0 ()

theorem validOb_yields (hf : HashFns H) [BEq H] (fl : Flavour) (ob : Store H)
    (q : Ranges) (fault : Option Fault) :
    (validOutboardRangesF hf fl ob q fault).2.yields =
      yieldsOf (validOutboardRangesF hf fl ob q fault).1 := by
  by_cases hb : (ob.tree.blocks == 1) = true
  · simp only [validOutboardRangesF, hb, if_true]
    rfl
  · rcases hs : ob.tree.shifted with ⟨root, filled⟩
    simp only [validOutboardRangesF, hb, Bool.false_eq_true, if_false, hs]
    exact (validateRecF_good hf fl false ob [] filled 65 ob.root root true
      (Ranges.truncate q ob.tree.size)).yld fault 0 0

theorem validObF_none_run (hf : HashFns H) [BEq H] (fl : Flavour) (ob : Store H) (q : Ranges) :
    (validOutboardRangesF hf fl ob q none).2 = validOutboardRanges hf fl ob q := by
  by_cases hb : (ob.tree.blocks == 1) = true
  · simp only [validOutboardRangesF, validOutboardRanges, hb, if_true]
  · rcases hs : ob.tree.shifted with ⟨root, filled⟩
    simp only [validOutboardRangesF, validOutboardRanges, hb, Bool.false_eq_true, if_false, hs]
    exact validateRecF_none_run ..

theorem viewV_eq {r : List (FEv H) × ValRun} {a : List (FEv H)} {u : Unit} {t : ValEnd}
    (h : viewV r = (a, u, t)) (hy : r.2.yields = yieldsOf r.1) : r = (a, ⟨yieldsOf a, t⟩) := by
  obtain ⟨l, ⟨ys, tt⟩⟩ := r
  simp only [viewV, Prod.mk.injEq] at h
  obtain ⟨rfl, _, rfl⟩ := h
  simp only [] at hy
  rw [hy]

section obshape

variable (ap : σ → FEv H → σ) (st0 : σ) (F : Option Fault → List (FEv H) × ObRun H' σ)
  (hrep : ∀ fault, F fault = asmOb (replay ap fault (F none).1 st0 0 0 0 0 0) (F none).2.res)

include hrep

theorem ob_view (fault : Option Fault) :
    viewOb (F fault) = asm .err (replay ap fault (F none).1 st0 0 0 0 0 0) (F none).2.res :=
  congrArg viewOb (hrep fault)

theorem ob_sound : (F none).2.sink = (F none).1.foldl ap st0 :=
  gen_sound ap .err st0 (fun f => viewOb (F f)) (ob_view ap st0 F hrep)

theorem ob_cut (obj : FObj) (k : Nat) (kind : IoKind)
    (hk : k < ((F none).1.map FEv.obj).count (some obj)) :
    ∃ pre e post, (F none).1 = pre ++ e :: post ∧ e.obj = some obj ∧
      (pre.map FEv.obj).count (some obj) = k ∧
      F (some ⟨obj, k, kind⟩) = (pre ++ [e], ⟨.err ⟨kind, true⟩, pre.foldl ap st0⟩) := by
  rw [← ncalls_eq_count] at hk
  obtain ⟨pre, e, post, h1, h2, h3, h4⟩ :=
    gen_cut ap .err st0 (fun f => viewOb (F f)) (ob_view ap st0 F hrep) obj k kind hk
  exact ⟨pre, e, post, h1, h2, by rw [← ncalls_eq_count]; exact h3, viewOb_eq h4⟩

theorem ob_unreached (obj : FObj) (k : Nat) (kind : IoKind)
    (hk : ((F none).1.map FEv.obj).count (some obj) ≤ k) :
    F (some ⟨obj, k, kind⟩) = F none := by
  rw [← ncalls_eq_count] at hk
  exact viewOb_inj (gen_unreached ap .err st0 (fun f => viewOb (F f)) (ob_view ap st0 F hrep) obj k kind hk)

theorem ob_prefix (fault : Option Fault) :
    (F fault).1 <+: (F none).1 ∧
    ∃ pre rest, (F none).1 = pre ++ rest ∧ (F fault).2.sink = pre.foldl ap st0 ∧
      (F none).2.sink = rest.foldl ap (F fault).2.sink :=
  ⟨gen_log_prefix ap .err st0 (fun f => viewOb (F f)) (ob_view ap st0 F hrep) fault,
    gen_state_prefix ap .err st0 (fun f => viewOb (F f)) (ob_view ap st0 F hrep) fault⟩

theorem ob_never_ok (obj : FObj) (k : Nat) (kind : IoKind)
    (hk : k < ((F none).1.map FEv.obj).count (some obj)) :
    (F (some ⟨obj, k, kind⟩)).2.res = .err ⟨kind, true⟩ :=
  gen_terminal ap .err st0 (fun f => viewOb (F f)) (ob_view ap st0 F hrep) obj k kind
    (ncalls_eq_count obj _ ▸ hk)

theorem ob_no_panic (fault : Option Fault) (h : (F none).2.res ≠ .panic) :
    (F fault).2.res ≠ .panic := by
  rcases gen_terminal_cases ap .err st0 (fun f => viewOb (F f)) (ob_view ap st0 F hrep) fault with
    h' | ⟨_, h'⟩
  · exact fun hc => h (h'.symm.trans hc)
  · exact fun hc => by cases h'.symm.trans hc

end obshape

section valshape

variable (F : Option Fault → List (FEv H) × ValRun)
  (hrep : ∀ fault, viewV (F fault) =
    asm ValEnd.err (replay apU fault (F none).1 () 0 0 0 0 0) (F none).2.terminal)
  (hy : ∀ fault, (F fault).2.yields = yieldsOf (F fault).1)

include hrep hy

theorem val_cut (obj : FObj) (k : Nat) (kind : IoKind)
    (hk : k < ((F none).1.map FEv.obj).count (some obj)) :
    ∃ pre e post, (F none).1 = pre ++ e :: post ∧ e.obj = some obj ∧
      (pre.map FEv.obj).count (some obj) = k ∧
      F (some ⟨obj, k, kind⟩) = (pre ++ [e], ⟨yieldsOf pre, .err ⟨kind, true⟩⟩) := by
  rw [← ncalls_eq_count] at hk
  obtain ⟨pre, e, post, h1, h2, h3, h4⟩ :=
    gen_cut apU ValEnd.err () (fun f => viewV (F f)) hrep obj k kind hk
  refine ⟨pre, e, post, h1, h2, by rw [← ncalls_eq_count]; exact h3, ?_⟩
  have := viewV_eq h4 (hy _)
  rw [this, yieldsOf_append, yieldsOf_call h2, List.append_nil]

theorem val_unreached (obj : FObj) (k : Nat) (kind : IoKind)
    (hk : ((F none).1.map FEv.obj).count (some obj) ≤ k) :
    F (some ⟨obj, k, kind⟩) = F none := by
  rw [← ncalls_eq_count] at hk
  rw [viewV_eq (gen_unreached apU ValEnd.err () (fun f => viewV (F f)) hrep obj k kind hk) (hy _),
    ← viewV_eq (r := F none) rfl (hy _)]

theorem val_dichotomy (fault : Option Fault) :
    (∃ obj k kind pre e post, fault = some ⟨obj, k, kind⟩ ∧ (F none).1 = pre ++ e :: post ∧
      e.obj = some obj ∧ (pre.map FEv.obj).count (some obj) = k ∧
      F fault = (pre ++ [e], ⟨yieldsOf pre, .err ⟨kind, true⟩⟩)) ∨
    F fault = F none := by
  cases fault with
  | none => exact Or.inr rfl
  | some f =>
    obtain ⟨obj, k, kind⟩ := f
    by_cases hk : k < ((F none).1.map FEv.obj).count (some obj)
    · obtain ⟨pre, e, post, h1, h2, h3, h4⟩ := val_cut F hrep hy obj k kind hk
      exact Or.inl ⟨obj, k, kind, pre, e, post, rfl, h1, h2, h3, h4⟩
    · exact Or.inr (val_unreached F hrep hy obj k kind (Nat.le_of_not_lt hk))

theorem val_prefix (fault : Option Fault) :
    (F fault).1 <+: (F none).1 ∧ (F fault).2.yields <+: (F none).2.yields := by
  rcases val_dichotomy F hrep hy fault with ⟨_, _, _, pre, e, post, _, h1, _, _, h4⟩ | h
  · rw [h4, hy none, h1]
    refine ⟨⟨post, by simp⟩, ?_⟩
    rw [yieldsOf_append]
    exact List.prefix_append _ _
  · rw [h]; exact ⟨List.prefix_refl _, List.prefix_refl _⟩

theorem val_never_ok (obj : FObj) (k : Nat) (kind : IoKind)
    (hk : k < ((F none).1.map FEv.obj).count (some obj)) :
    (F (some ⟨obj, k, kind⟩)).2.terminal = .err ⟨kind, true⟩ := by
  obtain ⟨pre, e, post, _, _, _, h4⟩ := val_cut F hrep hy obj k kind hk
  rw [h4]

theorem val_no_panic (fault : Option Fault) (h : (F none).2.terminal ≠ .panic) :
    (F fault).2.terminal ≠ .panic := by
  rcases val_dichotomy F hrep hy fault with ⟨_, _, _, _, _, _, _, _, _, _, h4⟩ | h'
  · rw [h4]; intro hc; cases hc
  · rw [h']; exact h

end valshape

/-! ## the runs of the examples, evaluated together

On the test vector of `CallSplit` (`zeroHash`, `ones`, `zeroOb`): the runs the examples of
`Props/C10Ops.lean` speak about, `r` without a fault and `r'` with one.  The two runs of an operation are evaluated in one
statement, so that what they share (the plan, the reads) is evaluated once; each is stated for any
`r` equal to the run, so that it applies to the run however its arguments are spelt. -/

theorem obpo_runs (r r' : List (FEv Nat) × ObRun Nat (List UInt8))
    (h : r = outboardPostOrderF zeroHash ones ⟨1500, 0⟩ none)
    (h' : r' = outboardPostOrderF zeroHash ones ⟨1500, 0⟩ (some ⟨.w, 1, .other⟩)) :
    r.1 = [.read 1024, .read 476, .write (List.replicate 32 7), .write (List.replicate 32 7)] ∧
    r.2.res = .ok 0 ∧ r.2.sink = List.replicate 64 7 ∧
    r'.1.map FEv.obj = [some .data, some .data, some .w, some .w] ∧
    r'.2.res = .err ⟨.other, true⟩ ∧ r'.2.sink = List.replicate 32 7 := by
  rw [h, h']
  decide +kernel

theorem ob_runs (r r' : List (FEv Nat) × ObRun Nat (Store Nat))
    (h : r = outboardF zeroHash ones ⟨1500, 0⟩ zeroOb none)
    (h' : r' = outboardF zeroHash ones ⟨1500, 0⟩ zeroOb (some ⟨.ob, 0, .writeZero⟩)) :
    r.1 = [.read 1024, .read 476, .save .ob 0 0 0] ∧ r.2.res = .ok 0 ∧
    r.2.sink.data = List.replicate 64 7 ∧
    r'.1 = [.read 1024, .read 476, .save .ob 0 0 0] ∧ r'.2.res = .err ⟨.writeZero, true⟩ ∧
    r'.2.sink.data = List.replicate 64 0 := by
  rw [h, h']
  decide +kernel

theorem copy_run (r : List (FEv Nat) × ObRun Unit (Store Nat))
    (h : r = copyF zeroHash .sync zeroOb ⟨.postMem, 0, ⟨1500, 0⟩, List.replicate 64 0⟩ none) :
    r.1 = [.load .src 0, .save .dst 0 0 0] ∧ r.2.res = .ok () ∧
    r.2.sink.data = List.replicate 64 7 := by
  rw [h]
  decide +kernel

theorem valid_runs (r r' : List (FEv Nat) × ValRun)
    (h : r = validRangesF zeroHash .sync zeroOb ones [0] none)
    (h' : r' = validRangesF zeroHash .fsm zeroOb ones [0] (some ⟨.data, 1, .unexpectedEof⟩)) :
    r = ([.load .ob 0, .readAt 0 1024, .yield 0 1, .readAt 1024 476, .yield 1 2],
      ⟨[(0, 1), (1, 2)], .ok⟩) ∧
    r' = ([.load .ob 0, .readAt 0 1024, .yield 0 1, .readAt 1024 476],
      ⟨[(0, 1)], .err ⟨.unexpectedEof, true⟩⟩) := by
  rw [h, h']
  decide +kernel

end Bao.OpsFaultL
