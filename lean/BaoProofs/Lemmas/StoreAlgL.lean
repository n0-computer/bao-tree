import BaoProofs.Lemmas.CopyL

/-!
# Helper lemmas for the store algebra (`BaoProofs/Props/C12Store.lean`)

* `writeAt` algebra: writing the same bytes twice is writing once; 64-byte writes to different slots
  commute (also on a short backing that gets zero-extended).
* `Store.save` / `Store.load` in terms of `slot`, `writeAt`, `blockAt`: one equation per kind and case.
* the persisted list of a store (`persisted`, for the four persisting kinds the layout list
  `CopyL.plist`), its slots (`slot_persisted_getElem`, `slot_of_mem`, `slot_ne_of_mem`) and the
  nodes of the tree (`InTree`, through the model's own `Tree.preOrderNodesIter`; `mem_iter_iff`,
  `halfLeaf_not_relevant`).
* `save_idem`, `not_panic_io`, `slot_some_of_persisted`, `slot_none_of`.
-/

namespace Bao.C12Store
open Bao Bao.Spec Bao.Offsets Bao.NodeIterL Bao.WriteAtL Bao.OutboardL

variable {H : Type}

theorem writeAt_writeAt_self (data : List UInt8) (off : Nat) (b : List UInt8) :
    writeAt (writeAt data off b) off b = writeAt data off b := by
  apply List.ext_getElem?
  intro i
  rw [getElem?_writeAt, length_writeAt, getElem?_writeAt]
  by_cases h1 : i < off
  · rw [if_pos h1, if_pos h1, if_pos (Nat.lt_of_lt_of_le (Nat.lt_add_right _ h1)
      (Nat.le_max_right _ _))]
  · rw [if_neg h1, if_neg h1]
    by_cases h2 : i < off + b.length
    · simp only [if_pos h2]
    · simp only [if_neg h2]

theorem writeAt_comm_of_le (data : List UInt8) {o₁ o₂ : Nat} (b₁ b₂ : List UInt8)
    (hs : o₁ + b₁.length ≤ o₂) :
    writeAt (writeAt data o₂ b₂) o₁ b₁ = writeAt (writeAt data o₁ b₁) o₂ b₂ := by
  apply List.ext_getElem?
  intro i
  simp only [getElem?_writeAt, length_writeAt]
  -- below the first range, inside it, between the two, from the second on
  by_cases h1 : i < o₁
  · have h2 : i < o₂ := Nat.lt_of_lt_of_le (Nat.lt_add_right _ h1) hs
    have h3 : i < max data.length (o₂ + b₂.length) :=
      Nat.lt_of_lt_of_le (Nat.lt_add_right _ h2) (Nat.le_max_right _ _)
    have h4 : i < max data.length (o₁ + b₁.length) :=
      Nat.lt_of_lt_of_le (Nat.lt_add_right _ h1) (Nat.le_max_right _ _)
    simp only [h1, h2, h3, h4, if_true]
  · by_cases h2 : i < o₁ + b₁.length
    · have h3 : i < o₂ := Nat.lt_of_lt_of_le h2 hs
      have h4 : i < max data.length (o₁ + b₁.length) :=
        Nat.lt_of_lt_of_le h2 (Nat.le_max_right _ _)
      simp only [h1, h2, h3, h4, if_true, if_false]
    · by_cases h3 : i < o₂
      · have h4 : (i < max data.length (o₁ + b₁.length)) ↔ i < data.length := by omega
        simp only [h1, h2, h3, h4, if_true, if_false]
      · simp only [h1, h2, h3, if_false]

theorem writeAt_comm (data : List UInt8) (j k : Nat) (b c : List UInt8)
    (hb : b.length = 64) (hc : c.length = 64) (hjk : j ≠ k) :
    writeAt (writeAt data (k * 64) b) (j * 64) c = writeAt (writeAt data (j * 64) c) (k * 64) b := by
  rcases Nat.lt_or_gt_of_ne hjk with h | h
  · exact writeAt_comm_of_le data c b (hc ▸ slot_add_le h (Nat.le_refl _))
  · exact (writeAt_comm_of_le data b c (hb ▸ slot_add_le h (Nat.le_refl _))).symm

theorem writeAt_slot (data : List UInt8) (k : Nat) (b : List UInt8) (hb : b.length = 64)
    (h : k * 64 + 64 ≤ data.length) :
    writeAt data (k * 64) b = data.take (k * 64) ++ b ++ data.drop (k * 64 + 64) := by
  rw [writeAt_of_le _ (Nat.le_trans (Nat.le_add_right _ _) h), hb]

theorem kind_cases' (s : Store H) :
    (s.kind = .preIo ∨ s.kind = .postIo) ∨ (s.kind = .preMem ∨ s.kind = .postMem) ∨
      s.kind = .empty := by
  cases s.kind <;> simp

theorem save_some (hf : HashFns H) {s : Store H} (hk : s.kind ≠ .empty) {n k : Nat}
    (hsl : s.slot n = some k) (hin : k * 64 + 64 ≤ s.data.length) (p : H × H) :
    s.save hf n p
      = .ok { s with data := writeAt s.data (k * 64) (hf.toBytes p.1 ++ hf.toBytes p.2) } := by
  rcases kind_cases' s with h | h | h
  · exact save_io hf h hsl p
  · exact save_mem hf h hsl hin p
  · exact absurd h hk

theorem load_some (hf : HashFns H) (fl : Flavour) {s : Store H} (hk : s.kind ≠ .empty) {n k : Nat}
    (hsl : s.slot n = some k) (hin : k * 64 + 64 ≤ s.data.length) :
    s.load hf fl n = .ok (some (parsePair hf (blockAt s.data k))) :=
  load_slot hf fl s hk hsl hin

theorem load_writeAt (hf : HashFns H) (hlen : ∀ h, (hf.toBytes h).length = 32)
    (hrt : ∀ h, hf.ofBytes (hf.toBytes h) = h) (fl : Flavour) (s : Store H)
    (hk : s.kind ≠ .empty) {n k : Nat} (hsl : s.slot n = some k) (p : H × H) :
    ({ s with data := writeAt s.data (k * 64) (hf.toBytes p.1 ++ hf.toBytes p.2) } : Store H).load
      hf fl n = .ok (some p) := by
  have hb := pair_bytes_length hf hlen p
  rw [load_some hf fl
      (s := { s with data := writeAt s.data (k * 64) (hf.toBytes p.1 ++ hf.toBytes p.2) }) hk hsl
      (by rw [length_writeAt, hb]; exact Nat.le_max_right _ _),
    blockAt_writeAt_self _ _ _ hb, parsePair_bytes hf hlen hrt]

theorem save_io_none (hf : HashFns H) {s : Store H} (hk : s.kind = .preIo ∨ s.kind = .postIo)
    {n : Nat} (hsl : s.slot n = none) (p : H × H) : s.save hf n p = .ok s := by
  unfold Store.save
  rcases hk with h | h <;> simp only [h, hsl]

theorem save_mem_none (hf : HashFns H) {s : Store H} (hk : s.kind = .preMem ∨ s.kind = .postMem)
    {n : Nat} (hsl : s.slot n = none) (p : H × H) :
    s.save hf n p = .err ⟨.invalidInput, false⟩ := by
  unfold Store.save
  rcases hk with h | h <;> simp only [h, hsl]

theorem save_mem_panic (hf : HashFns H) {s : Store H} (hk : s.kind = .preMem ∨ s.kind = .postMem)
    {n k : Nat} (hsl : s.slot n = some k) (hout : ¬ k * 64 + 64 ≤ s.data.length) (p : H × H) :
    s.save hf n p = .panic := by
  unfold Store.save
  rcases hk with h | h <;> simp only [h, hsl, if_neg hout]

theorem slot_empty {s : Store H} (hk : s.kind = .empty) (n : Nat) :
    s.slot n = if s.tree.isRelevant n then some 0 else none := by
  unfold Store.slot
  simp only [hk]

theorem load_empty (hf : HashFns H) (fl : Flavour) {s : Store H} (hk : s.kind = .empty) (n : Nat) :
    s.load hf fl n = .ok (if s.tree.isRelevant n then
      some (hf.ofBytes zeros32, hf.ofBytes zeros32) else none) := by
  unfold Store.load
  simp only [hk]

theorem save_empty_of_not_relevant (hf : HashFns H) {s : Store H} (hk : s.kind = .empty) {n : Nat}
    (hrel : s.tree.isRelevant n = false) (p : H × H) :
    s.save hf n p = .err ⟨.invalidInput, false⟩ := by
  unfold Store.save
  simp only [hk, hrel]
  rfl

theorem save_empty_eq (hf : HashFns H) {s s' : Store H} (hk : s.kind = .empty) {n : Nat}
    {p : H × H} (hsv : s.save hf n p = .ok s') : s' = s := by
  unfold Store.save at hsv
  simp only [hk] at hsv
  split at hsv
  · injection hsv with hsv
    exact hsv.symm
  · cases hsv

theorem load_congr (hf : HashFns H) (fl : Flavour) {s s' : Store H} (m : Nat)
    (hkind : s'.kind = s.kind) (htree : s'.tree = s.tree)
    (hin : ∀ j, s.slot m = some j → (j * 64 + 64 ≤ s'.data.length ↔ j * 64 + 64 ≤ s.data.length))
    (hblock : ∀ j, s.slot m = some j → j * 64 + 64 ≤ s.data.length →
      blockAt s'.data j = blockAt s.data j) :
    s'.load hf fl m = s.load hf fl m := by
  have hslot : s'.slot m = s.slot m := by unfold Store.slot; rw [hkind, htree]
  unfold Store.load
  rw [hkind, htree, hslot]
  cases hsl : s.slot m with
  | none => rfl
  | some j =>
    have h1 := hin j hsl
    have h2 := hblock j hsl
    unfold blockAt at h2
    by_cases hj : j * 64 + 64 ≤ s.data.length
    · have hj' := h1.2 hj
      simp only [if_pos hj, if_pos hj', h2 hj]
    · have hj' : ¬ j * 64 + 64 ≤ s'.data.length := fun h => hj (h1.1 h)
      simp only [if_neg hj, if_neg hj']

/-- the list of persisted nodes in the order of the store's kind (pre-order for `PreOrderOutboard`
/ `PreOrderMemOutboard`, post-order for `PostOrderOutboard` / `PostOrderMemOutboard`; the
`EmptyOutboard` persists nothing) -/
def persisted (s : Store H) : List Nat :=
  match s.kind with
  | .preIo | .preMem => Spec.persistedPre s.tree.size s.tree.bs
  | .postIo | .postMem => Spec.persistedPost s.tree.size s.tree.bs
  | .empty => []

theorem persisted_pre {s : Store H} (hk : s.kind = .preIo ∨ s.kind = .preMem) :
    persisted s = Spec.persistedPre s.tree.size s.tree.bs := by
  unfold persisted
  rcases hk with h | h <;> simp only [h]

theorem persisted_post {s : Store H} (hk : s.kind = .postIo ∨ s.kind = .postMem) :
    persisted s = Spec.persistedPost s.tree.size s.tree.bs := by
  unfold persisted
  rcases hk with h | h <;> simp only [h]

theorem persisted_empty {s : Store H} (hk : s.kind = .empty) : persisted s = [] := by
  unfold persisted
  simp only [hk]

theorem ne_empty_of_mem {s : Store H} {n : Nat} (hn : n ∈ persisted s) : s.kind ≠ .empty := by
  intro h
  rw [persisted_empty h] at hn
  cases hn

theorem persisted_congr {s s' : Store H} (hk : s'.kind = s.kind) (ht : s'.tree = s.tree) :
    persisted s' = persisted s := by
  unfold persisted
  rw [hk, ht]

theorem persisted_eq_plist (s : Store H) (hk : s.kind ≠ .empty) :
    persisted s = CopyL.plist s.kind s.tree.size s.tree.bs := by
  unfold persisted CopyL.plist
  cases hkd : s.kind with
  | empty => exact absurd hkd hk
  | _ => rfl

theorem persisted_length (s : Store H) (hk : s.kind ≠ .empty) (hs : s.tree.size ≤ 2 ^ 63)
    (hbs : s.tree.bs ≤ 10) : (persisted s).length = s.tree.blocks - 1 := by
  rw [persisted_eq_plist s hk]
  exact CopyL.plist_length _ _ _ hs hbs

theorem slot_persisted_getElem (s : Store H) (hs : s.tree.size ≤ 2 ^ 63) (hbs : s.tree.bs ≤ 10)
    (i : Nat) (hi : i < (persisted s).length) : s.slot (persisted s)[i] = some i := by
  have hk := ne_empty_of_mem (List.getElem_mem hi)
  simp only [persisted_eq_plist s hk] at hi ⊢
  exact CopyL.slot_plist s hk _ _ hs hbs rfl i hi

theorem slot_of_mem (s : Store H) (hs : s.tree.size ≤ 2 ^ 63) (hbs : s.tree.bs ≤ 10) {n : Nat}
    (hn : n ∈ persisted s) :
    ∃ i, ∃ h : i < (persisted s).length, (persisted s)[i] = n ∧ s.slot n = some i ∧
      i < s.tree.blocks - 1 := by
  obtain ⟨i, hi, rfl⟩ := List.getElem_of_mem hn
  exact ⟨i, hi, rfl, slot_persisted_getElem s hs hbs i hi,
    persisted_length s (ne_empty_of_mem hn) hs hbs ▸ hi⟩

theorem slot_ne_of_mem (s : Store H) (hs : s.tree.size ≤ 2 ^ 63) (hbs : s.tree.bs ≤ 10) {n m : Nat}
    (hn : n ∈ persisted s) (hm : m ∈ persisted s) (hne : n ≠ m) : s.slot m ≠ s.slot n := by
  obtain ⟨i, hi, rfl, hsi, -⟩ := slot_of_mem s hs hbs hn
  obtain ⟨j, hj, rfl, hsj, -⟩ := slot_of_mem s hs hbs hm
  rw [hsi, hsj]
  intro h
  cases h
  exact hne rfl

theorem mem_persisted_iff (s : Store H) (hk : s.kind ≠ .empty) (hs : s.tree.size ≤ 2 ^ 63) (x : Nat) :
    x ∈ persisted s ↔ x ∈ Spec.persistedPre s.tree.size s.tree.bs := by
  rw [persisted_eq_plist s hk]
  exact (CopyL.plist_perm _ _ _ hs).mem_iff

theorem slot_inside {s : Store H} (hdl : s.data.length = s.tree.outboardSize) {k : Nat}
    (hkb : k < s.tree.blocks - 1) : k * 64 + 64 ≤ s.data.length :=
  slot_add_le hkb (Nat.le_of_eq hdl.symm)

theorem save_persisted (hf : HashFns H) {s s' : Store H}
    (hdl : s.data.length = s.tree.outboardSize) (hs : s.tree.size ≤ 2 ^ 63) (hbs : s.tree.bs ≤ 10)
    {i : Nat} (hi : i < (persisted s).length) {p : H × H}
    (hsv : s.save hf (persisted s)[i] p = .ok s') :
    i * 64 + 64 ≤ s.data.length ∧
      s' = { s with data := writeAt s.data (i * 64) (hf.toBytes p.1 ++ hf.toBytes p.2) } := by
  have hk : s.kind ≠ .empty := by
    intro h
    rw [persisted_empty h] at hi
    exact absurd hi (Nat.not_lt_zero _)
  have hin := slot_inside hdl (persisted_length s hk hs hbs ▸ hi)
  rw [save_some hf hk (slot_persisted_getElem s hs hbs i hi) hin p] at hsv
  cases hsv
  exact ⟨hin, rfl⟩

/-- the half-filled last leaf of an odd number of chunk groups -/
def halfLeafNode (t : Tree) : Nat := Node.subBs (t.blocks - 1) t.bs

/-- `x` is a node of the tree: a node below the block level, or one of the nodes that
`BaoTree::pre_order_nodes_iter` visits (the same set as `post_order_nodes_iter`) -/
def InTree (t : Tree) (x : Nat) : Prop := Node.level x < t.bs ∨ x ∈ t.preOrderNodesIter

theorem mem_iter_iff (t : Tree) (hs : t.size ≤ 2 ^ 63) (hbs : t.bs ≤ 10) (x : Nat) :
    x ∈ t.preOrderNodesIter ↔
      x ∈ Spec.persistedPre t.size t.bs ∨ (t.blocks % 2 = 1 ∧ x = halfLeafNode t) := by
  have e := preIter_eq t.size t.bs hs hbs
  have e' : t.preOrderNodesIter = persistedPre t.size t.bs ++ halfLeaf t := e
  rw [e', List.mem_append]
  unfold halfLeaf halfLeafNode
  by_cases hodd : t.blocks % 2 = 1
  · simp only [hodd, if_true, List.mem_singleton, true_and]
  · simp only [hodd, if_false, List.not_mem_nil, false_and]

theorem halfLeaf_not_relevant (t : Tree) (hs : t.size ≤ 2 ^ 63) (hbs : t.bs ≤ 10)
    (hodd : t.blocks % 2 = 1) : t.isRelevant (halfLeafNode t) = false := by
  obtain ⟨e, hge⟩ := half_leaf_facts t.size t.bs hs hbs
  have e' : halfLeafNode t = up t.bs (t.blocks - 1) := e
  obtain ⟨q, hq⟩ : ∃ q, t.blocks - 1 = 2 * q := ⟨(t.blocks - 1) / 2, by omega⟩
  have hlev : Node.level (halfLeafNode t) = t.bs := by
    rw [e', hq, ← nodeOf_zero, up_nodeOf, Nat.zero_add]
    exact C18.level_nodeOf (Nat.le_trans hbs (by decide))
  rw [isRelevant_of_level_eq hlev, e', up_succ]
  exact decide_eq_false (Nat.not_lt.2 hge)

theorem save_idem (hf : HashFns H) (s s' : Store H) (n : Nat) (p : H × H)
    (hsv : s.save hf n p = .ok s') : s'.save hf n p = .ok s' := by
  rcases kind_cases' s with hk | hk | hk
  · cases hsl : s.slot n with
    | none =>
      rw [save_io_none hf hk hsl p] at hsv
      cases hsv
      exact save_io_none hf hk hsl p
    | some k =>
      rw [save_io hf hk hsl p] at hsv
      cases hsv
      rw [save_io hf
        (ob := { s with data := writeAt s.data (k * 64) (hf.toBytes p.1 ++ hf.toBytes p.2) })
        hk hsl p, writeAt_writeAt_self]
  · cases hsl : s.slot n with
    | none => rw [save_mem_none hf hk hsl p] at hsv; cases hsv
    | some k =>
      by_cases hin : k * 64 + 64 ≤ s.data.length
      · rw [save_mem hf hk hsl hin p] at hsv
        cases hsv
        rw [save_mem hf
          (ob := { s with data := writeAt s.data (k * 64) (hf.toBytes p.1 ++ hf.toBytes p.2) })
          hk hsl (by rw [length_writeAt]; exact Nat.le_trans hin (Nat.le_max_left _ _)) p,
          writeAt_writeAt_self]
      · rw [save_mem_panic hf hk hsl hin p] at hsv; cases hsv
  · cases save_empty_eq hf hk hsv
    exact hsv

theorem not_panic_io (hf : HashFns H) (fl : Flavour) (s : Store H)
    (hk : s.kind ≠ .preMem ∧ s.kind ≠ .postMem) (x : Nat) (p : H × H) :
    s.load hf fl x ≠ .panic ∧ s.save hf x p ≠ .panic := by
  constructor
  · unfold Store.load
    cases hkd : s.kind with
    | preMem => exact absurd hkd hk.1
    | postMem => exact absurd hkd hk.2
    | empty => exact nofun
    | preIo | postIo =>
      simp only
      split
      · exact nofun
      · split
        · exact nofun
        · cases fl <;> exact nofun
  · unfold Store.save
    cases hkd : s.kind with
    | preMem => exact absurd hkd hk.1
    | postMem => exact absurd hkd hk.2
    | empty | preIo | postIo => simp only; split <;> exact nofun

theorem slot_some_of_persisted (s : Store H) (hs : s.tree.size ≤ 2 ^ 63) (hbs : s.tree.bs ≤ 10)
    (x : Nat) (hx : x ∈ Spec.persistedPre s.tree.size s.tree.bs) : ∃ k, s.slot x = some k := by
  by_cases hk : s.kind = .empty
  · have hx' := (persistedPost_perm s.tree.size s.tree.bs hs).mem_iff.2 hx
    have hrel : s.tree.isRelevant x = true := isRelevant_persisted hs hx'
    exact ⟨0, by rw [slot_empty hk, if_pos hrel]⟩
  · obtain ⟨i, -, -, hsl, -⟩ := slot_of_mem s hs hbs ((mem_persisted_iff s hk hs x).2 hx)
    exact ⟨i, hsl⟩

theorem slot_none_of (s : Store H) (hs : s.tree.size ≤ 2 ^ 63) (hbs : s.tree.bs ≤ 10) (x : Nat) :
    (Node.level x < s.tree.bs ∨
      (s.tree.blocks % 2 = 1 ∧ x = Node.subBs (s.tree.blocks - 1) s.tree.bs)) → s.slot x = none := by
  intro h
  by_cases hk : s.kind = .empty
  · have hrel : s.tree.isRelevant x = false := by
      rcases h with h | ⟨h, rfl⟩
      · exact isRelevant_of_level_lt h
      · exact halfLeaf_not_relevant s.tree hs hbs h
    rw [slot_empty hk, hrel]
    rfl
  · exact slot_unstored s.tree.size s.tree.bs hs hbs s rfl hk x h

end Bao.C12Store
