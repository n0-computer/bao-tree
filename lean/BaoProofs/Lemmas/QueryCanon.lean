import BaoProofs.Lemmas.PlanPreTop

/-!
# Canonical sub-queries

The response plan decides "this subtree is one leaf" by `is_all` on the sub-query (`rs == [0]`),
the specification by "every chunk of the interval is selected".  The two agree because the query
was canonicalised by `truncate_ranges` and `split_inner` re-normalises one-boundary halves.
`QInv` collects the invariants of the sub-query `rs` handed to a node with chunk interval `[s, e)`:

* `WF`, `Tight` (all boundaries but the first lie behind `s`), `Bounded` (the node reaches the end
  of the blob or all boundaries lie in front of `e`) — from `Lemmas/PlanPreCover.lean`;
* `Norm`: a one-boundary sub-query `[x]` has `x = 0` or `x > s`;
* `Canon`: every closing boundary is at most the last chunk, and strictly below it unless it is the
  last boundary (what `truncate_ranges` establishes).

`QInv.all_of_selected`: under `QInv`, if every chunk of `[s, min e N)` is selected then `rs = [0]`
(the converse of `C14.splitInner_left_all`, left OPEN there).
-/

namespace Bao.DecodeSpec
open Bao Bao.Spec Bao.PlanPre Bao.Ranges

theorem anySel_eq_true_iff (sel : Nat → Bool) (a b : Nat) :
    anySel sel a b = true ↔ ∃ c, a ≤ c ∧ c < b ∧ sel c = true :=
  any_range_sub_iff sel a b

theorem anySel_eq_false_iff (sel : Nat → Bool) (a b : Nat) :
    anySel sel a b = false ↔ ∀ c, a ≤ c → c < b → sel c = false := by
  rw [← Bool.not_eq_true, anySel_eq_true_iff]
  constructor
  · intro h c h1 h2
    cases hc : sel c
    · rfl
    · exact absurd ⟨c, h1, h2, hc⟩ h
  · rintro h ⟨c, h1, h2, h3⟩
    rw [h c h1 h2] at h3; cases h3

theorem allSel_eq_true_iff (sel : Nat → Bool) (a b : Nat) :
    allSel sel a b = true ↔ ∀ c, a ≤ c → c < b → sel c = true :=
  all_range_sub_iff sel a b

/-- closing boundaries (odd positions) are at most the last chunk `n - 1`, and strictly below it
unless they are the last boundary -/
def Canon (n : Nat) (rs : Ranges) : Prop :=
  ∀ i b, i % 2 = 1 → rs[i]? = some b → b ≤ n - 1 ∧ (i + 1 < rs.length → b < n - 1)

theorem Canon.take {n : Nat} {rs : Ranges} (h : Canon n rs) (k : Nat) : Canon n (rs.take k) := by
  intro i b hi hb
  rw [List.getElem?_take] at hb
  split at hb
  · have := h i b hi hb
    exact ⟨this.1, fun hlt => this.2 (by rw [List.length_take] at hlt; omega)⟩
  · cases hb

theorem Canon.drop {n : Nat} {rs : Ranges} (h : Canon n rs) (j : Nat) (hj : j % 2 = 0) :
    Canon n (rs.drop j) := by
  intro i b hi hb
  rw [List.getElem?_drop] at hb
  have := h (j + i) b (by omega) hb
  refine ⟨this.1, fun hlt => this.2 ?_⟩
  rw [List.length_drop] at hlt
  exact (Nat.lt_sub_iff_add_lt' (a := i + 1) (b := j)).1 hlt

theorem Canon.fixAll {n : Nat} {l : Ranges} (h : Canon n l) (s : Nat) : Canon n (fixAll l s) := by
  unfold Ranges.fixAll
  split
  · split
    · intro i b hi hb
      cases i with
      | zero => omega
      | succ i => simp at hb
    · exact h
  · exact h

theorem Canon.splitInner {n : Nat} {q : Ranges} (hwf : WF q = true) (h : Canon n q) (s m : Nat) :
    Canon n (splitInner q s m).1 ∧ Canon n (splitInner q s m).2 := by
  obtain ⟨j, e, hj, -⟩ := split_snd_drop hwf m
  rw [splitInner_eq]
  exact ⟨Canon.fixAll (by rw [split_fst]; exact h.take _) s,
    Canon.fixAll (by rw [e]; exact h.drop j hj) m⟩

theorem canon_truncate {q : Ranges} (hwf : WF q = true) (size : Nat) :
    Canon (nChunks size) (truncate q size) := by
  intro i b hi hb
  have hlt : i < (truncate q size).length := by
    rcases Nat.lt_or_ge i (truncate q size).length with h | h
    · exact h
    · rw [List.getElem?_eq_none h] at hb; cases hb
  by_cases hlast : i + 1 < (truncate q size).length
  · have hm : b ∈ (truncate q size).dropLast := by
      rw [List.dropLast_eq_take, List.mem_iff_getElem?]
      exact ⟨i, by rw [List.getElem?_take, if_pos (by omega)]; exact hb⟩
    have := C14.truncate_bounded q size b hm
    exact ⟨by omega, fun _ => this⟩
  · have hev : (truncate q size).length % 2 = 0 := by omega
    have hm : b ∈ truncate q size := List.mem_iff_getElem?.2 ⟨i, hb⟩
    exact ⟨C14.truncate_bounded_closed size hwf hev b hm, fun h => absurd h hlast⟩

/-- a one-boundary sub-query of a node starting at `s` is `[0]` or starts behind `s` -/
def Norm (rs : Ranges) (s : Nat) : Prop := ∀ x, rs = [x] → x = 0 ∨ s < x

theorem norm_fixAll (l : Ranges) (s : Nat) : Norm (fixAll l s) s := by
  unfold Ranges.fixAll
  split
  · rename_i x
    split
    · intro y hy; simp only [List.cons.injEq, and_true] at hy; exact Or.inl hy.symm
    · intro y hy; simp only [List.cons.injEq, and_true] at hy; subst hy; right; omega
  · rename_i hns
    intro y hy
    exact absurd hy (hns y)

/-- `wf`, `tight`, `bounded` make a non-empty sub-query select a chunk of `[s, e)` (`QInv.witness`);
`norm` and `canon` make "selects everything" mean `[0]` (`QInv.all_of_selected`) -/
structure QInv (size : Nat) (rs : Ranges) (s e : Nat) : Prop where
  wf : WF rs = true
  tight : Tight rs s
  bounded : Bounded size rs e
  norm : Norm rs s
  canon : Canon (nChunks size) rs

theorem QInv.root {q : Ranges} (hwf : WF q = true) (size : Nat) {e : Nat}
    (he : nChunks size ≤ e) : QInv size (truncate q size) 0 e :=
  ⟨C14.truncate_wf size hwf, tight_zero (C14.truncate_wf size hwf), Or.inl he,
   fun x _ => by omega, canon_truncate hwf size⟩

theorem QInv.skip {size : Nat} {rs : Ranges} {s e m : Nat} (h : QInv size rs s e)
    (hm : nChunks size ≤ m) : QInv size rs s m :=
  ⟨h.wf, h.tight, Or.inl hm, h.norm, h.canon⟩

theorem QInv.left {size : Nat} {rs : Ranges} {s e : Nat} (h : QInv size rs s e) {m : Nat}
    (hm : 0 < m) : QInv size (splitInner rs s m).1 s m :=
  ⟨(C14.splitInner_wf s m h.wf).1, tight_left m h.tight, Or.inr (left_lt_mid rs s hm),
   by rw [splitInner_eq]; exact norm_fixAll _ _, (h.canon.splitInner h.wf s m).1⟩

theorem QInv.right {size : Nat} {rs : Ranges} {s e : Nat} (h : QInv size rs s e) {m : Nat}
    (he : 0 < e) : QInv size (splitInner rs s m).2 m e :=
  ⟨(C14.splitInner_wf s m h.wf).2, tight_right h.wf s m, bounded_right h.wf s m he h.bounded,
   by rw [splitInner_eq]; exact norm_fixAll _ _, (h.canon.splitInner h.wf s m).2⟩

theorem QInv.witness {size : Nat} {rs : Ranges} {s e : Nat} (h : QInv size rs s e) (hne : rs ≠ [])
    (hse : s < e) (hsN : s < nChunks size) :
    ∃ c, s ≤ c ∧ c < min e (nChunks size) ∧ Spec.selected size rs c = true :=
  leaf_witness h.wf hne h.tight h.bounded hse hsN

/-- **"all selected" is `is_all`**: a canonical sub-query that selects every chunk of its node
(whose first chunk is not the last chunk of the blob) is `[0]` -/
theorem QInv.all_of_selected {size : Nat} {rs : Ranges} {s e : Nat} (h : QInv size rs s e)
    (hs : s + 1 < nChunks size) (hse : s < e)
    (hall : ∀ c, s ≤ c → c < min e (nChunks size) → Spec.selected size rs c = true) :
    rs = [0] := by
  have hsel := hall s (Nat.le_refl _) (by omega)
  rw [selected_eq_reachesPast] at hsel
  have hs2 : (s == nChunks size - 1) = false := by simp; omega
  simp only [hs2, Bool.false_and, Bool.or_false, Bool.and_eq_true, decide_eq_true_eq] at hsel
  have hcont := hsel.2
  cases rs with
  | nil => rw [contains_nil] at hcont; cases hcont
  | cons a t =>
    cases t with
    | nil =>
      rw [contains_singleton] at hcont
      simp only [decide_eq_true_eq] at hcont
      rcases h.norm a rfl with h0 | h0
      · rw [h0]
      · omega
    | cons b t' =>
      exfalso
      have hwf := h.wf
      have hab := (WF_cons_cons.1 hwf).1
      have hsb : s < b := h.tight b (by simp)
      have hcan := h.canon 1 b (by omega) (by simp)
      have hbe : b < e ∨ nChunks size ≤ e := by
        rcases h.bounded with hb | hb
        · exact Or.inr hb
        · exact Or.inl (hb b (by simp))
      have hn := Ranges.nChunks_pos size
      have hselb := hall b (by omega) (by omega)
      rw [selected_eq_reachesPast, contains_cons_cons hwf] at hselb
      have ht' : contains t' b = false := by
        rw [contains_eq (WF_tail (WF_tail hwf)),
          countLe_eq_zero_of_forall_gt (WF_head_lt (WF_tail hwf))]
        rfl
      have hbb : (decide (a ≤ b) && decide (b < b)) = false := by simp
      rw [ht', hbb] at hselb
      simp only [Bool.or_self, Bool.false_or, Bool.and_eq_true, decide_eq_true_eq,
        beq_iff_eq] at hselb
      obtain ⟨-, hbn, hreach⟩ := hselb
      have hlen : ¬ (1 + 1 < (a :: b :: t').length) := fun hl => by
        have := hcan.2 hl; omega
      cases t' with
      | cons c t'' => simp only [List.length_cons] at hlen; omega
      | nil =>
        simp only [reachesPast, Bool.or_false, decide_eq_true_eq] at hreach
        omega

end Bao.DecodeSpec
