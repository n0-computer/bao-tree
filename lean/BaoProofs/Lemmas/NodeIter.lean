import BaoModel.Iter
import BaoProofs.Lemmas.Offsets

/-!
# The node iterators (`PostOrderNodeIter`, `PreOrderNodeIter`) equal the tree recursion

The shifted tree of `(size, bs)` is *dense*: its nodes are exactly the ids `0 … F-1`
(`F = Tree.shifted.2`, odd).  `Offsets.postD F L k` / `Offsets.preD F L k` are the recursive
post- and pre-order lists of the ids `< F` in the complete subtree `(k, L)` (a node `≥ F` is replaced
by its left child).

* part 0: running a step function (`run_step`, `upState`).
* part 1: exact descriptions of `descendLeft` (`dl`, `descendLeft_dl`) and of
  `restrictedParent` along the left spine (`climb`), for a dense tree.
* part 2: `Walk.run`: a three-state machine (`Walk`: what `postStep` and `preStep` share) started at
  `(x, Prev.parent)` emits the recursive list of the subtree of `x`, uses exactly `cost` turns of the
  loop, and arrives at `goUp x`.  `postOrderNodes_eq`, `preOrderNodes_eq`: whole tree.
* part 3: dense lists for different bounds (`preD_succ`, `postD_filter`), the root
  (`shifted_root`), and the iterators of a `Tree` (`preIter_eq`, `postIter_filter`, `postIter_exact`).
* part 4: the post-order chunk plan (`planD`), its leaves, parents, root flag, stack run.
-/

namespace Bao.NodeIterL
open Bao Bao.Spec Bao.Bits Bao.Offsets

/-! ## part 0: running a step function -/

theorem run_step {step : NodeIter → Option (Option Nat × NodeIter)} {it it' : NodeIter}
    {o : Option Nat} (h : step it = some (o, it')) (fuel : Nat) :
    NodeIter.run step (fuel + 1) it = o.toList ++ NodeIter.run step fuel it' := by
  cases o <;> simp only [NodeIter.run, h] <;> rfl

theorem run_stop {step : NodeIter → Option (Option Nat × NodeIter)} {it : NodeIter}
    (h : step it = none) (fuel : Nat) : NodeIter.run step fuel it = [] := by
  cases fuel with
  | zero => rfl
  | succ f => simp only [NodeIter.run, h]

/-- the state after `go_up` from `x` (does not depend on the state it is called in) -/
def upState (F x : Nat) : NodeIter := NodeIter.goUp ⟨F, x, .parent⟩ x

theorem goUp_eq (F c : Nat) (pv : Prev) (x : Nat) : NodeIter.goUp ⟨F, c, pv⟩ x = upState F x := by
  unfold upState NodeIter.goUp
  simp only

theorem upState_some {F x p : Nat} (h : Node.restrictedParent x F = some p) :
    upState F x = ⟨F, p, if x < p then .left else .right⟩ := by
  simp only [upState, NodeIter.goUp, h]

/-! ## part 1: `descendLeft` and `restrictedParent` in a dense tree -/

/-- coordinates of the first node with id `< F` on the left spine below `(k, L)` -/
def dl (F : Nat) : Nat → Nat → Nat × Nat
  | 0, k => (k, 0)
  | L + 1, k => if nodeOf k (L + 1) < F then (k, L + 1) else dl F L (2 * k)

/-- number of turns of the iterator loop spent in the subtree `(k, L)` -/
def cost (F : Nat) : Nat → Nat → Nat
  | 0, k => if nodeOf k 0 < F then 1 else 0
  | L + 1, k =>
    if nodeOf k (L + 1) < F then cost F L (2 * k) + cost F L (2 * k + 1) + 3
    else cost F L (2 * k)

theorem dl_level_le (F L k : Nat) : (dl F L k).2 ≤ L := by
  induction L generalizing k with
  | zero => simp [dl]
  | succ L ih =>
    by_cases h : nodeOf k (L + 1) < F
    · simp [dl, h]
    · simp only [dl, if_neg h]
      exact Nat.le_succ_of_le (ih _)

/-- `dl` only skips missing nodes, and `f` passes a missing node on to its left child -/
theorem dl_rec {α : Type} (F : Nat) (f : Nat → Nat → α)
    (hf : ∀ L k, ¬ nodeOf k (L + 1) < F → f (L + 1) k = f L (2 * k)) (L k : Nat) :
    f L k = f (dl F L k).2 (dl F L k).1 := by
  induction L generalizing k with
  | zero => rfl
  | succ L ih =>
    by_cases h : nodeOf k (L + 1) < F
    · simp only [dl, if_pos h]
    · simp only [dl, if_neg h]
      rw [hf L k h]
      exact ih _

theorem dl_lt (F L k : Nat) (h : startOf k L < F) : nodeOf (dl F L k).1 (dl F L k).2 < F := by
  induction L generalizing k with
  | zero => simpa [dl, nodeOf_zero, startOf_zero] using h
  | succ L ih =>
    by_cases h1 : nodeOf k (L + 1) < F
    · simp [dl, h1]
    · simp only [dl, if_neg h1]
      exact ih _ (by rw [Offsets.startOf_left]; exact h)

theorem dl_ge (F L k : Nat) : startOf k L ≤ nodeOf (dl F L k).1 (dl F L k).2 := by
  induction L generalizing k with
  | zero => simp [dl, nodeOf_zero, startOf_zero]
  | succ L ih =>
    by_cases h1 : nodeOf k (L + 1) < F
    · simp only [dl, if_pos h1]
      rw [nodeOf_start]
      have := two_pow_pos' (L + 1)
      omega
    · simp only [dl, if_neg h1]
      have := ih (2 * k)
      rwa [Offsets.startOf_left] at this

theorem descendLeft_dl (F : Nat) (fuel L k : Nat) (hL : L ≤ 64) (hf : L < fuel)
    (h : startOf k L < F) :
    Node.descendLeft fuel (nodeOf k L) F = some (nodeOf (dl F L k).1 (dl F L k).2) := by
  induction L generalizing k fuel with
  | zero =>
    cases fuel with
    | zero => omega
    | succ f =>
      have : ¬ (nodeOf k 0 ≥ F) := by rw [nodeOf_zero]; rw [startOf_zero] at h; omega
      simp only [Node.descendLeft, if_neg this, dl]
  | succ L ih =>
    cases fuel with
    | zero => omega
    | succ f =>
      by_cases h1 : nodeOf k (L + 1) < F
      · have : ¬ (nodeOf k (L + 1) ≥ F) := by omega
        simp only [Node.descendLeft, if_neg this, dl, if_pos h1]
      · have : nodeOf k (L + 1) ≥ F := by omega
        simp only [Node.descendLeft, if_pos this, C18.leftChild_spec hL, dl, if_neg h1]
        exact ih f (2 * k) (by omega) (by omega) (by rw [Offsets.startOf_left]; exact h)

/-- climbing from `dl` back to `(k, L)` passes only ids `≥ F` -/
theorem climb (F L k g : Nat) (hL : L ≤ 63) :
    Node.restrictedParentAux (g + (L - (dl F L k).2)) (nodeOf (dl F L k).1 (dl F L k).2) F
      = Node.restrictedParentAux g (nodeOf k L) F := by
  induction L generalizing k g with
  | zero => simp [dl]
  | succ L ih =>
    by_cases h1 : nodeOf k (L + 1) < F
    · simp [dl, h1]
    · simp only [dl, if_neg h1]
      have hle := dl_level_le F L (2 * k)
      have e : g + (L + 1 - (dl F L (2 * k)).2) = (g + 1) + (L - (dl F L (2 * k)).2) := by omega
      rw [e, ih (2 * k) (g + 1) (by omega)]
      simp only [Node.restrictedParentAux, C18.parent_spec (show L < 63 by omega)]
      rw [show 2 * k / 2 = k by omega, if_neg h1]

theorem rp_child (F L k g : Nat) (hL : L < 63) (h : nodeOf (k / 2) (L + 1) < F) :
    Node.restrictedParentAux (g + 1) (nodeOf k L) F = some (nodeOf (k / 2) (L + 1)) := by
  simp only [Node.restrictedParentAux, C18.parent_spec hL, if_pos h]

theorem rp_root (F fuel L : Nat) (hL : L ≤ 63) (h : F ≤ nodeOf 0 (L + 1)) :
    Node.restrictedParentAux fuel (nodeOf 0 L) F = none := by
  induction fuel generalizing L with
  | zero => rfl
  | succ f ih =>
    by_cases h63 : L = 63
    · subst h63
      simp only [Node.restrictedParentAux, C18.parent_top]
    · have hL' : L < 63 := by omega
      have hn : ¬ (nodeOf 0 (L + 1) < F) := by omega
      simp only [Node.restrictedParentAux, C18.parent_spec hL', Nat.zero_div, if_neg hn]
      apply ih (L + 1) (by omega)
      rw [nodeOf_zero_left] at h ⊢
      rw [Nat.pow_succ 2 (L + 1)]
      omega

theorem leftChild_lt (k L : Nat) : nodeOf (2 * k) L < nodeOf k (L + 1) := by
  rw [← nodeOf_sub_half]
  exact Nat.sub_lt (Nat.lt_of_lt_of_le (two_pow_pos' L) (two_pow_le_nodeOf_succ k L))
    (two_pow_pos' L)

theorem left_nonempty {F k L : Nat} (h : nodeOf k (L + 1) < F) : startOf (2 * k) L < F := by
  have := nodeOf_start k (L + 1)
  have := two_pow_pos' (L + 1)
  rw [Offsets.startOf_left]; omega

theorem right_nonempty {F k L : Nat} (hodd : F % 2 = 1) (h : nodeOf k (L + 1) < F) :
    startOf (2 * k + 1) L < F ∧ startOf (2 * k + 1) L = nodeOf k (L + 1) + 1 := by
  have e : startOf (2 * k + 1) L = nodeOf k (L + 1) + 1 := by
    rw [Bits.startOf_right, midOf_eq, nodeOf_succ]
  have := nodeOf_succ_odd k L
  exact ⟨by omega, e⟩

/-! ## part 2: the machine equals the recursion -/

theorem up_left (F L k : Nat) (hL : L < 63) (h : nodeOf k (L + 1) < F) :
    upState F (nodeOf (2 * k) L) = ⟨F, nodeOf k (L + 1), .left⟩ := by
  have hp : Node.restrictedParent (nodeOf (2 * k) L) F = some (nodeOf k (L + 1)) := by
    have := rp_child F L (2 * k) 63 hL (by rw [show 2 * k / 2 = k by omega]; exact h)
    rwa [show 2 * k / 2 = k by omega] at this
  rw [upState_some hp]
  simp [leftChild_lt k L]

theorem up_right (F L k : Nat) (hL : L < 63) (hodd : F % 2 = 1) (h : nodeOf k (L + 1) < F) :
    upState F (nodeOf (dl F L (2 * k + 1)).1 (dl F L (2 * k + 1)).2)
      = ⟨F, nodeOf k (L + 1), .right⟩ := by
  have hle := dl_level_le F L (2 * k + 1)
  have hp : Node.restrictedParent (nodeOf (dl F L (2 * k + 1)).1 (dl F L (2 * k + 1)).2) F
      = some (nodeOf k (L + 1)) := by
    unfold Node.restrictedParent
    have e : 64 = (63 - (L - (dl F L (2 * k + 1)).2) + 1) + (L - (dl F L (2 * k + 1)).2) := by
      omega
    rw [e, climb F L (2 * k + 1) _ (by omega),
      rp_child F L (2 * k + 1) _ hL (by rw [show (2 * k + 1) / 2 = k by omega]; exact h)]
    rw [show (2 * k + 1) / 2 = k by omega]
  rw [upState_some hp]
  have h1 := dl_ge F L (2 * k + 1)
  have h2 := (right_nonempty hodd h).2
  have : ¬ (nodeOf (dl F L (2 * k + 1)).1 (dl F L (2 * k + 1)).2 < nodeOf k (L + 1)) := by omega
  simp [this]

theorem rightDescendant_dl (F L k : Nat) (hL : L < 63) (hodd : F % 2 = 1)
    (h : nodeOf k (L + 1) < F) :
    Node.rightDescendant (nodeOf k (L + 1)) F
      = some (nodeOf (dl F L (2 * k + 1)).1 (dl F L (2 * k + 1)).2) := by
  simp only [Node.rightDescendant, C18.rightChild_spec (show L + 1 ≤ 64 by omega)]
  exact descendLeft_dl F 65 L (2 * k + 1) (by omega) (by omega) (right_nonempty hodd h).1

/-- What the two node iterators have in common.  From `(x, parent)` the machine goes down to the left
child and emits `dn x` (a leaf: emits the leaf and goes up); from `(x, left)` it goes over to the right
descendant; from `(x, right)` it emits `lv x` and goes up; at `done` it stops.  `D` is the list it
is meant to emit: per subtree `dn`, left subtree, right subtree, `lv`. -/
structure Walk (F : Nat) (step : NodeIter → Option (Option Nat × NodeIter))
    (D : Nat → Nat → List Nat) (dn lv : Nat → Option Nat) : Prop where
  leaf : ∀ x, Node.leftChild x = none → step ⟨F, x, .parent⟩ = some (some x, upState F x)
  down : ∀ x c, Node.leftChild x = some c → step ⟨F, x, .parent⟩ = some (dn x, ⟨F, c, .parent⟩)
  left : ∀ x r, Node.rightDescendant x F = some r →
    step ⟨F, x, .left⟩ = some (none, ⟨F, r, .parent⟩)
  right : ∀ x, step ⟨F, x, .right⟩ = some (lv x, upState F x)
  done : ∀ x, step ⟨F, x, .done⟩ = none
  nil : ∀ k, nodeOf k 0 < F → D 0 k = [nodeOf k 0]
  node : ∀ L k, nodeOf k (L + 1) < F → D (L + 1) k =
    (dn (nodeOf k (L + 1))).toList ++ (D L (2 * k) ++ (D L (2 * k + 1) ++
      (lv (nodeOf k (L + 1))).toList))
  skip : ∀ L k, ¬ nodeOf k (L + 1) < F → D (L + 1) k = D L (2 * k)

theorem postWalk (F : Nat) : Walk F NodeIter.postStep (postD F) (fun _ => none) some where
  leaf x h := by simp only [NodeIter.postStep, h, goUp_eq]
  down x c h := by simp only [NodeIter.postStep, h]
  left x r h := by simp only [NodeIter.postStep, h]
  right x := by simp only [NodeIter.postStep, goUp_eq]
  done x := rfl
  nil k h := by simp only [postD, if_pos h]
  node L k h := by simp only [postD, if_pos h, List.append_assoc]; rfl
  skip L k h := by simp only [postD, if_neg h]

theorem preWalk (F : Nat) : Walk F NodeIter.preStep (preD F) some (fun _ => none) where
  leaf x h := by simp only [NodeIter.preStep, h, goUp_eq]
  down x c h := by simp only [NodeIter.preStep, h]
  left x r h := by simp only [NodeIter.preStep, h]
  right x := by simp only [NodeIter.preStep, goUp_eq]
  done x := rfl
  nil k h := by simp only [preD, if_pos h]
  node L k h := by simp only [preD, if_pos h, Option.toList, List.append_nil]; rfl
  skip L k h := by simp only [preD, if_neg h]

/-- from `(x, parent)` the machine emits the list of the subtree of `x`, in exactly `cost` turns, and
arrives at `goUp x` -/
theorem Walk.run {F : Nat} {step : NodeIter → Option (Option Nat × NodeIter)}
    {D : Nat → Nat → List Nat} {dn lv : Nat → Option Nat} (w : Walk F step D dn lv)
    (hodd : F % 2 = 1) (n : Nat) :
    ∀ L, L ≤ n → L ≤ 63 → ∀ k, nodeOf k L < F → ∀ fuel,
      NodeIter.run step (cost F L k + fuel) ⟨F, nodeOf k L, .parent⟩
        = D L k ++ NodeIter.run step fuel (upState F (nodeOf k L)) := by
  induction n with
  | zero =>
    intro L hLn _ k hx fuel
    obtain rfl : L = 0 := by omega
    simp only [cost, if_pos hx]
    rw [Nat.add_comm 1 fuel, run_step (w.leaf _ (C18.leftChild_leaf k)), w.nil k hx]
    rfl
  | succ n ih =>
    intro L hLn hL63 k hx fuel
    by_cases hle : L ≤ n
    · exact ih L hle hL63 k hx fuel
    obtain rfl : L = n + 1 := by omega
    have hn : n < 63 := by omega
    have hc : nodeOf (2 * k) n < F := Nat.lt_trans (leftChild_lt k n) hx
    have hr := dl_lt F n (2 * k + 1) (right_nonempty hodd hx).1
    have hrl := dl_level_le F n (2 * k + 1)
    simp only [cost, if_pos hx]
    -- down to the left child
    have e1 : cost F n (2 * k) + cost F n (2 * k + 1) + 3 + fuel
        = (cost F n (2 * k) + (cost F n (2 * k + 1) + 2 + fuel)) + 1 := by omega
    rw [e1, run_step (w.down _ _ (C18.leftChild_spec (show n + 1 ≤ 64 by omega))),
      ih n (Nat.le_refl _) (by omega) (2 * k) hc, up_left F n k hn hx]
    -- over to the right descendant
    have e2 : cost F n (2 * k + 1) + 2 + fuel
        = (cost F (dl F n (2 * k + 1)).2 (dl F n (2 * k + 1)).1 + (1 + fuel)) + 1 := by
      rw [← dl_rec F (cost F) fun L k h => by simp only [cost, if_neg h]]; omega
    rw [e2, run_step (w.left _ _ (rightDescendant_dl F n k hn hodd hx)),
      ih _ hrl (by omega) _ hr, ← dl_rec F D w.skip, up_right F n k hn hodd hx]
    -- the node itself
    rw [Nat.add_comm 1 fuel, run_step (w.right _), w.node n k hx]
    simp only [Option.toList, List.nil_append, List.append_assoc]

theorem cost_le (F L k : Nat) : cost F L k ≤ 3 * (postD F L k).length := by
  induction L generalizing k with
  | zero => by_cases h : nodeOf k 0 < F <;> simp [cost, postD, h]
  | succ L ih =>
    by_cases h : nodeOf k (L + 1) < F
    · simp only [cost, postD, if_pos h, List.length_append, List.length_singleton]
      have := ih (2 * k); have := ih (2 * k + 1); omega
    · simp only [cost, postD, if_neg h]; exact ih _

theorem cost_le_fuel (F L k : Nat) : cost F L k ≤ NodeIter.fuelFor F := by
  have h2 : (postD F L k).length ≤ F := by
    rw [postD_length]; exact Nat.le_trans (Nat.sub_le _ _) (Nat.min_le_left _ _)
  exact Nat.le_trans (cost_le F L k)
    (Nat.le_trans (Nat.mul_le_mul_left 3 h2) (Nat.le_add_right _ 3))

theorem Walk.all {F : Nat} {step : NodeIter → Option (Option Nat × NodeIter)}
    {D : Nat → Nat → List Nat} {dn lv : Nat → Option Nat} (w : Walk F step D dn lv)
    (h : Nat) (hodd : F % 2 = 1) (hh : h ≤ 63) (hroot : nodeOf 0 h < F) (hF : F < 2 ^ (h + 1)) :
    NodeIter.run step (NodeIter.fuelFor F) (NodeIter.new (nodeOf 0 h) F) = D h 0 := by
  have e : NodeIter.fuelFor F = cost F h 0 + (NodeIter.fuelFor F - cost F h 0) := by
    have := cost_le_fuel F h 0; omega
  unfold NodeIter.new
  -- the root's `go_up` finds no parent inside `F` and ends the iteration
  have hup : upState F (nodeOf 0 h) = ⟨F, nodeOf 0 h, .done⟩ := by
    simp only [upState, NodeIter.goUp, Node.restrictedParent,
      rp_root F 64 h hh (by rw [nodeOf_zero_left]; omega)]
  rw [e, w.run hodd h h (Nat.le_refl _) hh 0 hroot, hup, run_stop (w.done _), List.append_nil]

/-- `PostOrderNodeIter` over a dense tree with root `(0, h)` is the post-order recursion -/
theorem postOrderNodes_eq (F h : Nat) (hodd : F % 2 = 1) (hh : h ≤ 63)
    (hroot : nodeOf 0 h < F) (hF : F < 2 ^ (h + 1)) :
    postOrderNodes (nodeOf 0 h) F = postD F h 0 :=
  (postWalk F).all h hodd hh hroot hF

/-- `PreOrderNodeIter` over a dense tree with root `(0, h)` is the pre-order recursion -/
theorem preOrderNodes_eq (F h : Nat) (hodd : F % 2 = 1) (hh : h ≤ 63)
    (hroot : nodeOf 0 h < F) (hF : F < 2 ^ (h + 1)) :
    preOrderNodes (nodeOf 0 h) F = preD F h 0 :=
  (preWalk F).all h hodd hh hroot hF

/-! ## part 3: the shifted tree of a blob -/

/-- the shifted root is node `(0, h)`, it exists, and the whole dense tree lies below it -/
theorem shifted_root (size bs : Nat) (hs : size ≤ 2 ^ 63) :
    ∃ h, h ≤ 63 ∧ (Tree.shifted ⟨size, bs⟩).1 = nodeOf 0 h ∧
      nodeOf 0 h < (Tree.shifted ⟨size, bs⟩).2 ∧ (Tree.shifted ⟨size, bs⟩).2 < 2 ^ (h + 1) := by
  have hdiv := Nat.div_le_self size (2 ^ (10 + bs))
  unfold Tree.shifted
  simp only
  generalize hn :
    divCeil2 (max (size / 2 ^ (10 + bs) + if size % 2 ^ (10 + bs) ≠ 0 then 1 else 0) 1) = n
  have hn1 : 1 ≤ n ∧ n ≤ 2 ^ 63 := by
    rw [← hn]; unfold divCeil2
    split <;> omega
  obtain ⟨j, hj, e, hle, hmin⟩ := nextPow2_spec hn1.2
  clear hdiv hs hn
  refine ⟨j, hj, by rw [e, nodeOf_zero_left], ?_, ?_⟩
  · rw [nodeOf_zero_left]
    have hp := two_pow_pos' j
    rcases hmin with rfl | hmin
    · simp; omega
    · cases j with
      | zero => simp at hmin hle; omega
      | succ i =>
        simp only [Nat.add_sub_cancel] at hmin
        rw [Nat.pow_succ] at *
        omega
  · rw [Nat.pow_succ]; omega

/-- level of the shifted root, read with `Node.level`; not to be confused with `PlanPre.rootLevel`
(the same level read with `Spec.levelOf`) and its `rootLevel_spec`, `shifted_root` -/
def rootLevel (t : Tree) : Nat := Node.level t.shifted.1

theorem rootLevel_spec (size bs : Nat) (hs : size ≤ 2 ^ 63) :
    rootLevel ⟨size, bs⟩ ≤ 63 ∧
    (Tree.shifted ⟨size, bs⟩).1 = nodeOf 0 (rootLevel ⟨size, bs⟩) ∧
    nodeOf 0 (rootLevel ⟨size, bs⟩) < (Tree.shifted ⟨size, bs⟩).2 ∧
    (Tree.shifted ⟨size, bs⟩).2 < 2 ^ (rootLevel ⟨size, bs⟩ + 1) := by
  obtain ⟨h, hh, e, hlt, hF⟩ := shifted_root size bs hs
  have : rootLevel ⟨size, bs⟩ = h := by
    unfold rootLevel; rw [e, C18.level_nodeOf (by omega)]
  rw [this]
  exact ⟨hh, e, hlt, hF⟩

theorem postOrderNodes_shifted (size bs : Nat) (hs : size ≤ 2 ^ 63) :
    postOrderNodes (Tree.shifted ⟨size, bs⟩).1 (Tree.shifted ⟨size, bs⟩).2
      = postD (Tree.shifted ⟨size, bs⟩).2 (rootLevel ⟨size, bs⟩) 0 := by
  obtain ⟨hh, e, hlt, hF⟩ := rootLevel_spec size bs hs
  rw [e]
  exact postOrderNodes_eq _ _ (shifted_props size bs).2.2 hh hlt hF

theorem preOrderNodes_shifted (size bs : Nat) (hs : size ≤ 2 ^ 63) :
    preOrderNodes (Tree.shifted ⟨size, bs⟩).1 (Tree.shifted ⟨size, bs⟩).2
      = preD (Tree.shifted ⟨size, bs⟩).2 (rootLevel ⟨size, bs⟩) 0 := by
  obtain ⟨hh, e, hlt, hF⟩ := rootLevel_spec size bs hs
  rw [e]
  exact preOrderNodes_eq _ _ (shifted_props size bs).2.2 hh hlt hF

/-- once the height covers the bound `N`, every higher root is missing and is replaced by its left
child: the lists do not depend on the height -/
theorem heights {N a b : Nat} (ha : N < 2 ^ (a + 1)) (hb : N < 2 ^ (b + 1)) :
    preD N a 0 = preD N b 0 ∧ postD N a 0 = postD N b 0 := by
  have key : ∀ a j, N < 2 ^ (a + 1) →
      preD N (a + j) 0 = preD N a 0 ∧ postD N (a + j) 0 = postD N a 0 := by
    intro a j h
    induction j with
    | zero => exact ⟨rfl, rfl⟩
    | succ j ih =>
      have hp : (2 : Nat) ^ (a + 1) ≤ 2 ^ (a + j + 1) :=
        Nat.pow_le_pow_right (by decide) (by omega)
      have : ¬ (nodeOf 0 (a + j + 1) < N) := by rw [nodeOf_zero_left]; omega
      rw [← Nat.add_assoc]
      simp only [preD, postD, if_neg this]
      exact ih
  rcases Nat.le_total a b with h | h
  · obtain ⟨j, rfl⟩ := Nat.exists_eq_add_of_le h
    exact ⟨(key a j ha).1.symm, (key a j ha).2.symm⟩
  · obtain ⟨j, rfl⟩ := Nat.exists_eq_add_of_le h
    exact key b j hb

theorem mem_postD_lt (N L k x : Nat) (h : x ∈ postD N L k) : x < N := by
  obtain ⟨_, _, _, _, h3, _⟩ := mem_postD N L k x h
  exact h3

theorem postD_filter {N M : Nat} (hNM : N ≤ M) (L k : Nat) :
    postD N L k = (postD M L k).filter (fun x => decide (x < N)) := by
  induction L generalizing k with
  | zero =>
    by_cases h1 : nodeOf k 0 < N
    · have h2 : nodeOf k 0 < M := by omega
      simp [postD, h1, h2]
    · by_cases h2 : nodeOf k 0 < M <;> simp [postD, h1, h2]
  | succ L ih =>
    by_cases h1 : nodeOf k (L + 1) < N
    · have h2 : nodeOf k (L + 1) < M := by omega
      simp only [postD, if_pos h1, if_pos h2, List.filter_append, ← ih]
      simp [h1]
    · by_cases h2 : nodeOf k (L + 1) < M
      · simp only [postD, if_neg h1, if_pos h2, List.filter_append, ← ih]
        have hr : postD N L (2 * k + 1) = [] := by
          rw [ih, List.filter_eq_nil_iff]
          intro x hx
          obtain ⟨k', L', e, _, _, h4, _⟩ := mem_postD _ _ _ _ hx
          have := nodeOf_start k' L'
          have := two_pow_pos' L'
          rw [Bits.startOf_right, midOf_eq, ← nodeOf_succ] at h4
          simp only [decide_eq_true_eq]; omega
        rw [hr]
        simp [h1]
      · simp only [postD, if_neg h1, if_neg h2, ← ih]

/-- raising an even bound by one appends the new leaf to the dense pre-order list -/
theorem preD_succ {N : Nat} (heven : N % 2 = 0) (L k : Nat) :
    preD (N + 1) L k
      = preD N L k ++ (if startOf k L ≤ N ∧ N < endOf k L then [N] else []) := by
  induction L generalizing k with
  | zero =>
    rw [endOf_start, startOf_zero, Nat.zero_add, Nat.pow_one]
    simp only [preD, nodeOf_zero]
    rcases Nat.lt_trichotomy (2 * k) N with h | h | h
    · rw [if_pos (Nat.lt_succ_of_lt h), if_pos h, if_neg (by omega), List.append_nil]
    · subst h
      rw [if_pos (Nat.lt_succ_self _), if_neg (Nat.lt_irrefl _),
        if_pos ⟨Nat.le_refl _, Nat.lt_add_of_pos_right (by decide)⟩, List.nil_append]
    · rw [if_neg (Nat.not_lt.mpr h), if_neg (Nat.lt_asymm h),
        if_neg (fun c => Nat.lt_irrefl _ (Nat.lt_of_le_of_lt c.1 h)), List.append_nil]
  | succ L ih =>
    -- an odd id and an even bound: `x < N + 1` iff `x < N`
    have h2 : nodeOf k (L + 1) < N + 1 ↔ nodeOf k (L + 1) < N := by
      have := nodeOf_succ_odd k L; omega
    simp only [preD, ih, h2]
    clear h2 heven ih
    have hp := two_pow_pos' (L + 1)
    obtain ⟨hx, hsl, hel, hsr, her, he⟩ := child_coords k L
    rw [hsl, hel, hsr, her, he]
    by_cases h1 : nodeOf k (L + 1) < N
    · have h3 : startOf k (L + 1) + 2 ^ (L + 1) ≤ N := hx ▸ h1
      have hl : ¬ (startOf k (L + 1) ≤ N ∧ N < startOf k (L + 1) + 2 ^ (L + 1)) :=
        fun h => Nat.lt_irrefl _ (Nat.lt_of_lt_of_le h.2 h3)
      have hr : startOf k (L + 1) + 2 ^ (L + 1) ≤ N ↔ startOf k (L + 1) ≤ N :=
        ⟨fun _ => Nat.le_trans (Nat.le_add_right _ _) h3, fun _ => h3⟩
      simp only [if_pos h1, if_neg hl, hr, List.append_nil, List.cons_append, List.append_assoc]
    · have h3 : N < startOf k (L + 1) + 2 ^ (L + 1) := hx ▸ Nat.lt_succ_of_le (Nat.not_lt.mp h1)
      have hl : N < startOf k (L + 1) + 2 ^ (L + 1) ↔
          N < startOf k (L + 1) + 2 * 2 ^ (L + 1) :=
        ⟨fun _ => Nat.lt_of_lt_of_le h3 (by omega), fun _ => h3⟩
      simp only [if_neg h1, hl]

theorem postD_succ_out {N : Nat} (L k : Nat) (hout : ¬ (startOf k L ≤ N ∧ N < endOf k L)) :
    postD (N + 1) L k = postD N L k := by
  rw [postD_filter (Nat.le_succ N) L k, eq_comm, List.filter_eq_self]
  intro x hx
  obtain ⟨k', L', h1, _, h3, h5, h6⟩ := mem_postD _ _ _ _ hx
  have h7 := nodeOf_start k' L'
  have h8 := endOf_start k' L'
  have hp := two_pow_pos' L'
  simp only [decide_eq_true_eq]
  omega

/-- an even bound `N` inside the subtree: raising it by one inserts the leaf `N` directly before
the nodes whose interval reaches beyond `N` (its ancestors) -/
theorem postD_succ_in {N : Nat} (heven : N % 2 = 0) (L k : Nat)
    (hs : startOf k L ≤ N) (he : N < endOf k L) :
    ∃ A B, postD (N + 1) L k = A ++ N :: B ∧ postD N L k = A ++ B ∧
      (∀ a ∈ A, ∃ k' L', a = nodeOf k' L' ∧ endOf k' L' ≤ N) ∧
      (∀ b ∈ B, ∃ k' L', b = nodeOf k' L' ∧ N < endOf k' L') := by
  induction L generalizing k with
  | zero =>
    rw [endOf_start, startOf_zero, Nat.zero_add, Nat.pow_one] at he
    rw [startOf_zero] at hs
    obtain rfl : N = 2 * k := by omega
    refine ⟨[], [], ?_, ?_, by simp, by simp⟩
    · simp [postD, nodeOf_zero]
    · simp [postD, nodeOf_zero]
  | succ L ih =>
    -- an odd id and an even bound: `x < N + 1` iff `x < N`
    have h2 : nodeOf k (L + 1) < N + 1 ↔ nodeOf k (L + 1) < N := by
      have := nodeOf_succ_odd k L; omega
    clear heven
    have hp := two_pow_pos' (L + 1)
    obtain ⟨hx, hsl, hel, hsr, her, hee⟩ := child_coords k L
    by_cases h1 : nodeOf k (L + 1) < N
    · have h3 := h2.mpr h1
      have hge : endOf (2 * k) L ≤ N := by rw [hel, ← hx]; exact h1
      obtain ⟨A, B, hA, hB, hAs, hBs⟩ :=
        ih (2 * k + 1) (by rw [hsr, ← hel]; exact hge) (by rw [her, ← hee]; exact he)
      refine ⟨postD N L (2 * k) ++ A, B ++ [nodeOf k (L + 1)], ?_, ?_, ?_, ?_⟩
      · simp only [postD, if_pos h3]
        rw [postD_succ_out L (2 * k) (fun h => Nat.lt_irrefl _ (Nat.lt_of_lt_of_le h.2 hge)), hA]
        simp
      · simp only [postD, if_pos h1]
        rw [hB]
        simp
      · intro a ha
        rcases List.mem_append.mp ha with ha | ha
        · obtain ⟨k', L', h3, _, _, _, h6⟩ := mem_postD _ _ _ _ ha
          exact ⟨k', L', h3, Nat.le_trans h6 hge⟩
        · exact hAs a ha
      · intro b hb
        rcases List.mem_append.mp hb with hb | hb
        · exact hBs b hb
        · exact ⟨k, L + 1, List.mem_singleton.mp hb, he⟩
    · have h3 := mt h2.mp h1
      obtain ⟨A, B, hA, hB, hAs, hBs⟩ := ih (2 * k) (by rw [hsl]; exact hs)
        (by rw [hel, ← hx]; exact Nat.lt_succ_of_le (Nat.not_lt.mp h1))
      refine ⟨A, B, ?_, ?_, hAs, hBs⟩
      · simp only [postD, if_neg h3]; exact hA
      · simp only [postD, if_neg h1]; exact hB

theorem persistedPre_eq_preD (size bs h : Nat) (hs : size ≤ 2 ^ 63)
    (hh : Tree.blocks ⟨size, bs⟩ - 1 < 2 ^ (h + 1)) :
    persistedPre size bs = (preD (Tree.blocks ⟨size, bs⟩ - 1) h 0).map (up bs) := by
  obtain ⟨L, hB, e, _⟩ := persisted_dense size bs hs
  have hBp := blocks_pos size bs
  rw [e, (heights (a := L) (b := h) (by rw [Nat.pow_succ]; omega) hh).1]

theorem persistedPost_eq_postD (size bs h : Nat) (hs : size ≤ 2 ^ 63)
    (hh : Tree.blocks ⟨size, bs⟩ - 1 < 2 ^ (h + 1)) :
    persistedPost size bs = (postD (Tree.blocks ⟨size, bs⟩ - 1) h 0).map (up bs) := by
  obtain ⟨L, hB, _, e⟩ := persisted_dense size bs hs
  have hBp := blocks_pos size bs
  rw [e, (heights (a := L) (b := h) (by rw [Nat.pow_succ]; omega) hh).2]

/-- the half-filled last leaf, present iff the number of blocks is odd -/
def halfLeaf (t : Tree) : List Nat :=
  if t.blocks % 2 = 1 then [Node.subBs (t.blocks - 1) t.bs] else []

theorem subBs_up_of_lt (size bs : Nat) (hs : size ≤ 2 ^ 63) (hbs : bs ≤ 10) {x : Nat}
    (hx : x < (Tree.shifted ⟨size, bs⟩).2) : Node.subBs x bs = up bs x := by
  obtain ⟨_, hFN, _⟩ := shifted_props size bs
  have hm := blocks_mul_le size bs hs hbs
  apply subBs_eq_up
  have : (x + 1) * 2 ^ bs ≤ (Tree.blocks ⟨size, bs⟩ - 1 + 1) * 2 ^ bs :=
    Nat.mul_le_mul_right _ (by omega)
  omega

theorem up_inj {bs a b : Nat} (h : up bs a = up bs b) : a = b := by
  have h1 := up_succ bs a
  have h2 := up_succ bs b
  rw [h] at h1
  have := Nat.eq_of_mul_eq_mul_right (two_pow_pos' bs) (h1.symm.trans h2)
  omega

theorem preIter_dense (size bs : Nat) (hs : size ≤ 2 ^ 63) (hbs : bs ≤ 10) :
    Tree.preOrderNodesIter ⟨size, bs⟩
      = (preD (Tree.shifted ⟨size, bs⟩).2 (rootLevel ⟨size, bs⟩) 0).map (up bs) := by
  unfold Tree.preOrderNodesIter
  simp only
  rw [preOrderNodes_shifted size bs hs]
  exact List.map_congr_left fun x hx => subBs_up_of_lt size bs hs hbs (mem_preD_lt _ _ _ _ hx)

theorem postIter_dense (size bs : Nat) (hs : size ≤ 2 ^ 63) (hbs : bs ≤ 10) :
    Tree.postOrderNodesIter ⟨size, bs⟩
      = (postD (Tree.shifted ⟨size, bs⟩).2 (rootLevel ⟨size, bs⟩) 0).map (up bs) := by
  unfold Tree.postOrderNodesIter
  simp only
  rw [postOrderNodes_shifted size bs hs]
  exact List.map_congr_left fun x hx => subBs_up_of_lt size bs hs hbs (mem_postD_lt _ _ _ _ hx)

/-- the shifted tree has the ids below `blocks - 1` and, for an odd number of blocks, the id
`blocks - 1` (the half leaf) -/
theorem shifted_len (size bs : Nat) :
    (Tree.shifted ⟨size, bs⟩).2
      = Tree.blocks ⟨size, bs⟩ - 1 + (if Tree.blocks ⟨size, bs⟩ % 2 = 1 then 1 else 0) := by
  obtain ⟨hNF, hFN, hodd⟩ := shifted_props size bs
  have hBp := blocks_pos size bs
  split <;> omega

/-- `BaoTree::pre_order_nodes_iter` = the persisted nodes in pre-order, then the half leaf -/
theorem preIter_eq (size bs : Nat) (hs : size ≤ 2 ^ 63) (hbs : bs ≤ 10) :
    Tree.preOrderNodesIter ⟨size, bs⟩ = persistedPre size bs ++ halfLeaf ⟨size, bs⟩ := by
  obtain ⟨_, _, _, hF⟩ := rootLevel_spec size bs hs
  have hBp := blocks_pos size bs
  rw [preIter_dense size bs hs hbs] at *
  rw [shifted_len] at hF ⊢
  rw [persistedPre_eq_preD size bs (rootLevel ⟨size, bs⟩) hs (by omega)]
  unfold halfLeaf
  simp only
  by_cases hb : Tree.blocks ⟨size, bs⟩ % 2 = 1
  · rw [if_pos hb] at hF ⊢
    rw [if_pos hb, preD_succ (by omega), subBs_eq_up (blocks_mul_le size bs hs hbs), List.map_append,
      if_pos ⟨by rw [startOf_zero_left]; exact Nat.zero_le _, by rw [endOf_zero_left]; omega⟩]
    rfl
  · rw [if_neg hb, if_neg hb, List.append_nil]
    rfl

/-- `BaoTree::post_order_nodes_iter` without the half leaf = the persisted nodes in post-order -/
theorem postIter_filter (size bs : Nat) (hs : size ≤ 2 ^ 63) (hbs : bs ≤ 10) :
    (Tree.postOrderNodesIter ⟨size, bs⟩).filter (fun x => !(halfLeaf ⟨size, bs⟩).contains x)
      = persistedPost size bs := by
  obtain ⟨_, _, _, hF⟩ := rootLevel_spec size bs hs
  obtain ⟨hNF, hFN, _⟩ := shifted_props size bs
  rw [postIter_dense size bs hs hbs,
    persistedPost_eq_postD size bs (rootLevel ⟨size, bs⟩) hs (Nat.lt_of_le_of_lt hNF hF),
    postD_filter hNF (rootLevel ⟨size, bs⟩) 0, List.filter_map]
  congr 1
  apply List.filter_congr
  intro x hx
  have hxF := mem_postD_lt _ _ _ _ hx
  unfold halfLeaf
  simp only
  by_cases hb : Tree.blocks ⟨size, bs⟩ % 2 = 1
  · rw [if_pos hb, subBs_eq_up (blocks_mul_le size bs hs hbs)]
    by_cases hxN : x = Tree.blocks ⟨size, bs⟩ - 1
    · subst hxN; simp
    · have hne : up bs x ≠ up bs (Tree.blocks ⟨size, bs⟩ - 1) := fun h => hxN (up_inj h)
      have hlt : x < Tree.blocks ⟨size, bs⟩ - 1 :=
        Nat.lt_of_le_of_ne (Nat.le_of_lt_succ (Nat.lt_of_lt_of_le hxF hFN)) hxN
      simp [hne, hlt]
  · rw [if_neg hb]
    have hlt : x < Tree.blocks ⟨size, bs⟩ - 1 := by rw [shifted_len, if_neg hb] at hxF; exact hxF
    simp [hlt]

/-- exact position of the half leaf in `BaoTree::post_order_nodes_iter` (odd number of blocks):
it comes after the stable persisted nodes and before the unstable ones (its ancestors) -/
theorem postIter_exact (size bs : Nat) (hs : size ≤ 2 ^ 63) (hbs : bs ≤ 10)
    (hb : Tree.blocks ⟨size, bs⟩ % 2 = 1) :
    ∃ A B, Tree.postOrderNodesIter ⟨size, bs⟩
        = A ++ Node.subBs (Tree.blocks ⟨size, bs⟩ - 1) bs :: B ∧
      persistedPost size bs = A ++ B ∧
      (∀ a ∈ A, isStable ⟨size, bs⟩ a = true) ∧ (∀ b ∈ B, isStable ⟨size, bs⟩ b = false) := by
  obtain ⟨_, _, _, hF⟩ := rootLevel_spec size bs hs
  obtain ⟨hfb1, hfb2⟩ := full_blocks size bs
  rw [shifted_len, if_pos hb] at hF
  rw [postIter_dense size bs hs hbs, shifted_len, if_pos hb,
    persistedPost_eq_postD size bs (rootLevel ⟨size, bs⟩) hs (Nat.lt_trans (Nat.lt_succ_self _) hF),
    subBs_eq_up (blocks_mul_le size bs hs hbs)]
  obtain ⟨A, B, hA, hB, hAs, hBs⟩ :=
    postD_succ_in (N := Tree.blocks ⟨size, bs⟩ - 1) (by omega) (rootLevel ⟨size, bs⟩) 0
      (by rw [startOf_zero_left]; exact Nat.zero_le _) (by rw [endOf_zero_left]; exact Nat.lt_trans (Nat.lt_succ_self _) hF)
  have hmem : ∀ x ∈ A ++ B, x < Tree.blocks ⟨size, bs⟩ - 1 :=
    fun x hx => mem_postD_lt _ _ _ _ (hB ▸ hx)
  refine ⟨A.map (up bs), B.map (up bs), by rw [hA]; simp, by rw [hB]; simp, ?_, ?_⟩
  · intro a ha
    obtain ⟨x, hx, rfl⟩ := List.mem_map.mp ha
    obtain ⟨k', L', rfl, h2⟩ := hAs x hx
    rw [isStable_shift hs (hmem _ (List.mem_append_left _ hx))]
    exact Nat.le_trans h2 hfb1
  · intro b hb'
    obtain ⟨x, hx, rfl⟩ := List.mem_map.mp hb'
    obtain ⟨k', L', rfl, h2⟩ := hBs x hx
    rw [Bool.eq_false_iff, Ne, isStable_shift hs (hmem _ (List.mem_append_right _ hx)), endOf_eq]
    rw [endOf_eq] at h2
    omega

theorem filterMap_filter_of_none {α β : Type} (f : α → Option β) (p : α → Bool) (l : List α)
    (h : ∀ x ∈ l, p x = false → f x = none) : l.filterMap f = (l.filter p).filterMap f := by
  induction l with
  | nil => rfl
  | cons a l ih =>
    have ih' := ih (fun x hx => h x (List.mem_cons_of_mem _ hx))
    cases hp : p a with
    | true => simp only [List.filter_cons, hp, if_true, List.filterMap_cons, ih']
    | false =>
      have := h a (List.mem_cons_self) hp
      simp [hp, this, ih']

theorem filterMap_of_map_some {α β : Type} (f : α → Option β) (l : List α) (r : List β)
    (h : l.map f = r.map some) : l.filterMap f = r := by
  have : l.filterMap f = (l.map f).filterMap id := by rw [List.filterMap_map]; rfl
  rw [this, h, List.filterMap_map]
  simp

/-- the pre-order iterator visits the persisted nodes in the order of their pre-order offsets
`0, 1, …, blocks-2`, then the half leaf (which has no offset) -/
theorem preIter_offsets (size bs : Nat) (hs : size ≤ 2 ^ 63) (hbs : bs ≤ 10) :
    (Tree.preOrderNodesIter ⟨size, bs⟩).map (Tree.preOrderOffset ⟨size, bs⟩)
      = (List.range' 0 (Tree.blocks ⟨size, bs⟩ - 1)).map some
        ++ (halfLeaf ⟨size, bs⟩).map (fun _ => none) := by
  obtain ⟨hlen, hmap⟩ := persistedPre_offsets size bs hs
  rw [preIter_eq size bs hs hbs, List.map_append, hmap, hlen]
  congr 1
  unfold halfLeaf
  simp only
  split
  · rename_i hb
    simp [pre_half_leaf size bs hs hbs hb]
  · rfl

/-- the post-order iterator visits the persisted nodes in the order of their post-order offsets
`0, 1, …, blocks-2` (the half leaf, which has no offset, is visited in between) -/
theorem postIter_offsets (size bs : Nat) (hs : size ≤ 2 ^ 63) (hbs : bs ≤ 10) :
    (Tree.postOrderNodesIter ⟨size, bs⟩).filterMap
        (fun x => (Tree.postOrderOffset ⟨size, bs⟩ x).map Tree.PostOffset.value)
      = List.range' 0 (Tree.blocks ⟨size, bs⟩ - 1) := by
  obtain ⟨hlen, hmap⟩ := persistedPost_offsets size bs hs
  rw [filterMap_filter_of_none _ (fun x => !(halfLeaf ⟨size, bs⟩).contains x),
    postIter_filter size bs hs hbs, ← hlen]
  · exact filterMap_of_map_some _ _ _ hmap
  · intro x _ hx
    unfold halfLeaf at hx
    simp only at hx
    split at hx
    · rename_i hb
      simp only [Bool.not_eq_false', List.contains_cons, List.contains_nil, Bool.or_false,
        beq_iff_eq] at hx
      rw [hx, post_half_leaf size bs hs hbs hb]
      rfl
    · simp at hx

/-! ## part 4: the post-order chunk plan -/

/-- the leaf item of block (chunk group) `b` -/
def leafItem (size bs b : Nat) (isRoot : Bool) : Chunk :=
  .leaf (b * 2 ^ bs) (min (2 ^ bs * 1024) (size - b * 2 ^ bs * 1024)) isRoot []

/-- facts about `(F, B) = (shifted.2, blocks)` used below; not to be confused with `PlanPre.Geo`
(other fields: the bound `filled · 2^bs ≤ 2^64` in place of `fits`) and its `shifted_geo` -/
structure Geo (size bs F : Nat) : Prop where
  odd : F % 2 = 1
  le : F ≤ Tree.blocks ⟨size, bs⟩
  ge : Tree.blocks ⟨size, bs⟩ ≤ F + 1
  fits : ∀ x, x < F → Node.subBs x bs = up bs x
  hbs : bs ≤ 64

theorem shifted_geo (size bs : Nat) (hs : size ≤ 2 ^ 63) (hbs : bs ≤ 10) :
    Geo size bs (Tree.shifted ⟨size, bs⟩).2 := by
  obtain ⟨h1, h2, h3⟩ := shifted_props size bs
  have hb := blocks_pos size bs
  exact ⟨h3, by omega, by omega, fun x hx => subBs_up_of_lt size bs hs hbs hx, by omega⟩

theorem items_inner {size bs F : Nat} (g : Geo size bs F) (root : Nat) {sh : Nat}
    (hodd : sh % 2 = 1) (hsh : sh < F) :
    Tree.postChunksOfNode ⟨size, bs⟩ root sh = [.parent (up bs sh) (sh == root) true true []] := by
  have : Node.isLeaf sh = false := by simp [Node.isLeaf, hodd]
  simp only [Tree.postChunksOfNode, this, g.fits sh hsh]
  rfl

theorem chunkRange_up (bs k : Nat) (hbs : bs ≤ 64) :
    Node.chunkRange (up bs (2 * k)) = (2 * (k * 2 ^ bs), 2 * (k * 2 ^ bs) + 2 * 2 ^ bs) ∧
    Node.mid (up bs (2 * k)) = 2 * (k * 2 ^ bs) + 2 ^ bs := by
  have e : up bs (2 * k) = nodeOf k bs := by
    have := up_nodeOf bs k 0
    rwa [nodeOf_zero, Nat.zero_add] at this
  rw [e, C18.chunkRange_spec hbs, C18.mid_spec, startOf_eq, endOf_eq, midOf_eq]
  exact ⟨rfl, rfl⟩

theorem items_leaf {size bs F : Nat} (g : Geo size bs F) (root : Nat) {k : Nat} (hsh : 2 * k < F) :
    Tree.postChunksOfNode ⟨size, bs⟩ root (2 * k)
      = if 2 * k + 1 < Tree.blocks ⟨size, bs⟩ then
          [leafItem size bs (2 * k) false, leafItem size bs (2 * k + 1) false,
           .parent (up bs (2 * k)) (2 * k == root) true true []]
        else [leafItem size bs (2 * k) (2 * k == root)] := by
  have hl : Node.isLeaf (2 * k) = true := by simp [Node.isLeaf]
  obtain ⟨hcr, hmid⟩ := chunkRange_up bs k g.hbs
  have hb := lt_blocks_iff_bytes size bs (2 * k + 1) (by omega)
  rw [odd_mul] at hb
  have hp := two_pow_pos' bs
  simp only [Tree.postChunksOfNode, hl, g.fits _ hsh, Tree.leafByteRanges3, hcr, hmid, toBytes,
    Tree.chunkGroupChunks, leafItem, Nat.mul_assoc 2 k, odd_mul]
  generalize k * 2 ^ bs = q at *
  generalize 2 ^ bs = p at *
  have hm : (2 * q + p) * 1024 - 2 * q * 1024 = p * 1024 := by
    rw [Nat.add_mul, Nat.add_sub_cancel_left]
  by_cases h : 2 * k + 1 < Tree.blocks ⟨size, bs⟩
  · -- both blocks exist: the first one is full
    have hlt := hb.mp h
    have hme : (2 * q + p) * 1024 < (2 * q + 2 * p) * 1024 :=
      Nat.mul_lt_mul_of_pos_right (by omega) (by decide)
    have hne : ((2 * q + p) * 1024 == min ((2 * q + 2 * p) * 1024) size) = false :=
      beq_eq_false_iff_ne.mpr (Nat.ne_of_lt (Nat.lt_min.mpr ⟨hme, hlt⟩))
    have he : (2 * q + 2 * p) * 1024 - (2 * q + p) * 1024 = p * 1024 := by
      rw [← Nat.sub_mul]; congr 1; omega
    simp only [Nat.min_eq_left (Nat.le_of_lt hlt), hne, if_pos h, Bool.not_false, if_true,
      Bool.and_false, hm, ← Nat.sub_min_sub_right, he]
    rw [Nat.add_mul, Nat.add_comm] at hlt
    rw [Nat.min_eq_left (Nat.le_sub_of_add_le (Nat.le_of_lt hlt))]
  · -- the second block does not exist: one leaf up to the end of the blob
    have hge : size ≤ (2 * q + p) * 1024 := Nat.not_lt.mp (mt hb.mpr h)
    have e2 : size ≤ (2 * q + 2 * p) * 1024 :=
      Nat.le_trans hge (Nat.mul_le_mul_right _ (by omega))
    have e3 : size - 2 * q * 1024 ≤ p * 1024 :=
      Nat.sub_le_of_le_add (by rw [← Nat.add_mul, Nat.add_comm]; exact hge)
    rw [Nat.min_eq_right hge, Nat.min_eq_right e2, Nat.min_eq_right e3, if_neg h]
    simp only [beq_self_eq_true, Bool.not_true, Bool.and_true, Bool.false_eq_true, if_false, if_true]

/-- `(start chunk, size in bytes)` of the leaf items, in order (`SpecPre.leavesOf` is the same view
under the verdict's name) -/
def leavesOf (l : List Chunk) : List (Nat × Nat) :=
  l.filterMap fun c => match c with
    | .leaf s z _ _ => some (s, z)
    | .parent .. => none

def parentsOf (l : List Chunk) : List Nat :=
  l.filterMap fun c => match c with
    | .parent n _ _ _ _ => some n
    | .leaf .. => none

def rootFlag : Chunk → Bool
  | .parent _ r _ _ _ => r
  | .leaf _ _ r _ => r

/-- the ENCODER's hash stack height: a leaf pushes, a parent pops two and pushes one; not to be
confused with `SpecPre.stackStep` (the decoder's stack of expected hashes) -/
def stackStep : Option Nat → Chunk → Option Nat
  | some h, .leaf .. => some (h + 1)
  | some h, .parent .. => if 2 ≤ h then some (h - 1) else none
  | none, _ => none

/-- stack height after running over a plan from height `h`; `none` = underflow; not to be confused
with `PlanPre.stackRun` (the decoder's stack: every item pops, a parent pushes one per set flag) -/
def stackRun (h : Nat) (plan : List Chunk) : Option Nat := plan.foldl stackStep (some h)

/-- `(start chunk, size)` of block `b` -/
def leafInfo (size bs b : Nat) : Nat × Nat :=
  (b * 2 ^ bs, min (2 ^ bs * 1024) (size - b * 2 ^ bs * 1024))

theorem leavesOf_append (a b : List Chunk) : leavesOf (a ++ b) = leavesOf a ++ leavesOf b :=
  List.filterMap_append

theorem parentsOf_append (a b : List Chunk) : parentsOf (a ++ b) = parentsOf a ++ parentsOf b :=
  List.filterMap_append

theorem stackRun_append (h : Nat) (a b : List Chunk) :
    stackRun h (a ++ b) = (stackRun h a).bind fun h' => stackRun h' b := by
  unfold stackRun
  rw [List.foldl_append]
  cases List.foldl stackStep (some h) a with
  | some h' => rfl
  | none =>
    simp only [Option.bind_none]
    induction b with
    | nil => rfl
    | cons c b ih => exact ih

/-- the plan of the dense subtree `(k, L)`: the items of its nodes in post-order -/
def planD (size bs root F L k : Nat) : List Chunk :=
  (postD F L k).flatMap (Tree.postChunksOfNode ⟨size, bs⟩ root)

section plan
variable {size bs F : Nat} (g : Geo size bs F) (root : Nat)
include g

omit g in
theorem planD_zero_out {k : Nat} (h : ¬ (2 * k < F)) : planD size bs root F 0 k = [] := by
  simp [planD, postD, nodeOf_zero, h]

theorem planD_zero_full {k : Nat} (h : 2 * k + 1 < Tree.blocks ⟨size, bs⟩) :
    planD size bs root F 0 k
      = [leafItem size bs (2 * k) false, leafItem size bs (2 * k + 1) false,
         .parent (up bs (2 * k)) (2 * k == root) true true []] := by
  have hsh : 2 * k < F := by have := g.ge; omega
  simp only [planD, postD, nodeOf_zero, if_pos hsh, List.flatMap_cons, List.flatMap_nil,
    List.append_nil, items_leaf g root hsh, if_pos h]

theorem planD_zero_half {k : Nat} (hsh : 2 * k < F) (h : Tree.blocks ⟨size, bs⟩ ≤ 2 * k + 1) :
    planD size bs root F 0 k = [leafItem size bs (2 * k) (2 * k == root)] := by
  simp only [planD, postD, nodeOf_zero, if_pos hsh, List.flatMap_cons, List.flatMap_nil,
    List.append_nil, items_leaf g root hsh, if_neg (Nat.not_lt.mpr h)]

theorem planD_succ_pos {L k : Nat} (h : nodeOf k (L + 1) < F) :
    planD size bs root F (L + 1) k
      = planD size bs root F L (2 * k) ++ planD size bs root F L (2 * k + 1) ++
        [.parent (up bs (nodeOf k (L + 1))) (nodeOf k (L + 1) == root) true true []] := by
  simp only [planD, postD, if_pos h, List.flatMap_append, List.flatMap_cons, List.flatMap_nil,
    List.append_nil, items_inner g root (nodeOf_succ_odd k L) h]

omit g in
theorem planD_succ_neg {L k : Nat} (h : ¬ (nodeOf k (L + 1) < F)) :
    planD size bs root F (L + 1) k = planD size bs root F L (2 * k) := by
  simp only [planD, postD, if_neg h]

omit g in
theorem range'_clip_append {s m e B : Nat} (h1 : s ≤ m) (h2 : m ≤ e) (hB : m ≤ B) :
    List.range' s (min m B - s) ++ List.range' m (min e B - m) = List.range' s (min e B - s) := by
  have h3 : m ≤ min e B := Nat.le_min.mpr ⟨h2, hB⟩
  rw [Nat.min_eq_left hB]
  generalize min e B = c at *
  obtain ⟨a, rfl⟩ := Nat.exists_eq_add_of_le h1
  obtain ⟨b, rfl⟩ := Nat.exists_eq_add_of_le h3
  rw [Nat.add_sub_cancel_left, Nat.add_sub_cancel_left, Nat.add_assoc, Nat.add_sub_cancel_left,
    List.range'_append_1]

theorem leaves_planD (L k : Nat) :
    leavesOf (planD size bs root F L k)
      = (List.range' (startOf k L) (min (endOf k L) (Tree.blocks ⟨size, bs⟩) - startOf k L)).map
          (leafInfo size bs) := by
  have hodd := g.odd; have hle := g.le; have hge := g.ge
  induction L generalizing k with
  | zero =>
    rw [endOf_start, startOf_zero, Nat.zero_add, Nat.pow_one]
    by_cases hsh : 2 * k < F
    · by_cases h : 2 * k + 1 < Tree.blocks ⟨size, bs⟩
      · rw [planD_zero_full g root h, Nat.min_eq_left (show 2 * k + 2 ≤ _ from h),
          Nat.add_sub_cancel_left]
        rfl
      · rw [planD_zero_half g root hsh (Nat.not_lt.mp h),
          Nat.min_eq_right (Nat.le_succ_of_le (Nat.not_lt.mp h)),
          show Tree.blocks ⟨size, bs⟩ - 2 * k = 1 by omega]
        rfl
    · rw [planD_zero_out root hsh, Nat.sub_eq_zero_of_le (Nat.le_trans (Nat.min_le_right _ _) (by omega))]
      rfl
  | succ L ih =>
    obtain ⟨hx, hsl, hel, hsr, her, he⟩ := child_coords k L
    have h2p : startOf k (L + 1) + 2 ^ (L + 1) ≤ startOf k (L + 1) + 2 * 2 ^ (L + 1) :=
      Nat.add_le_add_left (Nat.le_mul_of_pos_left _ (by decide)) _
    by_cases h : nodeOf k (L + 1) < F
    · rw [planD_succ_pos g root h, leavesOf_append, leavesOf_append, ih, ih, hsl, hsr, hel, her, he,
        ← List.map_append,
        range'_clip_append (Nat.le_add_right _ _) h2p (hx ▸ Nat.le_trans h hle)]
      exact List.append_nil _
    · -- the node is missing: all blocks lie in the left half
      have hB : Tree.blocks ⟨size, bs⟩ ≤ startOf k (L + 1) + 2 ^ (L + 1) :=
        hx ▸ Nat.le_trans hge (Nat.succ_le_succ (Nat.not_lt.mp h))
      rw [planD_succ_neg root h, ih, hsl, hel, he, Nat.min_eq_right hB,
        Nat.min_eq_right (Nat.le_trans hB h2p)]

theorem parents_planD (L k : Nat) :
    parentsOf (planD size bs root F L k)
      = (postD (Tree.blocks ⟨size, bs⟩ - 1) L k).map (up bs) := by
  have hodd := g.odd; have hle := g.le; have hge := g.ge
  induction L generalizing k with
  | zero =>
    simp only [postD, nodeOf_zero]
    by_cases hsh : 2 * k < F
    · by_cases h : 2 * k + 1 < Tree.blocks ⟨size, bs⟩
      · rw [planD_zero_full g root h, if_pos (Nat.lt_sub_of_add_lt h)]
        rfl
      · rw [planD_zero_half g root hsh (Nat.not_lt.mp h),
          if_neg (fun c => h (Nat.add_lt_of_lt_sub c))]
        rfl
    · rw [planD_zero_out root hsh,
        if_neg (fun c => hsh (Nat.lt_of_lt_of_le c (Nat.sub_le_of_le_add hge)))]
      rfl
  | succ L ih =>
    have hxo := nodeOf_succ_odd k L
    by_cases h : nodeOf k (L + 1) < F
    · rw [planD_succ_pos g root h, parentsOf_append, parentsOf_append, ih, ih]
      simp only [postD, if_pos (by omega : nodeOf k (L + 1) < Tree.blocks ⟨size, bs⟩ - 1),
        List.map_append]
      rfl
    · rw [planD_succ_neg root h, ih]
      simp only [postD, if_neg (by omega : ¬ nodeOf k (L + 1) < Tree.blocks ⟨size, bs⟩ - 1)]

theorem stack_planD (L k : Nat) (hne : startOf k L < F) (s : Nat) :
    stackRun s (planD size bs root F L k) = some (s + 1) := by
  have hodd := g.odd; have hle := g.le; have hge := g.ge
  induction L generalizing k s with
  | zero =>
    rw [startOf_zero] at hne
    by_cases h : 2 * k + 1 < Tree.blocks ⟨size, bs⟩
    · rw [planD_zero_full g root h]
      simp [stackRun, stackStep, leafItem]
    · rw [planD_zero_half g root hne (by omega)]
      simp [stackRun, stackStep, leafItem]
  | succ L ih =>
    by_cases h : nodeOf k (L + 1) < F
    · rw [planD_succ_pos g root h, stackRun_append, stackRun_append, ih _ (left_nonempty h),
        Option.bind_some,
        ih _ (right_nonempty hodd h).1, Option.bind_some]
      simp [stackRun, stackStep]
    · rw [planD_succ_neg root h]
      exact ih _ (by rw [Offsets.startOf_left]; exact hne) s

theorem flags_planD (L k : Nat) (hroot : ∀ x ∈ postD F L k, x ≠ root) :
    ∀ c ∈ planD size bs root F L k, rootFlag c = false := by
  have hle := g.le; have hge := g.ge
  intro c hc
  simp only [planD, List.mem_flatMap] at hc
  obtain ⟨x, hx, hc⟩ := hc
  have hxr : (x == root) = false := by rw [beq_eq_false_iff_ne]; exact hroot x hx
  have hxF := mem_postD_lt _ _ _ _ hx
  rcases Nat.mod_two_eq_zero_or_one x with hev | hod
  · obtain ⟨k', rfl⟩ : ∃ k', x = 2 * k' := ⟨x / 2, by omega⟩
    rw [items_leaf g root hxF, hxr] at hc
    split at hc
    · simp only [List.mem_cons, List.not_mem_nil, or_false] at hc
      rcases hc with rfl | rfl | rfl <;> rfl
    · simp only [List.mem_cons, List.not_mem_nil, or_false] at hc
      subst hc; rfl
  · rw [items_inner g root hod hxF, hxr] at hc
    simp only [List.mem_cons, List.not_mem_nil, or_false] at hc
    subst hc; rfl

theorem root_planD (h : Nat) (hroot : nodeOf 0 h < F) :
    ∃ init last, planD size bs (nodeOf 0 h) F h 0 = init ++ [last] ∧ rootFlag last = true ∧
      ∀ c ∈ init, rootFlag c = false := by
  have hle := g.le; have hge := g.ge
  cases h with
  | zero =>
    rw [nodeOf_zero] at hroot ⊢
    by_cases hb : 2 * 0 + 1 < Tree.blocks ⟨size, bs⟩
    · refine ⟨[leafItem size bs (2 * 0) false, leafItem size bs (2 * 0 + 1) false], _,
        by rw [planD_zero_full g _ hb]; rfl, by simp [rootFlag], ?_⟩
      intro c hc
      simp only [List.mem_cons, List.not_mem_nil, or_false] at hc
      rcases hc with rfl | rfl <;> rfl
    · exact ⟨[], _, by rw [planD_zero_half g _ hroot (by omega)]; rfl, by simp [rootFlag, leafItem],
        by simp⟩
  | succ h =>
    have hne : ∀ k', ∀ x ∈ postD F h k', x ≠ nodeOf 0 (h + 1) := by
      intro k' x hx hxe
      obtain ⟨k'', L', h1, h2, _⟩ := mem_postD _ _ _ _ hx
      rw [h1] at hxe
      have := (C18.nodeOf_inj hxe).2
      omega
    refine ⟨_, _, planD_succ_pos g _ hroot, by simp [rootFlag], ?_⟩
    intro c hc
    rw [List.mem_append] at hc
    rcases hc with hc | hc
    · exact flags_planD g _ h _ (hne _) c hc
    · exact flags_planD g _ h _ (hne _) c hc

/-- the plan as an explicit recursion: subtree = left plan ++ right plan ++ [parent] -/
def planRec (size bs root F : Nat) : Nat → Nat → List Chunk
  | 0, k =>
    if 2 * k < F then
      if 2 * k + 1 < Tree.blocks ⟨size, bs⟩ then
        [leafItem size bs (2 * k) false, leafItem size bs (2 * k + 1) false,
         .parent (nodeOf k bs) (2 * k == root) true true []]
      else [leafItem size bs (2 * k) (2 * k == root)]
    else []
  | L + 1, k =>
    if nodeOf k (L + 1) < F then
      planRec size bs root F L (2 * k) ++ planRec size bs root F L (2 * k + 1) ++
        [.parent (nodeOf k (L + 1 + bs)) (nodeOf k (L + 1) == root) true true []]
    else planRec size bs root F L (2 * k)

omit g in
theorem forall_planRec {P : Chunk → Prop} (hl : ∀ s z r, P (.leaf s z r []))
    (hp : ∀ n r, P (.parent n r true true [])) (L k : Nat) :
    ∀ c ∈ planRec size bs root F L k, P c := by
  induction L generalizing k with
  | zero =>
    intro c hc
    simp only [planRec] at hc
    split at hc
    · split at hc
      · simp only [List.mem_cons, List.not_mem_nil, or_false] at hc
        rcases hc with rfl | rfl | rfl
        · exact hl _ _ _
        · exact hl _ _ _
        · exact hp _ _
      · simp only [List.mem_cons, List.not_mem_nil, or_false] at hc
        subst hc; exact hl _ _ _
    · simp at hc
  | succ L ih =>
    intro c hc
    simp only [planRec] at hc
    split at hc
    · simp only [List.mem_append, List.mem_cons, List.not_mem_nil, or_false] at hc
      rcases hc with (hc | hc) | rfl
      · exact ih _ c hc
      · exact ih _ c hc
      · exact hp _ _
    · exact ih _ c hc

theorem planD_eq_planRec (L k : Nat) :
    planD size bs root F L k = planRec size bs root F L k := by
  have hle := g.le; have hge := g.ge
  induction L generalizing k with
  | zero =>
    have e : up bs (2 * k) = nodeOf k bs := by
      have := up_nodeOf bs k 0
      rwa [nodeOf_zero, Nat.zero_add] at this
    by_cases hsh : 2 * k < F
    · by_cases h : 2 * k + 1 < Tree.blocks ⟨size, bs⟩
      · rw [planD_zero_full g root h, e]; simp only [planRec, if_pos hsh, if_pos h]
      · rw [planD_zero_half g root hsh (by omega)]; simp only [planRec, if_pos hsh, if_neg h]
    · rw [planD_zero_out root hsh]; simp only [planRec, if_neg hsh]
  | succ L ih =>
    by_cases h : nodeOf k (L + 1) < F
    · rw [planD_succ_pos g root h, ih, ih, up_nodeOf]; simp only [planRec, if_pos h]
    · rw [planD_succ_neg root h, ih]; simp only [planRec, if_neg h]

end plan

theorem postOrderChunks_eq (size bs : Nat) (hs : size ≤ 2 ^ 63) :
    Tree.postOrderChunks ⟨size, bs⟩
      = planD size bs (Tree.shifted ⟨size, bs⟩).1 (Tree.shifted ⟨size, bs⟩).2
          (rootLevel ⟨size, bs⟩) 0 := by
  unfold Tree.postOrderChunks planD
  rw [postOrderNodes_shifted size bs hs]

theorem leaves_plan (size bs : Nat) (hs : size ≤ 2 ^ 63) (hbs : bs ≤ 10) :
    leavesOf (Tree.postOrderChunks ⟨size, bs⟩)
      = (List.range (Tree.blocks ⟨size, bs⟩)).map (leafInfo size bs) := by
  obtain ⟨_, _, _, hF⟩ := rootLevel_spec size bs hs
  have g := shifted_geo size bs hs hbs
  have hge := g.ge
  rw [postOrderChunks_eq size bs hs, leaves_planD g, List.range_eq_range', startOf_zero_left,
    endOf_zero_left, Nat.min_eq_right (by omega), Nat.sub_zero]

/-- each leaf ends where the next one starts; the last one ends at `size` -/
theorem leaf_cover (size bs b : Nat) (hb : b < Tree.blocks ⟨size, bs⟩) :
    (leafInfo size bs b).1 * 1024 + (leafInfo size bs b).2
      = if b + 1 < Tree.blocks ⟨size, bs⟩ then (leafInfo size bs (b + 1)).1 * 1024 else size := by
  have h1 := lt_blocks_iff_bytes size bs (b + 1) (Nat.succ_pos b)
  have h2 : b * 2 ^ bs * 1024 ≤ size := by
    by_cases h0 : b = 0
    · rw [h0, Nat.zero_mul, Nat.zero_mul]; exact Nat.zero_le _
    · exact Nat.le_of_lt ((lt_blocks_iff_bytes size bs b (Nat.pos_of_ne_zero h0)).mp hb)
  rw [Nat.add_mul, Nat.one_mul, Nat.add_mul, Nat.add_comm (b * 2 ^ bs * 1024)] at h1
  simp only [leafInfo, Nat.add_mul, Nat.one_mul]
  by_cases h : b + 1 < Tree.blocks ⟨size, bs⟩
  · rw [if_pos h, Nat.min_eq_left (Nat.le_sub_of_add_le (Nat.le_of_lt (h1.mp h)))]
  · rw [if_neg h, Nat.min_eq_right (Nat.sub_le_of_le_add (Nat.not_lt.mp (mt h1.mpr h))),
      Nat.add_sub_of_le h2]

theorem parents_plan (size bs : Nat) (hs : size ≤ 2 ^ 63) (hbs : bs ≤ 10) :
    parentsOf (Tree.postOrderChunks ⟨size, bs⟩) = persistedPost size bs := by
  obtain ⟨_, _, _, hF⟩ := rootLevel_spec size bs hs
  obtain ⟨hNF, _, _⟩ := shifted_props size bs
  rw [postOrderChunks_eq size bs hs, parents_planD (shifted_geo size bs hs hbs),
    persistedPost_eq_postD size bs (rootLevel ⟨size, bs⟩) hs (by omega)]

theorem stack_plan (size bs : Nat) (hs : size ≤ 2 ^ 63) (hbs : bs ≤ 10) :
    stackRun 0 (Tree.postOrderChunks ⟨size, bs⟩) = some 1 := by
  obtain ⟨_, _, hlt, _⟩ := rootLevel_spec size bs hs
  rw [postOrderChunks_eq size bs hs]
  exact stack_planD (shifted_geo size bs hs hbs) _ _ 0 (by rw [startOf_zero_left]; omega) 0

theorem stack_prefix {plan a b : List Chunk} {r : Nat} (h : stackRun 0 plan = some r)
    (hab : plan = a ++ b) : ∃ s, stackRun 0 a = some s := by
  rw [hab, stackRun_append] at h
  cases hs : stackRun 0 a with
  | some s => exact ⟨s, rfl⟩
  | none => rw [hs] at h; simp at h

theorem root_plan (size bs : Nat) (hs : size ≤ 2 ^ 63) (hbs : bs ≤ 10) :
    ∃ init last, Tree.postOrderChunks ⟨size, bs⟩ = init ++ [last] ∧ rootFlag last = true ∧
      ∀ c ∈ init, rootFlag c = false := by
  obtain ⟨_, e, hlt, _⟩ := rootLevel_spec size bs hs
  rw [postOrderChunks_eq size bs hs, e]
  exact root_planD (shifted_geo size bs hs hbs) _ hlt

theorem plan_rec (size bs : Nat) (hs : size ≤ 2 ^ 63) (hbs : bs ≤ 10) :
    Tree.postOrderChunks ⟨size, bs⟩
      = planRec size bs (Tree.shifted ⟨size, bs⟩).1 (Tree.shifted ⟨size, bs⟩).2
          (rootLevel ⟨size, bs⟩) 0 := by
  rw [postOrderChunks_eq size bs hs, planD_eq_planRec (shifted_geo size bs hs hbs)]

end Bao.NodeIterL
