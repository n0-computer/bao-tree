import BaoProofs.Lemmas.OutboardL
import BaoProofs.Lemmas.ValidL
import BaoProofs.Props.C13

/-!
# Lemmas for the byte-level statement of C13 (post-order outboards only grow at the end)

* `slice_append`, `pair_append`, `pairBytes_append` – the hash pair of a node whose untruncated
  interval ends inside `d` does not see appended bytes.
* `mem_persistedPost_coords`, `persistedPost_mono` – persisted nodes in coordinates; a persisted
  node stays persisted when the blob grows.
* `stable_getElem`, `take_stable_eq`              – the first `S` (= number of stable nodes) entries
  of the post-order list are the same for every larger blob.
* `take_flatMap64`                                 – cutting a concatenation of 64-byte blocks.
-/

namespace Bao.C13L
open Bao Bao.Spec Bao.Bits Bao.Offsets

theorem slice_append (d e : List UInt8) (a b : Nat) (h : b * 1024 ≤ d.length) :
    slice (d ++ e) a b = slice d a b := by
  unfold slice
  by_cases hab : a ≤ b
  · rw [List.drop_append_of_le_length (Nat.le_trans (Nat.mul_le_mul_right _ hab) h),
      List.take_append_of_le_length
        (by rw [List.length_drop, Nat.sub_mul]; exact Nat.sub_le_sub_right h _)]
  · rw [Nat.sub_eq_zero_of_le (Nat.le_of_not_le hab), Nat.zero_mul, List.take_zero, List.take_zero]

theorem pair_append {H : Type} (hf : HashFns H) (d e : List UInt8) (k L : Nat)
    (h : endOf k L * 1024 ≤ d.length) : pair hf (d ++ e) k L = pair hf d k L := by
  have hm : midOf k L * 1024 ≤ d.length :=
    Nat.le_trans (Nat.mul_le_mul_right _ (Nat.le_of_lt (midOf_lt_endOf k L))) h
  rw [OutboardL.pair_eq, OutboardL.pair_eq]
  unfold cv
  rw [slice_append d e _ _ hm, slice_append d e _ _ h]

theorem pairBytes_append {H : Type} (hf : HashFns H) (d e : List UInt8) (x : Nat)
    (h : endOf (indexOf x) (levelOf x) * 1024 ≤ d.length) :
    pairBytes hf (d ++ e) x = pairBytes hf d x := by
  unfold pairBytes
  rw [pair_append hf d e _ _ h]

theorem mem_persistedPost_coords {size bs x : Nat} (hs : size ≤ 2 ^ 63)
    (hx : x ∈ persistedPost size bs) :
    ∃ k L, x = nodeOf k L ∧ bs ≤ L ∧ L < 53 ∧ midOf k L * 1024 < size :=
  OutboardL.persisted_coords hs hx

theorem persistedPost_mono {size size' bs x : Nat} (hle : size ≤ size') (hs' : size' ≤ 2 ^ 63)
    (hx : x ∈ persistedPost size bs) : x ∈ persistedPost size' bs := by
  obtain ⟨k, L, rfl, hL, _, hm⟩ := mem_persistedPost_coords (Nat.le_trans hle hs') hx
  apply (OutboardL.persistedPost_perm size' bs hs').mem_iff.mpr
  apply ValidL.mem_persistedPre size' bs k L hs' hL
  rw [lt_nChunks_iff _ _ (Nat.lt_of_le_of_lt (Nat.zero_le _) (startOf_lt_midOf k L))]
  exact Nat.lt_of_lt_of_le hm hle

theorem stable_end {size bs x : Nat} (hs : size ≤ 2 ^ 63)
    (hx : x ∈ persistedPost size bs) (hst : isStable ⟨size, bs⟩ x = true) :
    endOf (indexOf x) (levelOf x) * 1024 ≤ size := by
  obtain ⟨k, L, rfl, hL, hL53, _⟩ := mem_persistedPost_coords hs hx
  obtain ⟨v, hv⟩ := (isStable_iff _ _).mp hst
  rw [indexOf_nodeOf (by omega), levelOf_nodeOf (by omega)]
  exact ((stable_iff_coord size bs k L hs hL v).mp hv).1

theorem stable_count_le (size bs : Nat) :
    (persistedPost size bs).countP (isStable ⟨size, bs⟩) ≤ (persistedPost size bs).length :=
  List.countP_le_length

theorem stable_getElem {size size' bs : Nat} (hle : size ≤ size') (hs' : size' ≤ 2 ^ 63)
    (hbs : bs ≤ 10) (i : Nat)
    (hi : i < (persistedPost size bs).countP (isStable ⟨size, bs⟩)) :
    ∃ (h : i < (persistedPost size bs).length) (h' : i < (persistedPost size' bs).length),
      (persistedPost size' bs)[i] = (persistedPost size bs)[i] ∧
      i < (persistedPost size' bs).countP (isStable ⟨size', bs⟩) := by
  have hs : size ≤ 2 ^ 63 := Nat.le_trans hle hs'
  have h : i < (persistedPost size bs).length := Nat.lt_of_lt_of_le hi (stable_count_le size bs)
  have hst := (prefix_of_pairwise (isStable ⟨size, bs⟩) _ (persistedPost_pairwise size bs hs) i h).mpr hi
  obtain ⟨v, hv⟩ := (isStable_iff _ _).mp hst
  -- the slot of a persisted node is its index, in either blob
  have hval := (C12.post size bs hs hbs).2 i h
  rw [hv] at hval
  cases hval
  have hv' := stable_mono size size' bs _ _ hle hv
  obtain ⟨j, hj, hje⟩ := List.getElem_of_mem (persistedPost_mono hle hs' (List.getElem_mem h))
  have hval' := (C12.post size' bs hs' hbs).2 j hj
  rw [hje, hv'] at hval'
  cases hval'
  exact ⟨h, hj, hje, (prefix_of_pairwise _ _ (persistedPost_pairwise size' bs hs') _ hj).mp
    (hje ▸ (isStable_iff _ _).mpr ⟨_, hv'⟩)⟩

theorem stable_count_le' {size size' bs : Nat} (hle : size ≤ size') (hs' : size' ≤ 2 ^ 63)
    (hbs : bs ≤ 10) :
    (persistedPost size bs).countP (isStable ⟨size, bs⟩) ≤ (persistedPost size' bs).length :=
  Nat.le_of_not_lt fun h =>
    let ⟨_, h', _⟩ := stable_getElem hle hs' hbs _ h
    Nat.lt_irrefl _ h'

theorem take_stable_eq {size size' bs : Nat} (hle : size ≤ size') (hs' : size' ≤ 2 ^ 63)
    (hbs : bs ≤ 10) :
    (persistedPost size bs).take ((persistedPost size bs).countP (isStable ⟨size, bs⟩))
      = (persistedPost size' bs).take ((persistedPost size bs).countP (isStable ⟨size, bs⟩)) := by
  apply List.ext_getElem
  · rw [List.length_take, List.length_take, Nat.min_eq_left (stable_count_le size bs),
      Nat.min_eq_left (stable_count_le' hle hs' hbs)]
  · intro i hi1 hi2
    obtain ⟨_, _, he, _⟩ := stable_getElem hle hs' hbs i
      (Nat.lt_of_lt_of_le hi1 (List.length_take_le _ _))
    rw [List.getElem_take, List.getElem_take, he]

theorem mem_take_stable {size bs x : Nat} (hs : size ≤ 2 ^ 63)
    (hx : x ∈ (persistedPost size bs).take ((persistedPost size bs).countP (isStable ⟨size, bs⟩))) :
    x ∈ persistedPost size bs ∧ isStable ⟨size, bs⟩ x = true := by
  refine ⟨List.mem_of_mem_take hx, ?_⟩
  obtain ⟨i, hi, rfl⟩ := List.getElem_of_mem hx
  rw [List.length_take] at hi
  rw [List.getElem_take]
  exact (prefix_of_pairwise (isStable ⟨size, bs⟩) _ (persistedPost_pairwise size bs hs) i
    (Nat.lt_of_lt_of_le hi (Nat.min_le_right _ _))).mpr (Nat.lt_of_lt_of_le hi (Nat.min_le_left _ _))

theorem stable_count_mono {size size' bs : Nat} (hle : size ≤ size') (hs' : size' ≤ 2 ^ 63)
    (hbs : bs ≤ 10) :
    (persistedPost size bs).countP (isStable ⟨size, bs⟩)
      ≤ (persistedPost size' bs).countP (isStable ⟨size', bs⟩) :=
  Nat.le_of_not_lt fun h =>
    let ⟨_, _, _, h'⟩ := stable_getElem hle hs' hbs _ h
    Nat.lt_irrefl _ h'

theorem take_flatMap64 {α : Type} (l : List α) (f : α → List UInt8)
    (hf : ∀ x ∈ l, (f x).length = 64) (n : Nat) :
    (l.flatMap f).take (64 * n) = (l.take n).flatMap f := by
  induction l generalizing n with
  | nil => rw [List.take_nil, List.flatMap_nil, List.take_nil]
  | cons a t ih =>
    cases n with
    | zero => rfl
    | succ n =>
      rw [List.take_succ_cons, List.flatMap_cons, List.flatMap_cons, Nat.mul_succ, Nat.add_comm,
        ← hf a List.mem_cons_self, List.take_length_add_append, hf a List.mem_cons_self,
        ih (fun x hx => hf x (List.mem_cons_of_mem _ hx))]

export Bao.WriteAtL (flatMap_congr')

theorem drop_flatMap64 {α : Type} (l : List α) (f : α → List UInt8)
    (hf : ∀ x ∈ l, (f x).length = 64) (n : Nat) :
    (l.flatMap f).drop (64 * n) = (l.drop n).flatMap f := by
  induction l generalizing n with
  | nil => rw [List.drop_nil, List.flatMap_nil, List.drop_nil]
  | cons a t ih =>
    cases n with
    | zero => rfl
    | succ n =>
      rw [List.drop_succ_cons, List.flatMap_cons, Nat.mul_succ, Nat.add_comm,
        ← hf a List.mem_cons_self, List.drop_length_add_append, hf a List.mem_cons_self,
        ih (fun x hx => hf x (List.mem_cons_of_mem _ hx))]

section outboards
variable {H : Type} (hf : HashFns H)

theorem postOutboard_take (hlen : ∀ h, (hf.toBytes h).length = 32) (d : List UInt8) (bs n : Nat) :
    (postOutboard hf d bs).take (64 * n) = ((persistedPost d.length bs).take n).flatMap (pairBytes hf d) :=
  take_flatMap64 _ _ (fun x _ => OutboardL.pairBytes_length hf hlen d x) n

theorem postOutboard_block (hlen : ∀ h, (hf.toBytes h).length = 32) (d : List UInt8) (bs i : Nat)
    (hi : i < (persistedPost d.length bs).length) :
    ((postOutboard hf d bs).drop (64 * i)).take 64 = pairBytes hf d (persistedPost d.length bs)[i] := by
  have := WriteAtL.blockAt_flatMap (persistedPost d.length bs) (pairBytes hf d)
    (fun x _ => OutboardL.pairBytes_length hf hlen d x) i hi
  unfold WriteAtL.blockAt at this
  rw [Nat.mul_comm]
  exact this

theorem postOutboard_stable_take (hlen : ∀ h, (hf.toBytes h).length = 32) (d e : List UInt8)
    (bs : Nat) (hs : (d ++ e).length ≤ 2 ^ 63) (hbs : bs ≤ 10) :
    (postOutboard hf d bs).take
        (64 * (persistedPost d.length bs).countP (isStable ⟨d.length, bs⟩))
      = (postOutboard hf (d ++ e) bs).take
        (64 * (persistedPost d.length bs).countP (isStable ⟨d.length, bs⟩)) := by
  have hle : d.length ≤ (d ++ e).length := by rw [List.length_append]; exact Nat.le_add_right _ _
  have hs0 := Nat.le_trans hle hs
  rw [postOutboard_take hf hlen, postOutboard_take hf hlen, ← take_stable_eq hle hs hbs]
  apply flatMap_congr'
  intro x hx
  obtain ⟨hxP, hst⟩ := mem_take_stable hs0 hx
  exact (pairBytes_append hf d e x (stable_end hs0 hxP hst)).symm

end outboards

end Bao.C13L
