import BaoProofs.Lemmas.HistL

/-!
# The evaluation list of a history of `decode_ranges` calls (C07, local collision freedom)

`Lemmas/HistL.lean`, `HistLabelL.lean`, `HistLogL.lean` need `CollisionFreeOn hf S` for a set `S`
that contains

* `trueEvals hf d` – the inputs evaluated by the honest hashing of the blob, and
* for every call of the history, `runEvals hf fl root tree q stream` – the inputs evaluated by the
  FAULT-FREE decoder run of that call (a fault-injected call stops earlier, so it evaluates a prefix
  of these; taking the fault-free list makes `histEvals` independent of the injected faults and of
  the state of the sink, it only depends on the root and the tree of the outboard, which a history
  never changes).

`histEvals hf d ops sink` is the finite, computable list `trueEvals ++ (runEvals of every call)`.
-/

namespace Bao.C07Loc

open Bao Bao.Spec Bao.C01 Bao.C07

variable {H : Type}

/-- the inputs evaluated by the (fault-free) decoder runs of the calls of a history, all set up with
the root `root` and the claimed geometry `tree` -/
def callEvals (hf : HashFns H) [BEq H] (root : H) (tree : Tree) (ops : List Op) :
    List (HashIn H) :=
  ops.flatMap fun op => runEvals hf op.fl root tree op.ranges op.stream

/-- **the evaluation list of a history**: the inputs of the honest hashing of the blob, then the
inputs of the decoder run of every call (on that call's stream and query, with the root and the tree
of the sink's outboard) -/
def histEvals (hf : HashFns H) [BEq H] (d : List UInt8) (ops : List Op) (sink : Sink H) :
    List (HashIn H) :=
  trueEvals hf d ++ callEvals hf sink.ob.root sink.ob.tree ops

section evals
variable (hf : HashFns H) [BEq H]

theorem callEvals_append (root : H) (tree : Tree) (a b : List Op) :
    callEvals hf root tree (a ++ b) = callEvals hf root tree a ++ callEvals hf root tree b := by
  simp only [callEvals, List.flatMap_append]

theorem mem_callEvals {root : H} {tree : Tree} {ops : List Op} {x : HashIn H} :
    x ∈ callEvals hf root tree ops ↔
      ∃ op ∈ ops, x ∈ runEvals hf op.fl root tree op.ranges op.stream := by
  simp only [callEvals, List.mem_flatMap]

theorem histEvals_true (d : List UInt8) (ops : List Op) (sink : Sink H) :
    ∀ x ∈ trueEvals hf d, x ∈ histEvals hf d ops sink :=
  fun _ hx => List.mem_append_left _ hx

theorem histEvals_call (d : List UInt8) {ops : List Op} (sink : Sink H) {op : Op} (hop : op ∈ ops) :
    ∀ x ∈ runEvals hf op.fl sink.ob.root sink.ob.tree op.ranges op.stream,
      x ∈ histEvals hf d ops sink :=
  fun _ hx => List.mem_append_right _ ((mem_callEvals hf).2 ⟨op, hop, hx⟩)

theorem histEvals_mono (d : List UInt8) {ops ops' : List Op} (sink sink' : Sink H)
    (hr : sink'.ob.root = sink.ob.root) (ht : sink'.ob.tree = sink.ob.tree)
    (h : ∀ op ∈ ops', op ∈ ops) : ∀ x ∈ histEvals hf d ops' sink', x ∈ histEvals hf d ops sink := by
  intro x hx
  rcases List.mem_append.1 hx with hx | hx
  · exact List.mem_append_left _ hx
  · rw [hr, ht] at hx
    obtain ⟨op, hop, hx⟩ := (mem_callEvals hf).1 hx
    exact List.mem_append_right _ ((mem_callEvals hf).2 ⟨op, h op hop, hx⟩)

end evals

theorem run_effect_loc {hf : HashFns H} {d : List UInt8} [BEq H] [LawfulBEq H]
    (hd : d.length ≤ 2 ^ 64 * 1024) (ops : List Op) (sink : Sink H)
    (hroot : sink.ob.root = Spec.root hf d)
    (cf : CollisionFreeOn hf (fun x => x ∈ histEvals hf d ops sink)) :
    Effect hf d sink (run hf ops sink) :=
  run_effect_on cf (histEvals_true hf d ops sink) hd _ _ hroot ops sink rfl rfl
    (fun _ hop => histEvals_call hf d sink hop)

end Bao.C07Loc
