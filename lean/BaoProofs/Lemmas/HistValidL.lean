import BaoProofs.Lemmas.HistSlotL

/-!
# The validator after a history (C07, stage D)

* (`ValidL.verifiable_local`: a chunk group is `Verifiable` as soon as the loads of ITS OWN existing
  ancestors of level `≥ bs` return the true pairs and ITS OWN stored bytes are the blob's;)
* `RtTrue` – a load inside the backing parses the 64 bytes of the slot (`OutboardL.load_slot`); for a
  slot that `Holds` this is the true pair if its stored bytes parse back to it;
* `evs_len_ge` – the backing never shrinks; `ok_of_full` – no io errors over a full-size backing;
* `group_verifiable` – after a labelled list of completed calls a completely delivered chunk group
  is verifiable;
* `chunk_delivered`, `group_delivered` – conversely, a chunk whose bytes in the final target are the
  blob's and in which the initial target differed from the blob has been delivered.
-/

namespace Bao.C07L
open Bao Bao.Spec Bao.C01 Bao.C07 Bao.Bits Bao.WriteAtL Bao.ValidL Bao.PlanPre
open Bao.FaultL (Ev applyEv applyEvs saveOrKeep)

variable {H : Type}

section loads
variable {hf : HashFns H} {d : List UInt8} {bs : Nat}

/-- the stored bytes of the true pair of every existing node of level `≥ bs` parse back to that
pair (a round trip only on the finitely many hashes of the true tree of `d`: unlike the global round
trip this is compatible with `CollisionFree hf` and 32-byte hashes) -/
def RtTrue (hf : HashFns H) (d : List UInt8) (bs : Nat) : Prop :=
  ∀ k L, bs ≤ L → midOf k L < nChunks d.length →
    parsePair hf (Spec.pairBytes hf d (nodeOf k L)) = Spec.pair hf d k L

theorem saveOrKeep_len (ob : Store H) (hk : ob.kind ≠ .empty) (c : Nat × H × H) :
    (saveOrKeep hf ob c).kind = ob.kind ∧ ob.data.length ≤ (saveOrKeep hf ob c).data.length := by
  unfold saveOrKeep
  split
  · rename_i ob' hs
    refine ⟨(save_root hf ob ob' _ _ hs).2.2, ?_⟩
    cases hsl : ob.slot c.1 with
    | none =>
      unfold Store.save at hs
      cases hkd : ob.kind with
      | empty => exact absurd hkd hk
      | preIo => simp only [hkd, hsl] at hs; injection hs with hs; rw [← hs]; exact Nat.le_refl _
      | postIo => simp only [hkd, hsl] at hs; injection hs with hs; rw [← hs]; exact Nat.le_refl _
      | preMem => simp only [hkd, hsl] at hs; cases hs
      | postMem => simp only [hkd, hsl] at hs; cases hs
    | some j =>
      rw [save_ok_data hk hsl hs, length_writeAt]
      exact Nat.le_max_left _ _
  · exact ⟨rfl, Nat.le_refl _⟩

theorem evs_len_ge (es : List (Ev H)) (sink : Sink H) (hk : sink.ob.kind ≠ .empty) :
    sink.ob.data.length ≤ (applyEvs hf sink es).ob.data.length := by
  rw [FaultL.applyEvs_ob, FaultL.applySaves]
  generalize FaultL.saves es = ss
  generalize sink.ob = ob at hk
  induction ss generalizing ob with
  | nil => exact Nat.le_refl _
  | cons c ss ih =>
    obtain ⟨h1, h2⟩ := saveOrKeep_len (hf := hf) ob hk c
    exact Nat.le_trans h2 (ih _ (by rw [h1]; exact hk))

theorem ok_of_full [BEq H] [LawfulBEq H] (hd : d.length ≤ 2 ^ 63) (hbs : bs ≤ 10) (fl : Flavour) {ob : Store H}
    (hk : ob.kind ≠ .empty) (htree : ob.tree = ⟨d.length, bs⟩)
    (hfull : Tree.outboardSize ⟨d.length, bs⟩ ≤ ob.data.length) {data : List UInt8}
    (hdata : d.length ≤ data.length) (q : Ranges) :
    (validRanges hf fl ob data q).terminal = .ok := by
  obtain ⟨P, T, -, -⟩ := table_exists (H := H) hd hbs hk
  have hP : Tree.outboardSize ⟨d.length, bs⟩ = P.length * 64 := by rw [T.len]; rfl
  refine (validRanges_exact hf fl ob data (by rw [htree]; exact hd) (by rw [htree]; exact hbs)
    q).ok (noIo_of_load (by rw [htree]; exact hd) (by rw [htree]; exact hbs) ?_
      (by rw [htree]; exact fun _ => hdata))
  intro k M hM hm
  rw [htree] at hM hm
  obtain ⟨j, hj, -, hsl⟩ := T.index rfl htree (T.mem k M hM hm)
  exact ⟨_, OutboardL.load_slot hf fl ob hk hsl (by omega)⟩

/-- after a labelled list of completed calls: a chunk group all of whose byte positions are
delivered is verifiable in the final store over the final target, hence reported for every
well-formed query that touches it unless the validator run ends in an io error -/
theorem group_verifiable [BEq H] [LawfulBEq H] (hrt : RtTrue hf d bs) (hd : d.length ≤ 2 ^ 63) (hbs : bs ≤ 10)
    {es : List (Ev H)} (htr : Trace (EG hf d bs) [] es) {ob : Store H} {tgt : List UInt8}
    (hk : ob.kind ≠ .empty) (htree : ob.tree = ⟨d.length, bs⟩) (hroot : ob.root = Spec.root hf d)
    (hinv : HInv hf d bs es.reverse ob) (htl : tgt.length = d.length)
    (htgt : ∀ i, Cov (FaultL.writes es) i → tgt[i]? = d[i]?) (fl : Flavour) (j : Nat)
    (hj : j < Tree.blocks ⟨d.length, bs⟩)
    (hcov : ∀ i, toBytes (groupRange ⟨d.length, bs⟩ j).1 ≤ i →
      i < toBytes (groupRange ⟨d.length, bs⟩ j).2 → i < d.length → Cov (FaultL.writes es) i) :
    Verifiable hf fl ob tgt true (groupRange ⟨d.length, bs⟩ j) ∧
    ∀ q, Ranges.WF q = true →
      (Tree.blocks ⟨d.length, bs⟩ = 1 ∨ Touched d.length q (groupRange ⟨d.length, bs⟩ j)) →
      (validRanges hf fl ob tgt q).terminal = .ok →
      groupRange ⟨d.length, bs⟩ j ∈ (validRanges hf fl ob tgt q).yields := by
  obtain ⟨kind, root, tree, data⟩ := ob
  simp only at htree hk hroot hinv ⊢
  subst htree
  suffices hv : Verifiable hf fl ⟨kind, root, ⟨d.length, bs⟩, data⟩ tgt true
      (groupRange ⟨d.length, bs⟩ j) by
    exact ⟨hv, fun q hq htouch hok =>
      (validRanges_touched hf fl ⟨kind, root, ⟨d.length, bs⟩, data⟩ tgt hd hbs q hq).complete hok _
        ⟨hv, htouch⟩⟩
  refine verifiable_local hd hbs rfl hroot true htl j hj ?_ ?_
  · intro k M hM hm h1 h2
    simp only [groupRange] at h1 h2 hcov
    have hpos : j * 2 ^ bs * 1024 < d.length := by
      by_cases hj0 : j = 0
      · subst hj0
        have := two_pow_le_midOf k M
        have hp := two_pow_pos' M
        unfold nChunks at hm
        omega
      · have := (Offsets.lt_blocks_iff d.length bs j (by omega)).1 hj
        rw [Nat.pow_add] at this
        have e : (2 : Nat) ^ 10 = 1024 := by decide
        rw [e, ← Nat.mul_assoc] at this
        exact this
    have hc : Cov (FaultL.writes es) (j * 2 ^ bs * 1024) := by
      refine hcov _ (Nat.le_refl _) ?_ hpos
      unfold toBytes
      have hp := two_pow_pos' bs
      refine Nat.mul_lt_mul_of_pos_right (Nat.lt_min.2 ⟨by rw [Nat.add_mul]; omega, ?_⟩) (by decide)
      exact Nat.lt_of_mul_lt_mul_right (Nat.lt_of_lt_of_le hpos (le_toBytes_chunksOf _))
    have hdiv : j * 2 ^ bs * 1024 / 1024 / 2 ^ (M + 1) = k := by
      rw [Nat.mul_div_cancel _ (by decide)]
      exact div_of_mem_range h1 h2
    have hmem := cov_chunk htr hc M hM (by rw [hdiv]; exact hm)
    rw [hdiv] at hmem
    obtain ⟨i, g1, g2, g3⟩ := hinv k M (DecodeSpec.level_lt_of_mid_lt hd hm) hM hm hmem
    rw [OutboardL.load_slot hf fl _ hk g1 g2, g3, hrt k M hM hm]
  · intro i h1 h2
    by_cases hi : i < d.length
    · exact htgt i (hcov i h1 h2 hi)
    · rw [List.getElem?_eq_none (by omega), List.getElem?_eq_none (by omega)]

/-- a chunk `c` of a group `g` whose bytes in the final target are the blob's, while the initial
target differed from the blob somewhere in `c`: the differing position has been overwritten, by a
write of a whole chunk interval containing `c`, so every byte position of `c` has been delivered -/
theorem chunk_delivered {es : List (Ev H)} (htr : Trace (EG hf d bs) [] es) {sink fin : Sink H}
    (h : fin = applyEvs hf sink es) (htl : sink.target.length = d.length) {g : Nat × Nat}
    (htb : (fin.target.drop (g.1 * 1024)).take (min (g.2 * 1024) d.length - g.1 * 1024) =
      (d.drop (g.1 * 1024)).take (min (g.2 * 1024) d.length - g.1 * 1024))
    {c : Nat} (hc1 : g.1 ≤ c) (hc2 : c < g.2)
    (hdiff : ∃ i₀, c * 1024 ≤ i₀ ∧ i₀ < (c + 1) * 1024 ∧ i₀ < d.length ∧
      sink.target[i₀]? ≠ d[i₀]?) :
    ∀ i, c * 1024 ≤ i → i < (c + 1) * 1024 → i < d.length → Cov (FaultL.writes es) i := by
  obtain ⟨-, hg⟩ := evs_target_spec htr h htl
  obtain ⟨i₀, a1, a2, a3, a4⟩ := hdiff
  intro i b1 b2 b3
  -- the final target holds the blob's byte at `i₀`
  have hi0 : fin.target[i₀]? = d[i₀]? := by
    have := congrArg (fun l : List UInt8 => l[i₀ - g.1 * 1024]?) htb
    have hlt : i₀ - g.1 * 1024 < min (g.2 * 1024) d.length - g.1 * 1024 := by omega
    simp only [List.getElem?_take, List.getElem?_drop, hlt, if_true] at this
    rw [show g.1 * 1024 + (i₀ - g.1 * 1024) = i₀ by omega] at this
    exact this
  -- hence `i₀` has been delivered
  have hcov0 : Cov (FaultL.writes es) i₀ := by
    apply Classical.byContradiction
    intro hn
    exact a4 (((hg i₀).2 hn).symm.trans hi0)
  obtain ⟨w, hw, w1, w2⟩ := hcov0
  obtain ⟨c', e', -, -, hoff, hdata, -⟩ := trace_write htr (mem_writes.1 hw)
  rw [hoff] at w1 w2
  rw [hdata, C01.slice_length] at w2
  -- `omega` is slow on sums of products `x * 1024` (`Nat.mul` recurses on the literal): flip them
  simp only [Nat.mul_comm _ 1024] at a1 a2 b1 b2 w1 w2
  refine ⟨w, hw, ?_, ?_⟩
  · rw [hoff, Nat.mul_comm]
    omega
  · rw [hoff, hdata, C01.slice_length]
    simp only [Nat.mul_comm _ 1024]
    omega

theorem group_delivered {es : List (Ev H)} (htr : Trace (EG hf d bs) [] es) {sink fin : Sink H}
    (h : fin = applyEvs hf sink es) (htl : sink.target.length = d.length) {g : Nat × Nat}
    (htb : (fin.target.drop (g.1 * 1024)).take (min (g.2 * 1024) d.length - g.1 * 1024) =
      (d.drop (g.1 * 1024)).take (min (g.2 * 1024) d.length - g.1 * 1024))
    (hdiff : ∀ c, g.1 ≤ c → c < g.2 →
      ∃ i₀, c * 1024 ≤ i₀ ∧ i₀ < (c + 1) * 1024 ∧ i₀ < d.length ∧ sink.target[i₀]? ≠ d[i₀]?) :
    ∀ i, toBytes g.1 ≤ i → i < toBytes g.2 → i < d.length → Cov (FaultL.writes es) i := by
  intro i i1 i2 i3
  unfold toBytes at i1 i2
  exact chunk_delivered htr h htl htb (c := i / 1024) (by omega) (by omega)
    (hdiff _ (by omega) (by omega)) i (Nat.div_mul_le_self i 1024)
    (Nat.lt_mul_of_div_lt (Nat.lt_succ_self _) (by decide)) i3

end loads

end Bao.C07L
