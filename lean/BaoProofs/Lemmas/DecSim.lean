import BaoModel.Validate
import BaoProofs.Lemmas.Offsets

/-!
# Simulation lemmas for the decoders and encoders (C08, C20)

* `DecodeSpec.stepC`: one decoder step on a plan item with the hash stack and the stream explicit
  (sync order), and what it means for it to return an item / an error / to panic.  This view
  (`check`, `itemOf`, `push`, `StepRes`, `stepC`) stands in this file, in namespace `Bao.DecodeSpec`,
  which several files share (`QueryCanon`, `ItemsEq`, `DecRunL`, `DecodeBridge`, `DecodeSpec`, `SizeProof*`).
* `prePartial_next_tree`: the plan iterator never changes `tree` / `minFullLevel`.
* `next_eq`: one call of `Dec.next`, either flavour, is `stepC` on the item the iterator yields; the
  flavours differ only in the (dead) hash stack after an error.  `runAux_eq`, `decodeRangesAux_eq`:
  whole runs are equal.
* `next_item`, `next_err`, `next_done`: what a decoder step does to `tree`, `hash`, `encoded`, and
  what the same step does on a longer stream (`app d x`).  `runAux_done`.
* `Steps`, `Reach`: sequences of decoder steps.
* `encodeValidatedLoop_flavour`, `encodePlainLoop_flavour`: the encoders depend on the flavour only
  through `Store.load` on the parent nodes of the plan.
* `selectedRec_sim`, `traverseLoop_sim`: the item-stream traversal and the validating byte encoder
  run in lock step.  `plainLoop_eq_of_ok`: plain encoder = validating encoder when all checks pass.
* `slot_lt_pre`, `slot_lt_post`: a persisted node has a slot below the number of pairs of the outboard.
* `encodeRangesValidated_nil`, `traverseRangesValidated_spec`: the entry points.
* `validateRec_flavour`: the validators depend on the flavour only through `Store.load`.
-/

namespace Bao.DecodeSpec
open Bao

variable {H : Type}

/-- the hash a plan item is checked against, computed from the bytes read for it -/
def check (hf : HashFns H) : Chunk → List UInt8 → H
  | .parent _ isRoot _ _ _, buf => hf.parentCv (parsePair hf buf).1 (parsePair hf buf).2 isRoot
  | .leaf start _ isRoot _, buf => hashSubtree hf start buf isRoot

/-- the item `next` returns for the plan item when the bytes read for it are `buf` -/
def itemOf (hf : HashFns H) : Chunk → List UInt8 → Item H
  | .parent node _ _ _ _, buf => .parent node (parsePair hf buf).1 (parsePair hf buf).2
  | .leaf start _ _ _, buf => .leaf (toBytes start) buf

/-- the hash stack after an accepted item: a parent pushes those hashes of its pair that its flags
ask for (left on top), a leaf nothing -/
def push (hf : HashFns H) : Chunk → List UInt8 → List H → List H
  | .parent _ _ left right _, buf, st =>
    let st := if right then (parsePair hf buf).2 :: st else st
    if left then (parsePair hf buf).1 :: st else st
  | .leaf .., _, st => st

def notFound : Chunk → DecodeError
  | .parent node .. => .parentNotFound node
  | .leaf start .. => .leafNotFound start

def mismatch : Chunk → DecodeError
  | .parent node .. => .parentHashMismatch node
  | .leaf start .. => .leafHashMismatch start

inductive StepRes (H : Type)
  | item (i : Item H) (st : List H) (s : List UInt8)
  | err (e : DecodeError) (s : List UInt8)
  | panic (s : List UInt8)

/-- one decoder step (sync order: compare, then push) -/
def stepC (hf : HashFns H) [BEq H] (c : Chunk) (st : List H) (s : List UInt8) : StepRes H :=
  if c.size ≤ s.length then
    match st with
    | [] => .panic s
    | top :: rest =>
      if top != check hf c (s.take c.size) then .err (mismatch c) (s.drop c.size)
      else .item (itemOf hf c (s.take c.size)) (push hf c (s.take c.size) rest) (s.drop c.size)
  else .err (notFound c) s

theorem stepC_item {hf : HashFns H} [BEq H] {c : Chunk} {st st' : List H} {s s' : List UInt8}
    {i : Item H} (h : stepC hf c st s = .item i st' s') :
    c.size ≤ s.length ∧ ∃ top rest, st = top :: rest ∧
      (top != check hf c (s.take c.size)) = false ∧ i = itemOf hf c (s.take c.size) ∧
      st' = push hf c (s.take c.size) rest ∧ s' = s.drop c.size := by
  revert h
  fun_cases stepC hf c st s <;> intro h <;> cases h
  rename_i hl top rest hc
  exact ⟨hl, top, rest, rfl, by simpa using hc, rfl, rfl, rfl⟩

theorem stepC_item_of {hf : HashFns H} [BEq H] {c : Chunk} {top : H} {rest : List H}
    {s : List UInt8} (hl : c.size ≤ s.length)
    (hc : (top != check hf c (s.take c.size)) = false) :
    stepC hf c (top :: rest) s
      = .item (itemOf hf c (s.take c.size)) (push hf c (s.take c.size) rest) (s.drop c.size) := by
  unfold stepC
  rw [if_pos hl]
  simp only [hc, Bool.false_eq_true, if_false]

theorem stepC_short {hf : HashFns H} [BEq H] {c : Chunk} {st : List H} {s : List UInt8}
    (hl : s.length < c.size) : stepC hf c st s = .err (notFound c) s := by
  unfold stepC
  rw [if_neg (by omega)]

theorem stepC_mismatch {hf : HashFns H} [BEq H] {c : Chunk} {top : H} {rest : List H}
    {s : List UInt8} (hl : c.size ≤ s.length)
    (hc : (top != check hf c (s.take c.size)) = true) :
    stepC hf c (top :: rest) s = .err (mismatch c) (s.drop c.size) := by
  unfold stepC
  rw [if_pos hl]
  simp only [hc, if_true]

theorem stepC_panic {hf : HashFns H} [BEq H] {c : Chunk} {st : List H} {s s' : List UInt8}
    (h : stepC hf c st s = .panic s') : st = [] ∧ s' = s := by
  revert h
  fun_cases stepC hf c st s <;> intro h <;> cases h
  exact ⟨rfl, rfl⟩

theorem stepC_err_suffix {hf : HashFns H} [BEq H] {c : Chunk} {st : List H} {s s' : List UInt8}
    {e : DecodeError} (h : stepC hf c st s = .err e s') : ∃ buf, s = buf ++ s' := by
  revert h
  fun_cases stepC hf c st s <;> intro h <;> cases h
  · exact ⟨_, (List.take_append_drop ..).symm⟩
  · exact ⟨[], rfl⟩

theorem stepC_append {hf : HashFns H} [BEq H] {c : Chunk} {st st' : List H} {s s' : List UInt8}
    {i : Item H} (h : stepC hf c st s = .item i st' s') (x : List UInt8) :
    stepC hf c st (s ++ x) = .item i st' (s' ++ x) := by
  obtain ⟨hl, top, rest, rfl, hc, rfl, rfl, rfl⟩ := stepC_item h
  have e : (s ++ x).take c.size = s.take c.size := List.take_append_of_le_length hl
  rw [stepC_item_of (by rw [List.length_append]; omega) (by rw [e]; exact hc), e,
    List.drop_append_of_le_length hl]

end Bao.DecodeSpec

namespace Bao.DecSim
open Bao Bao.DecodeSpec

variable {H : Type}

theorem prePartial_next_tree {it it' : PrePartial} {c : Chunk} (h : it.next = .item c it') :
    it'.tree = it.tree ∧ it'.minFullLevel = it.minFullLevel := by
  revert h
  -- every branch of `next` that yields an item updates `stack` and `buffer` only
  fun_cases PrePartial.next it <;> intro h <;> cases h <;> exact ⟨rfl, rfl⟩

theorem response_next_tree {it it' : PrePartial} {c : Chunk} (h : Response.next it = .item c it') :
    it'.tree = it.tree ∧ it'.minFullLevel = it.minFullLevel := by
  unfold Response.next at h
  split at h
  · simp only [IterNext.item.injEq] at h
    obtain ⟨_, rfl⟩ := h
    exact prePartial_next_tree (by assumption)
  · cases h
  · cases h

/-- **one call of `next`, either flavour**: one step of `stepC` on the plan item the iterator
yields.  The flavours differ only in the hash stack `st` left behind by an error (after a failed
comparison sync has popped, fsm has popped and pushed the children). -/
theorem next_eq (hf : HashFns H) [BEq H] (fl : Flavour) (d : Dec H) :
    ∃ st : List H, d.next hf fl =
      match Response.next d.iter with
      | .done => .done d
      | .panic => .panic
      | .item c it =>
        match stepC hf c d.stack d.encoded with
        | .item i st' s' => .item i ⟨it, st', s', d.hash⟩
        | .err e s' => .err e ⟨it, st, s', d.hash⟩
        | .panic _ => .panic := by
  unfold Dec.next Dec.nextSync Dec.nextFsm
  cases Response.next d.iter with
  | done => exact ⟨[], by cases fl <;> rfl⟩
  | panic => exact ⟨[], by cases fl <;> rfl⟩
  | item c it =>
    cases c with
    | parent node isRoot left right rs =>
      simp only [stepC, Chunk.size, readExact]
      by_cases hl : 64 ≤ d.encoded.length
      · simp only [hl, if_true]
        cases d.stack with
        | nil => exact ⟨[], by cases fl <;> rfl⟩
        | cons top rest =>
          simp only [check, itemOf, push, parsePair]
          by_cases hc : (top != hf.parentCv (hf.ofBytes ((d.encoded.take 64).take 32))
              (hf.ofBytes (((d.encoded.take 64).drop 32).take 32)) isRoot) = true
          · simp only [hc, if_true]
            cases fl <;> exact ⟨_, rfl⟩
          · simp only [hc, if_false, Bool.false_eq_true]
            exact ⟨[], by cases fl <;> rfl⟩
      · simp only [hl, if_false]
        cases fl <;> exact ⟨_, rfl⟩
    | leaf start size isRoot rs =>
      simp only [stepC, Chunk.size, readExact]
      by_cases hl : size ≤ d.encoded.length
      · simp only [hl, if_true]
        cases d.stack with
        | nil => exact ⟨[], by cases fl <;> rfl⟩
        | cons top rest =>
          simp only [check, itemOf, push]
          by_cases hc : (top != hashSubtree hf start (d.encoded.take size) isRoot) = true
          · simp only [hc, if_true]
            cases fl <;> exact ⟨_, rfl⟩
          · simp only [hc, if_false, Bool.false_eq_true]
            exact ⟨[], by cases fl <;> rfl⟩
      · simp only [hl, if_false]
        cases fl <;> exact ⟨_, rfl⟩

theorem runAux_eq (hf : HashFns H) [BEq H] (fuel : Nat) (d : Dec H) :
    Dec.runAux hf .sync fuel d = Dec.runAux hf .fsm fuel d := by
  induction fuel generalizing d with
  | zero => rfl
  | succ n ih =>
    obtain ⟨s1, h1⟩ := next_eq hf .sync d
    obtain ⟨s2, h2⟩ := next_eq hf .fsm d
    simp only [Dec.runAux, h1, h2]
    cases Response.next d.iter with
    | done => rfl
    | panic => rfl
    | item c it =>
      simp only
      cases stepC hf c d.stack d.encoded with
      | item i st' s' => simp only [ih]
      | err e s' => rfl
      | panic s' => rfl

theorem decodeRangesAux_eq (hf : HashFns H) [BEq H] (tree : Tree) (fuel : Nat) (d : Dec H)
    (sink : Sink H) (ws : List (Nat × Nat)) (ss : List Nat) :
    decodeRangesAux hf .sync tree fuel d sink ws ss = decodeRangesAux hf .fsm tree fuel d sink ws ss := by
  induction fuel generalizing d sink ws ss with
  | zero => rfl
  | succ n ih =>
    obtain ⟨s1, h1⟩ := next_eq hf .sync d
    obtain ⟨s2, h2⟩ := next_eq hf .fsm d
    simp only [decodeRangesAux, h1, h2]
    cases Response.next d.iter with
    | done => rfl
    | panic => rfl
    | item c it =>
      simp only
      cases stepC hf c d.stack d.encoded with
      | item i st' s' => cases i <;> simp only [ih]
      | err e s' => rfl
      | panic s' => rfl

/-- bytes an item occupies on the wire -/
def itemSize : Item H → Nat
  | .parent _ _ _ => 64
  | .leaf _ d => d.length

/-- the decoder `d` on the stream `d.encoded ++ x`: used to say that bytes behind what a step or a
run reads do not matter -/
def app (d : Dec H) (x : List UInt8) : Dec H := { d with encoded := d.encoded ++ x }

theorem itemSize_itemOf (hf : HashFns H) {c : Chunk} {buf : List UInt8} (hb : buf.length = c.size) :
    itemSize (itemOf hf c buf) = buf.length := by
  cases c with
  | parent node isRoot left right rs => exact hb.symm
  | leaf start size isRoot rs => rfl

theorem next_item_iff (hf : HashFns H) [BEq H] {fl : Flavour} {d d' : Dec H} {i : Item H} :
    d.next hf fl = .item i d' ↔ ∃ c it st' s', Response.next d.iter = .item c it ∧
      stepC hf c d.stack d.encoded = .item i st' s' ∧ d' = ⟨it, st', s', d.hash⟩ := by
  obtain ⟨st, he⟩ := next_eq hf fl d
  rw [he]
  constructor
  · intro h
    cases hr : Response.next d.iter with
    | done => simp only [hr] at h; cases h
    | panic => simp only [hr] at h; cases h
    | item c it =>
      simp only [hr] at h
      cases hs : stepC hf c d.stack d.encoded with
      | err e s' => simp only [hs] at h; cases h
      | panic s' => simp only [hs] at h; cases h
      | item i' st' s' => simp only [hs] at h; cases h; exact ⟨c, it, st', s', rfl, hs, rfl⟩
  · rintro ⟨c, it, st', s', hr, hs, rfl⟩
    simp only [hr, hs]

theorem next_item (hf : HashFns H) [BEq H] {fl : Flavour} {d d' : Dec H} {i : Item H}
    (h : d.next hf fl = .item i d') :
    d'.tree = d.tree ∧ d'.hash = d.hash ∧
    (∃ buf, d.encoded = buf ++ d'.encoded ∧ buf.length = itemSize i) ∧
    ∀ x, (app d x).next hf fl = .item i (app d' x) := by
  obtain ⟨c, it, st', s', hr, hs, rfl⟩ := (next_item_iff hf).1 h
  obtain ⟨ht, hm⟩ := response_next_tree hr
  obtain ⟨hl, -, -, -, -, rfl, -, rfl⟩ := stepC_item hs
  exact ⟨by simp only [Dec.tree, Response.tree, ht, hm], rfl,
    ⟨_, (List.take_append_drop ..).symm,
      (itemSize_itemOf hf (List.length_take.trans (Nat.min_eq_left hl))).symm⟩,
    fun x => (next_item_iff hf).2 ⟨c, it, st', _, hr, stepC_append hs x, rfl⟩⟩

theorem next_of_sync_item (hf : HashFns H) [BEq H] (fl : Flavour) {d d' : Dec H} {i : Item H}
    (h : d.nextSync hf = .item i d') : d.next hf fl = .item i d' :=
  (next_item_iff hf).2 ((next_item_iff hf (fl := .sync)).1 h)

theorem next_err (hf : HashFns H) [BEq H] {fl : Flavour} {d d' : Dec H} {e : DecodeError}
    (h : d.next hf fl = .err e d') :
    d'.tree = d.tree ∧ d'.hash = d.hash ∧ ∃ buf, d.encoded = buf ++ d'.encoded := by
  obtain ⟨st, he⟩ := next_eq hf fl d
  rw [h] at he
  cases hr : Response.next d.iter with
  | done => simp only [hr] at he; cases he
  | panic => simp only [hr] at he; cases he
  | item c it =>
    simp only [hr] at he
    obtain ⟨ht, hm⟩ := response_next_tree hr
    cases hs : stepC hf c d.stack d.encoded with
    | item i st' s' => simp only [hs] at he; cases he
    | panic s' => simp only [hs] at he; cases he
    | err e' s' =>
      simp only [hs] at he
      cases he
      exact ⟨by simp only [Dec.tree, Response.tree, ht, hm], rfl, stepC_err_suffix hs⟩

theorem next_done (hf : HashFns H) [BEq H] {fl : Flavour} {d d' : Dec H}
    (h : d.next hf fl = .done d') :
    d' = d ∧ ∀ x, (app d x).next hf fl = .done (app d x) := by
  obtain ⟨st, he⟩ := next_eq hf fl d
  rw [h] at he
  cases hr : Response.next d.iter with
  | panic => simp only [hr] at he; cases he
  | item c it =>
    simp only [hr] at he
    cases hs : stepC hf c d.stack d.encoded <;> simp only [hs] at he <;> cases he
  | done =>
    simp only [hr] at he
    cases he
    refine ⟨rfl, fun x => ?_⟩
    obtain ⟨st2, he2⟩ := next_eq hf fl (app d x)
    rw [he2]
    simp only [app, hr]

def itemsSize (is : List (Item H)) : Nat := (is.map itemSize).sum

theorem itemsSize_cons (i : Item H) (is : List (Item H)) :
    itemsSize (i :: is) = itemSize i + itemsSize is := by simp [itemsSize]

theorem itemsSize_append (a b : List (Item H)) : itemsSize (a ++ b) = itemsSize a + itemsSize b := by
  simp [itemsSize]

theorem runAux_done (hf : HashFns H) [BEq H] (fl : Flavour) (fuel : Nat) (d : Dec H)
    (h : (Dec.runAux hf fl fuel d).terminal = .done) :
    (∃ c, d.encoded = c ++ (Dec.runAux hf fl fuel d).rest ∧
      c.length = itemsSize (Dec.runAux hf fl fuel d).items) ∧
    ∀ x, Dec.runAux hf fl fuel (app d x)
      = ⟨(Dec.runAux hf fl fuel d).items, .done, (Dec.runAux hf fl fuel d).rest ++ x⟩ := by
  induction fuel generalizing d with
  | zero => simp [Dec.runAux] at h
  | succ n ih =>
    unfold Dec.runAux at h ⊢
    cases hn : d.next hf fl with
    | panic => simp [hn] at h
    | err e d' => simp [hn] at h
    | done d' =>
      obtain ⟨rfl, h2⟩ := next_done hf hn
      exact ⟨⟨[], rfl, rfl⟩, fun x => by simp only [h2 x]; rfl⟩
    | item i d' =>
      simp only [hn] at h ⊢
      obtain ⟨_, _, ⟨buf, hb, hl⟩, h4⟩ := next_item hf hn
      obtain ⟨⟨c, hc, hcl⟩, happ⟩ := ih d' h
      exact ⟨⟨buf ++ c, by rw [hb, hc, List.append_assoc],
        by rw [List.length_append, itemsSize_cons, hl, hcl]⟩, fun x => by simp only [h4 x, happ x]⟩

inductive Steps (hf : HashFns H) [BEq H] (fl : Flavour) : Dec H → List (Item H) → Dec H → Prop
  | refl (d : Dec H) : Steps hf fl d [] d
  | item {d d' d'' : Dec H} {is : List (Item H)} {i : Item H} :
      Steps hf fl d is d' → d'.next hf fl = .item i d'' → Steps hf fl d (is ++ [i]) d''

/-- `d'` is what one call of `next` on `d` hands back, be it with an item, with an error or at the
end (a panic hands nothing back) -/
def Succ (hf : HashFns H) [BEq H] (fl : Flavour) (d d' : Dec H) : Prop :=
  (∃ i, d.next hf fl = .item i d') ∨ (∃ e, d.next hf fl = .err e d') ∨ d.next hf fl = .done d'

/-- any number of calls of `next`, also after an error and after the end -/
inductive Reach (hf : HashFns H) [BEq H] (fl : Flavour) : Dec H → Dec H → Prop
  | refl (d : Dec H) : Reach hf fl d d
  | step {d d' d'' : Dec H} : Reach hf fl d d' → Succ hf fl d' d'' → Reach hf fl d d''

theorem Steps.reach {hf : HashFns H} [BEq H] {fl : Flavour} {d d' : Dec H} {is : List (Item H)}
    (h : Steps hf fl d is d') : Reach hf fl d d' := by
  induction h with
  | refl => exact .refl _
  | item _ hn ih => exact .step ih (.inl ⟨_, hn⟩)

theorem succ_inv {hf : HashFns H} [BEq H] {fl : Flavour} {d d' : Dec H} (h : Succ hf fl d d') :
    d'.tree = d.tree ∧ d'.hash = d.hash ∧ ∃ buf, d.encoded = buf ++ d'.encoded := by
  rcases h with ⟨i, h⟩ | ⟨e, h⟩ | h
  · obtain ⟨h1, h2, ⟨buf, h3, _⟩, _⟩ := next_item hf h
    exact ⟨h1, h2, buf, h3⟩
  · exact next_err hf h
  · obtain ⟨rfl, _⟩ := next_done hf h
    exact ⟨rfl, rfl, [], rfl⟩

theorem reach_inv {hf : HashFns H} [BEq H] {fl : Flavour} {d d' : Dec H} (h : Reach hf fl d d') :
    d'.tree = d.tree ∧ d'.hash = d.hash ∧ ∃ c, d.encoded = c ++ d'.encoded := by
  induction h with
  | refl => exact ⟨rfl, rfl, [], rfl⟩
  | step _ hs ih =>
    obtain ⟨h1, h2, c, h3⟩ := ih
    obtain ⟨k1, k2, b, k3⟩ := succ_inv hs
    exact ⟨k1.trans h1, k2.trans h2, c ++ b, by rw [h3, k3]; simp⟩

/-- the nodes whose hash pair a plan loads -/
def planParents : List Chunk → List Nat
  | [] => []
  | .parent n _ _ _ _ :: p => n :: planParents p
  | .leaf _ _ _ _ :: p => planParents p

theorem prePartialChunks_nil (t : Tree) (ml : Nat) : Tree.prePartialChunks t [] ml = some [] := by
  simp [Tree.prePartialChunks, PrePartial.fuelFor, PrePartial.new, PrePartial.run, PrePartial.next]

theorem truncate_nil (size : Nat) : Ranges.truncate [] size = [] := by
  simp [Ranges.truncate]

theorem encodeValidatedLoop_flavour (hf : HashFns H) [BEq H] (data : List UInt8) (ob : Store H)
    (plan : List Chunk) (stack : List H) (out : List UInt8)
    (h : ∀ node ∈ planParents plan, ob.load hf .sync node = ob.load hf .fsm node) :
    encodeValidatedLoop hf .sync data ob plan stack out
      = encodeValidatedLoop hf .fsm data ob plan stack out := by
  induction plan generalizing stack out with
  | nil => rfl
  | cons c plan ih =>
    cases c with
    | parent node isRoot left right rs =>
      have ih' := fun stack out => ih stack out fun n hn => h n (List.mem_cons_of_mem _ hn)
      simp only [encodeValidatedLoop, h node List.mem_cons_self, ih']
    | leaf start size isRoot rs =>
      simp only [encodeValidatedLoop, fun stack out => ih stack out h]

theorem encodePlainLoop_flavour (hf : HashFns H) (data : List UInt8) (ob : Store H)
    (plan : List Chunk) (out : List UInt8)
    (h : ∀ node ∈ planParents plan, ob.load hf .sync node = ob.load hf .fsm node) :
    encodePlainLoop hf .sync data ob plan out = encodePlainLoop hf .fsm data ob plan out := by
  induction plan generalizing out with
  | nil => rfl
  | cons c plan ih =>
    cases c with
    | parent node isRoot left right rs =>
      have ih' := fun out => ih out fun n hn => h n (List.mem_cons_of_mem _ hn)
      simp only [encodePlainLoop, h node List.mem_cons_self, ih']
    | leaf start size isRoot rs =>
      simp only [encodePlainLoop, fun out => ih out h]

def itemBytes (hf : HashFns H) : Item H → List UInt8
  | .parent _ l r => hf.toBytes l ++ hf.toBytes r
  | .leaf _ d => d

theorem flatten_toEncoded (hf : HashFns H) (i : Item H) :
    EncodedItem.flatten hf i.toEncoded = itemBytes hf i := by
  cases i <;> rfl

theorem flatMap_flatten_map (hf : HashFns H) (its : List (Item H)) :
    (its.map Item.toEncoded).flatMap (EncodedItem.flatten hf) = its.flatMap (itemBytes hf) := by
  induction its with
  | nil => rfl
  | cons i its ih => simp [flatten_toEncoded, ih]

/-- `traverse_selected_rec` and `encode_selected_rec`: same hash, and the items flatten to the bytes -/
theorem selectedRec_sim (hf : HashFns H) (L start : Nat) (data : List UInt8) (isRoot : Bool)
    (q : Ranges) (ml : Nat) (em : Bool) :
    (traverseSelectedRec hf L start data isRoot q ml em).1
        = (encodeSelectedRec hf L start data isRoot q ml em).1 ∧
    (traverseSelectedRec hf L start data isRoot q ml em).2.flatMap (itemBytes hf)
        = (encodeSelectedRec hf L start data isRoot q ml em).2 := by
  induction L generalizing start data isRoot q with
  | zero =>
    simp only [traverseSelectedRec, encodeSelectedRec, true_and]
    split <;> simp [itemBytes]
  | succ L ih =>
    simp only [traverseSelectedRec, encodeSelectedRec]
    by_cases h1 : data.length ≤ chunkLen
    · rw [if_pos h1, if_pos h1]
      simp only [true_and]
      split <;> simp [itemBytes]
    · rw [if_neg h1, if_neg h1]
      by_cases h2 : data.length ≤ 2 ^ L * chunkLen
      · rw [if_pos h2, if_pos h2]
        exact ih ..
      · rw [if_neg h2, if_neg h2]
        have hl := ih start (data.take (2 ^ L * chunkLen)) false (Ranges.splitInner q start (start + 2 ^ L)).1
        have hr := ih (start + 2 ^ L) (data.drop (2 ^ L * chunkLen)) false (Ranges.splitInner q start (start + 2 ^ L)).2
        simp only [hl.1, hr.1, true_and, List.flatMap_append, hl.2, hr.2]
        split <;> simp [itemBytes]

/-- the item loop and the byte loop (sync loads) run in lock step -/
theorem traverseLoop_sim (hf : HashFns H) [BEq H] (data : List UInt8) (ob : Store H)
    (plan : List Chunk) (stack : List H) (out : List (EncodedItem H)) (outB : List UInt8) :
    ∃ its : List (Item H),
      (traverseLoop hf data ob plan stack out).1 = out ++ its.map Item.toEncoded ∧
      (encodeValidatedLoop hf .sync data ob plan stack outB).out = outB ++ its.flatMap (itemBytes hf) ∧
      (traverseLoop hf data ob plan stack out).2
        = (encodeValidatedLoop hf .sync data ob plan stack outB).terminal := by
  induction plan generalizing stack out outB with
  | nil => exact ⟨[], by simp [traverseLoop, encodeValidatedLoop]⟩
  | cons c plan ih =>
    cases c with
    | parent node isRoot left right rs =>
      simp only [traverseLoop, encodeValidatedLoop]
      cases ob.load hf .sync node with
      | err e => exact ⟨[], by simp⟩
      | panic => exact ⟨[], by simp⟩
      | ok o =>
        cases o with
        | none => exact ⟨[], by simp⟩
        | some p =>
          obtain ⟨l, r⟩ := p
          cases stack with
          | nil => exact ⟨[], by simp⟩
          | cons ex st =>
            simp only
            by_cases hc : (hf.parentCv l r isRoot != ex) = true
            · rw [if_pos hc, if_pos hc]
              exact ⟨[], by simp⟩
            · rw [if_neg hc, if_neg hc]
              obtain ⟨its, h1, h2, h3⟩ := ih (if left then l :: (if right then r :: st else st) else (if right then r :: st else st))
                  (out ++ [.parent node l r]) (outB ++ hf.toBytes l ++ hf.toBytes r)
              exact ⟨.parent node l r :: its, by simp [h1, Item.toEncoded], by rw [h2]; simp [itemBytes], h3⟩
    | leaf start size isRoot rs =>
      simp only [traverseLoop, encodeValidatedLoop]
      cases stack with
      | nil => exact ⟨[], by simp⟩
      | cons ex st =>
        simp only
        cases readExactAt data (toBytes start) size with
        | error e => exact ⟨[], by simp⟩
        | ok buf =>
          simp only
          have hs := selectedRec_sim hf recFuel start buf isRoot rs ob.tree.bs true
          by_cases hall : (!Ranges.isAll rs) = true
          · rw [if_pos hall, if_pos hall]
            simp only [hs.1]
            split
            · exact ⟨[], by simp⟩
            · obtain ⟨its, h1, h2, h3⟩ := ih st
                (out ++ (traverseSelectedRec hf recFuel start buf isRoot rs ob.tree.bs true).2.map Item.toEncoded)
                (outB ++ (encodeSelectedRec hf recFuel start buf isRoot rs ob.tree.bs true).2)
              exact ⟨(traverseSelectedRec hf recFuel start buf isRoot rs ob.tree.bs true).2 ++ its,
                by simp [h1], by simp [h2, hs.2], h3⟩
          · rw [if_neg hall, if_neg hall]
            simp only
            split
            · exact ⟨[], by simp⟩
            · obtain ⟨its, h1, h2, h3⟩ := ih st (out ++ [.leaf (toBytes start) buf]) (outB ++ buf)
              exact ⟨.leaf (toBytes start) buf :: its, by simp [h1, Item.toEncoded],
                by simp [h2, itemBytes], h3⟩

theorem plainLoop_eq_of_ok (hf : HashFns H) [BEq H] (fl : Flavour) (data : List UInt8) (ob : Store H)
    (plan : List Chunk) (stack : List H) (out : List UInt8)
    (h : (encodeValidatedLoop hf fl data ob plan stack out).terminal = .ok) :
    encodePlainLoop hf fl data ob plan out = encodeValidatedLoop hf fl data ob plan stack out := by
  fun_induction encodeValidatedLoop hf fl data ob plan stack out
  -- a branch that ends in an error or a panic contradicts `h`; the others follow the recursion
  all_goals simp_all [encodePlainLoop]
  rename_i toWrite hw _ ih
  have e : _ = toWrite := congrArg Prod.snd hw
  rw [← ih, ← e, apply_ite Prod.snd]

theorem slot_lt_of_offsets (st : Store H) {P : List Nat}
    (h : P.length = st.tree.blocks - 1 ∧ P.map st.slot = (List.range' 0 P.length).map some)
    {node : Nat} (hn : node ∈ P) : ∃ k, st.slot node = some k ∧ k < st.tree.outboardPairs := by
  obtain ⟨hlen, hmap⟩ := h
  obtain ⟨i, hi, rfl⟩ := List.mem_iff_getElem.1 hn
  exact ⟨0 + i, Offsets.getElem_of_map_eq_range _ _ 0 hmap i hi,
    by unfold Tree.outboardPairs; omega⟩

theorem slot_lt_pre (st : Store H) (hk : st.kind = .preIo ∨ st.kind = .preMem)
    (hs : st.tree.size ≤ 2 ^ 63) (node : Nat)
    (hn : node ∈ Spec.persistedPre st.tree.size st.tree.bs) :
    ∃ k, st.slot node = some k ∧ k < st.tree.outboardPairs := by
  have hslot : st.slot = st.tree.preOrderOffset := by
    funext n; unfold Store.slot; rcases hk with hk | hk <;> rw [hk]
  refine slot_lt_of_offsets st ?_ hn
  rw [hslot]
  exact Offsets.persistedPre_offsets st.tree.size st.tree.bs hs

theorem slot_lt_post (st : Store H) (hk : st.kind = .postIo ∨ st.kind = .postMem)
    (hs : st.tree.size ≤ 2 ^ 63) (node : Nat)
    (hn : node ∈ Spec.persistedPost st.tree.size st.tree.bs) :
    ∃ k, st.slot node = some k ∧ k < st.tree.outboardPairs := by
  have hslot : st.slot = fun x => (st.tree.postOrderOffset x).map Tree.PostOffset.value := by
    funext n; unfold Store.slot; rcases hk with hk | hk <;> rw [hk]
  refine slot_lt_of_offsets st ?_ hn
  rw [hslot]
  exact Offsets.persistedPost_offsets st.tree.size st.tree.bs hs

theorem encodeRangesValidated_nil (hf : HashFns H) [BEq H] (fl : Flavour) (data : List UInt8)
    (st : Store H) : encodeRangesValidated hf fl data st [] = ⟨[], .ok⟩ := by
  cases fl <;>
    simp [encodeRangesValidated, truncate_nil, prePartialChunks_nil, encodeValidatedLoop]

theorem encodeRanges_nil (hf : HashFns H) (fl : Flavour) (data : List UInt8)
    (st : Store H) : encodeRanges hf fl data st [] = ⟨[], .ok⟩ := by
  simp [encodeRanges, truncate_nil, prePartialChunks_nil, encodePlainLoop]

/-- the item stream of `traverse_ranges_validated`, against the sync validating encoder -/
theorem traverseRangesValidated_spec (hf : HashFns H) [BEq H] (data : List UInt8) (st : Store H)
    (ranges : Ranges) :
    match traverseRangesValidated hf data st ranges with
    | none => (encodeRangesValidated hf .sync data st ranges).terminal = .panic
    | some items =>
      ∃ (mid : List (Item H)) (last : EncodedItem H),
        items = .size st.tree.size :: (mid.map Item.toEncoded ++ [last]) ∧
        (encodeRangesValidated hf .sync data st ranges).out = mid.flatMap (itemBytes hf) ∧
        ((last = .done ∧ (encodeRangesValidated hf .sync data st ranges).terminal = .ok) ∨
         ∃ e, last = .error e ∧ (encodeRangesValidated hf .sync data st ranges).terminal = .err e) := by
  cases ranges with
  | nil =>
    rw [encodeRangesValidated_nil]
    exact ⟨[], .done, by simp⟩
  | cons a q =>
    simp only [encodeRangesValidated, traverseRangesValidated, Ranges.isEmpty, List.isEmpty_cons,
      Bool.and_false, Bool.false_eq_true, if_false]
    cases hp : st.tree.prePartialChunks (Ranges.truncate (a :: q) st.tree.size) 0 with
    | none => rfl
    | some plan =>
      simp only
      obtain ⟨its, h1, h2, h3⟩ := traverseLoop_sim hf data st plan [st.root] [] []
      rw [List.nil_append] at h1 h2
      generalize (encodeValidatedLoop hf .sync data st plan [st.root] []).terminal = t at h3 ⊢
      rw [show traverseLoop hf data st plan [st.root] [] = (its.map Item.toEncoded, t)
        from Prod.ext h1 h3]
      cases t with
      | ok => exact ⟨its, .done, by simp, h2, .inl ⟨rfl, rfl⟩⟩
      | err e => exact ⟨its, .error e, by simp, h2, .inr ⟨e, rfl, rfl⟩⟩
      | panic => rfl

theorem flatMap_flatten_frame (hf : HashFns H) (n : Nat) (mid : List (Item H)) (last : EncodedItem H)
    (hl : last = .done ∨ ∃ e, last = .error e) :
    (EncodedItem.size n :: (mid.map Item.toEncoded ++ [last])).flatMap (EncodedItem.flatten hf)
      = mid.flatMap (itemBytes hf) := by
  have : EncodedItem.flatten hf last = [] := by
    rcases hl with rfl | ⟨e, rfl⟩ <;> rfl
  have hsz : EncodedItem.flatten hf (.size n) = [] := rfl
  simp [List.flatMap_cons, List.flatMap_append, flatMap_flatten_map, this, hsz]

theorem validateRec_flavour (hf : HashFns H) [BEq H] (withData : Bool) (ob : Store H)
    (data : List UInt8) (filled : Nat)
    (h : ∀ node, ob.load hf .sync node = ob.load hf .fsm node)
    (fuel : Nat) (ph : H) (sh : Nat) (isRoot : Bool) (rs : Ranges) :
    validateRec hf .sync withData ob data filled fuel ph sh isRoot rs
      = validateRec hf .fsm withData ob data filled fuel ph sh isRoot rs := by
  induction fuel generalizing ph sh isRoot rs with
  | zero => rfl
  | succ n ih =>
    simp only [validateRec, h, ih]

end Bao.DecSim
