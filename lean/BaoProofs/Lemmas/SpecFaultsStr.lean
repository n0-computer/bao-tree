import BaoProofs.Lemmas.SpecSerdeL

/-!
# String lemmas for `Lemmas/SpecFaults*.lean`

* `splitOn_hash`: `String.splitOn " # "` on the list of characters (`SpecIndex.splitOn_str`), and
  `splitOn_hash_intercalate`: it inverts joining `#`-free parts with `" # "`;
* `replace_eq`: `String.replace` with a non-empty pattern is the list function `replL`;
* lemmas about literals are stated for `String.ofList l`, with which a literal unifies: the check then runs on
  the characters (`noCh_lit`, `not_startsWith`, `not_contains_of_char`, `replace_lit`).
-/

namespace Bao.SpecFaults
open Bao Bao.SpecIndex Bao.SpecOb Bao.SpecSerde
open String String.Slice String.Slice.Pattern String.Slice.Pattern.Model

theorem splitOn_hash (s : String) : s.splitOn " # " = (splitM ' ' ['#', ' '] [] s.toList).map String.ofList :=
  splitOn_str s " # " ' ' ['#', ' '] rfl

/-- no match begins inside a string that lacks the second character of the separator -/
theorem splitM_append (s0 s1 : Char) (ss t : List Char) (ht : s1 ∉ t) (cur rest : List Char)
    (hr : ∀ r', rest ≠ s1 :: r') :
    splitM s0 (s1 :: ss) cur (t ++ rest) = splitM s0 (s1 :: ss) (cur ++ t) rest := by
  induction t generalizing cur with
  | nil => simp
  | cons c t ih =>
    have ht' : s1 ∉ t := fun h => ht (List.mem_cons_of_mem _ h)
    have hno : (s0 :: s1 :: ss).isPrefixOf (c :: (t ++ rest)) = false := by
      rw [Bool.eq_false_iff, Ne, List.isPrefixOf_iff_prefix, List.cons_prefix_cons]
      rintro ⟨-, u, hu⟩
      cases t with
      | nil => exact hr _ hu.symm
      | cons a t =>
        injection hu with h1 _
        exact ht (by rw [h1]; simp)
    rw [List.cons_append, splitM_other _ _ _ _ _ hno, ih ht', List.append_assoc]
    rfl

/-- the characters of `" # ".intercalate (a :: as)` after `a` -/
def joinTailH : List (List Char) → List Char
  | [] => []
  | t :: ts => ' ' :: '#' :: ' ' :: (t ++ joinTailH ts)

theorem joinTailH_head (ts : List (List Char)) : ∀ r', joinTailH ts ≠ '#' :: r' := by
  intro r' h
  cases ts with
  | nil => cases h
  | cons t ts => simp [joinTailH] at h

theorem splitM_join (ts : List (List Char)) (hts : ∀ t ∈ ts, '#' ∉ t) (cur : List Char) :
    splitM ' ' ['#', ' '] cur (joinTailH ts) = cur :: ts := by
  induction ts generalizing cur with
  | nil => rw [joinTailH, splitM_nil]
  | cons t ts ih =>
    have ht := hts t (List.mem_cons_self ..)
    have hts' : ∀ u ∈ ts, '#' ∉ u := fun u hu => hts u (List.mem_cons_of_mem _ hu)
    rw [joinTailH, show ' ' :: '#' :: ' ' :: (t ++ joinTailH ts) = ' ' :: ['#', ' '] ++ (t ++ joinTailH ts) from rfl,
      splitM_match, splitM_append _ _ _ t ht _ _ (joinTailH_head ts), ih hts', List.nil_append]

theorem toList_intercalate_hash (a : String) (as : List String) :
    (" # ".intercalate (a :: as)).toList = a.toList ++ joinTailH (as.map String.toList) := by
  induction as generalizing a with
  | nil => simp [joinTailH]
  | cons u l ih =>
    rw [String.intercalate_cons_cons, String.toList_append, String.toList_append, ih,
      show (" # " : String).toList = [' ', '#', ' '] from rfl]
    simp [joinTailH]

theorem splitOn_hash_intercalate (a : String) (as : List String)
    (h : ∀ t ∈ a :: as, '#' ∉ t.toList) : (" # ".intercalate (a :: as)).splitOn " # " = a :: as := by
  rw [splitOn_hash, toList_intercalate_hash]
  have ha := h a (List.mem_cons_self ..)
  have has : ∀ t ∈ as.map String.toList, '#' ∉ t := by
    intro t ht
    obtain ⟨u, hu, rfl⟩ := List.mem_map.1 ht
    exact h u (List.mem_cons_of_mem _ hu)
  rw [splitM_append _ _ _ a.toList ha _ _ (joinTailH_head _), splitM_join _ has, List.nil_append]
  simp [String.ofList_toList]

theorem splitOn_hash_single (s : String) (h : '#' ∉ s.toList) : s.splitOn " # " = [s] :=
  splitOn_hash_intercalate s [] (fun t ht => by
    rcases List.mem_cons.1 ht with rfl | ht
    · exact h
    · cases ht)

/-- list model of `replace p r`: leftmost, non-overlapping; `skip` characters of a match are still to
be dropped -/
def replAux (p r : List Char) : Nat → List Char → List Char
  | _, [] => []
  | skip + 1, _ :: cs => replAux p r skip cs
  | 0, c :: cs =>
    if p.isPrefixOf (c :: cs) then r ++ replAux p r (p.length - 1) cs else c :: replAux p r 0 cs

def replL (p r l : List Char) : List Char := replAux p r 0 l

theorem replAux_skip (p r : List Char) (x t : List Char) :
    replAux p r x.length (x ++ t) = replAux p r 0 t := by
  induction x with
  | nil => rfl
  | cons c x ih => simpa [replAux] using ih

theorem replL_match (p r t : List Char) (hp : p ≠ []) : replL p r (p ++ t) = r ++ replL p r t := by
  obtain ⟨c, p', rfl⟩ := List.exists_cons_of_ne_nil hp
  unfold replL
  have h1 : (c :: p').isPrefixOf (c :: (p' ++ t)) = true := by
    rw [List.isPrefixOf_iff_prefix]; exact ⟨t, rfl⟩
  simp only [List.cons_append, replAux, h1, if_true, List.length_cons, Nat.add_sub_cancel]
  rw [replAux_skip]

theorem replL_skip (p r : List Char) (u t : List Char)
    (h : ∀ u1 u2, u = u1 ++ u2 → u2 ≠ [] → ¬ p <+: u2 ++ t) :
    replL p r (u ++ t) = u ++ replL p r t := by
  induction u with
  | nil => rfl
  | cons c u ih =>
    have h0 : ¬ p <+: (c :: u) ++ t := h [] (c :: u) rfl (by simp)
    have h1 : p.isPrefixOf (c :: (u ++ t)) = false := by
      rw [Bool.eq_false_iff, Ne, List.isPrefixOf_iff_prefix]; exact h0
    unfold replL at *
    simp only [List.cons_append, replAux, h1, Bool.false_eq_true, if_false]
    rw [ih (fun u1 u2 e hne => h (c :: u1) u2 (by rw [e]; rfl) hne)]

theorem toList_ne_nil (s : String) (h : s ≠ "") : s.toList ≠ [] := by
  intro e
  exact h (String.toList_injective (by rw [e]; rfl))

/-- core specifies the searcher by `IsValidSearchFrom`, a run of matched and rejected stretches; folding the step
of `replace` over such a run from a position gives `replL` of the text behind that position -/
theorem foldl_valid (pat rep : String) (hp : pat ≠ "") {s : Slice}
    (f : String → SearchStep s → String)
    (hm : ∀ acc a b, f acc (.matched a b) = acc ++ rep)
    (hr : ∀ acc a b, f acc (.rejected a b) = acc ++ (s.slice! a b).copy)
    {pos : s.Pos} {l : List (SearchStep s)} (h : IsValidSearchFrom pat pos l) :
    ∀ t1 t2 acc, pos.Splits t1 t2 →
      l.foldl f acc = acc ++ String.ofList (replL pat.toList rep.toList t2.toList) := by
  induction h with
  | endPos =>
    intro t1 t2 acc hs
    have : t2 = "" := (hs.eq_endPos_iff).1 rfl
    subst this
    simp [replL, replAux]
  | @matched l start stop hmatch hvalid ih =>
    intro t1 t2 acc hs
    obtain ⟨u1, u2, h1, h2⟩ := ForwardStringSearcher.isLongestMatchAt_iff_splits.1 hmatch
    have e : t2 = pat ++ u2 := hs.eq_right h1
    subst e
    rw [List.foldl_cons, hm, ih _ _ _ h2, String.toList_append, replL_match _ _ _ (toList_ne_nil _ hp)]
    apply String.toList_injective
    simp [String.toList_append]
  | @mismatched l start stop hlt rej hvalid ih =>
    intro t1 t2 acc hs
    have hs' := stop.splits
    obtain ⟨u, hu, e1, e2⟩ := (hs.lt_iff_exists_eq_append hs').1 hlt
    have hsl : (s.slice! start stop).copy = u := by
      have hle : start ≤ stop := Std.le_of_lt hlt
      obtain ⟨hle', hc⟩ := (Slice.copy_slice_eq_iff_splits (t := u) (pos₁ := start) (pos₂ := stop)).2
        ⟨t1, (s.sliceFrom stop).copy, e2 ▸ hs, e1 ▸ hs'⟩
      rw [← Slice.slice_eq_slice! (h := hle')]
      exact hc
    rw [List.foldl_cons, hr, hsl, ih _ _ _ hs', e2, String.toList_append]
    rw [replL_skip]
    · apply String.toList_injective
      simp [String.toList_append]
    · intro u1 u2 eu hne hpre
      obtain ⟨v, hv⟩ := hpre
      -- the position between `t1 ++ u1` and `u2 ++ rest`
      have hcopy : s.copy = (t1 ++ String.ofList u1) ++ (String.ofList u2 ++ (s.sliceFrom stop).copy) := by
        rw [hs.eq_append, e2]
        apply String.toList_injective
        simp [String.toList_append, eu]
      have hp' := Slice.Pos.splits_ofEqAppend hcopy
      have hge : start ≤ Slice.Pos.ofEqAppend hcopy :=
        (hs.le_iff_exists_eq_append hp').2 ⟨String.ofList u1, rfl, by
          rw [e2]; apply String.toList_injective; simp [String.toList_append, eu]⟩
      have hlt' : Slice.Pos.ofEqAppend hcopy < stop :=
        (hp'.lt_iff_exists_eq_append hs').2 ⟨String.ofList u2, by
          intro e; apply hne; have := congrArg String.toList e; simpa using this, by
          rw [e1]; apply String.toList_injective; simp [String.toList_append, eu], rfl⟩
      apply rej _ hge hlt'
      rw [ForwardStringSearcher.matchesAt_iff_splits]
      refine ⟨t1 ++ String.ofList u1, String.ofList v, ?_⟩
      have : String.ofList u2 ++ (s.sliceFrom stop).copy = pat ++ String.ofList v := by
        apply String.toList_injective
        simp [String.toList_append, hv]
      rw [← this]
      exact hp'

theorem replace_eq (s pat rep : String) (hp : pat ≠ "") :
    s.replace pat rep = String.ofList (replL pat.toList rep.toList s.toList) := by
  have := ForwardStringSearcher.lawfulToForwardSearcherModel hp
  show s.toSlice.replace pat rep = _
  unfold Slice.replace
  rw [← Std.Iter.foldl_toList]
  rw [foldl_valid pat rep hp _ (fun _ _ _ => by simp [String.appendSlice_eq, ToSlice.toSlice]) (fun _ _ _ => rfl)
    (LawfulToForwardSearcherModel.isValidSearchFrom_toList s.toSlice) "" s.toSlice.copy ""
    (Slice.splits_startPos _)]
  simp

theorem replace_lit (l p r : List Char) (hp : p ≠ []) :
    (String.ofList l).replace (String.ofList p) (String.ofList r) = String.ofList (replL p r l) := by
  rw [replace_eq _ _ _ (fun e => hp (by simpa using congrArg String.toList e))]
  simp only [String.toList_ofList]

theorem ofList_app3 (a b c : List Char) :
    String.ofList a ++ String.ofList b ++ String.ofList c = String.ofList (a ++ b ++ c) := by
  simp only [String.ofList_append]

theorem replace_noop (s rep : String) (p : List Char) (c : Char) (hc : c ∈ p) (hs : c ∉ s.toList) :
    s.replace (String.ofList p) rep = s := by
  have hp : String.ofList p ≠ "" := by
    intro e
    have := congrArg String.toList e
    rw [String.toList_ofList] at this
    rw [this] at hc
    cases hc
  rw [replace_eq _ _ _ hp, String.toList_ofList]
  have := replL_skip p rep.toList s.toList [] (by
    intro u1 u2 e hne hpre
    rw [List.append_nil] at hpre
    have : c ∈ u2 := hpre.subset hc
    exact hs (by rw [e]; exact List.mem_append_right _ this))
  rw [List.append_nil] at this
  rw [this]
  simp [replL, replAux]

def NoCh (c : Char) (s : String) : Prop := c ∉ s.toList

theorem noCh_append {c : Char} {s t : String} (hs : NoCh c s) (ht : NoCh c t) : NoCh c (s ++ t) := by
  unfold NoCh at *
  rw [String.toList_append, List.mem_append]
  exact fun h => h.elim hs ht

/-- for a literal: `"abc"` unifies with `String.ofList ['a', 'b', 'c']`, and the check runs on the characters -/
theorem noCh_lit (c : Char) (l : List Char) (h : (l.contains c) = false) : NoCh c (String.ofList l) := by
  unfold NoCh
  rw [String.toList_ofList]
  intro hm
  have : l.contains c = true := List.contains_iff_mem.2 hm
  rw [h] at this; cases this

theorem noCh_nat (c : Char) (hc : c.isDigit = false) (n : Nat) : NoCh c (toString n) := by
  show c ∉ (Nat.repr n).toList
  rw [Nat.toList_repr]
  intro h
  have := Nat.isDigit_of_mem_toDigits (by omega) (by omega) h
  rw [hc] at this; cases this

theorem split_eq2 (kd rest : String) (h1 : NoCh '=' kd) (h2 : NoCh '=' rest) :
    (kd ++ "=" ++ rest).splitOn "=" = [kd, rest] :=
  splitOn_intercalate_sep (c0 := '=') rfl [kd, rest] (by simp) (List.forall_mem_cons.2
    ⟨h1, List.forall_mem_cons.2 ⟨h2, fun _ h => by cases h⟩⟩)

theorem split_slash3 (res : String) (h1 : NoCh '/' res) :
    (res ++ "/a0/p1").splitOn "/" = [res, "a0", "p1"] := by
  have := splitOn_intercalate_sep (sep := "/") (c0 := '/') rfl [res, "a0", "p1"] (by simp) (List.forall_mem_cons.2
    ⟨h1, List.forall_mem_cons.2 ⟨noCh_lit _ _ (by decide),
      List.forall_mem_cons.2 ⟨noCh_lit _ _ (by decide), fun _ h => by cases h⟩⟩⟩)
  rwa [show "/".intercalate [res, "a0", "p1"] = res ++ "/a0/p1" from by
    simp only [String.intercalate_cons_cons, String.intercalate_singleton, String.append_assoc]; rfl] at this

theorem split_at_head (o rest : String) (h : NoCh '@' o) :
    ((o ++ "@" ++ rest).splitOn "@").head! = o := by
  rw [splitOn_sep (c0 := '@') rfl, String.toList_append, String.toList_append,
    show ("@" : String).toList = ['@'] from rfl, List.append_assoc, splitBy_append '@' _ h,
    List.singleton_append, splitBy, if_pos rfl, List.nil_append, List.map_cons, String.ofList_toList]
  rfl

theorem split_line (first : String) (toks : List String) (hne : toks ≠ []) (h1 : NoSp first)
    (h2 : ∀ t ∈ toks, NoSp t) :
    (first ++ " " ++ " ".intercalate toks).splitOn " " = first :: toks := by
  obtain ⟨b, l, rfl⟩ := List.exists_cons_of_ne_nil hne
  rw [← String.intercalate_cons_cons]
  apply splitOn_intercalate _ (by simp)
  intro t ht
  rcases List.mem_cons.1 ht with rfl | ht
  · exact h1
  · exact h2 t ht

theorem not_startsWith (s : String) (c c' : Char) (t t' : List Char) (hs : s.toList = c :: t)
    (hne : c ≠ c') : s.startsWith (String.ofList (c' :: t')) = false := by
  rw [Bool.eq_false_iff, Ne, String.startsWith_string_iff, hs, String.toList_ofList]
  rintro ⟨u, hu⟩
  simp only [List.cons_append, List.cons.injEq] at hu
  exact hne hu.1.symm

theorem not_contains_of_char (s : String) (p : List Char) (c : Char) (hc : c ∈ p) (hs : c ∉ s.toList) :
    s.contains (String.ofList p) = false := by
  rw [String.contains_string_eq_false_iff, String.toList_ofList]
  intro h
  exact hs (h.subset hc)

end Bao.SpecFaults
