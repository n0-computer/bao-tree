import BaoModel.Iter
import BaoProofs.Lemmas.Offsets
import BaoProofs.Props.C18
import BaoProofs.Lemmas.RangeList

/-!
# The recursive pre-order plan (C15, pre-order half): definition and geometry

`planPre size bs ml filled root L k rs` is the list of items
`PreOrderPartialChunkIterRef` yields for the sub-query `rs` below the *shifted* node
`(k, L)` (shifted id `nodeOf k L`, real node `nodeOf k (L + bs)`), written by structural
recursion on the shifted level `L`:

* nothing for an empty sub-query;
* a shifted id `≥ filled` does not exist: its left child takes its place with the same
  ranges (this is what `TreeNode::right_descendant` does);
* a *query leaf* (`rs` is "all" and the node level is below `ml`) is one leaf item;
* above the chunk-group level: the parent item, then the plan of the left half, then the
  plan of the right half (sub-queries from `split_inner`; an empty half contributes nothing);
* at chunk-group level (`L = 0`): the half leaf (one leaf item), or the parent item followed
  by the left and/or right group leaf.

`(root, filled) = Tree.shifted t`, i.e. `filled = (Tree.shifted t).2`; `Geo` collects the facts
about `filled` the proofs use.
This file: the definition and its one-step unfolding lemmas; geometry (`Geo`, `shifted_geo`, the
root level, chunk spans of leaf items); the induction principle `planPre_induct`; and `item_node`:
every item of a plan is an own item of an existing node, whose sub-query inherits every invariant
of the descent.  `leaf_shape` reads the shape of a leaf item off it.
-/

namespace Bao.PlanPre
open Bao Bao.Spec Bao.Bits

def planPre (size bs ml filled root : Nat) : Nat → Nat → Ranges → List Chunk
  | 0, k, rs =>
    if rs.isEmpty then [] else
    if filled ≤ nodeOf k 0 then [] else
    let node := nodeOf k bs
    let isRoot := nodeOf k 0 == root
    let s := startOf k bs
    let m := midOf k bs
    let e := endOf k bs
    let bEnd := min (toBytes e) size
    if Ranges.isAll rs && decide (bs < ml) then [.leaf s (bEnd - toBytes s) isRoot rs]
    else if toBytes m ≥ size then [.leaf s (bEnd - toBytes s) isRoot rs]
    else
      let lr := Ranges.splitInner rs s m
      .parent node isRoot (!lr.1.isEmpty) (!lr.2.isEmpty) rs ::
        ((if lr.1.isEmpty then [] else [Chunk.leaf s (toBytes m - toBytes s) false lr.1]) ++
         (if lr.2.isEmpty then [] else [Chunk.leaf m (bEnd - toBytes m) false lr.2]))
  | L + 1, k, rs =>
    if rs.isEmpty then [] else
    if filled ≤ nodeOf k (L + 1) then planPre size bs ml filled root L (2 * k) rs else
    let node := nodeOf k (L + 1 + bs)
    let isRoot := nodeOf k (L + 1) == root
    let s := startOf k (L + 1 + bs)
    let m := midOf k (L + 1 + bs)
    let e := endOf k (L + 1 + bs)
    let bEnd := min (toBytes e) size
    if Ranges.isAll rs && decide (L + 1 + bs < ml) then [.leaf s (bEnd - toBytes s) isRoot rs]
    else
      let lr := Ranges.splitInner rs s m
      .parent node isRoot (!lr.1.isEmpty) (!lr.2.isEmpty) rs ::
        (planPre size bs ml filled root L (2 * k) lr.1 ++
          planPre size bs ml filled root L (2 * k + 1) lr.2)

/-- level of the shifted root, through `Spec.levelOf`; `NodeIterL.rootLevel` is the same level
through `Node.level` -/
def rootLevel (t : Tree) : Nat := Spec.levelOf t.shifted.1

def plan (t : Tree) (ml : Nat) (q : Ranges) : List Chunk :=
  planPre t.size t.bs ml t.shifted.2 t.shifted.1 (rootLevel t) 0 q

variable {size bs ml filled root : Nat}

theorem isEmpty_eq_false {rs : Ranges} (h : rs ≠ []) : rs.isEmpty = false := by
  cases rs with
  | nil => exact absurd rfl h
  | cons a l => rfl

@[simp] theorem planPre_nil (L k : Nat) : planPre size bs ml filled root L k [] = [] := by
  cases L <;> simp [planPre]

theorem planPre_skip {L k : Nat} {rs : Ranges} (h : filled ≤ nodeOf k (L + 1)) :
    planPre size bs ml filled root (L + 1) k rs = planPre size bs ml filled root L (2 * k) rs := by
  cases rs with
  | nil => simp
  | cons a l => simp [planPre, h]

theorem planPre_zero_skip {k : Nat} {rs : Ranges} (h : filled ≤ nodeOf k 0) :
    planPre size bs ml filled root 0 k rs = [] := by
  cases rs with
  | nil => simp
  | cons a l => simp [planPre, h]

def queryLeaf (bs ml L : Nat) (rs : Ranges) : Bool := Ranges.isAll rs && decide (L + bs < ml)

def nodeLeaf (size bs root L k : Nat) (rs : Ranges) : Chunk :=
  .leaf (startOf k (L + bs))
    (min (toBytes (endOf k (L + bs))) size - toBytes (startOf k (L + bs)))
    (nodeOf k L == root) rs

def nodeParent (bs root L k : Nat) (rs : Ranges) : Chunk :=
  .parent (nodeOf k (L + bs)) (nodeOf k L == root)
    (!(Ranges.splitInner rs (startOf k (L + bs)) (midOf k (L + bs))).1.isEmpty)
    (!(Ranges.splitInner rs (startOf k (L + bs)) (midOf k (L + bs))).2.isEmpty) rs

def lq (bs L k : Nat) (rs : Ranges) : Ranges :=
  (Ranges.splitInner rs (startOf k (L + bs)) (midOf k (L + bs))).1

def rq (bs L k : Nat) (rs : Ranges) : Ranges :=
  (Ranges.splitInner rs (startOf k (L + bs)) (midOf k (L + bs))).2

def leftLeaf (bs k : Nat) (rs : Ranges) : Chunk :=
  .leaf (startOf k bs) (toBytes (midOf k bs) - toBytes (startOf k bs)) false (lq bs 0 k rs)

def rightLeaf (size bs k : Nat) (rs : Ranges) : Chunk :=
  .leaf (midOf k bs) (min (toBytes (endOf k bs)) size - toBytes (midOf k bs)) false (rq bs 0 k rs)

theorem planPre_queryLeaf {L k : Nat} {rs : Ranges} (hne : rs ≠ []) (hlt : nodeOf k L < filled)
    (hq : queryLeaf bs ml L rs = true) :
    planPre size bs ml filled root L k rs = [nodeLeaf size bs root L k rs] := by
  have h1 := isEmpty_eq_false hne
  have h2 : ¬ filled ≤ nodeOf k L := Nat.not_le.2 hlt
  unfold queryLeaf at hq
  cases L with
  | zero =>
    simp only [Nat.zero_add] at hq
    simp only [planPre, h1, h2, hq, nodeLeaf, Nat.zero_add, if_true, if_false, Bool.false_eq_true]
  | succ L =>
    simp only [planPre, h1, h2, hq, nodeLeaf, if_true, if_false, Bool.false_eq_true]

theorem planPre_succ {L k : Nat} {rs : Ranges} (hne : rs ≠ []) (hlt : nodeOf k (L + 1) < filled)
    (hq : queryLeaf bs ml (L + 1) rs = false) :
    planPre size bs ml filled root (L + 1) k rs =
      nodeParent bs root (L + 1) k rs ::
        (planPre size bs ml filled root L (2 * k) (lq bs (L + 1) k rs) ++
          planPre size bs ml filled root L (2 * k + 1) (rq bs (L + 1) k rs)) := by
  have h1 := isEmpty_eq_false hne
  have h2 : ¬ filled ≤ nodeOf k (L + 1) := Nat.not_le.2 hlt
  unfold queryLeaf at hq
  simp only [planPre, h1, h2, hq, nodeParent, lq, rq, if_false, Bool.false_eq_true]

theorem planPre_zero_half {k : Nat} {rs : Ranges} (hne : rs ≠ []) (hlt : nodeOf k 0 < filled)
    (hq : queryLeaf bs ml 0 rs = false) (hh : size ≤ toBytes (midOf k bs)) :
    planPre size bs ml filled root 0 k rs = [nodeLeaf size bs root 0 k rs] := by
  have h1 := isEmpty_eq_false hne
  have h2 : ¬ filled ≤ nodeOf k 0 := Nat.not_le.2 hlt
  unfold queryLeaf at hq
  simp only [Nat.zero_add] at hq
  simp only [planPre, h1, h2, hq, nodeLeaf, Nat.zero_add, ge_iff_le, hh, if_true, if_false,
    Bool.false_eq_true]

theorem planPre_zero_parent {k : Nat} {rs : Ranges} (hne : rs ≠ []) (hlt : nodeOf k 0 < filled)
    (hq : queryLeaf bs ml 0 rs = false) (hh : toBytes (midOf k bs) < size) :
    planPre size bs ml filled root 0 k rs =
      nodeParent bs root 0 k rs ::
        ((if (lq bs 0 k rs).isEmpty then [] else [leftLeaf bs k rs]) ++
         (if (rq bs 0 k rs).isEmpty then [] else [rightLeaf size bs k rs])) := by
  have h1 := isEmpty_eq_false hne
  have h2 : ¬ filled ≤ nodeOf k 0 := Nat.not_le.2 hlt
  have h3 : ¬ size ≤ toBytes (midOf k bs) := Nat.not_le.2 hh
  unfold queryLeaf at hq
  simp only [Nat.zero_add] at hq
  simp only [planPre, h1, h2, h3, hq, nodeParent, leftLeaf, rightLeaf, lq, rq, Nat.zero_add,
    if_false, Bool.false_eq_true]

theorem isAll_eq {x : Ranges} (h : Ranges.isAll x = true) : x = [0] := by
  simpa [Ranges.isAll] using h

theorem queryLeaf_all {L : Nat} {rs : Ranges} (h : queryLeaf bs ml L rs = true) : rs = [0] := by
  simp only [queryLeaf, Bool.and_eq_true] at h
  exact isAll_eq h.1

theorem queryLeaf_lt {L : Nat} {rs : Ranges} (h : queryLeaf bs ml L rs = true) : L + bs < ml := by
  simp only [queryLeaf, Bool.and_eq_true, decide_eq_true_eq] at h
  exact h.2

theorem queryLeaf_isAll {L : Nat} {rs : Ranges} (h : queryLeaf bs ml L rs = true) :
    Ranges.isAll rs = true := by
  simp only [queryLeaf, Bool.and_eq_true] at h
  exact h.1

theorem splitNode_eq {k L : Nat} (bs : Nat) (rs : Ranges) (h : L + bs ≤ 64) :
    Ranges.splitNode rs (nodeOf k (L + bs)) = (lq bs L k rs, rq bs L k rs) := by
  unfold Ranges.splitNode lq rq
  rw [C18.chunkRange_spec h, C18.mid_spec]

theorem startOf_zero_left (L : Nat) : startOf 0 L = 0 := Offsets.startOf_zero_left L

theorem child_ls (k L bs : Nat) : startOf (2 * k) (L + bs) = startOf k (L + 1 + bs) := by
  rw [Nat.add_right_comm L 1 bs]; exact Bits.startOf_left k (L + bs)

theorem child_le (k L bs : Nat) : endOf (2 * k) (L + bs) = midOf k (L + 1 + bs) := by
  rw [Nat.add_right_comm L 1 bs]; exact Bits.endOf_left k (L + bs)

theorem child_rs (k L bs : Nat) : startOf (2 * k + 1) (L + bs) = midOf k (L + 1 + bs) := by
  rw [Nat.add_right_comm L 1 bs]; exact Bits.startOf_right k (L + bs)

theorem child_re (k L bs : Nat) : endOf (2 * k + 1) (L + bs) = endOf k (L + 1 + bs) := by
  rw [Nat.add_right_comm L 1 bs]; exact Bits.endOf_right k (L + bs)

theorem startOf_lt_endOf (k L : Nat) : startOf k L < endOf k L :=
  Nat.lt_trans (startOf_lt_midOf k L) (midOf_lt_endOf k L)

theorem toBytes_start (k L bs : Nat) :
    toBytes (startOf k (L + bs)) = startOf k L * 2 ^ (bs + 10) := by
  unfold toBytes startOf
  rw [show L + bs + 1 = L + 1 + bs by omega, Nat.pow_add 2 (L + 1) bs, Nat.pow_add 2 bs 10]
  simp only [Nat.mul_assoc]

theorem lt_nChunks_of_toBytes_lt {size c : Nat} (h : toBytes c < size) : c < nChunks size := by
  unfold toBytes at h; unfold nChunks; omega

theorem midOf_eq_start_add (k L : Nat) : midOf k L = startOf k L + 2 ^ L := by
  rw [midOf_eq, startOf_eq]

theorem endOf_eq_mid_add (k L : Nat) : endOf k L = midOf k L + 2 ^ L := by
  rw [midOf_eq, endOf_eq]; omega

theorem startOf_mod (k bs : Nat) : startOf k bs % 2 ^ bs = 0 := by
  rw [startOf_eq, ← Nat.mul_assoc]
  exact Nat.mul_mod_left _ _

theorem midOf_mod (k bs : Nat) : midOf k bs % 2 ^ bs = 0 := by
  rw [midOf_eq, ← odd_mul]
  exact Nat.mul_mod_left _ _

theorem startOf_mod_shift (k L bs : Nat) : startOf k (L + bs) % 2 ^ bs = 0 := by
  unfold startOf
  rw [show L + bs + 1 = L + 1 + bs by omega, Nat.pow_add, ← Nat.mul_assoc]
  exact Nat.mul_mod_left _ _

theorem endOf_mod_shift (k L bs : Nat) : endOf k (L + bs) % 2 ^ bs = 0 := by
  rw [Offsets.endOf_shift]
  exact Nat.mul_mod_left _ _

theorem startOf_le_nodeOf (k L : Nat) : startOf k L ≤ nodeOf k L := by
  have hp := two_pow_pos' L
  rw [startOf_eq, nodeOf_eq]; omega

theorem start_lt {k L : Nat} (h : nodeOf k L < filled) : startOf k L < filled :=
  Nat.lt_of_le_of_lt (startOf_le_nodeOf k L) h

theorem left_exists {k L : Nat} (h : nodeOf k (L + 1) < filled) : startOf (2 * k) L < filled :=
  Bits.startOf_left k L ▸ start_lt h

theorem toBytes_lt {a b : Nat} (h : a < b) : toBytes a < toBytes b :=
  Nat.mul_lt_mul_of_pos_right h (by decide)

theorem rootLevel_facts (size bs : Nat) (hs : size ≤ 2 ^ 63) :
    rootLevel ⟨size, bs⟩ ≤ 63 ∧
    (Tree.shifted ⟨size, bs⟩).1 = nodeOf 0 (rootLevel ⟨size, bs⟩) ∧
    nodeOf 0 (rootLevel ⟨size, bs⟩) < (Tree.shifted ⟨size, bs⟩).2 ∧
    Tree.blocks ⟨size, bs⟩ ≤ 2 ^ (rootLevel ⟨size, bs⟩ + 1) ∧
    (rootLevel ⟨size, bs⟩ = 0 ∨ 2 ^ rootLevel ⟨size, bs⟩ < Tree.blocks ⟨size, bs⟩) := by
  have hB := Offsets.blocks_le size bs hs
  have hB1 := Offsets.blocks_pos size bs
  have e : Tree.shifted ⟨size, bs⟩ = (nextPow2 (divCeil2 (Tree.blocks ⟨size, bs⟩)) - 1,
      divCeil2 (Tree.blocks ⟨size, bs⟩) + (divCeil2 (Tree.blocks ⟨size, bs⟩) - 1)) := by
    unfold Tree.shifted Tree.blocks Tree.blocksRaw
    simp only [Nat.add_comm 10 bs]
  unfold rootLevel
  rw [e]
  clear e
  generalize Tree.blocks ⟨size, bs⟩ = B at *
  -- `n = ⌈B / 2⌉`, `2^j` the least power of two `≥ n`
  have hn : B ≤ 2 * divCeil2 B ∧ 2 * divCeil2 B ≤ B + 1 := by unfold divCeil2; omega
  obtain ⟨j, hj, ej, hle, hmin⟩ :=
    Offsets.nextPow2_spec (x := divCeil2 B) (by unfold divCeil2; omega)
  simp only [ej, ← Offsets.nodeOf_zero_left, levelOf_nodeOf (Nat.le_trans hj (by decide))]
  rw [Offsets.nodeOf_zero_left, Nat.pow_succ]
  generalize divCeil2 B = n at *
  clear hs hB
  rcases hmin with rfl | hmin
  · exact ⟨hj, trivial, by omega, by omega, Or.inl rfl⟩
  · cases j with
    | zero => rw [Nat.pow_zero] at hmin hle; omega
    | succ i =>
      have hp := two_pow_pos' i
      rw [Nat.add_sub_cancel] at hmin
      rw [Nat.pow_succ] at hle ⊢
      exact ⟨hj, trivial, by omega, by omega, Or.inr (by omega)⟩

theorem shifted_root (size bs : Nat) (hs : size ≤ 2 ^ 63) :
    ∃ h, h ≤ 63 ∧ (Tree.shifted ⟨size, bs⟩).1 = nodeOf 0 h ∧
      (Tree.shifted ⟨size, bs⟩).1 < (Tree.shifted ⟨size, bs⟩).2 ∧
      Tree.blocks ⟨size, bs⟩ ≤ 2 ^ (h + 1) := by
  obtain ⟨h1, h2, h3, h4, _⟩ := rootLevel_facts size bs hs
  exact ⟨_, h1, h2, by rw [h2]; exact h3, h4⟩

theorem rootLevel_spec (size bs : Nat) (hs : size ≤ 2 ^ 63) :
    rootLevel ⟨size, bs⟩ ≤ 63 ∧
    (Tree.shifted ⟨size, bs⟩).1 = nodeOf 0 (rootLevel ⟨size, bs⟩) ∧
    nodeOf 0 (rootLevel ⟨size, bs⟩) < (Tree.shifted ⟨size, bs⟩).2 :=
  have h := rootLevel_facts size bs hs
  ⟨h.1, h.2.1, h.2.2.1⟩

theorem rootLevel_char (size bs : Nat) (hs : size ≤ 2 ^ 63) :
    Tree.blocks ⟨size, bs⟩ ≤ 2 ^ (rootLevel ⟨size, bs⟩ + 1) ∧
    (rootLevel ⟨size, bs⟩ = 0 ∨ 2 ^ rootLevel ⟨size, bs⟩ < Tree.blocks ⟨size, bs⟩) :=
  (rootLevel_facts size bs hs).2.2.2

theorem rootLevel_covers (size bs : Nat) (hs : size ≤ 2 ^ 63) :
    nChunks size ≤ endOf 0 (rootLevel ⟨size, bs⟩ + bs) := by
  have hb := (rootLevel_char size bs hs).1
  generalize rootLevel ⟨size, bs⟩ = h at hb ⊢
  apply Classical.byContradiction
  intro hn
  have h1 : endOf 0 (h + bs) = 2 ^ (h + 1) * 2 ^ bs := by
    rw [Offsets.endOf_shift, Nat.zero_add, Nat.one_mul]
  have hpos : 0 < 2 ^ (h + 1) * 2 ^ bs := Nat.mul_pos (two_pow_pos' _) (two_pow_pos' _)
  have h2 := (Offsets.lt_nChunks_iff size (2 ^ (h + 1) * 2 ^ bs) hpos).1 (by omega)
  have e10 : (2 : Nat) ^ (bs + 10) = 2 ^ bs * 1024 := by rw [Nat.pow_add]
  have h3 := (Offsets.lt_blocks_iff size bs (2 ^ (h + 1)) (two_pow_pos' _)).2
    (by rw [e10, ← Nat.mul_assoc]; exact h2)
  omega

/-- what the proofs need to know about `filled = (Tree.shifted t).2` (as a bound on shifted ids):
it is odd, real ids of existing nodes fit into a `u64`, and every existing node starts inside
the blob.  Not to be confused with `NodeIterL.Geo` (`Lemmas/NodeIter.lean`), which states other
facts about the same number; likewise `shifted_geo`, `shifted_root`, `rootLevel_spec`. -/
structure Geo (size bs filled : Nat) : Prop where
  odd : filled % 2 = 1
  fits : filled * 2 ^ bs ≤ 2 ^ 64
  le_blocks : filled ≤ Tree.blocks ⟨size, bs⟩
  ge_blocks : Tree.blocks ⟨size, bs⟩ - 1 ≤ filled

theorem shifted_geo (size bs : Nat) (hs : size ≤ 2 ^ 63) (hbs : bs ≤ 10) :
    Geo size bs (Tree.shifted ⟨size, bs⟩).2 := by
  obtain ⟨h1, h2, h3⟩ := Offsets.shifted_props size bs
  have hm := Offsets.blocks_mul_le size bs hs hbs
  have hb := Offsets.blocks_pos size bs
  have hle : (Tree.shifted ⟨size, bs⟩).2 ≤ Tree.blocks ⟨size, bs⟩ := by omega
  refine ⟨h3, ?_, hle, h1⟩
  have : (Tree.shifted ⟨size, bs⟩).2 * 2 ^ bs ≤ (Tree.blocks ⟨size, bs⟩ - 1 + 1) * 2 ^ bs :=
    Nat.mul_le_mul_right _ (by omega)
  omega

namespace Geo

variable {size bs filled : Nat}

theorem real_lt (g : Geo size bs filled) {k L : Nat} (h : nodeOf k L < filled) :
    nodeOf k (L + bs) < 2 ^ 64 := by
  have e : nodeOf k (L + bs) + 1 = (nodeOf k L + 1) * 2 ^ bs := by
    rw [nodeOf_succ', nodeOf_succ', Nat.mul_assoc, ← Nat.pow_add]
  have : (nodeOf k L + 1) * 2 ^ bs ≤ filled * 2 ^ bs := Nat.mul_le_mul_right _ (by omega)
  have := g.fits
  omega

theorem shifted_lt (g : Geo size bs filled) {k L : Nat} (h : nodeOf k L < filled) :
    nodeOf k L < 2 ^ 64 := by
  have hp := two_pow_pos' bs
  have h1 : filled * 1 ≤ filled * 2 ^ bs := Nat.mul_le_mul_left _ hp
  have := g.fits
  omega

theorem level_le (g : Geo size bs filled) {k L : Nat} (h : nodeOf k L < filled) : L + bs ≤ 64 :=
  level_le_of_lt (g.real_lt h)

/-- the right child's leftmost leaf exists when an inner node exists (`filled` is odd) -/
theorem right_exists (g : Geo size bs filled) {k L : Nat} (h : nodeOf k (L + 1) < filled) :
    startOf (2 * k + 1) L < filled := by
  have h1 := Offsets.nodeOf_succ_odd k L
  have h2 := g.odd
  have e : startOf (2 * k + 1) L = nodeOf k (L + 1) + 1 := by
    rw [Bits.startOf_right, nodeOf_succ, midOf_eq]
  omega

theorem start_le (g : Geo size bs filled) {k L : Nat} (h : startOf k L < filled) :
    toBytes (startOf k (L + bs)) ≤ size := by
  have hb := g.le_blocks
  have h1 := (Offsets.full_blocks size bs).1
  have h2 : startOf k L ≤ size / 2 ^ (bs + 10) := by omega
  have h3 := (Nat.le_div_iff_mul_le (two_pow_pos' (bs + 10))).1 h2
  have e := toBytes_start k L bs
  omega

theorem mid_lt (g : Geo size bs filled) {k L : Nat} (h : nodeOf k (L + 1) < filled) :
    toBytes (midOf k (L + 1 + bs)) < size := by
  have h1 := Offsets.nodeOf_succ_odd k L
  have h2 := g.odd
  have hb := g.le_blocks
  have hlt : nodeOf k (L + 1) + 1 < Tree.blocks ⟨size, bs⟩ := by omega
  have := (Offsets.lt_blocks_iff size bs (nodeOf k (L + 1) + 1) (by omega)).1 hlt
  rw [Offsets.midOf_shift]
  unfold toBytes
  rw [Nat.pow_add, ← Nat.mul_assoc] at this
  exact this

theorem start_strict (g : Geo size bs filled) {k L : Nat} (h : startOf k L < filled) :
    startOf k (L + bs) = 0 ∨ toBytes (startOf k (L + bs)) < size := by
  by_cases h0 : startOf k L = 0
  · left
    have hk := (Bits.startOf_eq_zero_iff k L).1 h0
    exact (Bits.startOf_eq_zero_iff k (L + bs)).2 hk
  · right
    have hb := g.le_blocks
    have := (Offsets.lt_blocks_iff size bs (startOf k L) (by omega)).1 (by omega)
    rw [toBytes_start]; exact this

theorem start_lt_nChunks (g : Geo size bs filled) {k L : Nat} (h : startOf k L < filled) :
    startOf k (L + bs) < nChunks size := by
  rcases g.start_strict h with h0 | h1
  · rw [h0]; exact Ranges.nChunks_pos size
  · exact lt_nChunks_of_toBytes_lt h1

theorem sub_exists (g : Geo size bs filled) {k L : Nat}
    (h : startOf k (L + bs) < nChunks size) : startOf k L < filled := by
  have hodd := g.odd
  have hev : startOf k L % 2 = 0 := by rw [startOf_eq]; omega
  by_cases h0 : startOf k L = 0
  · omega
  · have hge := g.ge_blocks
    have hpos : 0 < startOf k (L + bs) :=
      Nat.pos_of_ne_zero fun hz =>
        h0 ((Bits.startOf_eq_zero_iff k L).2 ((Bits.startOf_eq_zero_iff k (L + bs)).1 hz))
    have h1 : toBytes (startOf k (L + bs)) < size := (Offsets.lt_nChunks_iff size _ hpos).1 h
    rw [toBytes_start] at h1
    have h2 := (Offsets.lt_blocks_iff size bs (startOf k L) (Nat.pos_of_ne_zero h0)).2 h1
    omega

theorem skip_mid_ge (g : Geo size bs filled) {k L : Nat} (h : filled ≤ nodeOf k (L + 1)) :
    nChunks size ≤ midOf k (L + 1 + bs) := by
  have hge := g.ge_blocks
  have := Offsets.exists_iff size bs k (L + 1)
  omega

theorem mid_lt_nChunks (g : Geo size bs filled) {k L : Nat} (h : nodeOf k (L + 1) < filled) :
    midOf k (L + 1 + bs) < nChunks size :=
  lt_nChunks_of_toBytes_lt (g.mid_lt h)

end Geo

theorem ceil_toBytes_add (s z : Nat) : (toBytes s + z + 1023) / 1024 = s + (z + 1023) / 1024 := by
  unfold toBytes
  rw [Nat.add_assoc, Nat.mul_comm, Nat.mul_add_div (by decide)]

theorem toBytes_le_clip {size s e : Nat} (h0 : s = 0 ∨ toBytes s < size) (hse : s < e) :
    toBytes s ≤ min (toBytes e) size :=
  Nat.le_min.2 ⟨Nat.le_of_lt (toBytes_lt hse), h0.elim (fun h => h ▸ Nat.zero_le _) Nat.le_of_lt⟩

theorem span_eq {size s e : Nat} (h0 : s = 0 ∨ toBytes s < size) (hse : s < e) :
    s + max 1 (chunksOf (min (toBytes e) size - toBytes s)) = min e (nChunks size) := by
  have hs := toBytes_le_clip h0 hse
  -- counted from chunk 0 the leaf ends at `⌈min (toBytes e) size / 1024⌉ = min e ⌈size / 1024⌉`
  have e2 : (min (toBytes e) size + 1023) / 1024 = min e ((size + 1023) / 1024) := by
    have he : (toBytes e + 1023) / 1024 = e := ceil_toBytes_add e 0
    rcases Nat.le_total (toBytes e) size with h | h
    · have := Nat.div_le_div_right (c := 1024) (Nat.add_le_add_right h 1023)
      rw [Nat.min_eq_left h, he, Nat.min_eq_left (he ▸ this)]
    · have := Nat.div_le_div_right (c := 1024) (Nat.add_le_add_right h 1023)
      rw [Nat.min_eq_right h, Nat.min_eq_right (he ▸ this)]
  have e1 := ceil_toBytes_add s (min (toBytes e) size - toBytes s)
  rw [Nat.add_sub_cancel' hs, e2] at e1
  rw [Ranges.chunksOf_eq_div]; unfold nChunks
  rcases h0 with rfl | h0
  · rw [Nat.zero_add] at e1 ⊢
    rw [← e1, Nat.max_min_distrib_left, Nat.max_eq_right hse]
  · have hN : s < (size + 1023) / 1024 :=
      (Nat.le_div_iff_mul_le (by decide)).2 (by unfold toBytes at h0; omega)
    have hd : s < min e ((size + 1023) / 1024) := Nat.lt_min.2 ⟨hse, hN⟩
    rw [Nat.max_eq_right (by omega), Nat.max_eq_right (by omega), ← e1]

theorem span_full {s m : Nat} (hsm : s < m) :
    s + max 1 (chunksOf (toBytes m - toBytes s)) = m := by
  have e1 := ceil_toBytes_add s (toBytes m - toBytes s)
  have hle : toBytes s ≤ toBytes m := Nat.mul_le_mul_right 1024 (Nat.le_of_lt hsm)
  rw [Nat.add_sub_cancel' hle, ceil_toBytes_add m 0] at e1
  rw [Ranges.chunksOf_eq_div]
  generalize (toBytes m - toBytes s + 1023) / 1024 = d at *
  omega

/-- To prove `P L k rs (planPre … L k rs)` for all `L k rs` it suffices to treat the seven
shapes of the definition (each with the side conditions that select it). -/
theorem planPre_induct {size bs ml filled root : Nat}
    {P : Nat → Nat → Ranges → List Chunk → Prop}
    (nil : ∀ L k, P L k [] [])
    (gone : ∀ k rs, rs ≠ [] → filled ≤ nodeOf k 0 → P 0 k rs [])
    (skip : ∀ L k rs, rs ≠ [] → filled ≤ nodeOf k (L + 1) →
      P L (2 * k) rs (planPre size bs ml filled root L (2 * k) rs) →
      P (L + 1) k rs (planPre size bs ml filled root L (2 * k) rs))
    (qleaf : ∀ L k rs, rs ≠ [] → nodeOf k L < filled → queryLeaf bs ml L rs = true →
      P L k rs [nodeLeaf size bs root L k rs])
    (half : ∀ k rs, rs ≠ [] → nodeOf k 0 < filled → queryLeaf bs ml 0 rs = false →
      size ≤ toBytes (midOf k bs) → P 0 k rs [nodeLeaf size bs root 0 k rs])
    (group : ∀ k rs, rs ≠ [] → nodeOf k 0 < filled → queryLeaf bs ml 0 rs = false →
      toBytes (midOf k bs) < size →
      P 0 k rs (nodeParent bs root 0 k rs ::
        ((if (lq bs 0 k rs).isEmpty then [] else [leftLeaf bs k rs]) ++
         (if (rq bs 0 k rs).isEmpty then [] else [rightLeaf size bs k rs]))))
    (inner : ∀ L k rs, rs ≠ [] → nodeOf k (L + 1) < filled → queryLeaf bs ml (L + 1) rs = false →
      P L (2 * k) (lq bs (L + 1) k rs)
        (planPre size bs ml filled root L (2 * k) (lq bs (L + 1) k rs)) →
      P L (2 * k + 1) (rq bs (L + 1) k rs)
        (planPre size bs ml filled root L (2 * k + 1) (rq bs (L + 1) k rs)) →
      P (L + 1) k rs (nodeParent bs root (L + 1) k rs ::
        (planPre size bs ml filled root L (2 * k) (lq bs (L + 1) k rs) ++
          planPre size bs ml filled root L (2 * k + 1) (rq bs (L + 1) k rs))))
    (L k : Nat) (rs : Ranges) : P L k rs (planPre size bs ml filled root L k rs) := by
  induction L generalizing k rs with
  | zero =>
    by_cases hne : rs = []
    · subst hne; rw [planPre_nil]; exact nil 0 k
    by_cases hlt : nodeOf k 0 < filled
    · by_cases hq : queryLeaf bs ml 0 rs = true
      · rw [planPre_queryLeaf hne hlt hq]; exact qleaf 0 k rs hne hlt hq
      · have hq : queryLeaf bs ml 0 rs = false := by simpa using hq
        by_cases hh : toBytes (midOf k bs) < size
        · rw [planPre_zero_parent hne hlt hq hh]; exact group k rs hne hlt hq hh
        · have hh := Nat.le_of_not_lt hh
          rw [planPre_zero_half hne hlt hq hh]; exact half k rs hne hlt hq hh
    · have hge := Nat.le_of_not_lt hlt
      rw [planPre_zero_skip hge]; exact gone k rs hne hge
  | succ L ih =>
    by_cases hne : rs = []
    · subst hne; rw [planPre_nil]; exact nil (L + 1) k
    by_cases hlt : nodeOf k (L + 1) < filled
    · by_cases hq : queryLeaf bs ml (L + 1) rs = true
      · rw [planPre_queryLeaf hne hlt hq]; exact qleaf (L + 1) k rs hne hlt hq
      · have hq : queryLeaf bs ml (L + 1) rs = false := by simpa using hq
        rw [planPre_succ hne hlt hq]
        exact inner L k rs hne hlt hq (ih _ _) (ih _ _)
    · have hge := Nat.le_of_not_lt hlt
      rw [planPre_skip hge]; exact skip L k rs hne hge (ih _ _)

theorem planPre_ne_nil {size bs ml filled root : Nat} (L k : Nat) (rs : Ranges) :
    rs ≠ [] → startOf k L < filled → planPre size bs ml filled root L k rs ≠ [] := by
  refine planPre_induct
    (P := fun L k rs p => rs ≠ [] → startOf k L < filled → p ≠ [])
    ?nil ?gone ?skip ?qleaf ?half ?group ?inner L k rs
  case nil =>
    intro L k h; exact absurd rfl h
  case gone =>
    intro k rs _ hge _ hs
    have : startOf k 0 = nodeOf k 0 := by rw [Offsets.startOf_zero, Offsets.nodeOf_zero]
    omega
  case skip =>
    intro L k rs hne _ ih _ hs
    exact ih hne (by rw [Bits.startOf_left]; exact hs)
  case qleaf =>
    intro L k rs _ _ _ _ _; simp
  case half =>
    intro k rs _ _ _ _ _ _; simp
  case group =>
    intro k rs _ _ _ _ _ _; simp
  case inner =>
    intro L k rs _ _ _ _ _ _ _; simp

/-- `c` is one of the items node `(k, L)` itself puts into its plan: its one leaf item (query leaf
or half leaf), or else its parent item or, at chunk-group level, one of the two group leaves -/
def OwnItem (size bs ml root L k : Nat) (rs : Ranges) (c : Chunk) : Prop :=
  (c = nodeLeaf size bs root L k rs ∧
    (queryLeaf bs ml L rs = true ∨ L = 0 ∧ size ≤ toBytes (midOf k bs))) ∨
  ((L = 0 → toBytes (midOf k bs) < size) ∧
    (c = nodeParent bs root L k rs ∨
      L = 0 ∧ (lq bs 0 k rs ≠ [] ∧ c = leftLeaf bs k rs ∨
               rq bs 0 k rs ≠ [] ∧ c = rightLeaf size bs k rs)))

/-- Every item of a plan is an own item of an existing node `(k, L)` below the start node, with a
non-empty sub-query `rs`; and `I L k rs` holds for every invariant `I` of the descent (true at the
start, handed on to the left child of a missing node and to both children of an existing one). -/
theorem item_node {I : Nat → Nat → Ranges → Prop}
    (skip : ∀ L k rs, filled ≤ nodeOf k (L + 1) → I (L + 1) k rs → I L (2 * k) rs)
    (left : ∀ L k rs, nodeOf k (L + 1) < filled → I (L + 1) k rs →
      I L (2 * k) (lq bs (L + 1) k rs))
    (right : ∀ L k rs, nodeOf k (L + 1) < filled → I (L + 1) k rs →
      I L (2 * k + 1) (rq bs (L + 1) k rs))
    (L0 k0 : Nat) (rs0 : Ranges) :
    I L0 k0 rs0 → ∀ c ∈ planPre size bs ml filled root L0 k0 rs0,
      ∃ L k rs, I L k rs ∧ rs ≠ [] ∧ nodeOf k L < filled ∧ OwnItem size bs ml root L k rs c := by
  refine planPre_induct
    (P := fun L0 k0 rs0 p => I L0 k0 rs0 → ∀ c ∈ p,
      ∃ L k rs, I L k rs ∧ rs ≠ [] ∧ nodeOf k L < filled ∧ OwnItem size bs ml root L k rs c)
    ?nil ?gone ?skip ?qleaf ?half ?group ?inner L0 k0 rs0
  case nil =>
    intro L k _ c hc; cases hc
  case gone =>
    intro k rs _ _ _ c hc; cases hc
  case skip =>
    intro L k rs _ hge ih h0 c hc
    exact ih (skip L k rs hge h0) c hc
  case qleaf =>
    intro L k rs hne hlt hq h0 c hc
    exact ⟨L, k, rs, h0, hne, hlt, Or.inl ⟨List.mem_singleton.1 hc, Or.inl hq⟩⟩
  case half =>
    intro k rs hne hlt _ hh h0 c hc
    exact ⟨0, k, rs, h0, hne, hlt, Or.inl ⟨List.mem_singleton.1 hc, Or.inr ⟨rfl, hh⟩⟩⟩
  case group =>
    intro k rs hne hlt _ hh h0 c hc
    refine ⟨0, k, rs, h0, hne, hlt, Or.inr ⟨fun _ => hh, ?_⟩⟩
    rw [List.mem_cons, List.mem_append] at hc
    rcases hc with hc | hc | hc
    · exact Or.inl hc
    · by_cases hl : lq bs 0 k rs = []
      · rw [hl] at hc; cases hc
      · rw [isEmpty_eq_false hl] at hc
        exact Or.inr ⟨rfl, Or.inl ⟨hl, List.mem_singleton.1 hc⟩⟩
    · by_cases hr : rq bs 0 k rs = []
      · rw [hr] at hc; cases hc
      · rw [isEmpty_eq_false hr] at hc
        exact Or.inr ⟨rfl, Or.inr ⟨hr, List.mem_singleton.1 hc⟩⟩
  case inner =>
    intro L k rs hne hlt _ ihl ihr h0 c hc
    rw [List.mem_cons, List.mem_append] at hc
    rcases hc with hc | hc | hc
    · exact ⟨L + 1, k, rs, h0, hne, hlt, Or.inr ⟨fun h => (Nat.succ_ne_zero L h).elim, Or.inl hc⟩⟩
    · exact ihl (left L k rs hlt h0) c hc
    · exact ihr (right L k rs hlt h0) c hc

/-- the leaf item `.leaf s z _ x` is one of node `(k, L)`'s own, `rs` being the node's sub-query:
the leaf item of the whole node (query leaf or half leaf), or the left or right group leaf -/
def LeafAt (size bs ml L k : Nat) (rs : Ranges) (s z : Nat) (x : Ranges) : Prop :=
  (s = startOf k (L + bs) ∧
      z = min (toBytes (endOf k (L + bs))) size - toBytes (startOf k (L + bs)) ∧ x = rs ∧
      (queryLeaf bs ml L rs = true ∨ L = 0 ∧ size ≤ toBytes (midOf k bs))) ∨
  (L = 0 ∧ toBytes (midOf k bs) < size ∧
      ((s = startOf k bs ∧ z = toBytes (midOf k bs) - toBytes (startOf k bs) ∧
          x = (Ranges.splitInner rs (startOf k bs) (midOf k bs)).1 ∧ x ≠ []) ∨
       (s = midOf k bs ∧ z = min (toBytes (endOf k bs)) size - toBytes (midOf k bs) ∧
          x = (Ranges.splitInner rs (startOf k bs) (midOf k bs)).2 ∧ x ≠ [])))

theorem OwnItem.leafAt {L k : Nat} {rs : Ranges} {s z : Nat} {r : Bool} {x : Ranges}
    (h : OwnItem size bs ml root L k rs (Chunk.leaf s z r x)) :
    LeafAt size bs ml L k rs s z x := by
  rcases h with ⟨e, hq⟩ | ⟨hh, e | ⟨rfl, ⟨hl, e⟩ | ⟨hr, e⟩⟩⟩
  · simp only [nodeLeaf, Chunk.leaf.injEq] at e
    obtain ⟨rfl, rfl, -, rfl⟩ := e
    exact Or.inl ⟨rfl, rfl, rfl, hq⟩
  · simp only [nodeParent] at e; cases e
  · simp only [leftLeaf, lq, Nat.zero_add, Chunk.leaf.injEq] at e hl
    obtain ⟨rfl, rfl, -, rfl⟩ := e
    exact Or.inr ⟨rfl, hh rfl, Or.inl ⟨rfl, rfl, rfl, hl⟩⟩
  · simp only [rightLeaf, rq, Nat.zero_add, Chunk.leaf.injEq] at e hr
    obtain ⟨rfl, rfl, -, rfl⟩ := e
    exact Or.inr ⟨rfl, hh rfl, Or.inr ⟨rfl, rfl, rfl, hr⟩⟩

/-- **Shape of a leaf item.**  Every leaf of a plan is `[s, e)` clipped to the blob, starts at
chunk 0 or inside the blob, and is either one chunk group or (query leaf) the whole range of an
existing node below level `ml`, with ranges "all". -/
theorem leaf_shape (g : Geo size bs filled) {L0 k0 : Nat} {rs0 : Ranges} {s z : Nat} {r : Bool}
    {x : Ranges} (hm : Chunk.leaf s z r x ∈ planPre size bs ml filled root L0 k0 rs0) :
    ∃ e, s < e ∧ (s = 0 ∨ toBytes s < size) ∧ z = min (toBytes e) size - toBytes s ∧
      s % 2 ^ bs = 0 ∧
      (e = s + 2 ^ bs ∨ ∃ L k, nodeOf k L < filled ∧ L + bs < ml ∧ Ranges.isAll x = true ∧
        s = startOf k (L + bs) ∧ e = endOf k (L + bs)) := by
  obtain ⟨L, k, rs, -, -, hlt, hown⟩ := item_node (I := fun _ _ _ => True)
    (fun _ _ _ _ _ => trivial) (fun _ _ _ _ _ => trivial) (fun _ _ _ _ _ => trivial)
    L0 k0 rs0 trivial _ hm
  have h := hown.leafAt
  have h0 := g.start_strict (start_lt hlt)
  rcases h with ⟨rfl, rfl, rfl, hq | ⟨rfl, hh⟩⟩ | ⟨rfl, hh, ⟨rfl, rfl, -, -⟩ | ⟨rfl, rfl, -, -⟩⟩
  · exact ⟨_, startOf_lt_endOf k (L + bs), h0, rfl, startOf_mod_shift k L bs,
      Or.inr ⟨L, k, hlt, queryLeaf_lt hq, queryLeaf_isAll hq, rfl, rfl⟩⟩
  · -- half leaf: the blob ends in the left half, so clipping at the mid is clipping at the end
    rw [Nat.zero_add] at h0 ⊢
    have hme := Nat.le_trans hh (Nat.le_of_lt (toBytes_lt (midOf_lt_endOf k bs)))
    exact ⟨_, startOf_lt_midOf k bs, h0, by rw [Nat.min_eq_right hh, Nat.min_eq_right hme],
      startOf_mod k bs, Or.inl (midOf_eq_start_add k bs)⟩
  · have hsm := startOf_lt_midOf k bs
    exact ⟨_, hsm, Or.inr (Nat.lt_trans (toBytes_lt hsm) hh),
      by rw [Nat.min_eq_left (Nat.le_of_lt hh)], startOf_mod k bs, Or.inl (midOf_eq_start_add k bs)⟩
  · exact ⟨_, midOf_lt_endOf k bs, Or.inr hh, rfl, midOf_mod k bs, Or.inl (endOf_eq_mid_add k bs)⟩

end Bao.PlanPre
