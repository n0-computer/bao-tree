import BaoModel.Codec
import BaoProofs.Lemmas.C01Inv

/-!
# The validating encoder, one plan item at a time (C05)

`encodeValidatedLoop` is the iteration of a non-recursive step `encStep` (`loop_cons`); the lemmas
say what a step can do, when two stores give the same step, and where a run can stop.  The relation
between the runs on two stores is in `Lemmas/C05LocL.lean`.

`Bao.toBytes c = c * 1024` (chunks to bytes) and `hf.toBytes h` (the wire bytes of a hash) are
different functions; both occur in `encStep`.
-/

namespace Bao.C05
variable {H : Type}

section rec
variable (hf : HashFns H)

theorem rec_small (L start : Nat) (data : List UInt8) (isRoot : Bool) (query : Ranges)
    (minLevel : Nat) (emit : Bool) (h : data.length ≤ 1024) :
    encodeSelectedRec hf L start data isRoot query minLevel emit =
      (hashSubtree hf start data isRoot, if emit && !query.isEmpty then data else []) := by
  cases L with
  | zero => rw [encodeSelectedRec]
  | succ L => rw [encodeSelectedRec, if_pos (by simpa [chunkLen] using h)]

theorem rec_succ_le (L start : Nat) (data : List UInt8) (isRoot : Bool) (query : Ranges)
    (minLevel : Nat) (emit : Bool) (h1 : 1024 < data.length) (h2 : data.length ≤ 2 ^ L * 1024) :
    encodeSelectedRec hf (L + 1) start data isRoot query minLevel emit =
      encodeSelectedRec hf L start data isRoot query minLevel emit := by
  rw [encodeSelectedRec, if_neg (by simp only [chunkLen]; omega),
    if_pos (by simpa [chunkLen] using h2)]

theorem rec_succ_split (L start : Nat) (data : List UInt8) (isRoot : Bool) (query : Ranges)
    (minLevel : Nat) (emit : Bool) (h2 : 2 ^ L * 1024 < data.length) {l r : H × List UInt8}
    (hl : encodeSelectedRec hf L start (data.take (2 ^ L * 1024)) false
      (Ranges.splitInner query start (start + 2 ^ L)).1 minLevel emit = l)
    (hr : encodeSelectedRec hf L (start + 2 ^ L) (data.drop (2 ^ L * 1024)) false
      (Ranges.splitInner query start (start + 2 ^ L)).2 minLevel emit = r) :
    encodeSelectedRec hf (L + 1) start data isRoot query minLevel emit =
      (hf.parentCv l.1 r.1 isRoot,
       (if !query.isEmpty && (!Ranges.isAll query || decide (L ≥ minLevel)) then
          hf.toBytes l.1 ++ hf.toBytes r.1
        else []) ++ l.2 ++ r.2) := by
  have hp := Nat.two_pow_pos L
  subst hl hr
  rw [encodeSelectedRec, if_neg (by simp only [chunkLen]; omega),
    if_neg (by simp only [chunkLen]; omega)]
  rfl

theorem rec_fuel : ∀ (L' L start : Nat) (data : List UInt8) (isRoot : Bool) (query : Ranges)
    (minLevel : Nat) (emit : Bool), L ≤ L' → data.length ≤ 2 ^ L * 1024 →
    encodeSelectedRec hf L' start data isRoot query minLevel emit =
      encodeSelectedRec hf L start data isRoot query minLevel emit := by
  intro L'
  induction L' with
  | zero =>
    intro L start data isRoot query minLevel emit hL _
    have : L = 0 := by omega
    subst this; rfl
  | succ L' ih =>
    intro L start data isRoot query minLevel emit hL hlen
    by_cases hLL : L = L' + 1
    · subst hLL; rfl
    · by_cases hs : data.length ≤ 1024
      · rw [rec_small hf _ _ _ _ _ _ _ hs, rec_small hf _ _ _ _ _ _ _ hs]
      · have hle : 2 ^ L ≤ 2 ^ L' := Nat.pow_le_pow_right (by decide) (by omega)
        rw [rec_succ_le hf _ _ _ _ _ _ _ (by omega) (Nat.le_trans hlen (Nat.mul_le_mul_right _ hle))]
        exact ih L start data isRoot query minLevel emit (by omega) hlen

end rec

theorem encodeSelectedRec_hash (hf : HashFns H) :
    ∀ (L start : Nat) (data : List UInt8) (isRoot : Bool) (query : Ranges) (minLevel : Nat)
      (emit : Bool), L ≤ 64 → data.length ≤ 2 ^ L * 1024 →
      (encodeSelectedRec hf L start data isRoot query minLevel emit).1
        = hashSubtree hf start data isRoot := by
  intro L
  induction L with
  | zero => intro start data isRoot query minLevel emit _ _; rfl
  | succ L ih =>
    intro start data isRoot query minLevel emit hL hlen
    by_cases h1 : data.length ≤ 1024
    · rw [rec_small hf _ _ _ _ _ _ _ h1]
    · by_cases h2 : data.length ≤ 2 ^ L * 1024
      · rw [rec_succ_le hf _ _ _ _ _ _ _ (by omega) h2]
        exact ih start data isRoot query minLevel emit (by omega) h2
      · have hp : 2 ^ (L + 1) * 1024 = 2 ^ L * 1024 + 2 ^ L * 1024 := by rw [Nat.pow_succ]; omega
        have ht : (data.take (2 ^ L * 1024)).length ≤ 2 ^ L * 1024 := by
          rw [List.length_take]; omega
        have hd : (data.drop (2 ^ L * 1024)).length ≤ 2 ^ L * 1024 := by
          rw [List.length_drop]; omega
        rw [rec_succ_split hf _ _ _ _ _ _ _ (by omega) rfl rfl, ih _ _ _ _ _ _ (by omega) ht,
          ih _ _ _ _ _ _ (by omega) hd]
        exact (hashSubtree_parent (by omega) hlen (by omega) start isRoot).symm

inductive StepRes (H : Type)
  | stop (t : EncEnd)
  | cont (stack : List H) (emit : List UInt8)

/-- the children pushed after a parent: right first, so that left is popped first -/
def pushLR (left right : Bool) (l r : H) (stack : List H) : List H :=
  let stack := if right then r :: stack else stack
  if left then l :: stack else stack

/-- "actual" and "to write" of a leaf item: the hash it is checked with and the bytes it emits -/
def leafAW (hf : HashFns H) (bs start : Nat) (buf : List UInt8) (isRoot : Bool) (ranges : Ranges) :
    H × List UInt8 :=
  if !Ranges.isAll ranges then encodeSelectedRec hf recFuel start buf isRoot ranges bs true
  else (hashSubtree hf start buf isRoot, buf)

def encStep (hf : HashFns H) [BEq H] (fl : Flavour) (data : List UInt8) (ob : Store H) :
    Chunk → List H → StepRes H
  | .parent node isRoot left right _, stack =>
    match ob.load hf fl node with
    | .err e => .stop (.err (.io e))
    | .panic => .stop .panic
    | .ok none => .stop .panic
    | .ok (some (l, r)) =>
      match stack with
      | [] => .stop .panic
      | expected :: stack =>
        if hf.parentCv l r isRoot != expected then .stop (.err (.parentHashMismatch node))
        else .cont (pushLR left right l r stack) (hf.toBytes l ++ hf.toBytes r)
  | .leaf start size isRoot ranges, stack =>
    match stack with
    | [] => .stop .panic
    | expected :: stack =>
      match readExactAt data (toBytes start) size with
      | .error e => .stop (.err (.io e))
      | .ok buf =>
        if (leafAW hf ob.tree.bs start buf isRoot ranges).1 != expected then
          .stop (.err (.leafHashMismatch start))
        else .cont stack (leafAW hf ob.tree.bs start buf isRoot ranges).2

theorem loop_cons (hf : HashFns H) [BEq H] (fl : Flavour) (data : List UInt8) (ob : Store H)
    (c : Chunk) (plan : List Chunk) (stack : List H) (out : List UInt8) :
    encodeValidatedLoop hf fl data ob (c :: plan) stack out =
      match encStep hf fl data ob c stack with
      | .stop t => ⟨out, t⟩
      | .cont st em => encodeValidatedLoop hf fl data ob plan st (out ++ em) := by
  cases c with
  | parent node isRoot left right rs =>
    simp only [encodeValidatedLoop, encStep]
    cases ob.load hf fl node with
    | err e => rfl
    | panic => rfl
    | ok o =>
      cases o with
      | none => rfl
      | some p =>
        obtain ⟨l, r⟩ := p
        cases stack with
        | nil => rfl
        | cons expected stack =>
          simp only [pushLR]
          split <;> simp [List.append_assoc]
  | leaf start size isRoot rs =>
    simp only [encodeValidatedLoop, encStep]
    cases stack with
    | nil => rfl
    | cons expected stack =>
      simp only
      cases readExactAt data (toBytes start) size with
      | error e => rfl
      | ok buf =>
        simp only [leafAW]
        split <;> split <;> simp_all

theorem loop_nil (hf : HashFns H) [BEq H] (fl : Flavour) (data : List UInt8) (ob : Store H)
    (stack : List H) (out : List UInt8) :
    encodeValidatedLoop hf fl data ob [] stack out = ⟨out, .ok⟩ := by
  simp [encodeValidatedLoop]

section step
variable (hf : HashFns H) [BEq H] (fl : Flavour) (data : List UInt8) (ob : Store H)

theorem step_parent_cont {node : Nat} {isRoot left right : Bool} {rs : Ranges} {stack st : List H}
    {em : List UInt8} :
    encStep hf fl data ob (.parent node isRoot left right rs) stack = .cont st em ↔
      ∃ l r e s, ob.load hf fl node = .ok (some (l, r)) ∧ stack = e :: s ∧
        (hf.parentCv l r isRoot != e) = false ∧ st = pushLR left right l r s ∧
        em = hf.toBytes l ++ hf.toBytes r := by
  constructor
  · intro h
    simp only [encStep] at h
    split at h
    · cases h
    · cases h
    · cases h
    · rename_i l r hload
      split at h
      · cases h
      · rename_i e s
        split at h
        · cases h
        · rename_i hne
          injection h with h1 h2
          exact ⟨l, r, e, s, hload, rfl, by simpa using hne, h1.symm, h2.symm⟩
  · rintro ⟨l, r, e, s, hload, rfl, hne, rfl, rfl⟩
    simp only [encStep, hload, hne]
    simp

theorem step_leaf_cont {start size : Nat} {isRoot : Bool} {rs : Ranges} {stack st : List H}
    {em : List UInt8} :
    encStep hf fl data ob (.leaf start size isRoot rs) stack = .cont st em ↔
      ∃ e buf, stack = e :: st ∧ readExactAt data (toBytes start) size = .ok buf ∧
        ((leafAW hf ob.tree.bs start buf isRoot rs).1 != e) = false ∧
        em = (leafAW hf ob.tree.bs start buf isRoot rs).2 := by
  constructor
  · intro h
    simp only [encStep] at h
    split at h
    · cases h
    · rename_i e s
      split at h
      · cases h
      · rename_i buf hread
        split at h
        · cases h
        · rename_i hne
          injection h with h1 h2
          subst h1
          exact ⟨e, buf, rfl, hread, by simpa using hne, h2.symm⟩
  · rintro ⟨e, buf, rfl, hread, hne, rfl⟩
    simp only [encStep, hread, hne]
    simp

theorem step_stop {c : Chunk} {stack : List H} {t : EncEnd}
    (h : encStep hf fl data ob c stack = .stop t) :
    (∃ node ir lf rf rs, c = .parent node ir lf rf rs ∧
      ((∃ e, ob.load hf fl node = .err e ∧ t = .err (.io e)) ∨
       (ob.load hf fl node = .panic ∧ t = .panic) ∨
       (ob.load hf fl node = .ok none ∧ t = .panic) ∨
       (stack = [] ∧ t = .panic) ∨
       t = .err (.parentHashMismatch node))) ∨
    (∃ start size ir rs, c = .leaf start size ir rs ∧
      ((stack = [] ∧ t = .panic) ∨
       (∃ e, readExactAt data (toBytes start) size = .error e ∧ t = .err (.io e)) ∨
       t = .err (.leafHashMismatch start))) := by
  cases c with
  | parent node ir lf rf rs =>
    left
    refine ⟨node, ir, lf, rf, rs, rfl, ?_⟩
    simp only [encStep] at h
    split at h
    · rename_i e he
      injection h with h; exact .inl ⟨e, he, h.symm⟩
    · rename_i he
      injection h with h; exact .inr (.inl ⟨he, h.symm⟩)
    · rename_i he
      injection h with h; exact .inr (.inr (.inl ⟨he, h.symm⟩))
    · split at h
      · injection h with h; exact .inr (.inr (.inr (.inl ⟨rfl, h.symm⟩)))
      · split at h
        · injection h with h
          exact .inr (.inr (.inr (.inr h.symm)))
        · cases h
  | leaf start size ir rs =>
    right
    refine ⟨start, size, ir, rs, rfl, ?_⟩
    simp only [encStep] at h
    split at h
    · injection h with h; exact .inl ⟨rfl, h.symm⟩
    · split at h
      · rename_i err herr
        injection h with h; exact .inr (.inl ⟨err, herr, h.symm⟩)
      · split at h
        · injection h with h
          exact .inr (.inr h.symm)
        · cases h

theorem step_stop_ne_ok {c : Chunk} {stack : List H} {t : EncEnd}
    (h : encStep hf fl data ob c stack = .stop t) : t ≠ .ok := by
  rcases step_stop hf fl data ob h with ⟨_, _, _, _, _, _, h⟩ | ⟨_, _, _, _, _, h⟩
  · rcases h with ⟨_, _, rfl⟩ | ⟨_, rfl⟩ | ⟨_, rfl⟩ | ⟨_, rfl⟩ | rfl <;> simp
  · rcases h with ⟨_, rfl⟩ | ⟨_, _, rfl⟩ | rfl <;> simp

end step

theorem readExactAt_length {d : List UInt8} {off n : Nat} {buf : List UInt8}
    (h : readExactAt d off n = .ok buf) : buf.length = n ∧ buf.length ≤ d.length := by
  unfold readExactAt at h
  split at h
  · cases h; subst_vars; exact ⟨rfl, Nat.zero_le _⟩
  · split at h
    · cases h
      simp only [List.length_take, List.length_drop]
      omega
    · cases h

theorem leafAW_hash (hf : HashFns H) (bs start : Nat) (buf : List UInt8) (isRoot : Bool)
    (rs : Ranges) (h : buf.length ≤ 2 ^ 64 * 1024) :
    (leafAW hf bs start buf isRoot rs).1 = hashSubtree hf start buf isRoot := by
  unfold leafAW
  split
  · exact encodeSelectedRec_hash hf recFuel start buf isRoot rs bs true (Nat.le_refl _) h
  · rfl

/-- the two stores return the same thing for the one access plan item `c` makes -/
def AgreeAt (hf : HashFns H) (fl fl₀ : Flavour) (data : List UInt8) (ob : Store H)
    (data₀ : List UInt8) (ob₀ : Store H) : Chunk → Prop
  | .parent node _ _ _ _ => ob.load hf fl node = ob₀.load hf fl₀ node
  | .leaf start size _ _ => readExactAt data (toBytes start) size = readExactAt data₀ (toBytes start) size

section rel
variable {hf : HashFns H} [BEq H] {fl fl₀ : Flavour} {data data₀ : List UInt8} {ob ob₀ : Store H}

theorem step_frame (hbs : ob.tree.bs = ob₀.tree.bs) {c : Chunk}
    (h : AgreeAt hf fl fl₀ data ob data₀ ob₀ c) (stack : List H) :
    encStep hf fl data ob c stack = encStep hf fl₀ data₀ ob₀ c stack := by
  cases c with
  | parent node ir lf rf rs =>
    simp only [AgreeAt] at h
    simp only [encStep, h]
  | leaf start size ir rs =>
    simp only [AgreeAt] at h
    simp only [encStep, h, hbs]

theorem loop_frame (hbs : ob.tree.bs = ob₀.tree.bs) :
    ∀ (plan : List Chunk), (∀ c ∈ plan, AgreeAt hf fl fl₀ data ob data₀ ob₀ c) →
      ∀ (stack : List H) (out : List UInt8),
        encodeValidatedLoop hf fl data ob plan stack out
          = encodeValidatedLoop hf fl₀ data₀ ob₀ plan stack out := by
  intro plan
  induction plan with
  | nil => intro _ stack out; rw [loop_nil, loop_nil]
  | cons c plan ih =>
    intro h stack out
    rw [loop_cons, loop_cons, step_frame hbs (h c (List.mem_cons_self ..))]
    split
    · rfl
    · exact ih (fun c' h' => h c' (List.mem_cons_of_mem _ h')) _ _

theorem loop_out_prefix (hf : HashFns H) (fl : Flavour) (data : List UInt8) (ob : Store H) :
    ∀ (plan : List Chunk) (stack : List H) (out : List UInt8),
      out <+: (encodeValidatedLoop hf fl data ob plan stack out).out := by
  intro plan
  induction plan with
  | nil => intro stack out; rw [loop_nil]; exact List.prefix_refl _
  | cons c plan ih =>
    intro stack out
    rw [loop_cons]
    split
    · exact List.prefix_refl _
    · rename_i st em _
      exact (List.prefix_append out em).trans (ih st (out ++ em))

end rel

theorem selectedRec_out_ne (hf : HashFns H) (hb : ∀ h, hf.toBytes h ≠ []) {rs : Ranges}
    (hne : rs ≠ []) (hall : Ranges.isAll rs = false) (bs : Nat) :
    ∀ (L start : Nat) (data : List UInt8) (isRoot : Bool), data ≠ [] →
      (encodeSelectedRec hf L start data isRoot rs bs true).2 ≠ [] := by
  have he : rs.isEmpty = false := by cases rs <;> simp_all
  intro L
  induction L with
  | zero =>
    intro start data isRoot hd
    rw [encodeSelectedRec, he]
    exact hd
  | succ L ih =>
    intro start data isRoot hd
    by_cases h1 : data.length ≤ 1024
    · rw [rec_small hf _ _ _ _ _ _ _ h1, he]
      exact hd
    · by_cases h2 : data.length ≤ 2 ^ L * 1024
      · rw [rec_succ_le hf _ _ _ _ _ _ _ (by omega) h2]
        exact ih start data isRoot hd
      · -- a partially selected interval that splits emits its pair
        rw [rec_succ_split hf _ _ _ _ _ _ _ (by omega) rfl rfl, he, hall]
        simp [hb]

theorem leafAW_out_ne (hf : HashFns H) (hb : ∀ h, hf.toBytes h ≠ []) (bs start : Nat)
    {buf : List UInt8} (isRoot : Bool) {rs : Ranges} (hne : rs ≠ []) (hbuf : buf ≠ []) :
    (leafAW hf bs start buf isRoot rs).2 ≠ [] := by
  unfold leafAW
  split
  · rename_i h
    exact selectedRec_out_ne hf hb hne (by simpa using h) bs recFuel start buf isRoot hbuf
  · exact hbuf

/-- such a leaf emits at least one byte when it passes; the plan iterator produces no other leaves
(`prePartialChunks_leafNE`) -/
def LeafNE : Chunk → Prop
  | .leaf _ _ _ rs => rs ≠ []
  | .parent .. => True

section strict
variable {hf : HashFns H} [BEq H] {fl fl₀ : Flavour} {data data₀ : List UInt8} {ob ob₀ : Store H}

theorem step_emit_ne (hb : ∀ h, hf.toBytes h ≠ []) (hbs : ob.tree.bs = ob₀.tree.bs)
    {c : Chunk} (hc : LeafNE c) {stack st : List H} {em : List UInt8} {t : EncEnd}
    (h₀ : encStep hf fl₀ data₀ ob₀ c stack = .cont st em)
    (h : encStep hf fl data ob c stack = .stop t) : em ≠ [] := by
  cases c with
  | parent node ir lf rf rs =>
    obtain ⟨l₀, r₀, e₀, s₀, _, _, _, _, rfl⟩ := (step_parent_cont hf fl₀ data₀ ob₀).1 h₀
    simp [hb]
  | leaf start size ir rs =>
    obtain ⟨e₀, buf₀, hst₀, hread₀, hne₀, rfl⟩ := (step_leaf_cont hf fl₀ data₀ ob₀).1 h₀
    apply leafAW_out_ne hf hb _ _ _ hc
    intro hnil
    subst hnil
    have hsz : size = 0 := ((readExactAt_length hread₀).1).symm
    subst hsz
    -- both stores read nothing, so the two steps agree
    rw [step_frame hbs (c := .leaf start 0 ir rs) (by simp [AgreeAt, readExactAt]) stack, h₀] at h
    cases h

end strict

/-- height of the pending-hash stack along a plan (`none` = underflow); the same function as
`Bao.PlanPre.stackRun` -/
def heightRun : Nat → List Chunk → Option Nat
  | h, [] => some h
  | h, .parent _ _ l r _ :: rest =>
    if h = 0 then none else heightRun (h - 1 + (if l then 1 else 0) + (if r then 1 else 0)) rest
  | h, .leaf _ _ _ _ :: rest => if h = 0 then none else heightRun (h - 1) rest

theorem pushLR_length (left right : Bool) (l r : H) (s : List H) :
    (pushLR left right l r s).length
      = s.length + (if left then 1 else 0) + (if right then 1 else 0) := by
  cases left <;> cases right <;> simp [pushLR]

section terminal
variable (hf : HashFns H) [BEq H] (fl : Flavour) (data : List UInt8) (ob : Store H)

/-- the clause on `heightRun` is what lets `validated_kind` tell a stack underflow apart from the
other causes of a panic -/
theorem loop_terminal : ∀ (plan : List Chunk) (stack : List H) (out : List UInt8),
    (encodeValidatedLoop hf fl data ob plan stack out).terminal = .ok ∨
    ∃ c ∈ plan, ∃ st, (heightRun stack.length plan ≠ none → st ≠ []) ∧
      encStep hf fl data ob c st
        = .stop (encodeValidatedLoop hf fl data ob plan stack out).terminal := by
  intro plan
  induction plan with
  | nil => intro stack out; rw [loop_nil]; exact .inl rfl
  | cons c plan ih =>
    intro stack out
    rw [loop_cons]
    cases hs : encStep hf fl data ob c stack with
    | stop t =>
      refine .inr ⟨c, List.mem_cons_self .., stack, fun hh hnil => ?_, hs⟩
      subst hnil
      cases c <;> simp [heightRun] at hh
    | cont st em =>
      simp only
      -- a passing step changes the height of the stack as `heightRun` says
      have hr' : heightRun stack.length (c :: plan) = heightRun st.length plan := by
        cases c with
        | parent node ir lf rf rs =>
          obtain ⟨l, r', e, s, _, rfl, _, rfl, _⟩ := (step_parent_cont hf fl data ob).1 hs
          simp only [heightRun, List.length_cons, Nat.add_one_ne_zero, if_false,
            Nat.add_sub_cancel]
          rw [pushLR_length]
        | leaf start size ir rs =>
          obtain ⟨e, buf, rfl, _, _, _⟩ := (step_leaf_cont hf fl data ob).1 hs
          simp [heightRun]
      rcases ih st (out ++ em) with h | ⟨c', hc', st', h1, h⟩
      · exact .inl h
      · exact .inr ⟨c', List.mem_cons_of_mem _ hc', st', fun hh => h1 (hr' ▸ hh), h⟩

end terminal

theorem next_leafNE {it it' : PrePartial} {c : Chunk} (h : it.next = .item c it')
    (hb : ∀ c ∈ it.buffer, LeafNE c) : LeafNE c ∧ ∀ c ∈ it'.buffer, LeafNE c := by
  have nn : ∀ {l : Ranges}, l.isEmpty = false → l ≠ [] := by
    intro l h h0; subst h0; cases h
  unfold PrePartial.next at h
  cases hbuf : it.buffer with
  | cons c0 rest =>
    rw [hbuf] at h hb
    injection h with h1 h2
    subst h1 h2
    exact ⟨hb _ (List.mem_cons_self ..), fun c hc => hb c (List.mem_cons_of_mem _ hc)⟩
  | nil =>
    rw [hbuf] at h
    cases hst : it.stack with
    | nil => rw [hst] at h; cases h
    | cons p stack =>
      obtain ⟨sh, ranges⟩ := p
      rw [hst] at h
      cases hne : ranges.isEmpty with
      | true => simp only [hne, if_true] at h; cases h
      | false =>
        simp only [hne, Bool.false_eq_true, if_false] at h
        -- only the shape of the result matters: name what it is computed from, so that the case
        -- splits below work on a small term
        generalize Ranges.splitNode ranges (Node.subBs sh it.tree.bs) = lr at h
        obtain ⟨l, r⟩ := lr
        generalize Node.rightDescendant sh it.shiftedFilled = rd at h
        generalize Node.leftChild sh = lc at h
        generalize (Ranges.isAll ranges &&
          decide (Node.level (Node.subBs sh it.tree.bs) < it.minFullLevel)) = ql at h
        generalize it.tree.byteRange (Node.subBs sh it.tree.bs) = br at h
        generalize Node.chunkRange (Node.subBs sh it.tree.bs) = cr at h
        generalize Node.mid (Node.subBs sh it.tree.bs) = md at h
        generalize Node.isLeaf sh = il at h
        cases ql with
        | true =>
          simp only [if_true] at h
          injection h with h1 h2
          subst h1 h2
          exact ⟨nn hne, fun _ hc => by cases hc⟩
        | false =>
          cases il with
          | false =>
            simp only [Bool.false_eq_true, if_false, Bool.not_false, if_true] at h
            split at h
            · cases h
            · split at h
              · cases h
              · injection h with h1 h2
                subst h1 h2
                exact ⟨trivial, fun _ hc => by cases hc⟩
          | true =>
            simp only [Bool.false_eq_true, if_false, Bool.not_true] at h
            split at h
            · injection h with h1 h2
              subst h1 h2
              exact ⟨nn hne, fun _ hc => by cases hc⟩
            · injection h with h1 h2
              subst h1 h2
              refine ⟨trivial, fun c hc => ?_⟩
              cases hr : r.isEmpty with
              | true =>
                cases hl : l.isEmpty with
                | true => simp [hr, hl] at hc
                | false =>
                  simp only [hr, hl, if_true, Bool.false_eq_true, if_false, List.mem_singleton] at hc
                  subst hc
                  exact nn hl
              | false =>
                cases hl : l.isEmpty with
                | true =>
                  simp only [hr, hl, if_true, Bool.false_eq_true, if_false, List.mem_singleton] at hc
                  subst hc
                  exact nn hr
                | false =>
                  simp only [hr, hl, Bool.false_eq_true, if_false, List.mem_cons, List.not_mem_nil,
                    or_false] at hc
                  rcases hc with rfl | rfl
                  · exact nn hl
                  · exact nn hr

theorem run_leafNE : ∀ (fuel : Nat) (it : PrePartial) (plan : List Chunk),
    PrePartial.run fuel it = some plan → (∀ c ∈ it.buffer, LeafNE c) → ∀ c ∈ plan, LeafNE c := by
  intro fuel
  induction fuel with
  | zero => intro it plan h _; simp [PrePartial.run] at h; subst h; simp
  | succ fuel ih =>
    intro it plan h hb
    unfold PrePartial.run at h
    split at h
    · cases h; simp
    · cases h
    · rename_i c it' hnext
      obtain ⟨h1, h2⟩ := next_leafNE hnext hb
      cases hr : PrePartial.run fuel it' with
      | none => rw [hr] at h; cases h
      | some p =>
        rw [hr] at h
        cases h
        intro c' hc'
        rcases List.mem_cons.1 hc' with rfl | hc'
        · exact h1
        · exact ih it' p hr h2 c' hc'

theorem prePartialChunks_leafNE {t : Tree} {q : Ranges} {ml : Nat} {plan : List Chunk}
    (h : t.prePartialChunks q ml = some plan) : ∀ c ∈ plan, LeafNE c :=
  run_leafNE _ _ plan h (by simp [PrePartial.new])

/-- what plan item `c` reads from the store is the true datum of blob `d` -/
def ReadTrue (hf : HashFns H) (fl : Flavour) (data : List UInt8) (ob : Store H) (d : List UInt8) :
    Chunk → Prop
  | .parent node _ _ _ _ =>
    ∃ l r, ob.load hf fl node = .ok (some (l, r)) ∧ C01.TruePair hf d l r
  | .leaf start size _ _ =>
    ∃ buf, readExactAt data (toBytes start) size = .ok buf ∧ C01.TrueLeaf d (toBytes start) buf

/-- the plan `encode_ranges_validated` walks -/
def planOf (ob : Store H) (q : Ranges) : Option (List Chunk) :=
  ob.tree.prePartialChunks (Ranges.truncate q ob.tree.size) 0

theorem planOf_nil (ob : Store H) : planOf ob [] = some [] := by
  simp [planOf, Ranges.truncate, Tree.prePartialChunks, PrePartial.fuelFor, PrePartial.new,
    PrePartial.run, PrePartial.next]

theorem eq_nil_of_early_return {fl : Flavour} {q : Ranges}
    (h : (fl == .sync && q.isEmpty) = true) : q = [] := by
  cases q with
  | nil => rfl
  | cons a b => simp at h

/-- `encode_ranges_validated` is the loop on the plan (the early return of the sync flavour for the
empty query is what the loop does on the empty plan) -/
theorem validated_eq_loop (hf : HashFns H) [BEq H] (fl : Flavour) (data : List UInt8)
    (ob : Store H) (q : Ranges) :
    encodeRangesValidated hf fl data ob q =
      match planOf ob q with
      | none => ⟨[], .panic⟩
      | some plan => encodeValidatedLoop hf fl data ob plan [ob.root] [] := by
  unfold encodeRangesValidated
  split
  · rename_i h
    rw [eq_nil_of_early_return h, planOf_nil]
    simp only [loop_nil]
  · rfl

theorem load_mem_ne_err (hf : HashFns H) (fl : Flavour) (ob : Store H) (node : Nat)
    (hk : ob.kind = .preMem ∨ ob.kind = .postMem ∨ ob.kind = .empty) (e : IoErr) :
    ob.load hf fl node ≠ .err e := by
  unfold Store.load
  rcases hk with hk | hk | hk <;> simp only [hk] <;> intro h <;> (repeat' split at h) <;> cases h

theorem readExactAt_ne_error {d : List UInt8} {off n : Nat} (h : off + n ≤ d.length) (e : IoErr) :
    readExactAt d off n ≠ .error e := by
  unfold readExactAt
  intro h'
  split at h'
  · cases h'
  · cases h'

section top
variable {hf : HashFns H} [BEq H] {fl fl₀ : Flavour} {data data₀ : List UInt8} {ob ob₀ : Store H}

omit [BEq H] in
theorem planOf_congr (htree : ob.tree = ob₀.tree) (q : Ranges) : planOf ob q = planOf ob₀ q := by
  simp only [planOf, htree]

theorem validated_frame (htree : ob.tree = ob₀.tree) (hroot : ob.root = ob₀.root) (q : Ranges)
    (h : ∀ plan, planOf ob q = some plan → ∀ c ∈ plan, AgreeAt hf fl fl₀ data ob data₀ ob₀ c) :
    encodeRangesValidated hf fl data ob q = encodeRangesValidated hf fl₀ data₀ ob₀ q := by
  rw [validated_eq_loop, validated_eq_loop, ← planOf_congr htree q]
  cases hp : planOf ob q with
  | none => rfl
  | some plan =>
    simp only
    rw [hroot]
    exact loop_frame (by rw [htree]) plan (h plan hp) _ _

theorem validated_terminal (hf : HashFns H) (fl : Flavour) (data : List UInt8)
    (ob : Store H) (q : Ranges) :
    (encodeRangesValidated hf fl data ob q).terminal = .ok ∨
    (planOf ob q = none ∧ (encodeRangesValidated hf fl data ob q).terminal = .panic) ∨
    ∃ plan, planOf ob q = some plan ∧ ∃ c ∈ plan, ∃ st, (heightRun 1 plan ≠ none → st ≠ []) ∧
      encStep hf fl data ob c st = .stop (encodeRangesValidated hf fl data ob q).terminal := by
  rw [validated_eq_loop]
  cases hp : planOf ob q with
  | none => exact .inr (.inl ⟨rfl, rfl⟩)
  | some plan =>
    simp only
    rcases loop_terminal hf fl data ob plan [ob.root] [] with h | ⟨c, hc, st, h1, h⟩
    · exact .inl h
    · exact .inr (.inr ⟨plan, rfl, c, hc, st, h1, h⟩)

end top

theorem validated_kind (hf : HashFns H) [BEq H] (fl : Flavour) (data : List UInt8) (ob : Store H)
    (q : Ranges) (hio : ∀ node e, ob.load hf fl node ≠ .err e)
    (hdata : ∀ plan, planOf ob q = some plan → ∀ start size ir rs,
      Chunk.leaf start size ir rs ∈ plan → toBytes start + size ≤ data.length) :
    (encodeRangesValidated hf fl data ob q).terminal = .ok ∨
    (∃ plan node ir lf rf rs, planOf ob q = some plan ∧ Chunk.parent node ir lf rf rs ∈ plan ∧
      (encodeRangesValidated hf fl data ob q).terminal = .err (.parentHashMismatch node)) ∨
    (∃ plan start size ir rs, planOf ob q = some plan ∧ Chunk.leaf start size ir rs ∈ plan ∧
      (encodeRangesValidated hf fl data ob q).terminal = .err (.leafHashMismatch start)) ∨
    ((encodeRangesValidated hf fl data ob q).terminal = .panic ∧
      (planOf ob q = none ∨
       (∃ plan, planOf ob q = some plan ∧ heightRun 1 plan = none) ∨
       (∃ plan node ir lf rf rs, planOf ob q = some plan ∧ Chunk.parent node ir lf rf rs ∈ plan ∧
          (ob.load hf fl node = .panic ∨ ob.load hf fl node = .ok none)))) := by
  rcases validated_terminal hf fl data ob q with h | ⟨h1, h2⟩ | ⟨plan, hp, c, hc, st, hst, hstop⟩
  · exact .inl h
  · exact .inr (.inr (.inr ⟨h2, .inl h1⟩))
  · generalize (encodeRangesValidated hf fl data ob q).terminal = t at hstop ⊢
    have hunder : st = [] → heightRun 1 plan = none := by
      intro h
      cases hh : heightRun 1 plan with
      | none => rfl
      | some r => exact (hst (by rw [hh]; simp) h).elim
    rcases step_stop hf fl data ob hstop with ⟨node, ir, lf, rf, rs, rfl, h⟩ | ⟨start, size, ir, rs, rfl, h⟩
    · rcases h with ⟨e, he, _⟩ | ⟨hl, rfl⟩ | ⟨hl, rfl⟩ | ⟨hs, rfl⟩ | rfl
      · exact (hio node e he).elim
      · exact .inr (.inr (.inr ⟨rfl, .inr (.inr ⟨plan, node, ir, lf, rf, rs, hp, hc, .inl hl⟩)⟩))
      · exact .inr (.inr (.inr ⟨rfl, .inr (.inr ⟨plan, node, ir, lf, rf, rs, hp, hc, .inr hl⟩)⟩))
      · exact .inr (.inr (.inr ⟨rfl, .inr (.inl ⟨plan, hp, hunder hs⟩)⟩))
      · exact .inr (.inl ⟨plan, node, ir, lf, rf, rs, hp, hc, rfl⟩)
    · rcases h with ⟨hs, rfl⟩ | ⟨e, he, _⟩ | rfl
      · exact .inr (.inr (.inr ⟨rfl, .inr (.inl ⟨plan, hp, hunder hs⟩)⟩))
      · exact (readExactAt_ne_error (hdata plan hp start size ir rs hc) e he).elim
      · exact .inr (.inr (.inl ⟨plan, start, size, ir, rs, hp, hc, rfl⟩))

/-- the free term algebra with non-empty wire bytes; `ofBytes` decodes two particular 32-byte
strings to the chunk hashes of the two-chunk blob `1024 × 0 ++ [1]` (so that an honest store with a
parent node exists) -/
def exHash : HashFns Term where
  chunkCv := Term.chunk
  parentCv := Term.parent
  ofBytes := fun b => if b = zeros32 then Term.chunk 0 (List.replicate 1024 0) false
                      else Term.chunk 1 [1] false
  toBytes := fun t => match t with
    | Term.chunk 0 _ _ => zeros32
    | _ => List.replicate 32 1

theorem exHash_cf : CollisionFree exHash := by
  intro x y h
  cases x <;> cases y <;> simp only [HashFns.eval, exHash] at h <;> first
    | (injection h with h1 h2 h3; subst h1 h2 h3; rfl)
    | (injection h)

theorem exHash_toBytes_ne (h : Term) : exHash.toBytes h ≠ [] := by
  simp only [exHash]
  split <;> simp [zeros32]

/-- the runs of the examples, evaluated once: the two-chunk blob `1024 × 0 ++ [1]` with its one-pair
pre-order outboard passes validation in both flavours, also with an unused trailing byte in the
outboard; with the last data byte changed the second leaf reads differently and fails; the plan
is the root parent and the two leaves -/
theorem exHash_runs :
    (encodeRangesValidated exHash .sync (List.replicate 1024 0 ++ [1])
      ⟨.preMem, .parent (.chunk 0 (List.replicate 1024 0) false) (.chunk 1 [1] false) true,
        ⟨1025, 0⟩, zeros32 ++ List.replicate 32 1⟩ [0]).terminal = .ok ∧
    (encodeRangesValidated exHash .fsm (List.replicate 1024 0 ++ [1])
      ⟨.preMem, .parent (.chunk 0 (List.replicate 1024 0) false) (.chunk 1 [1] false) true,
        ⟨1025, 0⟩, zeros32 ++ List.replicate 32 1⟩ [0]).terminal = .ok ∧
    (encodeRangesValidated exHash .fsm (List.replicate 1024 0 ++ [1])
      ⟨.preMem, .parent (.chunk 0 (List.replicate 1024 0) false) (.chunk 1 [1] false) true,
        ⟨1025, 0⟩, zeros32 ++ List.replicate 32 1 ++ [9]⟩ [0]).terminal = .ok ∧
    (encodeRangesValidated exHash .fsm (List.replicate 1024 0 ++ [2])
      ⟨.preMem, .parent (.chunk 0 (List.replicate 1024 0) false) (.chunk 1 [1] false) true,
        ⟨1025, 0⟩, zeros32 ++ List.replicate 32 1⟩ [0]).terminal = .err (.leafHashMismatch 1) ∧
    (readExactAt (List.replicate 1024 0 ++ [2]) (toBytes 1) 1).toOption
      ≠ (readExactAt (List.replicate 1024 0 ++ [1]) (toBytes 1) 1).toOption ∧
    planOf (⟨.preMem, .parent (.chunk 0 (List.replicate 1024 0) false) (.chunk 1 [1] false) true,
        ⟨1025, 0⟩, zeros32 ++ List.replicate 32 1⟩ : Store Term) [0]
      = some [.parent 0 true true true [0], .leaf 0 1024 false [0], .leaf 1 1 false [0]] := by
  decide +kernel

end Bao.C05
