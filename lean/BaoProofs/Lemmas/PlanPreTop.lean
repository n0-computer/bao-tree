import BaoProofs.Lemmas.PlanPreRefine
import BaoProofs.Lemmas.PlanPreShape
import BaoProofs.Lemmas.PlanPreCover
import BaoProofs.Lemmas.PlanPreExact

/-!
# Facts about the whole recursive plan `plan t ml q` (C15, pre-order half)

Instances of the per-node lemmas of `PlanPreShape` / `PlanPreCover` at the root, and their
transport through `Chunk.withoutRanges` (the response plan erases the ranges); Boolean tests over
an interval of chunks; the plans of the running example, evaluated once.
-/

namespace Bao.PlanPre
open Bao Bao.Spec Bao.Bits

theorem plan_nil (t : Tree) (ml : Nat) : plan t ml [] = [] := planPre_nil _ _

theorem not_isEmpty_eq_true_iff (l : Ranges) : (!l.isEmpty) = true ↔ l ≠ [] := by
  cases l <;> simp

section
variable (size bs ml : Nat) (q : Ranges)

theorem plan_eq (hs : size ≤ 2 ^ 63) :
    plan ⟨size, bs⟩ ml q = planPre size bs ml (Tree.shifted ⟨size, bs⟩).2
      (nodeOf 0 (rootLevel ⟨size, bs⟩)) (rootLevel ⟨size, bs⟩) 0 q := by
  obtain ⟨_, hroot, _⟩ := rootLevel_spec size bs hs
  unfold plan
  simp only
  rw [← hroot]

theorem startOf_zero_idx (L : Nat) : startOf 0 L = 0 := startOf_zero_left L

theorem plan_stack (hs : size ≤ 2 ^ 63) (hbs : bs ≤ 10) (hq : q ≠ []) :
    stackRun 1 (plan ⟨size, bs⟩ ml q) = some 0 := by
  have g := shifted_geo size bs hs hbs
  obtain ⟨_, _, hlt⟩ := rootLevel_spec size bs hs
  have := stackRun_planPre (ml := ml) (root := (Tree.shifted ⟨size, bs⟩).1) g
    (rootLevel ⟨size, bs⟩) 0 q hq (start_lt hlt) 0 []
  rw [List.append_nil] at this
  exact this

theorem plan_stack_prefix (hs : size ≤ 2 ^ 63) (hbs : bs ≤ 10) (hq : q ≠ []) (n : Nat) :
    (stackRun 1 ((plan ⟨size, bs⟩ ml q).take n)).isSome = true := by
  have h := plan_stack size bs ml q hs hbs hq
  rw [← List.take_append_drop n (plan ⟨size, bs⟩ ml q)] at h
  exact stackRun_prefix h

theorem plan_root (hs : size ≤ 2 ^ 63) (hq : q ≠ []) :
    ∃ c tail, plan ⟨size, bs⟩ ml q = c :: tail ∧ c.rootFlag = true ∧
      ∀ c' ∈ tail, c'.rootFlag = false := by
  obtain ⟨_, _, hlt⟩ := rootLevel_spec size bs hs
  rw [plan_eq size bs ml q hs]
  exact rootFlag_top hq hlt

theorem plan_spans (hs : size ≤ 2 ^ 63) (hbs : bs ≤ 10) :
    SpansIn 0 (endOf 0 (rootLevel ⟨size, bs⟩ + bs)) (leafSpans (plan ⟨size, bs⟩ ml q)) := by
  have g := shifted_geo size bs hs hbs
  have := spans_planPre (ml := ml) (root := (Tree.shifted ⟨size, bs⟩).1) g
    (rootLevel ⟨size, bs⟩) 0 q
  rwa [startOf_zero_idx] at this

theorem plan_leaf_in_blob (hs : size ≤ 2 ^ 63) (hbs : bs ≤ 10) :
    ∀ s z r x, Chunk.leaf s z r x ∈ plan ⟨size, bs⟩ ml q → toBytes s + z ≤ size :=
  leaf_in_blob (shifted_geo size bs hs hbs) _ _ _

theorem plan_parent_subtree (hs : size ≤ 2 ^ 63) (hbs : bs ≤ 10) {pre tail : List Chunk}
    {node : Nat} {ir lf rf : Bool} {rs : Ranges}
    (h : plan ⟨size, bs⟩ ml q = pre ++ Chunk.parent node ir lf rf rs :: tail) :
    ∃ A B post, tail = A ++ B ++ post ∧ (A ≠ [] ↔ lf = true) ∧ (B ≠ [] ↔ rf = true) ∧
      SpansIn (Node.chunkRange node).1 (Node.mid node) (leafSpans A) ∧
      SpansIn (Node.mid node) (Node.chunkRange node).2 (leafSpans B) ∧
      (lf = true → ∀ h rest, stackRun (h + 1) (A ++ rest) = stackRun h rest) ∧
      (rf = true → ∀ h rest, stackRun (h + 1) (B ++ rest) = stackRun h rest) := by
  have g := shifted_geo size bs hs hbs
  obtain ⟨L, k, post, hne, hlt, hql, hmid, hnp, heq⟩ := parent_occurrence h
  obtain ⟨A, B, hp, hA, hB⟩ := planPre_children (ml := ml)
    (root := (Tree.shifted ⟨size, bs⟩).1) g hne hlt hql hmid
  rw [hp, hnp] at heq
  simp only [List.cons_append, List.cons.injEq, true_and] at heq
  unfold nodeParent at hnp
  simp only [Chunk.parent.injEq] at hnp
  obtain ⟨hnode, _, hlf, hrf, _⟩ := hnp
  have hL := g.level_le hlt
  have hlf' : lf = true ↔ lq bs L k rs ≠ [] := by
    rw [hlf]; exact not_isEmpty_eq_true_iff _
  have hrf' : rf = true ↔ rq bs L k rs ≠ [] := by
    rw [hrf]; exact not_isEmpty_eq_true_iff _
  rw [hnode, C18.chunkRange_spec hL, C18.mid_spec]
  exact ⟨A, B, post, heq, hA.ne_nil.trans hlf'.symm, hB.ne_nil.trans hrf'.symm, hA.spans, hB.spans,
    fun h1 => hA.stack (hlf'.1 h1), fun h1 => hB.stack (hrf'.1 h1)⟩

end

theorem any_range_sub_iff (f : Nat → Bool) (a b : Nat) :
    ((List.range (b - a)).any fun i => f (a + i)) = true ↔ ∃ c, a ≤ c ∧ c < b ∧ f c = true := by
  simp only [List.any_eq_true, List.mem_range]
  constructor
  · rintro ⟨i, hi, h⟩; exact ⟨a + i, by omega, by omega, h⟩
  · rintro ⟨c, h1, h2, h3⟩
    exact ⟨c - a, by omega, by rwa [show a + (c - a) = c by omega]⟩

theorem all_range_sub_iff (f : Nat → Bool) (a b : Nat) :
    ((List.range (b - a)).all fun i => f (a + i)) = true ↔ ∀ c, a ≤ c → c < b → f c = true := by
  simp only [List.all_eq_true, List.mem_range]
  constructor
  · intro h c h1 h2
    have := h (c - a) (by omega)
    rwa [show a + (c - a) = c by omega] at this
  · intro h i hi; exact h (a + i) (by omega) (by omega)

/-- chunk groups of 2 chunks, no query leaves -/
theorem plan_example : plan ⟨20000, 1⟩ 0 [1, 3] =
    [.parent 15 true true false [1, 3], .parent 7 false true false [1, 3],
     .parent 3 false true false [1, 3], .parent 1 false true true [1, 3],
     .leaf 0 2048 false [1], .leaf 2 2048 false [1, 3]] := by decide

/-- the plan behind the response for chunk groups of 2 chunks: single chunks,
`min_full_level = 1` -/
theorem plan_example_response : plan ⟨20000, 0⟩ 1 [1, 3] =
    [.parent 15 true true false [1, 3], .parent 7 false true false [1, 3],
     .parent 3 false true false [1, 3], .parent 1 false true true [1, 3],
     .parent 0 false false true [1], .leaf 1 1024 false [0],
     .parent 2 false true false [1, 3], .leaf 2 1024 false [0]] := by decide

theorem rootFlag_withoutRanges (c : Chunk) : c.withoutRanges.rootFlag = c.rootFlag := by
  cases c <;> rfl

theorem stackRun_append_withoutRanges (h : Nat) (p rest : List Chunk) :
    stackRun h (p.map Chunk.withoutRanges ++ rest) = stackRun h (p ++ rest) := by
  induction p generalizing h with
  | nil => rfl
  | cons c p ih =>
    cases c <;> simp only [List.map_cons, List.cons_append, Chunk.withoutRanges, stackRun, ih]

theorem stackRun_withoutRanges (h : Nat) (p : List Chunk) :
    stackRun h (p.map Chunk.withoutRanges) = stackRun h p := by
  have e := stackRun_append_withoutRanges h p []
  rwa [List.append_nil, List.append_nil] at e

theorem leafSpans_withoutRanges (p : List Chunk) :
    leafSpans (p.map Chunk.withoutRanges) = leafSpans p := by
  induction p with
  | nil => rfl
  | cons c p ih =>
    cases c <;> simp only [List.map_cons, Chunk.withoutRanges, leafSpans, ih]

theorem leaf_mem_withoutRanges {p : List Chunk} {s z : Nat} {r : Bool} {x : Ranges}
    (h : Chunk.leaf s z r x ∈ p.map Chunk.withoutRanges) : ∃ x', Chunk.leaf s z r x' ∈ p := by
  obtain ⟨c, hc, e⟩ := List.mem_map.1 h
  cases c with
  | parent => simp [Chunk.withoutRanges] at e
  | leaf s' z' r' x' =>
    simp only [Chunk.withoutRanges, Chunk.leaf.injEq] at e
    obtain ⟨rfl, rfl, rfl, _⟩ := e
    exact ⟨x', hc⟩

theorem forall_leaf_withoutRanges {P : Nat → Nat → Bool → Prop} {p : List Chunk}
    (h : ∀ s z r x, Chunk.leaf s z r x ∈ p → P s z r) :
    ∀ s z r x, Chunk.leaf s z r x ∈ p.map Chunk.withoutRanges → P s z r :=
  fun s z r _ hm => let ⟨x', hx'⟩ := leaf_mem_withoutRanges hm; h s z r x' hx'

theorem root_withoutRanges {p : List Chunk}
    (h : ∃ c tail, p = c :: tail ∧ c.rootFlag = true ∧ ∀ c' ∈ tail, c'.rootFlag = false) :
    ∃ c tail, p.map Chunk.withoutRanges = c :: tail ∧ c.rootFlag = true ∧
      ∀ c' ∈ tail, c'.rootFlag = false := by
  obtain ⟨c, tail, rfl, hc, ht⟩ := h
  refine ⟨c.withoutRanges, tail.map Chunk.withoutRanges, rfl, ?_, ?_⟩
  · rw [rootFlag_withoutRanges]; exact hc
  · intro c' hc'
    obtain ⟨c0, h0, rfl⟩ := List.mem_map.1 hc'
    rw [rootFlag_withoutRanges]; exact ht c0 h0

theorem covered_withoutRanges (p : List Chunk) (c : Nat) :
    covered (p.map Chunk.withoutRanges) c ↔ covered p c := by
  constructor
  · rintro ⟨s, z, r, x, hm, h1, h2⟩
    obtain ⟨x', hx'⟩ := leaf_mem_withoutRanges hm
    exact ⟨s, z, r, x', hx', h1, h2⟩
  · rintro ⟨s, z, r, x, hm, h1, h2⟩
    exact ⟨s, z, r, [], List.mem_map.2 ⟨_, hm, rfl⟩, h1, h2⟩

theorem parent_occ_withoutRanges {p pre tail : List Chunk} {node : Nat} {ir lf rf : Bool}
    {rs : Ranges} (h : p.map Chunk.withoutRanges = pre ++ Chunk.parent node ir lf rf rs :: tail) :
    ∃ pre0 tail0 rs0, p = pre0 ++ Chunk.parent node ir lf rf rs0 :: tail0 ∧
      tail = tail0.map Chunk.withoutRanges := by
  obtain ⟨pre0, rest0, hp, _, hrest⟩ := List.map_eq_append_iff.1 h
  obtain ⟨c0, tail0, hr, hc, ht⟩ := List.map_eq_cons_iff.1 hrest
  cases c0 with
  | leaf => simp [Chunk.withoutRanges] at hc
  | parent n i l r x =>
    simp only [Chunk.withoutRanges, Chunk.parent.injEq] at hc
    obtain ⟨rfl, rfl, rfl, rfl, _⟩ := hc
    exact ⟨pre0, tail0, x, by rw [hp, hr], ht.symm⟩

end Bao.PlanPre
