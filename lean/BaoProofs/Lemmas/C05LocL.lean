import BaoProofs.Lemmas.EncL
import BaoProofs.Lemmas.C01InvLoc

/-!
# The validating encoder on two stores (lemmas for `Props/C05.lean` and `Props/C05Loc.lean`)

Collision freedom enters as `CollisionFreeOn hf S` for a set `S` of hash inputs that contains what
the encoder runs under consideration evaluate; the global `CollisionFree hf` is the case of all
inputs (`CollisionFree.on`).

* `stepEvals`  – the hash inputs one plan item evaluates (along `C05.encStep`)
* `loopEvals`  – the hash inputs of `encodeValidatedLoop` (a structural twin of that loop)
* `encEvals`   – the hash inputs of `encodeRangesValidated`
* `loopEvals_cons`, `encEvals_eq_loop` – the twins of `C05.loop_cons`, `C05.validated_eq_loop`
* `step_rel_loc`, `loop_rel_loc` – two stores, same plan, same pending-hash stack: prefix relation
* `validated_rel_loc` – the same for the whole encoder
* `step_true_loc`, `loop_true_loc`, `validated_true_loc` – a run that passes all checks against the
  root of a blob reads that blob (invariant `C01.TrueCvL`, as in `Lemmas/C01InvLoc.lean`)
-/

namespace Bao.C05Loc

open Bao.C05

variable {H : Type}

/-- the hash inputs evaluated by one plan item of the validating encoder on the store `(data, ob)`:
a parent item hashes the loaded pair (before popping the expected hash); a leaf item pops, reads,
and hashes ALL the bytes read – also for a partially selected group (`C05.leafAW_hash`) -/
def stepEvals (hf : HashFns H) (fl : Flavour) (data : List UInt8) (ob : Store H) :
    Chunk → List H → List (HashIn H)
  | .parent node isRoot _ _ _, _ =>
    match ob.load hf fl node with
    | .ok (some (l, r)) => [.parent l r isRoot]
    | _ => []
  | .leaf start size isRoot _, stack =>
    match stack with
    | [] => []
    | _ :: _ =>
      match readExactAt data (toBytes start) size with
      | .error _ => []
      | .ok buf => hashEvals hf start buf isRoot

/-- twin of `encodeValidatedLoop`: every hash input the loop evaluates, in order, the inputs of the
last (failing) item included -/
def loopEvals (hf : HashFns H) [BEq H] (fl : Flavour) (data : List UInt8) (ob : Store H) :
    List Chunk → List H → List (HashIn H)
  | [], _ => []
  | .parent node isRoot left right _ :: plan, stack =>
    match ob.load hf fl node with
    | .err _ => []
    | .panic => []
    | .ok none => []
    | .ok (some (l, r)) =>
      .parent l r isRoot ::
        match stack with
        | [] => []
        | expected :: stack =>
          if hf.parentCv l r isRoot != expected then []
          else
            let stack := if right then r :: stack else stack
            let stack := if left then l :: stack else stack
            loopEvals hf fl data ob plan stack
  | .leaf start size isRoot ranges :: plan, stack =>
    match stack with
    | [] => []
    | expected :: stack =>
      match readExactAt data (toBytes start) size with
      | .error _ => []
      | .ok buf =>
        hashEvals hf start buf isRoot ++
          let actual :=
            if !Ranges.isAll ranges then
              (encodeSelectedRec hf recFuel start buf isRoot ranges ob.tree.bs true).1
            else hashSubtree hf start buf isRoot
          if actual != expected then [] else loopEvals hf fl data ob plan stack

/-- twin of `encodeRangesValidated`: every hash input the validating encoder evaluates on the store
`(data, ob)` for the query `q` -/
def encEvals (hf : HashFns H) [BEq H] (fl : Flavour) (data : List UInt8) (ob : Store H)
    (q : Ranges) : List (HashIn H) :=
  if fl == .sync && q.isEmpty then []
  else
    match ob.tree.prePartialChunks (Ranges.truncate q ob.tree.size) 0 with
    | none => []
    | some plan => loopEvals hf fl data ob plan [ob.root]

section twin
variable (hf : HashFns H) [BEq H] (fl : Flavour) (data : List UInt8) (ob : Store H)

theorem loopEvals_cons (c : Chunk) (plan : List Chunk) (stack : List H) :
    loopEvals hf fl data ob (c :: plan) stack =
      stepEvals hf fl data ob c stack ++
        match encStep hf fl data ob c stack with
        | .stop _ => []
        | .cont st _ => loopEvals hf fl data ob plan st := by
  cases c with
  | parent node isRoot left right rs =>
    simp only [loopEvals, stepEvals, encStep]
    cases ob.load hf fl node with
    | err e => rfl
    | panic => rfl
    | ok o =>
      cases o with
      | none => rfl
      | some p =>
        obtain ⟨l, r⟩ := p
        cases stack with
        | nil => rfl
        | cons expected stack =>
          simp only [pushLR, List.singleton_append]
          split <;> rfl
  | leaf start size isRoot rs =>
    simp only [loopEvals, stepEvals, encStep]
    cases stack with
    | nil => rfl
    | cons expected stack =>
      simp only
      cases readExactAt data (toBytes start) size with
      | error e => rfl
      | ok buf =>
        simp only [leafAW]
        split <;> split <;> simp_all

theorem encEvals_eq_loop (q : Ranges) :
    encEvals hf fl data ob q =
      match planOf ob q with
      | none => []
      | some plan => loopEvals hf fl data ob plan [ob.root] := by
  unfold encEvals
  split
  · rename_i h
    rw [eq_nil_of_early_return h, planOf_nil]
    simp only [loopEvals]
  · rfl

theorem stepEvals_sub (c : Chunk) (plan : List Chunk) (stack : List H) :
    ∀ x ∈ stepEvals hf fl data ob c stack, x ∈ loopEvals hf fl data ob (c :: plan) stack := by
  intro x hx
  rw [loopEvals_cons]
  exact List.mem_append_left _ hx

theorem loopEvals_tail_sub {c : Chunk} (plan : List Chunk) {stack st : List H} {em : List UInt8}
    (h : encStep hf fl data ob c stack = .cont st em) :
    ∀ x ∈ loopEvals hf fl data ob plan st, x ∈ loopEvals hf fl data ob (c :: plan) stack := by
  intro x hx
  rw [loopEvals_cons, h]
  exact List.mem_append_right _ hx

omit [BEq H] in
theorem stepEvals_parent {node : Nat} {ir lf rf : Bool} {rs : Ranges} {l r : H}
    (hload : ob.load hf fl node = .ok (some (l, r))) (stack : List H) :
    stepEvals hf fl data ob (.parent node ir lf rf rs) stack = [.parent l r ir] := by
  simp only [stepEvals, hload]

omit [BEq H] in
theorem stepEvals_leaf {start size : Nat} {ir : Bool} {rs : Ranges} {e : H} {s : List H}
    {buf : List UInt8} (hread : readExactAt data (toBytes start) size = .ok buf) :
    stepEvals hf fl data ob (.leaf start size ir rs) (e :: s) = hashEvals hf start buf ir := by
  simp only [stepEvals, hread]

end twin

section rel
variable {hf : HashFns H} [BEq H] [LawfulBEq H] {fl fl₀ : Flavour} {data data₀ : List UInt8}
  {ob ob₀ : Store H} {S : HashIn H → Prop}

theorem step_rel_loc (cf : CollisionFreeOn hf S) (hbs : ob.tree.bs = ob₀.tree.bs)
    (hd : data.length ≤ 2 ^ 64 * 1024) (hd₀ : data₀.length ≤ 2 ^ 64 * 1024)
    {c : Chunk} {stack st : List H} {em : List UInt8}
    (hS : ∀ x ∈ stepEvals hf fl data ob c stack, S x)
    (hS₀ : ∀ x ∈ stepEvals hf fl₀ data₀ ob₀ c stack, S x)
    (h₀ : encStep hf fl₀ data₀ ob₀ c stack = .cont st em) :
    (∃ t, encStep hf fl data ob c stack = .stop t) ∨
    (encStep hf fl data ob c stack = .cont st em ∧ AgreeAt hf fl fl₀ data ob data₀ ob₀ c) := by
  cases hs : encStep hf fl data ob c stack with
  | stop t => exact .inl ⟨t, rfl⟩
  | cont st' em' =>
    right
    cases c with
    | parent node ir lf rf rs =>
      obtain ⟨l₀, r₀, e₀, s₀, hload₀, hst₀, hne₀, rfl, rfl⟩ := (step_parent_cont hf fl₀ data₀ ob₀).1 h₀
      obtain ⟨l, r, e, s, hload, hst, hne, rfl, rfl⟩ := (step_parent_cont hf fl data ob).1 hs
      rw [hst₀] at hst
      injection hst with he hs'
      subst he hs'
      have h1 : hf.parentCv l r ir = e₀ := by simpa using hne
      have h2 : hf.parentCv l₀ r₀ ir = e₀ := by simpa using hne₀
      rw [stepEvals_parent hf fl data ob hload] at hS
      rw [stepEvals_parent hf fl₀ data₀ ob₀ hload₀] at hS₀
      obtain ⟨rfl, rfl, _⟩ := cf.parent_inj (hS _ (List.mem_singleton_self _))
        (hS₀ _ (List.mem_singleton_self _)) (h1.trans h2.symm)
      exact ⟨rfl, by simp only [AgreeAt, hload, hload₀]⟩
    | leaf start size ir rs =>
      obtain ⟨e₀, buf₀, hst₀, hread₀, hne₀, rfl⟩ := (step_leaf_cont hf fl₀ data₀ ob₀).1 h₀
      obtain ⟨e, buf, hst, hread, hne, rfl⟩ := (step_leaf_cont hf fl data ob).1 hs
      rw [hst₀] at hst
      injection hst with he hs'
      subst he hs'
      have hb := (readExactAt_length hread).2
      have hb₀ := (readExactAt_length hread₀).2
      have h1 : (leafAW hf ob.tree.bs start buf ir rs).1 = e₀ := by simpa using hne
      have h2 : (leafAW hf ob₀.tree.bs start buf₀ ir rs).1 = e₀ := by simpa using hne₀
      rw [leafAW_hash _ _ _ _ _ _ (by omega)] at h1 h2
      rw [hst₀, stepEvals_leaf hf fl data ob hread] at hS
      rw [hst₀, stepEvals_leaf hf fl₀ data₀ ob₀ hread₀] at hS₀
      obtain ⟨_, rfl, _⟩ := cv_inj_on' cf hS hS₀ (h1.trans h2.symm)
      exact ⟨by rw [hbs], by simp only [AgreeAt, hread, hread₀]⟩

theorem loop_rel_loc (cf : CollisionFreeOn hf S) (hbs : ob.tree.bs = ob₀.tree.bs)
    (hd : data.length ≤ 2 ^ 64 * 1024) (hd₀ : data₀.length ≤ 2 ^ 64 * 1024) :
    ∀ (plan : List Chunk) (stack : List H) (out : List UInt8),
      (∀ x ∈ loopEvals hf fl data ob plan stack, S x) →
      (∀ x ∈ loopEvals hf fl₀ data₀ ob₀ plan stack, S x) →
      (encodeValidatedLoop hf fl₀ data₀ ob₀ plan stack out).terminal = .ok →
      (encodeValidatedLoop hf fl data ob plan stack out).out
        <+: (encodeValidatedLoop hf fl₀ data₀ ob₀ plan stack out).out ∧
      ((encodeValidatedLoop hf fl data ob plan stack out).terminal = .ok →
        (encodeValidatedLoop hf fl data ob plan stack out).out
          = (encodeValidatedLoop hf fl₀ data₀ ob₀ plan stack out).out ∧
        ∀ c ∈ plan, AgreeAt hf fl fl₀ data ob data₀ ob₀ c) ∧
      ((∀ h, hf.toBytes h ≠ []) → (∀ c ∈ plan, LeafNE c) →
        (encodeValidatedLoop hf fl data ob plan stack out).terminal ≠ .ok →
        (encodeValidatedLoop hf fl data ob plan stack out).out.length
          < (encodeValidatedLoop hf fl₀ data₀ ob₀ plan stack out).out.length) := by
  intro plan
  induction plan with
  | nil =>
    intro stack out _ _ _
    rw [loop_nil, loop_nil]
    exact ⟨List.prefix_refl _, fun _ => ⟨rfl, by simp⟩, fun _ _ h => (h rfl).elim⟩
  | cons c plan ih =>
    intro stack out hS hS₀ hok
    rw [loop_cons] at hok ⊢
    rw [loop_cons]
    cases h₀ : encStep hf fl₀ data₀ ob₀ c stack with
    | stop t =>
      rw [h₀] at hok
      exact (step_stop_ne_ok hf fl₀ data₀ ob₀ h₀ hok).elim
    | cont st em =>
      rw [h₀] at hok
      simp only at hok ⊢
      rcases step_rel_loc (fl := fl) (data := data) (ob := ob) cf hbs hd hd₀
        (fun x hx => hS x (stepEvals_sub hf fl data ob c plan stack x hx))
        (fun x hx => hS₀ x (stepEvals_sub hf fl₀ data₀ ob₀ c plan stack x hx)) h₀
        with ⟨t, ht⟩ | ⟨hc, hag⟩
      · rw [ht]
        simp only
        have hpre := loop_out_prefix hf fl₀ data₀ ob₀ plan st (out ++ em)
        refine ⟨(List.prefix_append out em).trans hpre,
          fun h => (step_stop_ne_ok hf fl data ob ht h).elim, fun hb hne _ => ?_⟩
        have h1 := hpre.length_le
        have h2 := step_emit_ne hb hbs (hne c (List.mem_cons_self ..)) h₀ ht
        have h3 : 0 < em.length := List.length_pos_iff.2 h2
        rw [List.length_append] at h1
        omega
      · rw [hc]
        simp only
        obtain ⟨h1, h2, h3⟩ := ih st (out ++ em)
          (fun x hx => hS x (loopEvals_tail_sub hf fl data ob plan hc x hx))
          (fun x hx => hS₀ x (loopEvals_tail_sub hf fl₀ data₀ ob₀ plan h₀ x hx)) hok
        refine ⟨h1, fun hk => ?_, fun hb hne => h3 hb fun c' h' => hne c' (List.mem_cons_of_mem _ h')⟩
        obtain ⟨h4, h5⟩ := h2 hk
        refine ⟨h4, ?_⟩
        intro c' hc'
        rcases List.mem_cons.1 hc' with rfl | hc'
        · exact hag
        · exact h5 c' hc'

theorem validated_rel_loc (htree : ob.tree = ob₀.tree) (hroot : ob.root = ob₀.root)
    (hd : data.length ≤ 2 ^ 64 * 1024) (hd₀ : data₀.length ≤ 2 ^ 64 * 1024) (q : Ranges)
    (cf : CollisionFreeOn hf
      (fun x => x ∈ encEvals hf fl data ob q ++ encEvals hf fl₀ data₀ ob₀ q))
    (hok : (encodeRangesValidated hf fl₀ data₀ ob₀ q).terminal = .ok) :
    ∃ plan, planOf ob q = some plan ∧ planOf ob₀ q = some plan ∧
      (encodeRangesValidated hf fl data ob q).out <+: (encodeRangesValidated hf fl₀ data₀ ob₀ q).out ∧
      ((encodeRangesValidated hf fl data ob q).terminal = .ok →
        (encodeRangesValidated hf fl data ob q).out = (encodeRangesValidated hf fl₀ data₀ ob₀ q).out ∧
        ∀ c ∈ plan, AgreeAt hf fl fl₀ data ob data₀ ob₀ c) ∧
      ((∀ h, hf.toBytes h ≠ []) → (encodeRangesValidated hf fl data ob q).terminal ≠ .ok →
        (encodeRangesValidated hf fl data ob q).out.length
          < (encodeRangesValidated hf fl₀ data₀ ob₀ q).out.length) := by
  have hbs : ob.tree.bs = ob₀.tree.bs := by rw [htree]
  rw [encEvals_eq_loop, encEvals_eq_loop] at cf
  rw [validated_eq_loop] at hok ⊢
  rw [validated_eq_loop, planOf_congr htree q]
  rw [planOf_congr htree q] at cf
  cases hp : planOf ob₀ q with
  | none => rw [hp] at hok; cases hok
  | some plan =>
    rw [hp] at hok cf
    simp only at hok cf ⊢
    rw [hroot] at cf ⊢
    obtain ⟨h1, h2, h3⟩ := loop_rel_loc (fl := fl) (data := data) (ob := ob) cf hbs hd hd₀ plan
      [ob₀.root] [] (fun _ hx => List.mem_append_left _ hx) (fun _ hx => List.mem_append_right _ hx)
      hok
    exact ⟨plan, rfl, rfl, h1, h2, fun hb =>
      h3 hb (prePartialChunks_leafNE (by rw [planOf] at hp; exact hp))⟩

end rel

section readtrue
variable {hf : HashFns H} [BEq H] [LawfulBEq H] {fl : Flavour} {data : List UInt8} {ob : Store H}
  {d : List UInt8} {S : HashIn H → Prop}

theorem step_true_loc (cf : CollisionFreeOn hf S) (hT : ∀ x ∈ C01.trueEvals hf d, S x)
    (hd : d.length ≤ 2 ^ 64 * 1024) (hdata : data.length ≤ 2 ^ 64 * 1024) {c : Chunk}
    {stack st : List H} {em : List UInt8} (hS : ∀ x ∈ stepEvals hf fl data ob c stack, S x)
    (hs : C01.StackOkL hf d stack) (h : encStep hf fl data ob c stack = .cont st em) :
    ReadTrue hf fl data ob d c ∧ C01.StackOkL hf d st := by
  cases c with
  | parent node ir lf rf rs =>
    obtain ⟨l, r, e, s, hload, rfl, hne, rfl, rfl⟩ := (step_parent_cont hf fl data ob).1 h
    have heq : e = hf.parentCv l r ir := by
      have : hf.parentCv l r ir = e := by simpa using hne
      exact this.symm
    rw [stepEvals_parent hf fl data ob hload] at hS
    obtain ⟨hp, hl, hr⟩ := C01.parent_check_loc cf hT hd (hs _ (List.mem_cons_self ..))
      (hS _ (List.mem_singleton_self _)) heq
    exact ⟨⟨l, r, hload, hp⟩,
      C01.StackOkL.push2 (fun x hx => hs x (List.mem_cons_of_mem _ hx)) hl hr _ _⟩
  | leaf start size ir rs =>
    obtain ⟨e, buf, rfl, hread, hne, rfl⟩ := (step_leaf_cont hf fl data ob).1 h
    have hb := (readExactAt_length hread).2
    have heq : e = hashSubtree hf start buf ir := by
      have : (leafAW hf ob.tree.bs start buf ir rs).1 = e := by simpa using hne
      rw [leafAW_hash _ _ _ _ _ _ (by omega)] at this
      exact this.symm
    rw [stepEvals_leaf hf fl data ob hread] at hS
    exact ⟨⟨buf, hread, C01.leaf_check_loc cf hT hd (hs _ (List.mem_cons_self ..)) hS heq⟩,
      fun x hx => hs x (List.mem_cons_of_mem _ hx)⟩

theorem loop_true_loc (cf : CollisionFreeOn hf S) (hT : ∀ x ∈ C01.trueEvals hf d, S x)
    (hd : d.length ≤ 2 ^ 64 * 1024) (hdata : data.length ≤ 2 ^ 64 * 1024) :
    ∀ (plan : List Chunk) (stack : List H) (out : List UInt8),
      (∀ x ∈ loopEvals hf fl data ob plan stack, S x) → C01.StackOkL hf d stack →
      (encodeValidatedLoop hf fl data ob plan stack out).terminal = .ok →
      ∀ c ∈ plan, ReadTrue hf fl data ob d c := by
  intro plan
  induction plan with
  | nil => intro _ _ _ _ _ c hc; cases hc
  | cons c plan ih =>
    intro stack out hS hs hok
    rw [loop_cons] at hok
    cases hst : encStep hf fl data ob c stack with
    | stop t =>
      rw [hst] at hok
      exact (step_stop_ne_ok hf fl data ob hst hok).elim
    | cont st em =>
      rw [hst] at hok
      obtain ⟨h1, h2⟩ := step_true_loc cf hT hd hdata
        (fun x hx => hS x (stepEvals_sub hf fl data ob c plan stack x hx)) hs hst
      intro c' hc'
      rcases List.mem_cons.1 hc' with rfl | hc'
      · exact h1
      · exact ih st (out ++ em)
          (fun x hx => hS x (loopEvals_tail_sub hf fl data ob plan hst x hx)) h2 hok c' hc'

theorem validated_true_loc (hd : d.length ≤ 2 ^ 64 * 1024) (hdata : data.length ≤ 2 ^ 64 * 1024)
    (hroot : ob.root = Spec.root hf d) (q : Ranges)
    (cf : CollisionFreeOn hf (fun x => x ∈ C01.trueEvals hf d ++ encEvals hf fl data ob q))
    (hok : (encodeRangesValidated hf fl data ob q).terminal = .ok) :
    ∃ plan, planOf ob q = some plan ∧ ∀ c ∈ plan, ReadTrue hf fl data ob d c := by
  rw [validated_eq_loop] at hok
  rw [encEvals_eq_loop] at cf
  cases hp : planOf ob q with
  | none => rw [hp] at hok; cases hok
  | some plan =>
    rw [hp] at hok cf
    refine ⟨plan, rfl, loop_true_loc cf (fun x hx => List.mem_append_left _ hx) hd hdata plan
      [ob.root] [] (fun x hx => List.mem_append_right _ hx) ?_ hok⟩
    intro h hh
    rw [List.mem_singleton] at hh
    subst hh
    rw [hroot]
    exact C01.TrueCvL.root hf d

end readtrue

end Bao.C05Loc
