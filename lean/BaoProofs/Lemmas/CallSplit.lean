import BaoModel.Store

/-!
# A list split at its `n`-th entry that satisfies a predicate

What the fault-aware twins of C10 share (`OpsFaultL`, `EncFaultL`, `MixedFaultL`): a call log is cut at
its `n`-th call on one object.  `splitNth q n es` is that decomposition, `q` saying which entries are
calls on the object; it exists iff `es` has more than `n` such entries, and it is the only one.

At the end: the test vector on which each of them, and `FaultL`, evaluates the runs of its examples.
-/

namespace Bao.CallSplit

variable {α β : Type}

/-- `es` split at its `n`-th (0-based) entry satisfying `q`: the entries before it, the entry, the
rest; `none` if there are at most `n` such entries -/
def splitNth (q : α → Bool) : Nat → List α → Option (List α × α × List α)
  | _, [] => none
  | n, e :: es =>
    match q e, n with
    | true, 0 => some ([], e, es)
    | true, n + 1 => (splitNth q n es).map fun p => (e :: p.1, p.2.1, p.2.2)
    | false, n => (splitNth q n es).map fun p => (e :: p.1, p.2.1, p.2.2)

theorem splitNth_cons_zero {q : α → Bool} {e : α} (h : q e = true) (es : List α) :
    splitNth q 0 (e :: es) = some ([], e, es) := by
  simp only [splitNth, h]

theorem splitNth_cons_succ {q : α → Bool} {e : α} (h : q e = true) (n : Nat) (es : List α) :
    splitNth q (n + 1) (e :: es) = (splitNth q n es).map fun p => (e :: p.1, p.2.1, p.2.2) := by
  simp only [splitNth, h]

theorem splitNth_cons_neg {q : α → Bool} {e : α} (h : q e = false) (n : Nat) (es : List α) :
    splitNth q n (e :: es) = (splitNth q n es).map fun p => (e :: p.1, p.2.1, p.2.2) := by
  simp only [splitNth, h]

theorem splitNth_some {q : α → Bool} {es : List α} :
    ∀ {n : Nat} {pre : List α} {e : α} {post : List α}, splitNth q n es = some (pre, e, post) →
      es = pre ++ e :: post ∧ q e = true ∧ pre.countP q = n := by
  induction es with
  | nil => intro n pre e post h; cases h
  | cons a es ih =>
    intro n pre e post h
    unfold splitNth at h
    split at h
    · cases h
      exact ⟨rfl, ‹q a = true›, rfl⟩
    · simp only [Option.map_eq_some_iff, Prod.mk.injEq] at h
      obtain ⟨p, hp, rfl, rfl, rfl⟩ := h
      obtain ⟨h1, h2, h3⟩ := ih hp
      exact ⟨by rw [h1]; rfl, h2, by rw [List.countP_cons_of_pos ‹q a = true›, h3]⟩
    · simp only [Option.map_eq_some_iff, Prod.mk.injEq] at h
      obtain ⟨p, hp, rfl, rfl, rfl⟩ := h
      obtain ⟨h1, h2, h3⟩ := ih hp
      exact ⟨by rw [h1]; rfl, h2, by rw [List.countP_cons_of_neg (by simp [‹q a = false›]), h3]⟩

theorem splitNth_none {q : α → Bool} {es : List α} {n : Nat} :
    splitNth q n es = none ↔ es.countP q ≤ n := by
  fun_induction splitNth q n es <;> simp_all <;> omega

theorem splitNth_append {q : α → Bool} {e : α} (he : q e = true) (post : List α) :
    ∀ pre : List α, splitNth q (pre.countP q) (pre ++ e :: post) = some (pre, e, post) := by
  intro pre
  induction pre with
  | nil => simp [splitNth, he]
  | cons a pre ih =>
    cases ha : q a with
    | true => simp [splitNth, ha, ih]
    | false => simp [splitNth, ha, ih]

/-- a list decomposes at its `n`-th entry satisfying `q` in one way only -/
theorem split_unique {q : α → Bool} {es pre pre' post post' : List α} {e e' : α}
    (h : es = pre ++ e :: post) (he : q e = true) (h' : es = pre' ++ e' :: post')
    (he' : q e' = true) (hc : pre.countP q = pre'.countP q) :
    pre = pre' ∧ e = e' ∧ post = post' := by
  have h1 := splitNth_append he post pre
  have h2 := splitNth_append he' post' pre'
  rw [← h, hc] at h1
  rw [← h', h1] at h2
  simpa using h2

theorem count_map [BEq β] (f : α → β) (b : β) (es : List α) :
    (es.map f).count b = es.countP fun e => f e == b := by
  rw [List.count, List.countP_map]
  rfl

/-! ## the test vector of the evaluated runs

1500 bytes `1` (two chunks, one parent) under a hash whose values are all `0` and whose `toBytes` is
32 bytes `7`, with a zero-filled in-memory pre-order outboard. -/

def zeroHash : HashFns Nat :=
  ⟨fun _ _ _ => 0, fun _ _ _ => 0, fun _ => 0, fun _ => List.replicate 32 7⟩

def ones : List UInt8 := List.replicate 1500 1

def zeroOb : Store Nat := ⟨.preMem, 0, ⟨1500, 0⟩, List.replicate 64 0⟩

end Bao.CallSplit
