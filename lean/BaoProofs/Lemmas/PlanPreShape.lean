import BaoProofs.Lemmas.PlanPre

/-!
# Shape of the recursive pre-order plan `planPre`

Facts about the list `planPre … L k rs` used by the C15 (pre-order plan) and decoder proofs:

1. every parent item of a plan heads the plan of an existing node (`parent_occurrence`);
2. hash-stack discipline (`stackRun`);
3. the root flag is set on the first item of the whole plan only;
4. leaf spans are inside the node's chunk range, non-empty, ordered, disjoint;
5. the plan of an existing inner node is `parent :: A ++ B`, `A` / `B` the sub-plans of the two
   halves (`planPre_children`, `ChildPlan`); every leaf lies inside the blob;
6. the flags of a parent item are those of `split(ranges, node)`.
-/

namespace Bao

/-- the `is_root` flag of an item (`NodeIterL.rootFlag` in `Lemmas/NodeIter.lean` is the same
function) -/
def Chunk.rootFlag : Chunk → Bool
  | .parent _ r _ _ _ => r
  | .leaf _ _ r _ => r

end Bao

namespace Bao.PlanPre
open Bao Bao.Spec Bao.Bits

variable {size bs ml filled root : Nat}

theorem isEmpty_eq_true_iff {rs : Ranges} : rs.isEmpty = true ↔ rs = [] := by
  cases rs <;> simp

theorem parent_occurrence {L0 k0 : Nat} {rs0 : Ranges} {pre tail : List Chunk} {node : Nat}
    {ir lf rf : Bool} {rs : Ranges}
    (h : planPre size bs ml filled root L0 k0 rs0 = pre ++ Chunk.parent node ir lf rf rs :: tail) :
    ∃ L k post, rs ≠ [] ∧ nodeOf k L < filled ∧ queryLeaf bs ml L rs = false ∧
      (L = 0 → toBytes (midOf k bs) < size) ∧
      Chunk.parent node ir lf rf rs = nodeParent bs root L k rs ∧
      Chunk.parent node ir lf rf rs :: tail = planPre size bs ml filled root L k rs ++ post := by
  refine planPre_induct
    (P := fun _ _ _ p => ∀ pre tail, p = pre ++ Chunk.parent node ir lf rf rs :: tail →
      ∃ L k post, rs ≠ [] ∧ nodeOf k L < filled ∧ queryLeaf bs ml L rs = false ∧
        (L = 0 → toBytes (midOf k bs) < size) ∧
        Chunk.parent node ir lf rf rs = nodeParent bs root L k rs ∧
        Chunk.parent node ir lf rf rs :: tail = planPre size bs ml filled root L k rs ++ post)
    ?nil ?gone ?skip ?qleaf ?half ?group ?inner L0 k0 rs0 pre tail h
  case nil =>
    intro L k pre tail h
    exact absurd h (by simp)
  case gone =>
    intro k rs' _ _ pre tail h
    exact absurd h (by simp)
  case skip =>
    intro L k rs' _ _ ih
    exact ih
  case qleaf =>
    intro L k rs' _ _ _ pre tail h
    rcases List.cons_eq_append_iff.1 h with ⟨_, h2⟩ | ⟨pre', _, h2⟩
    · simp [nodeLeaf] at h2
    · exact absurd h2 (by simp)
  case half =>
    intro k rs' _ _ _ _ pre tail h
    rcases List.cons_eq_append_iff.1 h with ⟨_, h2⟩ | ⟨pre', _, h2⟩
    · simp [nodeLeaf] at h2
    · exact absurd h2 (by simp)
  case group =>
    intro k rs' hne hlt hq hh pre tail h
    rcases List.cons_eq_append_iff.1 h with ⟨_, h2⟩ | ⟨pre', _, h2⟩
    · have h3 := h2
      simp only [nodeParent, List.cons.injEq, Chunk.parent.injEq] at h3
      obtain ⟨⟨_, _, _, _, hrs⟩, _⟩ := h3
      subst hrs
      refine ⟨0, k, [], hne, hlt, hq, fun _ => hh, (List.cons.inj h2).1, ?_⟩
      rw [planPre_zero_parent hne hlt hq hh, List.append_nil]; exact h2
    · have hm : Chunk.parent node ir lf rf rs ∈
          (if (lq bs 0 k rs').isEmpty then [] else [leftLeaf bs k rs']) ++
          (if (rq bs 0 k rs').isEmpty then [] else [rightLeaf size bs k rs']) := by
        rw [h2]; simp
      rw [List.mem_append] at hm
      rcases hm with hm | hm <;> split at hm <;> simp [leftLeaf, rightLeaf] at hm
  case inner =>
    intro L k rs' hne hlt hq ih1 ih2 pre tail h
    rcases List.cons_eq_append_iff.1 h with ⟨_, h2⟩ | ⟨pre', _, h2⟩
    · have h3 := h2
      simp only [nodeParent, List.cons.injEq, Chunk.parent.injEq] at h3
      obtain ⟨⟨_, _, _, _, hrs⟩, _⟩ := h3
      subst hrs
      refine ⟨L + 1, k, [], hne, hlt, hq, fun h0 => absurd h0 (Nat.succ_ne_zero L),
        (List.cons.inj h2).1, ?_⟩
      rw [planPre_succ hne hlt hq, List.append_nil]; exact h2
    · rcases List.append_eq_append_iff.1 h2 with ⟨a', _, h3⟩ | ⟨c', h3, h4⟩
      · exact ih2 a' tail h3
      · rcases List.cons_eq_append_iff.1 h4 with ⟨_, h5⟩ | ⟨c'', hc, h5⟩
        · exact ih2 [] tail (by rw [List.nil_append]; exact h5)
        · subst hc
          obtain ⟨L', k', post, h6, h7, h8, h9, h10, h11⟩ := ih1 pre' c'' h3
          refine ⟨L', k', post ++ planPre size bs ml filled root L (2 * k + 1) (rq bs (L + 1) k rs'),
            h6, h7, h8, h9, h10, ?_⟩
          rw [h5, ← List.append_assoc, ← h11]; rfl

/-- run the decoder's hash stack over a plan, starting with `h` expected hashes: every item pops
one, a parent pushes one per set flag; `none` = pop from an empty stack.  Not to be confused with
`NodeIterL.stackRun`, the stack height of the post-order plan. -/
def stackRun : Nat → List Chunk → Option Nat
  | h, [] => some h
  | h, .parent _ _ l r _ :: rest =>
    if h = 0 then none else stackRun (h - 1 + (if l then 1 else 0) + (if r then 1 else 0)) rest
  | h, .leaf _ _ _ _ :: rest => if h = 0 then none else stackRun (h - 1) rest

theorem stackRun_leaf (h s z : Nat) (r : Bool) (x : Ranges) (rest : List Chunk) :
    stackRun (h + 1) (Chunk.leaf s z r x :: rest) = stackRun h rest := by
  simp [stackRun]

theorem stackRun_parent (h n : Nat) (ir l r : Bool) (x : Ranges) (rest : List Chunk) :
    stackRun (h + 1) (Chunk.parent n ir l r x :: rest) =
      stackRun (h + (if l then 1 else 0) + (if r then 1 else 0)) rest := by
  simp [stackRun]

theorem stackRun_nodeParent (h L k : Nat) (rs : Ranges) (rest : List Chunk) :
    stackRun (h + 1) (nodeParent bs root L k rs :: rest) =
      stackRun (h + (if (lq bs L k rs).isEmpty then 0 else 1) +
        (if (rq bs L k rs).isEmpty then 0 else 1)) rest := by
  unfold nodeParent
  rw [stackRun_parent]
  have e : ∀ a : Bool, (if (!a) = true then 1 else 0 : Nat) = if a = true then 0 else 1 := by
    intro a; cases a <;> rfl
  rw [e, e]; rfl

theorem stackRun_ite_leaf (x : Ranges) (s z h : Nat) (rest : List Chunk) :
    stackRun (h + (if x.isEmpty then 0 else 1))
      ((if x.isEmpty then [] else [Chunk.leaf s z false x]) ++ rest) = stackRun h rest := by
  cases x with
  | nil => rfl
  | cons a t => exact stackRun_leaf ..

/-- the plan of an existing subtree consumes one expected hash, net, unless its sub-query is empty:
exactly what the parent item pushed for it -/
theorem stackRun_planPre_opt (g : Geo size bs filled) (L k : Nat) (rs : Ranges)
    (hs : startOf k L < filled) (h : Nat) (rest : List Chunk) :
    stackRun (h + (if rs.isEmpty then 0 else 1)) (planPre size bs ml filled root L k rs ++ rest) =
      stackRun h rest := by
  revert hs h rest
  refine planPre_induct
    (P := fun L k rs p => startOf k L < filled → ∀ (h : Nat) (rest : List Chunk),
      stackRun (h + (if rs.isEmpty then 0 else 1)) (p ++ rest) = stackRun h rest)
    ?nil ?gone ?skip ?qleaf ?half ?group ?inner L k rs
  case nil =>
    intro L k _ h rest; rfl
  case gone =>
    intro k rs _ hge hs
    have : startOf k 0 = nodeOf k 0 := by rw [Offsets.startOf_zero, Offsets.nodeOf_zero]
    omega
  case skip =>
    intro L k rs _ _ ih hs
    exact ih (by rw [Bits.startOf_left]; exact hs)
  case qleaf =>
    intro L k rs hne _ _ _ h rest
    rw [isEmpty_eq_false hne]; exact stackRun_leaf ..
  case half =>
    intro k rs hne _ _ _ _ h rest
    rw [isEmpty_eq_false hne]; exact stackRun_leaf ..
  case group =>
    intro k rs hne _ _ _ _ h rest
    rw [isEmpty_eq_false hne]
    show stackRun (h + 1) _ = _
    rw [List.cons_append, stackRun_nodeParent, List.append_assoc, Nat.add_right_comm]
    exact (stackRun_ite_leaf ..).trans (stackRun_ite_leaf ..)
  case inner =>
    intro L k rs hne hlt _ ih1 ih2 _ h rest
    rw [isEmpty_eq_false hne]
    show stackRun (h + 1) _ = _
    rw [List.cons_append, stackRun_nodeParent, List.append_assoc, Nat.add_right_comm,
      ih1 (left_exists hlt), ih2 (g.right_exists hlt)]

theorem stackRun_planPre (g : Geo size bs filled) (L k : Nat) (rs : Ranges) (hne : rs ≠ [])
    (hs : startOf k L < filled) (h : Nat) (rest : List Chunk) :
    stackRun (h + 1) (planPre size bs ml filled root L k rs ++ rest) = stackRun h rest := by
  have e := stackRun_planPre_opt (ml := ml) (root := root) g L k rs hs h rest
  rwa [isEmpty_eq_false hne] at e

theorem stackRun_prefix {h r : Nat} {a b : List Chunk} (hr : stackRun h (a ++ b) = some r) :
    (stackRun h a).isSome = true := by
  induction a generalizing h with
  | nil => simp [stackRun]
  | cons c a ih =>
    cases c with
    | parent n ir l rr x =>
      simp only [List.cons_append, stackRun] at hr ⊢
      split at hr
      · exact absurd hr (by simp)
      · rename_i h0; rw [if_neg h0]; exact ih hr
    | leaf s z ir x =>
      simp only [List.cons_append, stackRun] at hr ⊢
      split at hr
      · exact absurd hr (by simp)
      · rename_i h0; rw [if_neg h0]; exact ih hr

theorem nodeOf_beq_false {L h k : Nat} (hL : L < h) : (nodeOf k L == nodeOf 0 h) = false := by
  rw [beq_eq_false_iff_ne]
  intro e
  have := (C18.nodeOf_inj e).2
  omega

theorem rootFlag_below {h L k : Nat} {rs : Ranges} (hL : L < h) :
    ∀ c ∈ planPre size bs ml filled (nodeOf 0 h) L k rs, c.rootFlag = false := by
  intro c hc
  obtain ⟨L', k', rs', hle, -, -, hown⟩ := item_node (I := fun L' _ _ => L' ≤ L)
    (fun _ _ _ _ h => Nat.le_of_succ_le h) (fun _ _ _ _ h => Nat.le_of_succ_le h)
    (fun _ _ _ _ h => Nat.le_of_succ_le h) L k rs (Nat.le_refl _) c hc
  have hb := nodeOf_beq_false (k := k') (Nat.lt_of_le_of_lt hle hL)
  rcases hown with ⟨rfl, -⟩ | ⟨-, rfl | ⟨-, ⟨-, rfl⟩ | ⟨-, rfl⟩⟩⟩
  · exact hb
  · exact hb
  · rfl
  · rfl

theorem rootFlag_top {h : Nat} {rs : Ranges} (hne : rs ≠ []) (hlt : nodeOf 0 h < filled) :
    ∃ c tail, planPre size bs ml filled (nodeOf 0 h) h 0 rs = c :: tail ∧ c.rootFlag = true ∧
      ∀ c' ∈ tail, c'.rootFlag = false := by
  by_cases hq : queryLeaf bs ml h rs = true
  · refine ⟨_, [], planPre_queryLeaf hne hlt hq, ?_, ?_⟩
    · simp [nodeLeaf, Chunk.rootFlag]
    · intro c hc; exact absurd hc (by simp)
  · have hq : queryLeaf bs ml h rs = false := by simpa using hq
    cases h with
    | zero =>
      by_cases hh : toBytes (midOf 0 bs) < size
      · refine ⟨_, _, planPre_zero_parent hne hlt hq hh, ?_, ?_⟩
        · simp [nodeParent, Chunk.rootFlag]
        · intro c hc
          rw [List.mem_append] at hc
          rcases hc with hc | hc
          · split at hc
            · exact absurd hc (by simp)
            · rw [List.mem_singleton] at hc; subst hc; rfl
          · split at hc
            · exact absurd hc (by simp)
            · rw [List.mem_singleton] at hc; subst hc; rfl
      · refine ⟨_, [], planPre_zero_half hne hlt hq (Nat.le_of_not_lt hh), ?_, ?_⟩
        · simp [nodeLeaf, Chunk.rootFlag]
        · intro c hc; exact absurd hc (by simp)
    | succ h =>
      refine ⟨_, _, planPre_succ hne hlt hq, ?_, ?_⟩
      · simp [nodeParent, Chunk.rootFlag]
      · intro c hc
        rw [List.mem_append] at hc
        rcases hc with hc | hc
        · exact rootFlag_below (Nat.lt_succ_self h) c hc
        · exact rootFlag_below (Nat.lt_succ_self h) c hc

/-- the chunk spans `[start, start + max 1 (chunks of size))` of the leaf items -/
def leafSpans : List Chunk → List (Nat × Nat)
  | [] => []
  | .leaf s z _ _ :: rest => (s, s + max 1 (chunksOf z)) :: leafSpans rest
  | .parent .. :: rest => leafSpans rest

def SpansIn (lo hi : Nat) (l : List (Nat × Nat)) : Prop :=
  (∀ p ∈ l, lo ≤ p.1 ∧ p.1 < p.2 ∧ p.2 ≤ hi) ∧ l.Pairwise (fun a b => a.2 ≤ b.1)

theorem leafSpans_append (a b : List Chunk) : leafSpans (a ++ b) = leafSpans a ++ leafSpans b := by
  induction a with
  | nil => rfl
  | cons c a ih =>
    cases c with
    | parent n ir l r x => simpa [leafSpans] using ih
    | leaf s z ir x => simpa [leafSpans] using ih

theorem SpansIn_nil (lo hi : Nat) : SpansIn lo hi [] :=
  ⟨fun p hp => absurd hp (by simp), List.Pairwise.nil⟩

theorem SpansIn_singleton {lo hi a b : Nat} (h1 : lo ≤ a) (h2 : a < b) (h3 : b ≤ hi) :
    SpansIn lo hi [(a, b)] := by
  refine ⟨fun p hp => ?_, List.pairwise_singleton _ _⟩
  rw [List.mem_singleton] at hp; subst hp
  exact ⟨h1, h2, h3⟩

theorem SpansIn_append {lo mid hi : Nat} {A B : List (Nat × Nat)} (h1 : lo ≤ mid) (h2 : mid ≤ hi)
    (hA : SpansIn lo mid A) (hB : SpansIn mid hi B) : SpansIn lo hi (A ++ B) := by
  refine ⟨fun p hp => ?_, ?_⟩
  · rw [List.mem_append] at hp
    rcases hp with hp | hp
    · have := hA.1 p hp; omega
    · have := hB.1 p hp; omega
  · rw [List.pairwise_append]
    refine ⟨hA.2, hB.2, fun a ha b hb => ?_⟩
    have := hA.1 a ha
    have := hB.1 b hb
    omega

theorem SpansIn_mono {lo lo' hi hi' : Nat} {l : List (Nat × Nat)} (h1 : lo' ≤ lo) (h2 : hi ≤ hi')
    (h : SpansIn lo hi l) : SpansIn lo' hi' l := by
  refine ⟨fun p hp => ?_, h.2⟩
  have := h.1 p hp
  omega

theorem spans_starts_increasing {lo hi : Nat} {l : List (Nat × Nat)} (h : SpansIn lo hi l) :
    l.Pairwise (fun a b => a.1 < b.1) := by
  refine List.Pairwise.imp_of_mem ?_ h.2
  intro a b ha _ hab
  have := h.1 a ha
  omega

theorem clipped_span_le {s e size : Nat} (h : s < e) :
    s + max 1 (chunksOf (min (toBytes e) size - toBytes s)) ≤ e := by
  by_cases h0 : s = 0 ∨ toBytes s < size
  · rw [span_eq h0 h]; exact Nat.min_le_left _ _
  · rw [Nat.sub_eq_zero_of_le (Nat.le_trans (Nat.min_le_right _ _)
      (Nat.le_of_not_lt fun hlt => h0 (Or.inr hlt)))]
    exact h

theorem spans_nodeLeaf (L k : Nat) (rs : Ranges) :
    SpansIn (startOf k (L + bs)) (endOf k (L + bs)) (leafSpans [nodeLeaf size bs root L k rs]) := by
  exact SpansIn_singleton (Nat.le_refl _) (by omega) (clipped_span_le (startOf_lt_endOf k (L + bs)))

theorem spans_ite_leaf {lo hi s z : Nat} (x : Ranges) (h1 : lo ≤ s)
    (h2 : s + max 1 (chunksOf z) ≤ hi) :
    SpansIn lo hi (leafSpans (if x.isEmpty then [] else [Chunk.leaf s z false x])) := by
  split
  · exact SpansIn_nil _ _
  · exact SpansIn_singleton h1 (by omega) h2

theorem spans_planPre (_g : Geo size bs filled) (L k : Nat) (rs : Ranges) :
    SpansIn (startOf k (L + bs)) (endOf k (L + bs))
      (leafSpans (planPre size bs ml filled root L k rs)) := by
  refine planPre_induct
    (P := fun L k _ p => SpansIn (startOf k (L + bs)) (endOf k (L + bs)) (leafSpans p))
    ?nil ?gone ?skip ?qleaf ?half ?group ?inner L k rs
  case nil =>
    intro L k; exact SpansIn_nil _ _
  case gone =>
    intro k rs _ _; exact SpansIn_nil _ _
  case skip =>
    intro L k rs _ _ ih
    rw [child_ls, child_le] at ih
    exact SpansIn_mono (Nat.le_refl _) (Nat.le_of_lt (midOf_lt_endOf _ _)) ih
  case qleaf =>
    intro L k rs _ _ _; exact spans_nodeLeaf L k rs
  case half =>
    intro k rs _ _ _ _; exact spans_nodeLeaf 0 k rs
  case group =>
    intro k rs _ _ _ _
    show SpansIn _ _ (leafSpans (_ ++ _))
    rw [leafSpans_append]
    rw [Nat.zero_add]
    exact SpansIn_append (Nat.le_of_lt (startOf_lt_midOf _ _)) (Nat.le_of_lt (midOf_lt_endOf _ _))
      (spans_ite_leaf _ (Nat.le_refl _) (Nat.le_of_eq (span_full (startOf_lt_midOf k bs))))
      (spans_ite_leaf _ (Nat.le_refl _) (clipped_span_le (midOf_lt_endOf k bs)))
  case inner =>
    intro L k rs _ _ _ ih1 ih2
    show SpansIn _ _ (leafSpans (_ ++ _))
    rw [leafSpans_append]
    rw [child_ls, child_le] at ih1
    rw [child_rs, child_re] at ih2
    exact SpansIn_append (Nat.le_of_lt (startOf_lt_midOf _ _)) (Nat.le_of_lt (midOf_lt_endOf _ _))
      ih1 ih2

/-- what is claimed about the part `C` of a plan that belongs to one half `[lo, hi)` of a parent's
chunk range, `x` being the sub-query of that half: it is there iff `x` is non-empty, its leaves lie
in the half, and it consumes exactly one expected hash -/
structure ChildPlan (C : List Chunk) (x : Ranges) (lo hi : Nat) : Prop where
  ne_nil : C ≠ [] ↔ x ≠ []
  spans : SpansIn lo hi (leafSpans C)
  stack : x ≠ [] → ∀ h rest, stackRun (h + 1) (C ++ rest) = stackRun h rest

theorem ChildPlan.of_planPre (g : Geo size bs filled) {L k : Nat} (x : Ranges)
    (hs : startOf k L < filled) :
    ChildPlan (planPre size bs ml filled root L k x) x (startOf k (L + bs)) (endOf k (L + bs)) :=
  ⟨⟨fun h hx => h (hx ▸ planPre_nil L k), fun h => planPre_ne_nil L k x h hs⟩,
    spans_planPre g L k x, fun hx h rest => stackRun_planPre g L k x hx hs h rest⟩

theorem ChildPlan.of_leaf {lo hi s z : Nat} (x : Ranges) (h1 : lo ≤ s)
    (h2 : s + max 1 (chunksOf z) ≤ hi) :
    ChildPlan (if x.isEmpty then [] else [Chunk.leaf s z false x]) x lo hi := by
  refine ⟨?_, spans_ite_leaf x h1 h2, fun hx h rest => ?_⟩
  · cases x <;> simp
  · rw [isEmpty_eq_false hx]; exact stackRun_leaf ..

theorem planPre_children (g : Geo size bs filled) {L k : Nat} {rs : Ranges} (hne : rs ≠ [])
    (hlt : nodeOf k L < filled) (hq : queryLeaf bs ml L rs = false)
    (hmid : L = 0 → toBytes (midOf k bs) < size) :
    ∃ A B, planPre size bs ml filled root L k rs = nodeParent bs root L k rs :: (A ++ B) ∧
      ChildPlan A (lq bs L k rs) (startOf k (L + bs)) (midOf k (L + bs)) ∧
      ChildPlan B (rq bs L k rs) (midOf k (L + bs)) (endOf k (L + bs)) := by
  cases L with
  | zero =>
    refine ⟨_, _, planPre_zero_parent hne hlt hq (hmid rfl), ?_, ?_⟩
    · rw [Nat.zero_add]
      exact ChildPlan.of_leaf _ (Nat.le_refl _) (Nat.le_of_eq (span_full (startOf_lt_midOf k bs)))
    · rw [Nat.zero_add]
      exact ChildPlan.of_leaf _ (Nat.le_refl _) (clipped_span_le (midOf_lt_endOf k bs))
  | succ L =>
    refine ⟨_, _, planPre_succ hne hlt hq, ?_, ?_⟩
    · have h := ChildPlan.of_planPre (ml := ml) (root := root) g (L := L) (k := 2 * k)
        (lq bs (L + 1) k rs)
        (left_exists hlt)
      rwa [child_ls, child_le] at h
    · have h := ChildPlan.of_planPre (ml := ml) (root := root) g (L := L) (k := 2 * k + 1)
        (rq bs (L + 1) k rs) (g.right_exists hlt)
      rwa [child_rs, child_re] at h

theorem leaf_in_blob (g : Geo size bs filled) (L k : Nat) (rs : Ranges) :
    ∀ s z r x, Chunk.leaf s z r x ∈ planPre size bs ml filled root L k rs →
      toBytes s + z ≤ size := by
  intro s z r x hm
  obtain ⟨e, hse, h0, rfl, -, -⟩ := leaf_shape g hm
  rw [Nat.add_sub_cancel' (toBytes_le_clip h0 hse)]
  exact Nat.min_le_right _ _

theorem flags_item (g : Geo size bs filled) {L0 k0 : Nat} {rs0 : Ranges} {node : Nat}
    {ir lf rf : Bool} {rs : Ranges}
    (h : Chunk.parent node ir lf rf rs ∈ planPre size bs ml filled root L0 k0 rs0) :
    lf = !(Ranges.splitNode rs node).1.isEmpty ∧ rf = !(Ranges.splitNode rs node).2.isEmpty := by
  obtain ⟨pre, tail, e⟩ := List.append_of_mem h
  obtain ⟨L, k, post, _, hlt, _, _, hp, _⟩ := parent_occurrence e
  simp only [nodeParent, Chunk.parent.injEq] at hp
  obtain ⟨rfl, _, rfl, rfl, _⟩ := hp
  rw [splitNode_eq bs rs (g.level_le hlt)]
  exact ⟨rfl, rfl⟩

end Bao.PlanPre
