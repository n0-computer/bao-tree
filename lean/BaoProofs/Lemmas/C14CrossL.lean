import BaoProofs.Lemmas.DecodeSpec
import BaoProofs.Lemmas.EncodeSpec

/-!
# Lemmas for the cross statements of C14 (`decode_ranges` driver)

* `aux_of_run`       – `decodeRangesAux` against `Dec.runAux` (same decoder, same fuel): as long as every
                       `save` of a relevant parent node succeeds (a store invariant `P` and a node
                       predicate `A`), the driver ends with the terminal and the rest of the plain
                       run, performs exactly the leaf writes and saves exactly the relevant parents.
* `parent_mem_itemsI` – the parent items of `Spec.itemsI` are existing nodes `(k, L)` (`mid < n`).
* `SaveReady`, `save_ready` – on a store of the blob's geometry (io kinds and `EmptyOutboard`: any
                       backing; in-memory kinds: a backing of at least the outboard size) every save
                       of an existing relevant node succeeds and keeps the invariant.
-/

namespace Bao.C14CrossL
open Bao Bao.Spec

variable {H : Type}

/-- the positioned writes `(offset, data)` of an item list: its leaves, in order -/
def leafWrites : List (Item H) → List (Nat × List UInt8)
  | [] => []
  | .leaf off data :: is => (off, data) :: leafWrites is
  | .parent .. :: is => leafWrites is

/-- the parent nodes of an item list that are relevant for the outboard of `tree`, in order -/
def savedNodes (tree : Tree) : List (Item H) → List Nat
  | [] => []
  | .parent node _ _ :: is =>
    if tree.isRelevant node then node :: savedNodes tree is else savedNodes tree is
  | .leaf .. :: is => savedNodes tree is

section driver
variable (hf : HashFns H) [BEq H] (fl : Flavour) (tree : Tree) (P : Store H → Prop) (A : Nat → Prop)

/-- `P`: an invariant of the sink's outboard under which every save of a relevant node satisfying
`A` succeeds; `ws`, `ss`: the driver's accumulators (reversed) -/
theorem aux_of_run
    (hP : ∀ ob node p, P ob → A node → tree.isRelevant node = true →
      ∃ ob', ob.save hf node p = .ok ob' ∧ P ob') :
    ∀ (fuel : Nat) (d : Dec H) (sink : Sink H) (ws : List (Nat × Nat)) (ss : List Nat),
      P sink.ob →
      (∀ node l r, Item.parent node l r ∈ (Dec.runAux hf fl fuel d).items → A node) →
      (decodeRangesAux hf fl tree fuel d sink ws ss).terminal = (Dec.runAux hf fl fuel d).terminal ∧
      (decodeRangesAux hf fl tree fuel d sink ws ss).rest = (Dec.runAux hf fl fuel d).rest ∧
      (decodeRangesAux hf fl tree fuel d sink ws ss).writes =
        ws.reverse ++ (leafWrites (Dec.runAux hf fl fuel d).items).map (fun w => (w.1, w.2.length)) ∧
      (decodeRangesAux hf fl tree fuel d sink ws ss).saves =
        ss.reverse ++ savedNodes tree (Dec.runAux hf fl fuel d).items ∧
      (decodeRangesAux hf fl tree fuel d sink ws ss).sink.target =
        (leafWrites (Dec.runAux hf fl fuel d).items).foldl (fun t w => writeAt t w.1 w.2)
          sink.target ∧
      P (decodeRangesAux hf fl tree fuel d sink ws ss).sink.ob := by
  intro fuel
  induction fuel with
  | zero =>
    intro d sink ws ss hp _
    simp [decodeRangesAux, Dec.runAux, leafWrites, savedNodes, hp]
  | succ fuel ih =>
    intro d sink ws ss hp hA
    cases hnext : d.next hf fl with
    | done d' => simp [decodeRangesAux, Dec.runAux, hnext, leafWrites, savedNodes, hp]
    | err e d' => simp [decodeRangesAux, Dec.runAux, hnext, leafWrites, savedNodes, hp]
    | panic => simp [decodeRangesAux, Dec.runAux, hnext, leafWrites, savedNodes, hp]
    | item i d' =>
      have hA' : ∀ node l r, Item.parent node l r ∈ (Dec.runAux hf fl fuel d').items → A node := by
        intro n l r h
        refine hA n l r ?_
        simp only [Dec.runAux, hnext]
        exact List.mem_cons_of_mem _ h
      cases i with
      | parent node l r =>
        have hAn : A node := by
          refine hA node l r ?_
          simp only [Dec.runAux, hnext]
          exact List.mem_cons_self
        by_cases hrel : tree.isRelevant node = true
        · obtain ⟨ob', hs, hp'⟩ := hP sink.ob node (l, r) hp hAn hrel
          obtain ⟨h1, h2, h3, h4, h5, h6⟩ := ih d' { sink with ob := ob' } ws (node :: ss) hp' hA'
          simp only [decodeRangesAux, Dec.runAux, hnext, hrel, if_true, hs]
          refine ⟨h1, h2, ?_, ?_, ?_, h6⟩
          · rw [h3]; simp [leafWrites]
          · rw [h4]; simp [savedNodes, hrel]
          · rw [h5]; simp [leafWrites]
        · have hrel' : tree.isRelevant node = false := by simpa using hrel
          obtain ⟨h1, h2, h3, h4, h5, h6⟩ := ih d' sink ws ss hp hA'
          simp only [decodeRangesAux, Dec.runAux, hnext, hrel', Bool.false_eq_true, if_false]
          refine ⟨h1, h2, ?_, ?_, ?_, h6⟩
          · rw [h3]; simp [leafWrites]
          · rw [h4]; simp [savedNodes, hrel']
          · rw [h5]; simp [leafWrites]
      | leaf off data =>
        obtain ⟨h1, h2, h3, h4, h5, h6⟩ :=
          ih d' { sink with target := writeAt sink.target off data } ((off, data.length) :: ws) ss
            hp hA'
        simp only [decodeRangesAux, Dec.runAux, hnext]
        refine ⟨h1, h2, ?_, ?_, ?_, h6⟩
        · rw [h3]; simp [leafWrites]
        · rw [h4]; simp [savedNodes]
        · rw [h5]; simp [leafWrites]

theorem decodeRanges_of_decodeAll
    (hP : ∀ ob node p, P ob → A node → tree.isRelevant node = true →
      ∃ ob', ob.save hf node p = .ok ob' ∧ P ob')
    (s : List UInt8) (q : Ranges) (sink : Sink H) (htree : sink.ob.tree = tree) (hp : P sink.ob)
    (hA : ∀ node l r,
      Item.parent node l r ∈ (decodeAll hf fl sink.ob.root tree q s).items → A node) :
    (decodeRanges hf fl s q sink).terminal = (decodeAll hf fl sink.ob.root tree q s).terminal ∧
    (decodeRanges hf fl s q sink).rest = (decodeAll hf fl sink.ob.root tree q s).rest ∧
    (decodeRanges hf fl s q sink).writes =
      (leafWrites (decodeAll hf fl sink.ob.root tree q s).items).map (fun w => (w.1, w.2.length)) ∧
    (decodeRanges hf fl s q sink).saves =
      savedNodes tree (decodeAll hf fl sink.ob.root tree q s).items ∧
    (decodeRanges hf fl s q sink).sink.target =
      (leafWrites (decodeAll hf fl sink.ob.root tree q s).items).foldl
        (fun t w => writeAt t w.1 w.2) sink.target ∧
    P (decodeRanges hf fl s q sink).sink.ob := by
  subst htree
  have := aux_of_run hf fl sink.ob.tree P A hP
    (PrePartial.fuelFor (Dec.new sink.ob.root sink.ob.tree q s).iter.tree + 1)
    (Dec.new sink.ob.root sink.ob.tree q s) sink [] [] hp hA
  simpa [decodeRanges, decodeAll, Dec.run] using this

end driver

/-- `mid < nChunks`: the right child starts inside the blob, which is what makes `(k, L)` a node of
the tree -/
def Existing (size x : Nat) : Prop := ∃ k L, x = nodeOf k L ∧ L < 64 ∧ midOf k L < nChunks size

theorem parent_mem_itemsI (hf : HashFns H) (d : List UInt8) (n bs : Nat) (sel : Nat → Bool) :
    ∀ (h j x : Nat) (b : List UInt8), SItem.parent x b ∈ itemsI hf d n bs sel h j →
      ∃ k L, x = nodeOf k L ∧ L < h ∧ midOf k L < n := by
  intro h
  induction h with
  | zero =>
    intro j x b hm
    simp only [itemsI] at hm
    split at hm <;> simp at hm
  | succ h ih =>
    intro j x b hm
    simp only [itemsI] at hm
    split at hm
    · simp at hm
    · split at hm
      · obtain ⟨k, L, e, hl, hmid⟩ := ih _ _ _ hm
        exact ⟨k, L, e, by omega, hmid⟩
      · rename_i hmid
        split at hm
        · simp at hm
        · simp only [List.mem_cons, List.mem_append] at hm
          rcases hm with heq | hm | hm
          · injection heq with hx _
            exact ⟨j, h, hx, by omega, by unfold midOf; omega⟩
          · obtain ⟨k, L, e, hl, hmid⟩ := ih _ _ _ hm
            exact ⟨k, L, e, by omega, hmid⟩
          · obtain ⟨k, L, e, hl, hmid⟩ := ih _ _ _ hm
            exact ⟨k, L, e, by omega, hmid⟩

theorem parent_mem_items (hf : HashFns H) (d : List UInt8) (bs : Nat) (q : Ranges)
    {x : Nat} {b : List UInt8}
    (hm : SItem.parent x b ∈ Spec.items hf d bs q) : Existing d.length x := by
  obtain ⟨k, L, e, hl, hmid⟩ := parent_mem_itemsI hf d _ bs _ _ _ _ _ hm
  have := EncodeSpec.log2ceil_le 64 (nChunks d.length)
  exact ⟨k, L, e, by omega, hmid⟩

/-- a store with the given root and the geometry of the blob on which every save of an existing
relevant node succeeds: an io kind or `EmptyOutboard` (any backing), or an in-memory kind whose
backing has at least the outboard size -/
def SaveReady (root : H) (size bs : Nat) (ob : Store H) : Prop :=
  ob.root = root ∧ ob.tree = ⟨size, bs⟩ ∧
  (ob.kind = .preIo ∨ ob.kind = .postIo ∨ ob.kind = .empty ∨
    ((ob.kind = .preMem ∨ ob.kind = .postMem) ∧ Tree.outboardSize ⟨size, bs⟩ ≤ ob.data.length))

theorem persisted_of_relevant {size bs x : Nat} (hs : size ≤ 2 ^ 63) (hx : Existing size x)
    (hrel : Tree.isRelevant ⟨size, bs⟩ x = true) : x ∈ persistedPre size bs := by
  obtain ⟨k, L, rfl, hL, hmid⟩ := hx
  refine ValidL.mem_persistedPre size bs k L hs (Nat.le_of_not_lt fun h => ?_) hmid
  rw [OutboardL.isRelevant_of_level_lt (by rw [C18.level_nodeOf (by omega)]; exact h)] at hrel
  cases hrel

theorem save_ready (hf : HashFns H) (hlen : ∀ h, (hf.toBytes h).length = 32) {root : H}
    {size bs : Nat} (hs : size ≤ 2 ^ 63) (hbs : bs ≤ 10) (ob : Store H) (node : Nat) (p : H × H)
    (hr : SaveReady root size bs ob) (hx : Existing size node)
    (hrel : Tree.isRelevant ⟨size, bs⟩ node = true) :
    ∃ ob', ob.save hf node p = .ok ob' ∧ SaveReady root size bs ob' := by
  obtain ⟨hroot, htree, hk⟩ := hr
  have hpre := persisted_of_relevant hs hx hrel
  obtain ⟨hp1, hp2⟩ := OutboardL.pre_offset_mem hs hbs hpre
  obtain ⟨hq1, hq2⟩ := OutboardL.post_offset_mem hs hbs
    ((OutboardL.persistedPost_perm size bs hs).mem_iff.mpr hpre)
  -- the slot of the node, below the number of pairs, whatever the order of the outboard
  have hslot : ob.kind ≠ .empty → ∃ k, ob.slot node = some k ∧ k < Tree.blocks ⟨size, bs⟩ - 1 := by
    intro hne
    cases hkind : ob.kind with
    | empty => exact (hne hkind).elim
    | preIo => exact ⟨_, by simp only [Store.slot, hkind, htree, hp1], hp2⟩
    | preMem => exact ⟨_, by simp only [Store.slot, hkind, htree, hp1], hp2⟩
    | postIo => exact ⟨_, by simp only [Store.slot, hkind, htree, hq1], hq2⟩
    | postMem => exact ⟨_, by simp only [Store.slot, hkind, htree, hq1], hq2⟩
  rcases hk with hk | hk | hk | ⟨hk, hl⟩
  · obtain ⟨k, hsl, -⟩ := hslot (by rw [hk]; simp)
    exact ⟨_, OutboardL.save_io hf (.inl hk) hsl p, hroot, htree, .inl hk⟩
  · obtain ⟨k, hsl, -⟩ := hslot (by rw [hk]; simp)
    exact ⟨_, OutboardL.save_io hf (.inr hk) hsl p, hroot, htree, .inr (.inl hk)⟩
  · exact ⟨ob, OutboardL.save_empty hf hk (by rw [htree]; exact hrel) p, hroot, htree,
      .inr (.inr (.inl hk))⟩
  · obtain ⟨k, hsl, hlt⟩ := hslot (by rcases hk with h | h <;> rw [h] <;> simp)
    have hos : Tree.outboardSize ⟨size, bs⟩ = (Tree.blocks ⟨size, bs⟩ - 1) * 64 := rfl
    have hb := OutboardL.pair_bytes_length hf hlen p
    refine ⟨_, OutboardL.save_mem hf hk hsl (by omega) p, hroot, htree,
      .inr (.inr (.inr ⟨hk, ?_⟩))⟩
    simp only [WriteAtL.length_writeAt, hb]
    omega

theorem existing_of_mem_toItem {hf : HashFns H} {d : List UInt8} {bs : Nat} {q : Ranges}
    {node : Nat} {l r : H}
    (h : Item.parent node l r ∈ (Spec.items hf d bs q).map (DecodeSpec.toItem hf)) :
    Existing d.length node := by
  obtain ⟨it, hit, he⟩ := List.mem_map.mp h
  cases it with
  | leaf s b => simp [DecodeSpec.toItem] at he
  | parent n b =>
    simp only [DecodeSpec.toItem, Item.parent.injEq] at he
    obtain ⟨rfl, -, -⟩ := he
    exact parent_mem_items hf d bs q hit

theorem decodeRanges_items (hf : HashFns H) [BEq H] (hlen : ∀ h, (hf.toBytes h).length = 32)
    (fl : Flavour) (d : List UInt8) (bs : Nat) (hd : d.length ≤ 2 ^ 63) (hbs : bs ≤ 10)
    (q qi : Ranges) (s x : List UInt8) (t : DecEnd) (sink : Sink H)
    (hr : SaveReady (Spec.root hf d) d.length bs sink.ob)
    (hdec : decodeAll hf fl (Spec.root hf d) ⟨d.length, bs⟩ q s
      = ⟨(Spec.items hf d bs qi).map (DecodeSpec.toItem hf), t, x⟩) :
    (decodeRanges hf fl s q sink).terminal = t ∧
    (decodeRanges hf fl s q sink).rest = x ∧
    (decodeRanges hf fl s q sink).writes =
      (leafWrites ((Spec.items hf d bs qi).map (DecodeSpec.toItem hf))).map
        (fun w => (w.1, w.2.length)) ∧
    (decodeRanges hf fl s q sink).saves =
      savedNodes ⟨d.length, bs⟩ ((Spec.items hf d bs qi).map (DecodeSpec.toItem hf)) ∧
    (decodeRanges hf fl s q sink).sink.target =
      (leafWrites ((Spec.items hf d bs qi).map (DecodeSpec.toItem hf))).foldl
        (fun t w => writeAt t w.1 w.2) sink.target ∧
    SaveReady (Spec.root hf d) d.length bs (decodeRanges hf fl s q sink).sink.ob := by
  have hroot := hr.1
  have htree := hr.2.1
  have h := decodeRanges_of_decodeAll hf fl ⟨d.length, bs⟩ (SaveReady (Spec.root hf d) d.length bs)
    (Existing d.length)
    (fun ob node p hp hx hrel => save_ready hf hlen hd hbs ob node p hp hx hrel)
    s q sink htree hr (by
      intro node l r hm
      rw [hroot, hdec] at hm
      exact existing_of_mem_toItem hm)
  rw [hroot, hdec] at h
  exact h

end Bao.C14CrossL
