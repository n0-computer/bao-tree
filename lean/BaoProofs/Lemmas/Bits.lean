import BaoModel.U64
import BaoModel.Tree
import BaoModel.Spec

/-!
# Bit-level helper lemmas

Facts about the fuel-driven `u64` helpers of `BaoModel.U64` (`trailingOnes`, `popcount`,
`not64`, `shl64`, `neg64`) and about the three bit tricks of `BaoModel.Tree`
(`x & -x`, `x & (x-1)`, `!(!x << n)`), all phrased through the coordinate bijection

  `x + 1 = (2*k+1) * 2^L`      (`x = Spec.nodeOf k L`).
-/

namespace Bao.Bits

open Bao

theorem two_pow_pos' (L : Nat) : 0 < 2 ^ L := Nat.two_pow_pos L

/-- `(2k+1)·p` in the one syntactic form used for `omega`: `2*(k*p) + p`. -/
theorem odd_mul (k p : Nat) : (2 * k + 1) * p = 2 * (k * p) + p := by
  rw [Nat.add_mul, Nat.mul_assoc, Nat.one_mul]

theorem nodeOf_eq (k L : Nat) : Spec.nodeOf k L = 2 * (k * 2 ^ L) + 2 ^ L - 1 := by
  unfold Spec.nodeOf; rw [odd_mul]

theorem nodeOf_succ' (k L : Nat) : Spec.nodeOf k L + 1 = (2 * k + 1) * 2 ^ L :=
  Nat.sub_add_cancel (Nat.mul_pos (Nat.succ_pos _) (two_pow_pos' L))

theorem nodeOf_succ (k L : Nat) : Spec.nodeOf k L + 1 = 2 * (k * 2 ^ L) + 2 ^ L := by
  rw [nodeOf_succ', odd_mul]

theorem nodeOf_eq_succ (k L : Nat) :
    Spec.nodeOf k (L + 1) = 4 * (k * 2 ^ L) + 2 * 2 ^ L - 1 := by
  apply Nat.eq_sub_of_add_eq
  rw [nodeOf_succ, Nat.pow_succ, ← Nat.mul_assoc k]
  generalize k * 2 ^ L = q
  omega
/-- binary layout of the id: index bits, a `0`, then `L` ones -/
theorem nodeOf_layout (k L : Nat) : Spec.nodeOf k L = 2 ^ (L + 1) * k + (2 ^ L - 1) := by
  have := two_pow_pos' L
  rw [nodeOf_eq, Nat.pow_succ, Nat.mul_comm k]
  generalize 2 ^ L = p at *
  rw [Nat.mul_assoc, Nat.mul_left_comm p 2 k]
  omega

theorem nodeOf_succ_layout (k L : Nat) : Spec.nodeOf k L + 1 = 2 ^ (L + 1) * k + 2 ^ L := by
  have := two_pow_pos' L
  rw [nodeOf_layout]; omega

theorem startOf_eq (k L : Nat) : Spec.startOf k L = 2 * (k * 2 ^ L) := by
  unfold Spec.startOf
  rw [Nat.pow_succ, ← Nat.mul_assoc, Nat.mul_comm]

theorem endOf_eq (k L : Nat) : Spec.endOf k L = 2 * (k * 2 ^ L) + 2 * 2 ^ L := by
  unfold Spec.endOf
  rw [Nat.pow_succ, ← Nat.mul_assoc, Nat.add_mul, Nat.one_mul, Nat.add_mul, Nat.mul_comm _ 2,
    Nat.mul_comm _ 2]

theorem midOf_eq (k L : Nat) : Spec.midOf k L = 2 * (k * 2 ^ L) + 2 ^ L := by
  unfold Spec.midOf
  rw [Nat.pow_succ, ← Nat.mul_assoc, Nat.mul_comm _ 2]

theorem nodeOf_succ_level (k L : Nat) : Spec.nodeOf k (L + 1) = 2 * Spec.nodeOf k L + 1 := by
  have h1 := nodeOf_succ' k (L + 1)
  rw [Nat.pow_succ, ← Nat.mul_assoc, ← nodeOf_succ' k L] at h1
  omega

theorem succ_mul_pow (k L n : Nat) :
    (Spec.nodeOf k L + 1) * 2 ^ n = Spec.nodeOf k (L + n) + 1 := by
  rw [nodeOf_succ', nodeOf_succ', Nat.mul_assoc, ← Nat.pow_add]

theorem odd_pow_decomp (y : Nat) (hy : 0 < y) : ∃ k L, y = (2 * k + 1) * 2 ^ L := by
  induction y using Nat.strongRecOn with
  | _ y ih =>
    by_cases h : y % 2 = 1
    · exact ⟨y / 2, 0, by simp; omega⟩
    · have hlt : y / 2 < y := by omega
      have hpos : 0 < y / 2 := by omega
      obtain ⟨k, L, hk⟩ := ih (y / 2) hlt hpos
      refine ⟨k, L + 1, ?_⟩
      rw [Nat.pow_succ, ← Nat.mul_assoc, ← hk]
      omega

theorem two_pow_le_nodeOf_add_one (k L : Nat) : 2 ^ L ≤ Spec.nodeOf k L + 1 := by
  rw [nodeOf_succ]; exact Nat.le_add_left _ _

theorem level_le_of_lt {k L : Nat} (h : Spec.nodeOf k L < 2 ^ 64) : L ≤ 64 :=
  (Nat.pow_le_pow_iff_right (by decide : 1 < 2)).mp
    (Nat.le_trans (two_pow_le_nodeOf_add_one k L) h)

theorem level_lt_of_succ_lt {k L : Nat} (h : Spec.nodeOf k L + 1 < 2 ^ 64) : L < 64 :=
  (Nat.pow_lt_pow_iff_right (by decide : 1 < 2)).mp
    (Nat.lt_of_le_of_lt (two_pow_le_nodeOf_add_one k L) h)

theorem two_pow_64_eq {L : Nat} (hL : L < 64) : (2 : Nat) ^ 64 = (2 * 2 ^ (63 - L)) * 2 ^ L := by
  rw [Nat.mul_comm 2, ← Nat.pow_succ, ← Nat.pow_add]
  congr 1; omega

theorem odd_mul_pow_bound {a L : Nat} (h : a * 2 ^ L ≤ 2 ^ 64) (hL : L < 64) (hodd : a % 2 = 1) :
    (a + 1) * 2 ^ L ≤ 2 ^ 64 := by
  rw [two_pow_64_eq hL] at h ⊢
  have h1 : a ≤ 2 * 2 ^ (63 - L) := Nat.le_of_mul_le_mul_right h (two_pow_pos' L)
  exact Nat.mul_le_mul_right _ (by omega)

theorem index_lt {k L : Nat} (h : (2 * k + 1) * 2 ^ L < 2 ^ 64) (hL : L < 64) :
    k < 2 ^ (63 - L) := by
  rw [two_pow_64_eq hL] at h
  have h1 : 2 * k + 1 < 2 * 2 ^ (63 - L) := Nat.lt_of_mul_lt_mul_right h
  omega

theorem trailingOnesAux_nodeOf (k L fuel : Nat) (h : L ≤ fuel) :
    trailingOnesAux fuel (Spec.nodeOf k L) = L := by
  induction L generalizing fuel with
  | zero =>
    cases fuel with
    | zero => rfl
    | succ f =>
      have : Spec.nodeOf k 0 % 2 ≠ 1 := by simp [Spec.nodeOf]
      simp [trailingOnesAux, this]
  | succ n ih =>
    cases fuel with
    | zero => omega
    | succ f =>
      have hodd : (2 * Spec.nodeOf k n + 1) % 2 = 1 := by omega
      have hhalf : (2 * Spec.nodeOf k n + 1) / 2 = Spec.nodeOf k n := by omega
      simp [nodeOf_succ_level, trailingOnesAux, hodd, hhalf, ih f (by omega)]

theorem trailingOnes_nodeOf {k L : Nat} (h : Spec.nodeOf k L < 2 ^ 64) :
    trailingOnes (Spec.nodeOf k L) = L :=
  trailingOnesAux_nodeOf k L 64 (level_le_of_lt h)

theorem popcountAux_zero (f : Nat) : popcountAux f 0 = 0 := by
  induction f with
  | zero => rfl
  | succ f ih => simp [popcountAux, ih]

theorem popcountAux_le (f y : Nat) : popcountAux f y ≤ y := by
  induction f generalizing y with
  | zero => simp [popcountAux]
  | succ f ih =>
    have := ih (y / 2)
    simp only [popcountAux]; omega

theorem popcount_le (y : Nat) : popcount y ≤ y := popcountAux_le 64 y

theorem popcountAux_fuel (f d y : Nat) (h : y < 2 ^ f) :
    popcountAux (f + d) y = popcountAux f y := by
  induction f generalizing y with
  | zero =>
    have : y = 0 := by simpa using h
    subst this
    simp [popcountAux_zero, popcountAux]
  | succ f ih =>
    rw [Nat.add_right_comm]
    simp only [popcountAux]
    rw [ih (y / 2) (by rw [Nat.pow_succ] at h; omega)]

theorem popcountAux_two_mul (f y : Nat) : popcountAux (f + 1) (2 * y) = popcountAux f y := by
  simp [popcountAux]

theorem popcountAux_two_mul_add_one (f y : Nat) :
    popcountAux (f + 1) (2 * y + 1) = popcountAux f y + 1 := by
  have : (2 * y + 1) / 2 = y := by omega
  simp [popcountAux, this]; omega

theorem popcountAux_odd_mul_pow (f k L : Nat) :
    popcountAux (f + 1 + L) ((2 * k + 1) * 2 ^ L) = popcountAux f k + 1 := by
  induction L with
  | zero => simpa using popcountAux_two_mul_add_one f k
  | succ n ih =>
    rw [Nat.pow_succ, ← Nat.mul_assoc, Nat.mul_comm _ 2, ← Nat.add_assoc, popcountAux_two_mul, ih]

theorem popcount_nodeOf_succ {k L : Nat} (h : Spec.nodeOf k L + 1 < 2 ^ 64) :
    popcount (Spec.nodeOf k L + 1) = popcount k + 1 := by
  have hL := level_lt_of_succ_lt h
  rw [nodeOf_succ'] at h ⊢
  have hk := index_lt h hL
  unfold popcount
  have e : 64 = (63 - L) + 1 + L := by omega
  conv => lhs; rw [e]
  rw [popcountAux_odd_mul_pow]
  have e2 : 64 = (63 - L) + (L + 1) := by omega
  conv => rhs; rw [e2]
  rw [popcountAux_fuel _ _ _ hk]

theorem popcountAux_mul_pow (f k n : Nat) :
    popcountAux (f + n) (k * 2 ^ n) = popcountAux f k := by
  induction n with
  | zero => simp
  | succ m ih =>
    rw [Nat.pow_succ, ← Nat.mul_assoc, Nat.mul_comm _ 2, ← Nat.add_assoc, popcountAux_two_mul, ih]

theorem popcount_mul_pow {k n : Nat} (h : k * 2 ^ n < 2 ^ 64) :
    popcount (k * 2 ^ n) = popcount k := by
  by_cases hk : k = 0
  · subst hk; simp
  have hp := two_pow_pos' n
  have hn : n < 64 := by
    have : 1 * 2 ^ n ≤ k * 2 ^ n := Nat.mul_le_mul_right _ (by omega)
    exact (Nat.pow_lt_pow_iff_right (by decide : 1 < 2)).mp (by omega)
  have e : (2 : Nat) ^ 64 = 2 ^ (64 - n) * 2 ^ n := by
    rw [← Nat.pow_add]; congr 1; omega
  rw [e] at h
  have hk' : k < 2 ^ (64 - n) := Nat.lt_of_mul_lt_mul_right h
  unfold popcount
  have e1 : 64 = (64 - n) + n := by omega
  conv => lhs; rw [e1]
  conv => rhs; rw [e1]
  rw [popcountAux_mul_pow, popcountAux_fuel _ _ _ hk']

theorem popcount_startOf {k L : Nat} (h : Spec.startOf k L < 2 ^ 64) :
    popcount (Spec.startOf k L) = popcount k := popcount_mul_pow h

/-- `y & (y-1)` with `y = id + 1` clears the lowest set bit: what is left is the start chunk -/
theorem and_pred_nodeOf (k L : Nat) :
    (Spec.nodeOf k L + 1) &&& (Spec.nodeOf k L + 1 - 1) = Spec.startOf k L := by
  have hp := two_pow_pos' L
  have h1 : (2 : Nat) ^ L < 2 ^ (L + 1) := by rw [Nat.pow_succ]; omega
  have h2 : (2 : Nat) ^ L - 1 < 2 ^ (L + 1) := by omega
  have h3 : 0 < (2 : Nat) ^ (L + 1) := two_pow_pos' _
  have es : Spec.startOf k L = 2 ^ (L + 1) * k + 0 := by
    unfold Spec.startOf; rw [Nat.mul_comm]; rfl
  rw [Nat.add_sub_cancel, es]
  conv => lhs; rw [nodeOf_succ_layout, nodeOf_layout]
  apply Nat.eq_of_testBit_eq
  intro j
  rw [Nat.testBit_and, Nat.testBit_two_pow_mul_add k h1, Nat.testBit_two_pow_mul_add k h2,
    Nat.testBit_two_pow_mul_add k h3, Nat.testBit_two_pow, Nat.testBit_two_pow_sub_one]
  by_cases hj : j < L + 1
  · simp only [hj, if_true, Nat.zero_testBit]
    by_cases hjl : L = j
    · subst hjl; simp
    · simp [hjl]
  · simp [hj]

/-- `y & -y` with `y = id + 1 < 2^64` isolates the lowest set bit `2^level` -/
theorem and_neg_nodeOf {k L : Nat} (h : Spec.nodeOf k L + 1 < 2 ^ 64) :
    (Spec.nodeOf k L + 1) &&& neg64 (Spec.nodeOf k L + 1) = 2 ^ L := by
  have hL := level_lt_of_succ_lt h
  have hp := two_pow_pos' L
  have h1 : (2 : Nat) ^ L < 2 ^ (L + 1) := by rw [Nat.pow_succ]; omega
  have h2 : (2 : Nat) ^ L - 1 < 2 ^ (L + 1) := by omega
  have hx : Spec.nodeOf k L < 2 ^ 64 := by omega
  have eneg : neg64 (Spec.nodeOf k L + 1) = 2 ^ 64 - (Spec.nodeOf k L + 1) := by
    unfold neg64 U64
    rw [Nat.mod_eq_of_lt]
    omega
  rw [eneg]
  apply Nat.eq_of_testBit_eq
  intro j
  rw [Nat.testBit_and, Nat.testBit_two_pow_sub_succ hx, Nat.testBit_two_pow]
  rw [nodeOf_succ_layout, nodeOf_layout]
  rw [Nat.testBit_two_pow_mul_add k h1, Nat.testBit_two_pow_mul_add k h2,
    Nat.testBit_two_pow, Nat.testBit_two_pow_sub_one]
  by_cases hj : j < L + 1
  · simp only [hj, if_true]
    by_cases hjl : L = j
    · subst hjl; simp [hL]
    · simp [hjl]
  · simp only [hj, if_false]
    have : ¬ L = j := by omega
    generalize k.testBit (j - (L + 1)) = b
    cases b <;> simp [this]

/-- `!(!x << n)` appends `n` one bits, as long as the result fits in 64 bits -/
theorem not_shl_not {x n : Nat} (h : (x + 1) * 2 ^ n ≤ 2 ^ 64) :
    not64 (shl64 (not64 x) n) = (x + 1) * 2 ^ n - 1 := by
  have hp := two_pow_pos' n
  have hpos : 0 < (x + 1) * 2 ^ n := Nat.mul_pos (by omega) hp
  have hx : x + 1 ≤ 2 ^ 64 := by
    calc x + 1 = (x + 1) * 1 := by omega
      _ ≤ (x + 1) * 2 ^ n := Nat.mul_le_mul_left _ hp
      _ ≤ 2 ^ 64 := h
  unfold not64 shl64 u64Max U64
  rw [Nat.shiftLeft_eq]
  have e1 : 18446744073709551615 - x = 2 ^ 64 - (x + 1) := by omega
  rw [e1, Nat.sub_mul]
  have e2 : 2 ^ 64 * 2 ^ n - (x + 1) * 2 ^ n
      = (2 ^ 64 - (x + 1) * 2 ^ n) + (2 ^ n - 1) * 2 ^ 64 := by
    rw [Nat.sub_mul, Nat.one_mul, Nat.mul_comm (2 ^ n)]
    have : 2 ^ 64 * 1 ≤ 2 ^ 64 * 2 ^ n := Nat.mul_le_mul_left _ hp
    generalize 2 ^ 64 * 2 ^ n = A at *
    generalize (x + 1) * 2 ^ n = B at *
    omega
  have e3 : (18446744073709551616 : Nat) = 2 ^ 64 := by decide
  rw [e3, e2, Nat.add_mul_mod_self_right, Nat.mod_eq_of_lt (by omega)]
  generalize (x + 1) * 2 ^ n = B at *
  omega

theorem tz_odd_mul_pow (k L fuel : Nat) (h : L ≤ fuel) :
    Spec.tz fuel ((2 * k + 1) * 2 ^ L) = L := by
  induction L generalizing fuel with
  | zero =>
    cases fuel with
    | zero => rfl
    | succ f => simp [Spec.tz]
  | succ n ih =>
    cases fuel with
    | zero => omega
    | succ f =>
      have hp := two_pow_pos' n
      have e : (2 * k + 1) * 2 ^ (n + 1) = 2 * ((2 * k + 1) * 2 ^ n) := by
        rw [Nat.pow_succ, ← Nat.mul_assoc, Nat.mul_comm]
      have hpos : 0 < (2 * k + 1) * 2 ^ n := Nat.mul_pos (by omega) hp
      rw [e]
      generalize hq : (2 * k + 1) * 2 ^ n = q at *
      have h1 : 2 * q % 2 = 0 := by omega
      have h2 : 2 * q ≠ 0 := by omega
      have h3 : 2 * q / 2 = q := by omega
      simp only [Spec.tz, h1, h2, h3, ne_eq, not_false_eq_true, and_self, if_true]
      rw [ih f (by omega)]

/-- the decomposition is unique: the exponent is the number of trailing zeros -/
theorem odd_pow_inj {k L k' L' : Nat} (h : (2 * k + 1) * 2 ^ L = (2 * k' + 1) * 2 ^ L') :
    k = k' ∧ L = L' := by
  have hL := congrArg (Spec.tz (L + L')) h
  rw [tz_odd_mul_pow k L _ (Nat.le_add_right L L'), tz_odd_mul_pow k' L' _ (Nat.le_add_left L' L)]
    at hL
  subst hL
  have := Nat.eq_of_mul_eq_mul_right (two_pow_pos' L) h
  exact ⟨by omega, rfl⟩

theorem levelOf_nodeOf {k L : Nat} (h : L ≤ 64) : Spec.levelOf (Spec.nodeOf k L) = L := by
  unfold Spec.levelOf
  rw [nodeOf_succ']
  exact tz_odd_mul_pow k L 64 h

theorem indexOf_nodeOf {k L : Nat} (h : L ≤ 64) : Spec.indexOf (Spec.nodeOf k L) = k := by
  unfold Spec.indexOf
  rw [levelOf_nodeOf h, nodeOf_succ', Nat.mul_div_cancel _ (two_pow_pos' L)]
  omega

theorem nodeOf_sub_half (k L : Nat) : Spec.nodeOf k (L + 1) - 2 ^ L = Spec.nodeOf (2 * k) L := by
  apply Nat.sub_eq_of_eq_add
  apply Nat.succ.inj
  show Spec.nodeOf k (L + 1) + 1 = Spec.nodeOf (2 * k) L + 2 ^ L + 1
  rw [Nat.add_right_comm, nodeOf_succ', nodeOf_succ', Nat.pow_succ, ← Nat.succ_mul,
    Nat.mul_comm (2 ^ L) 2, ← Nat.mul_assoc]
  congr 1
  omega

theorem nodeOf_add_half (k L : Nat) :
    Spec.nodeOf k (L + 1) + 2 ^ L = Spec.nodeOf (2 * k + 1) L := by
  apply Nat.succ.inj
  show Spec.nodeOf k (L + 1) + 2 ^ L + 1 = Spec.nodeOf (2 * k + 1) L + 1
  rw [Nat.add_right_comm, nodeOf_succ', nodeOf_succ', Nat.pow_succ, Nat.succ_mul (2 * (2 * k + 1)),
    Nat.mul_comm (2 ^ L) 2, ← Nat.mul_assoc, Nat.mul_comm (2 * k + 1) 2]

/-- dividing the id by twice the span gives the index (used for the `offset & (span*2)` test) -/
theorem nodeOf_div_span (k L : Nat) : Spec.nodeOf k L / (2 ^ L * 2) = k := by
  have hp := two_pow_pos' L
  have e1 : k * (2 ^ L * 2) = 2 * (k * 2 ^ L) := by
    rw [← Nat.mul_assoc, Nat.mul_comm]
  have e2 : (k + 1) * (2 ^ L * 2) = 2 * (k * 2 ^ L) + 2 * 2 ^ L := by
    rw [Nat.add_mul, e1, Nat.one_mul, Nat.mul_comm (2 ^ L) 2]
  apply Nat.div_eq_of_lt_le
  · rw [nodeOf_eq, e1]
    generalize 2 ^ L = p at *; generalize k * p = q at *; omega
  · rw [nodeOf_eq, e2]
    generalize 2 ^ L = p at *; generalize k * p = q at *; omega

/-- the parent step: add the span for an even index, subtract it for an odd one -/
theorem nodeOf_parent (k L : Nat) :
    (if k % 2 = 0 then Spec.nodeOf k L + 2 ^ L else Spec.nodeOf k L - 2 ^ L)
      = Spec.nodeOf (k / 2) (L + 1) := by
  rcases Nat.mod_two_eq_zero_or_one k with h | h
  · obtain ⟨j, rfl⟩ : ∃ j, k = 2 * j := ⟨k / 2, by omega⟩
    have h1 := two_pow_le_nodeOf_add_one j (L + 1)
    have h2 := two_pow_pos' L
    rw [Nat.pow_succ] at h1
    rw [if_pos h, Nat.mul_div_cancel_left j (by decide : 0 < 2), ← nodeOf_sub_half,
      Nat.sub_add_cancel (by omega)]
  · obtain ⟨j, rfl⟩ : ∃ j, k = 2 * j + 1 := ⟨k / 2, by omega⟩
    rw [if_neg (by omega), show (2 * j + 1) / 2 = j by omega, ← nodeOf_add_half, Nat.add_sub_cancel]

/-- no overflow in `parent`: the parent of a `u64` id of level `< 63` is a `u64` id -/
theorem nodeOf_parent_lt {k L : Nat} (h : Spec.nodeOf k L < 2 ^ 64) (hL : L < 63) :
    Spec.nodeOf (k / 2) (L + 1) < 2 ^ 64 := by
  have h1 : (2 * k + 1) * 2 ^ L ≤ 2 ^ 64 := by rw [← nodeOf_succ']; exact h
  have h2 := odd_mul_pow_bound h1 (Nat.lt_trans hL (by decide)) (by omega)
  have h3 : Spec.nodeOf (k / 2) (L + 1) + 1 ≤ (2 * k + 1 + 1) * 2 ^ L := by
    rw [nodeOf_succ', Nat.pow_succ', ← Nat.mul_assoc]
    exact Nat.mul_le_mul_right _ (by omega)
  exact Nat.lt_of_succ_le (Nat.le_trans h3 h2)

/-- no overflow in `right_child`: for an id other than `u64::MAX` the right child is a `u64` id -/
theorem nodeOf_right_lt {k L : Nat} (h : Spec.nodeOf k (L + 1) + 1 < 2 ^ 64) :
    Spec.nodeOf (2 * k + 1) L < 2 ^ 64 := by
  have hL := level_lt_of_succ_lt h
  have h1 : (2 * k + 1) * 2 ^ (L + 1) ≤ 2 ^ 64 := by rw [← nodeOf_succ']; exact Nat.le_of_lt h
  have h2 := odd_mul_pow_bound h1 hL (by omega)
  have h3 : Spec.nodeOf (2 * k + 1) L + 1 ≤ (2 * k + 1 + 1) * 2 ^ (L + 1) := by
    have e : (2 * k + 1 + 1) * 2 ^ (L + 1) = ((2 * k + 1 + 1) * 2) * 2 ^ L := by
      rw [Nat.pow_succ', Nat.mul_assoc]
    rw [nodeOf_succ', e]
    exact Nat.mul_le_mul_right _ (by omega)
  exact Nat.lt_of_succ_le (Nat.le_trans h3 h2)

theorem nodeOf_lt_succ_lt {k L : Nat} (h : Spec.nodeOf k L < 2 ^ 64) (hL : L < 64) :
    Spec.nodeOf k L + 1 < 2 ^ 64 := by
  have h1 : Spec.nodeOf k L + 1 ≠ 2 ^ 64 := by
    intro e
    rw [nodeOf_succ'] at e
    have : (2 * k + 1) * 2 ^ L = (2 * 0 + 1) * 2 ^ 64 := by rw [e]
    have := (odd_pow_inj this).2
    omega
  omega

theorem nodeOf_mid_sub (k L : Nat) : Spec.nodeOf k L + 1 - 2 ^ L = Spec.startOf k L := by
  rw [nodeOf_succ, startOf_eq]; omega

theorem nodeOf_mid_add (k L : Nat) : Spec.nodeOf k L + 1 + 2 ^ L = Spec.endOf k L := by
  rw [nodeOf_succ, endOf_eq]; omega

theorem nodeOf_add_span (k L : Nat) :
    Spec.nodeOf k L + 2 ^ L = Spec.startOf k L + 2 ^ (L + 1) - 1 := by
  apply Nat.eq_sub_of_add_eq
  rw [Nat.add_right_comm, nodeOf_succ, startOf_eq, Nat.pow_succ, Nat.mul_two, Nat.add_assoc]

theorem startOf_left (k L : Nat) : Spec.startOf (2 * k) L = Spec.startOf k (L + 1) := by
  rw [startOf_eq, startOf_eq, Nat.pow_succ, ← Nat.mul_assoc k, Nat.mul_assoc 2 k, Nat.mul_comm _ 2]

theorem endOf_left (k L : Nat) : Spec.endOf (2 * k) L = Spec.midOf k (L + 1) := by
  rw [endOf_eq, midOf_eq, Nat.pow_succ, ← Nat.mul_assoc k, Nat.mul_assoc 2 k, Nat.mul_comm _ 2,
    Nat.mul_comm (2 ^ L) 2]

theorem startOf_right (k L : Nat) : Spec.startOf (2 * k + 1) L = Spec.midOf k (L + 1) := by
  rw [startOf_eq, midOf_eq, Nat.pow_succ, ← Nat.mul_assoc k, Nat.add_mul, Nat.mul_assoc 2 k,
    Nat.one_mul, Nat.mul_comm (k * 2 ^ L) 2, Nat.mul_comm (2 ^ L) 2]
  omega

theorem endOf_right (k L : Nat) : Spec.endOf (2 * k + 1) L = Spec.endOf k (L + 1) := by
  rw [endOf_eq, endOf_eq, Nat.pow_succ, ← Nat.mul_assoc k, Nat.add_mul, Nat.mul_assoc 2 k,
    Nat.one_mul, Nat.mul_comm (k * 2 ^ L) 2, Nat.mul_comm (2 ^ L) 2]
  omega

theorem postNodes_range (n L k : Nat) :
    ∀ y ∈ Spec.postNodes n 0 L k, Spec.startOf k L ≤ y ∧ y + 1 < Spec.startOf k L + 2 ^ (L + 1) := by
  induction L generalizing k with
  | zero =>
    intro y hy
    simp only [Spec.postNodes] at hy
    split at hy
    · obtain rfl := List.mem_singleton.mp hy
      simp [Spec.nodeOf, Spec.startOf]; omega
    · simp at hy
  | succ m ih =>
    intro y hy
    have hq := two_pow_pos' (m + 1)
    have e3 : (2 : Nat) ^ (m + 1 + 1) = 2 ^ (m + 1) + 2 ^ (m + 1) := by rw [Nat.pow_succ, Nat.mul_two]
    have e4 : Spec.nodeOf k (m + 1) + 1 = Spec.startOf k (m + 1) + 2 ^ (m + 1) := by
      rw [nodeOf_succ, startOf_eq]
    -- the left child starts where the node starts and ends inside it
    have hleft : y ∈ Spec.postNodes n 0 m (2 * k) →
        Spec.startOf k (m + 1) ≤ y ∧ y + 1 < Spec.startOf k (m + 1) + 2 ^ (m + 1 + 1) := by
      intro hy
      have := ih (2 * k) y hy
      rw [startOf_left] at this
      exact ⟨this.1, Nat.lt_of_lt_of_le this.2 (e3 ▸ Nat.add_le_add_left (Nat.le_add_right _ _) _)⟩
    simp only [Spec.postNodes] at hy
    split at hy
    · simp only [List.mem_append, ge_iff_le, Nat.zero_le, if_true, List.mem_singleton] at hy
      rcases hy with (hy | hy) | hy
      · exact hleft hy
      · have := ih (2 * k + 1) y hy
        rw [startOf_right, show Spec.midOf k (m + 1) = Spec.startOf k (m + 1) + 2 ^ (m + 1) from rfl,
          Nat.add_assoc, ← e3] at this
        exact ⟨Nat.le_trans (Nat.le_add_right _ _) this.1, this.2⟩
      · subst hy
        rw [e4, e3, ← Nat.add_assoc]
        exact ⟨Nat.le_of_lt_succ (by rw [Nat.succ_eq_add_one, e4]; exact Nat.lt_add_of_pos_right hq),
          Nat.lt_add_of_pos_right hq⟩
    · exact hleft hy

theorem startOf_lt_midOf (k L : Nat) : Spec.startOf k L < Spec.midOf k L := by
  have hp := two_pow_pos' L
  rw [startOf_eq, midOf_eq]; omega

theorem midOf_lt_endOf (k L : Nat) : Spec.midOf k L < Spec.endOf k L := by
  have hp := two_pow_pos' L
  rw [endOf_eq, midOf_eq]; omega

theorem startOf_eq_zero_iff (k L : Nat) : Spec.startOf k L = 0 ↔ k = 0 := by
  have hp := two_pow_pos' (L + 1)
  unfold Spec.startOf
  constructor
  · intro h
    rcases Nat.mul_eq_zero.mp h with h | h <;> omega
  · intro h; simp [h]

/-- the start chunk, minus one, of a node with index `(2k'+1)·2^j` is the id of its
nearest ancestor that has the node in its right subtree -/
theorem startOf_pred_eq (k' j L : Nat) :
    Spec.startOf ((2 * k' + 1) * 2 ^ j) L - 1 = Spec.nodeOf k' (L + j + 1) := by
  unfold Spec.startOf Spec.nodeOf
  rw [Nat.mul_assoc, ← Nat.pow_add]
  congr 3; omega

theorem nodeOf_split (k L n : Nat) (h : n ≤ L) :
    Spec.nodeOf k L = (2 ^ n - 1) + Spec.nodeOf k (L - n) * 2 ^ n := by
  have hp := two_pow_pos' n
  have e : (Spec.nodeOf k (L - n) + 1) * 2 ^ n = Spec.nodeOf k L + 1 := by
    rw [nodeOf_succ', nodeOf_succ', Nat.mul_assoc, ← Nat.pow_add]
    congr 2; omega
  rw [Nat.add_mul, Nat.one_mul] at e
  omega

theorem nodeOf_mod_pow (k L n : Nat) (h : n ≤ L) : Spec.nodeOf k L % 2 ^ n = 2 ^ n - 1 := by
  have hp := two_pow_pos' n
  rw [nodeOf_split k L n h, Nat.add_mul_mod_self_right, Nat.mod_eq_of_lt (by omega)]

theorem nodeOf_div_pow (k L n : Nat) (h : n ≤ L) :
    Spec.nodeOf k L / 2 ^ n = Spec.nodeOf k (L - n) := by
  have hp := two_pow_pos' n
  rw [nodeOf_split k L n h, Nat.add_mul_div_right _ _ hp, Nat.div_eq_of_lt (by omega)]
  omega

theorem nodeOf_testBit_level (k L : Nat) : (Spec.nodeOf k L).testBit L = false := by
  have hp := two_pow_pos' L
  have h2 : (2 : Nat) ^ L - 1 < 2 ^ (L + 1) := by rw [Nat.pow_succ]; omega
  rw [nodeOf_layout, Nat.testBit_two_pow_mul_add k h2, Nat.testBit_two_pow_sub_one]
  simp

theorem nodeOf_mod_pow_ne (k L n : Nat) (h : L < n) : Spec.nodeOf k L % 2 ^ n ≠ 2 ^ n - 1 := by
  intro e
  have := congrArg (fun z => z.testBit L) e
  simp only [Nat.testBit_mod_two_pow, Nat.testBit_two_pow_sub_one, nodeOf_testBit_level] at this
  simp [h] at this

theorem ancestor_start_le (k L j : Nat) :
    Spec.startOf (k / 2 ^ j) (L + j) ≤ Spec.startOf k L := by
  unfold Spec.startOf
  have e : 2 ^ (L + j + 1) = 2 ^ j * 2 ^ (L + 1) := by
    rw [← Nat.pow_add]; congr 1; omega
  rw [e, ← Nat.mul_assoc]
  exact Nat.mul_le_mul_right _ (Nat.div_mul_le_self k (2 ^ j))

theorem ancestor_end_le (k L j : Nat) :
    Spec.endOf k L ≤ Spec.endOf (k / 2 ^ j) (L + j) := by
  unfold Spec.endOf
  have e : 2 ^ (L + j + 1) = 2 ^ j * 2 ^ (L + 1) := by
    rw [← Nat.pow_add]; congr 1; omega
  rw [e, ← Nat.mul_assoc]
  apply Nat.mul_le_mul_right
  have := Nat.lt_mul_div_succ k (two_pow_pos' j)
  rw [Nat.mul_comm]; omega

theorem descendant_start (k L j : Nat) (h : j ≤ L) :
    Spec.startOf (k * 2 ^ j) (L - j) = Spec.startOf k L := by
  unfold Spec.startOf
  rw [Nat.mul_assoc, ← Nat.pow_add]
  congr 2; omega

theorem descendant_end_le (k L j : Nat) (h : j ≤ L) :
    Spec.endOf (k * 2 ^ j) (L - j) ≤ Spec.endOf k L := by
  unfold Spec.endOf
  have e : 2 ^ (L + 1) = 2 ^ j * 2 ^ (L - j + 1) := by
    rw [← Nat.pow_add]; congr 1; omega
  rw [e, ← Nat.mul_assoc]
  apply Nat.mul_le_mul_right
  have := two_pow_pos' j
  rw [Nat.add_mul]; omega

end Bao.Bits
