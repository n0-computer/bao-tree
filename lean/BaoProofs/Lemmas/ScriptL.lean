import BaoModel.Script

/-!
# Lemmas for C11: exact reads over a fragmenting transport, and the decoder as a read-client
-/

namespace Bao.ScriptL

open Bao Bao.Script

theorem readExact_zero (s : List UInt8) : readExact s 0 = .ok ([], s) := by
  simp [readExact]

theorem readExact_nil_succ (n : Nat) : readExact [] (n + 1) = .error ⟨.unexpectedEof, false⟩ := by
  simp [readExact]

theorem readExact_append_le (b c : List UInt8) (n : Nat) (h : b.length ≤ n) :
    readExact (b ++ c) n =
      match readExact c (n - b.length) with
      | .ok (more, rest) => .ok (b ++ more, rest)
      | .error e => .error e := by
  unfold readExact
  by_cases h1 : n ≤ (b ++ c).length
  · have h2 : n - b.length ≤ c.length := by simp at h1; omega
    rw [if_pos h1, if_pos h2]
    simp only [List.take_append, List.drop_append]
    rw [List.take_of_length_le h, List.drop_of_length_le h]
    simp
  · have h2 : ¬ n - b.length ≤ c.length := by simp at h1; omega
    rw [if_neg h1, if_neg h2]

theorem readExact_append_lt (b c : List UInt8) (n : Nat) (h : n < b.length) :
    readExact (b ++ c) n = .ok (b.take n, b.drop n ++ c) := by
  unfold readExact
  have h1 : n ≤ (b ++ c).length := by simp; omega
  rw [if_pos h1]
  simp only [List.take_append, List.drop_append]
  have : n - b.length = 0 := by omega
  simp [this]

def flat (r : Except IoErr (List UInt8 × List Frag)) : Except IoErr (List UInt8 × List UInt8) :=
  match r with
  | .ok (b, fr) => .ok (b, concat fr)
  | .error e => .error e

theorem flat_readExactFrags (frags : List Frag) (n : Nat) :
    flat (readExactFrags frags n) = readExact (concat frags) n := by
  fun_induction readExactFrags frags n with
  | case1 frags => simp [flat, readExact_zero]
  | case2 n => simp [flat, concat, readExact_nil_succ]
  | case3 rest n ih => simpa [concat] using ih
  | case4 b rest n h more fr hr ih =>
    rw [concat, readExact_append_le b _ _ h, ← ih, hr]; rfl
  | case5 b rest n h e hr ih =>
    rw [concat, readExact_append_le b _ _ h, ← ih, hr]; rfl
  | case6 b rest n h =>
    rw [concat, readExact_append_lt b _ _ (by omega)]; rfl

theorem readExactFrags_ok {frags : List Frag} {n : Nat} {b : List UInt8} {fr : List Frag}
    (h : readExactFrags frags n = .ok (b, fr)) :
    readExact (concat frags) n = .ok (b, concat fr) := by
  rw [← flat_readExactFrags, h]; rfl

theorem readExactFrags_error {frags : List Frag} {n : Nat} {e : IoErr}
    (h : readExactFrags frags n = .error e) :
    readExact (concat frags) n = .error e := by
  rw [← flat_readExactFrags, h]; rfl

theorem readExact_ok_frags {frags : List Frag} {n : Nat} {b rest : List UInt8}
    (h : readExact (concat frags) n = .ok (b, rest)) :
    ∃ fr, readExactFrags frags n = .ok (b, fr) ∧ concat fr = rest := by
  rw [← flat_readExactFrags] at h
  cases h' : readExactFrags frags n with
  | error e => rw [h'] at h; simp [flat] at h
  | ok p =>
    obtain ⟨b', fr⟩ := p
    rw [h'] at h
    simp only [flat, Except.ok.injEq, Prod.mk.injEq] at h
    exact ⟨fr, by rw [h.1], h.2⟩

theorem readExact_error_frags {frags : List Frag} {n : Nat} {e : IoErr}
    (h : readExact (concat frags) n = .error e) :
    readExactFrags frags n = .error e := by
  rw [← flat_readExactFrags] at h
  cases h' : readExactFrags frags n with
  | error e' => rw [h'] at h; simpa [flat] using h
  | ok p => obtain ⟨b', fr⟩ := p; rw [h'] at h; simp [flat] at h

theorem runFrags_eq_runPlain {σ ρ : Type} (c : Client σ ρ) (fuel : Nat) (s : σ) (frags : List Frag) :
    runFrags c fuel s frags = runPlain c fuel s (concat frags) := by
  fun_induction runFrags c fuel s frags <;> simp_all +zetaDelta [runPlain]
  · rw [readExactFrags_ok ‹_›]
  · rw [readExactFrags_error ‹_›]; rfl

variable {H : Type}

/-- state of the decoder client: `Dec` without the stream (the transport owns the stream), plus the
loop state of `Dec.runAux` (remaining fuel, items so far in reverse) -/
inductive DSt (H : Type)
  | run (fuel : Nat) (iter : PrePartial) (stack : List H) (hash : H) (acc : List (Item H))
  | fin (acc : List (Item H)) (e : DecEnd)

/-- what `Dec.next` does with the 64 bytes of a parent item -/
def onParent (hf : HashFns H) [BEq H] (fl : Flavour) (fuel : Nat) (iter : PrePartial) (stack : List H)
    (hash : H) (acc : List (Item H)) (node : Nat) (isRoot left right : Bool) :
    Except IoErr (List UInt8) → DSt H
  | .error e => .fin acc (.err (DecodeError.maybeParentNotFound e node))
  | .ok buf =>
    let (l, r) := parsePair hf buf
    match stack with
    | [] => .fin acc .panic
    | parentHash :: stack =>
      let actual := hf.parentCv l r isRoot
      match fl with
      | .sync =>
        if parentHash != actual then .fin acc (.err (.parentHashMismatch node))
        else
          let stack := if right then r :: stack else stack
          let stack := if left then l :: stack else stack
          .run fuel iter stack hash (.parent node l r :: acc)
      | .fsm =>
        let stack := if right then r :: stack else stack
        let stack := if left then l :: stack else stack
        if parentHash != actual then .fin acc (.err (.parentHashMismatch node))
        else .run fuel iter stack hash (.parent node l r :: acc)

/-- what `Dec.next` does with the `size` bytes of a leaf item -/
def onLeaf (hf : HashFns H) [BEq H] (fuel : Nat) (iter : PrePartial) (stack : List H)
    (hash : H) (acc : List (Item H)) (start : Nat) (isRoot : Bool) :
    Except IoErr (List UInt8) → DSt H
  | .error e => .fin acc (.err (DecodeError.maybeLeafNotFound e start))
  | .ok buf =>
    match stack with
    | [] => .fin acc .panic
    | leafHash :: stack =>
      if leafHash != hashSubtree hf start buf isRoot then .fin acc (.err (.leafHashMismatch start))
      else .run fuel iter stack hash (.leaf (toBytes start) buf :: acc)

/-- the decoder loop (`Dec.runAux` over `Dec.next`) as a client that only issues exact reads:
64 bytes for a parent plan item, `size` bytes for a leaf plan item -/
def decClient (hf : HashFns H) [BEq H] (fl : Flavour) : Client (DSt H) (List (Item H) × DecEnd) where
  step
    | .fin acc e => .inl (acc.reverse, e)
    | .run 0 _ _ _ acc => .inl (acc.reverse, .panic)
    | .run (fuel + 1) iter stack hash acc =>
      match Response.next iter with
      | .done => .inl (acc.reverse, .done)
      | .panic => .inl (acc.reverse, .panic)
      | .item (.parent node isRoot left right _) iter' =>
        .inr (64, onParent hf fl fuel iter' stack hash acc node isRoot left right)
      | .item (.leaf start size isRoot _) iter' =>
        .inr (size, onLeaf hf fuel iter' stack hash acc start isRoot)

def DSt.ofDec (fuel : Nat) (d : Dec H) (acc : List (Item H)) : DSt H :=
  .run fuel d.iter d.stack d.hash acc

/-- the terminal is a failed stream read (the transport is then in an unspecified position) -/
def readFailed : DecEnd → Bool
  | .err (.parentNotFound _) => true
  | .err (.leafNotFound _) => true
  | .err (.io _) => true
  | _ => false

/-- the unread bytes reported by `Dec.runAux` are the transport position: clean end or hash
mismatch (on a failed read the transport position is unspecified; on a panic there is no value) -/
def restKept : DecEnd → Bool
  | .done => true
  | .err (.parentHashMismatch _) => true
  | .err (.leafHashMismatch _) => true
  | _ => false

theorem readExact_error_eq {s : List UInt8} {n : Nat} {e : IoErr} (h : readExact s n = .error e) :
    e = ⟨.unexpectedEof, false⟩ := by
  unfold readExact at h
  split at h
  · cases h
  · cases h; rfl

theorem runPlain_inl {σ ρ : Type} (c : Client σ ρ) (F : Nat) (s : σ) (bytes : List UInt8) (r : ρ)
    (h : c.step s = .inl r) : runPlain c (F + 1) s bytes = some (r, bytes) := by
  rw [runPlain, h]

theorem runPlain_ok {σ ρ : Type} (c : Client σ ρ) (F : Nat) (s : σ) (bytes : List UInt8) (n : Nat)
    (k : Except IoErr (List UInt8) → σ) (b rest : List UInt8)
    (h : c.step s = .inr (n, k)) (hr : readExact bytes n = .ok (b, rest)) :
    runPlain c (F + 1) s bytes = runPlain c F (k (.ok b)) rest := by
  rw [runPlain, h]; simp only; rw [hr]

theorem runPlain_error {σ ρ : Type} (c : Client σ ρ) (F : Nat) (s : σ) (bytes : List UInt8) (n : Nat)
    (k : Except IoErr (List UInt8) → σ) (e : IoErr)
    (h : c.step s = .inr (n, k)) (hr : readExact bytes n = .error e) :
    runPlain c (F + 1) s bytes = runPlain c F (k (.error e)) [] := by
  rw [runPlain, h]; simp only; rw [hr]

theorem runPlain_fin (hf : HashFns H) [BEq H] (fl : Flavour) (F : Nat) (acc : List (Item H))
    (e : DecEnd) (s : List UInt8) :
    runPlain (decClient hf fl) (F + 1) (.fin acc e) s = some ((acc.reverse, e), s) := rfl

theorem maybeParentNotFound_eof (node : Nat) :
    DecodeError.maybeParentNotFound ⟨.unexpectedEof, false⟩ node = .parentNotFound node := rfl

theorem maybeLeafNotFound_eof (c : Nat) :
    DecodeError.maybeLeafNotFound ⟨.unexpectedEof, false⟩ c = .leafNotFound c := rfl

def DSt.ofNext (f : Nat) (acc : List (Item H)) : DecNext H (Dec H) → DSt H
  | .item i d' => .ofDec f d' (i :: acc)
  | .err e _ => .fin acc (.err e)
  | .done _ => .fin acc .done
  | .panic => .fin acc .panic

/-- one step of `Dec.runAux` is one step of the client (none for `done` / `panic`, one exact read
otherwise); `bytes` is the transport afterwards: the decoder's unread stream, except after a failed read -/
theorem decClient_step (hf : HashFns H) [BEq H] (fl : Flavour) (f F : Nat) (d : Dec H)
    (acc : List (Item H)) :
    ∃ bytes, runPlain (decClient hf fl) (F + 2) (DSt.ofDec (f + 1) d acc) d.encoded =
        runPlain (decClient hf fl) (F + 1) (DSt.ofNext f acc (d.next hf fl)) bytes ∧
      match d.next hf fl with
      | .item _ d' => bytes = d'.encoded
      | .err e d' => (restKept (.err e) = true → bytes = d'.encoded) ∧
          (readFailed (.err e) = true → bytes = [])
      | .done d' => bytes = d'.encoded
      | .panic => True := by
  cases hn : Response.next d.iter with
  | done =>
    refine ⟨d.encoded, ?_⟩
    cases fl <;> simp [runPlain, decClient, DSt.ofDec, DSt.ofNext, Dec.next, Dec.nextSync, Dec.nextFsm, hn]
  | panic =>
    refine ⟨d.encoded, ?_⟩
    cases fl <;> simp [runPlain, decClient, DSt.ofDec, DSt.ofNext, Dec.next, Dec.nextSync, Dec.nextFsm, hn]
  | item c iter' =>
    cases c with
    | parent node isRoot left right rs =>
      have hstep : (decClient hf fl).step (DSt.ofDec (f + 1) d acc) =
          .inr (64, onParent hf fl f iter' d.stack d.hash acc node isRoot left right) := by
        simp [decClient, DSt.ofDec, hn]
      cases hr : readExact d.encoded 64 with
      | error e =>
        have := readExact_error_eq hr; subst this
        refine ⟨[], ?_⟩
        rw [runPlain_error _ _ _ _ _ _ _ hstep hr]
        cases fl <;> simp [Dec.next, Dec.nextSync, Dec.nextFsm, hn, hr, onParent, DSt.ofNext, restKept,
          maybeParentNotFound_eof]
      | ok p =>
        obtain ⟨buf, rest⟩ := p
        refine ⟨rest, ?_⟩
        rw [runPlain_ok _ _ _ _ _ _ _ _ hstep hr]
        cases hst : d.stack with
        | nil => cases fl <;> simp [Dec.next, Dec.nextSync, Dec.nextFsm, hn, hr, hst, onParent, DSt.ofNext]
        | cons ph st =>
          by_cases hm : (ph != hf.parentCv (parsePair hf buf).1 (parsePair hf buf).2 isRoot) = true
          · cases fl <;> simp [Dec.next, Dec.nextSync, Dec.nextFsm, hn, hr, hst, onParent, DSt.ofNext, hm,
              readFailed]
          · cases fl <;> simp [Dec.next, Dec.nextSync, Dec.nextFsm, hn, hr, hst, onParent, DSt.ofNext, hm,
              DSt.ofDec]
    | leaf start size isRoot rs =>
      have hstep : (decClient hf fl).step (DSt.ofDec (f + 1) d acc) =
          .inr (size, onLeaf hf f iter' d.stack d.hash acc start isRoot) := by
        simp [decClient, DSt.ofDec, hn]
      cases hr : readExact d.encoded size with
      | error e =>
        have := readExact_error_eq hr; subst this
        refine ⟨[], ?_⟩
        rw [runPlain_error _ _ _ _ _ _ _ hstep hr]
        cases fl <;> simp [Dec.next, Dec.nextSync, Dec.nextFsm, hn, hr, onLeaf, DSt.ofNext, restKept,
          maybeLeafNotFound_eof]
      | ok p =>
        obtain ⟨buf, rest⟩ := p
        refine ⟨rest, ?_⟩
        rw [runPlain_ok _ _ _ _ _ _ _ _ hstep hr]
        cases hst : d.stack with
        | nil => cases fl <;> simp [Dec.next, Dec.nextSync, Dec.nextFsm, hn, hr, hst, onLeaf, DSt.ofNext]
        | cons lh st =>
          by_cases hm : (lh != hashSubtree hf start buf isRoot) = true
          · cases fl <;> simp [Dec.next, Dec.nextSync, Dec.nextFsm, hn, hr, hst, onLeaf, DSt.ofNext, hm,
              readFailed]
          · cases fl <;> simp [Dec.next, Dec.nextSync, Dec.nextFsm, hn, hr, hst, onLeaf, DSt.ofNext, hm,
              DSt.ofDec]

/-- the client computes `Dec.runAux`.  Fuel: one client step per decoder step and one in which `.fin`
returns the result; `f + 2 ≤ F` is what the uniform shape of `decClient_step` (`F + 2` to `F + 1`) needs -/
theorem runPlain_decClient (hf : HashFns H) [BEq H] (fl : Flavour) (f F : Nat) (hF : f + 2 ≤ F)
    (d : Dec H) (acc : List (Item H)) :
    ∃ rest', runPlain (decClient hf fl) F (DSt.ofDec f d acc) d.encoded =
        some ((acc.reverse ++ (Dec.runAux hf fl f d).items, (Dec.runAux hf fl f d).terminal), rest') ∧
      (restKept (Dec.runAux hf fl f d).terminal = true → rest' = (Dec.runAux hf fl f d).rest) ∧
      (readFailed (Dec.runAux hf fl f d).terminal = true → rest' = []) := by
  induction f generalizing F d acc with
  | zero =>
    obtain ⟨F, rfl⟩ : ∃ F', F = F' + 1 := ⟨F - 1, by omega⟩
    exact ⟨d.encoded, by simp [runPlain, decClient, DSt.ofDec, Dec.runAux], by simp [Dec.runAux, restKept],
      by simp [Dec.runAux, readFailed]⟩
  | succ f ih =>
    obtain ⟨F, rfl⟩ : ∃ F', F = F' + 2 := ⟨F - 2, by omega⟩
    obtain ⟨bytes, hstep, hb⟩ := decClient_step hf fl f F d acc
    rw [hstep, Dec.runAux]
    cases hn : d.next hf fl with
    | item i d' =>
      rw [hn] at hb
      subst hb
      obtain ⟨rest', h1, h2, h3⟩ := ih (F + 1) (by omega) d' (i :: acc)
      exact ⟨rest', by rw [DSt.ofNext, h1]; simp, h2, h3⟩
    | err e d' =>
      rw [hn] at hb
      exact ⟨bytes, by rw [DSt.ofNext, runPlain_fin]; simp, hb.1, hb.2⟩
    | done d' =>
      rw [hn] at hb
      exact ⟨bytes, by rw [DSt.ofNext, runPlain_fin]; simp, fun _ => hb, fun h => by cases h⟩
    | panic =>
      exact ⟨bytes, by rw [DSt.ofNext, runPlain_fin]; simp, by simp [restKept], by simp [readFailed]⟩

variable {σ : Type}

/-- the common shape of `outboardLoop` and `outboardPostOrderLoop`: `par` is what is done for a
parent item (no read), a leaf item reads `size` bytes of the data source -/
def obLoopG (hf : HashFns H) (par : Nat → Bool → List H → σ → Sum (ObRun H σ) (List H × σ)) :
    List Chunk → List H → List UInt8 → σ → ObRun H σ
  | [], stack, _, sink =>
    match stack with
    | [h] => ⟨.ok h, sink⟩
    | _ => ⟨.panic, sink⟩
  | .parent node isRoot _ _ _ :: plan, stack, data, sink =>
    match par node isRoot stack sink with
    | .inl r => r
    | .inr (stack', sink') => obLoopG hf par plan stack' data sink'
  | .leaf start size isRoot _ :: plan, stack, data, sink =>
    match readExact data size with
    | .error e => ⟨.err e, sink⟩
    | .ok (buf, rest) => obLoopG hf par plan (hashSubtree hf start buf isRoot :: stack) rest sink

/-- parent step of `outboard_impl`: save the pair -/
def parOb (hf : HashFns H) (node : Nat) (isRoot : Bool) (stack : List H) (ob : Store H) :
    Sum (ObRun H (Store H)) (List H × Store H) :=
  match stack with
  | r :: l :: stack =>
    match ob.save hf node (l, r) with
    | .err e => .inl ⟨.err e, ob⟩
    | .panic => .inl ⟨.panic, ob⟩
    | .ok ob' => .inr (hf.parentCv l r isRoot :: stack, ob')
  | _ => .inl ⟨.panic, ob⟩

/-- parent step of `outboard_post_order_impl`: append the pair -/
def parPo (hf : HashFns H) (_node : Nat) (isRoot : Bool) (stack : List H) (out : List UInt8) :
    Sum (ObRun H (List UInt8)) (List H × List UInt8) :=
  match stack with
  | r :: l :: stack => .inr (hf.parentCv l r isRoot :: stack, out ++ hf.toBytes l ++ hf.toBytes r)
  | _ => .inl ⟨.panic, out⟩

theorem outboardLoop_eq (hf : HashFns H) (plan : List Chunk) (stack : List H) (data : List UInt8)
    (ob : Store H) : outboardLoop hf plan stack data ob = obLoopG hf (parOb hf) plan stack data ob := by
  fun_induction outboardLoop hf plan stack data ob <;> simp_all [obLoopG, parOb]

theorem outboardPostOrderLoop_eq (hf : HashFns H) (plan : List Chunk) (stack : List H)
    (data out : List UInt8) :
    outboardPostOrderLoop hf plan stack data out = obLoopG hf (parPo hf) plan stack data out := by
  fun_induction outboardPostOrderLoop hf plan stack data out <;> simp_all [obLoopG, parPo]

inductive OSt (H σ : Type)
  | run (plan : List Chunk) (stack : List H) (sink : σ)
  | fin (r : ObRun H σ)

/-- outboard creation as a client: `size` bytes per leaf item; a parent item reads nothing (a read
of 0 bytes, which does not touch the transport) -/
def obClient (hf : HashFns H) (par : Nat → Bool → List H → σ → Sum (ObRun H σ) (List H × σ)) :
    Client (OSt H σ) (ObRun H σ) where
  step
    | .fin r => .inl r
    | .run [] stack sink =>
      .inl (match stack with
        | [h] => ⟨.ok h, sink⟩
        | _ => ⟨.panic, sink⟩)
    | .run (.parent node isRoot _ _ _ :: plan) stack sink =>
      match par node isRoot stack sink with
      | .inl r => .inl r
      | .inr (stack', sink') => .inr (0, fun _ => .run plan stack' sink')
    | .run (.leaf start size isRoot _ :: plan) stack sink =>
      .inr (size, fun
        | .error e => .fin ⟨.err e, sink⟩
        | .ok buf => .run plan (hashSubtree hf start buf isRoot :: stack) sink)

theorem runPlain_obClient (hf : HashFns H)
    (par : Nat → Bool → List H → σ → Sum (ObRun H σ) (List H × σ)) (plan : List Chunk) (F : Nat)
    (hF : plan.length + 2 ≤ F) (stack : List H) (data : List UInt8) (sink : σ) :
    ∃ rest', runPlain (obClient hf par) F (.run plan stack sink) data =
      some (obLoopG hf par plan stack data sink, rest') := by
  induction plan generalizing F stack data sink with
  | nil =>
    obtain ⟨F, rfl⟩ : ∃ F', F = F' + 1 := ⟨F - 1, by omega⟩
    exact ⟨data, by rw [runPlain_inl _ _ _ _ _ rfl]; simp [obLoopG]⟩
  | cons c plan ih =>
    obtain ⟨F, rfl⟩ : ∃ F', F = F' + 2 := ⟨F - 2, by simp at hF; omega⟩
    have hF' : plan.length + 2 ≤ F + 1 := by simp at hF; omega
    cases c with
    | parent node isRoot left right rs =>
      cases hp : par node isRoot stack sink with
      | inl r =>
        exact ⟨data, by rw [runPlain_inl _ _ _ _ r (by simp [obClient, hp])]; simp [obLoopG, hp]⟩
      | inr q =>
        obtain ⟨stack', sink'⟩ := q
        obtain ⟨rest', h⟩ := ih (F + 1) hF' stack' data sink'
        refine ⟨rest', ?_⟩
        rw [runPlain_ok _ _ _ _ 0 (fun _ => .run plan stack' sink') [] data
          (by simp [obClient, hp]) (readExact_zero data)]
        simp only [obLoopG, hp]
        exact h
    | leaf start size isRoot rs =>
      have hstep : (obClient hf par).step (.run (.leaf start size isRoot rs :: plan) stack sink) =
          .inr (size, fun
            | .error e => .fin ⟨.err e, sink⟩
            | .ok buf => .run plan (hashSubtree hf start buf isRoot :: stack) sink) := rfl
      cases hr : readExact data size with
      | error e =>
        refine ⟨[], ?_⟩
        rw [runPlain_error _ _ _ _ _ _ _ hstep hr]
        simp only [obLoopG, hr]
        rfl
      | ok q =>
        obtain ⟨buf, rest⟩ := q
        obtain ⟨rest', h⟩ := ih (F + 1) hF' (hashSubtree hf start buf isRoot :: stack) rest sink
        refine ⟨rest', ?_⟩
        rw [runPlain_ok _ _ _ _ _ _ _ _ hstep hr]
        simp only [obLoopG, hr]
        exact h

end Bao.ScriptL
