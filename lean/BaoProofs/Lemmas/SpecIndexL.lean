import BaoProofs.Props.C12Store
import BaoProofs.Lemmas.SpecIndexStr
import BaoProofs.Props.C13
import BaoModel.Ops5

/-!
# Lemmas for `Props/C12SpecIndex.lean`: the counting indices `Spec.preIndex` / `Spec.postIndex`

* `countLevel` / `countSub`: `countSub n minL L k` is the length of `preNodes n minL L k`
  (and of `postNodes n minL L k`): `countSub_eq_length`, `countSub_eq_length_post`.
* `preIndexAux` / `postIndexAux` walk down from `(k, Lx + d)` to `(kx, Lx)`; when they answer
  `some r`, `r - idx` is a position of `nodeOf kx Lx` in `preNodes` / `postNodes`
  (`preIndexAux_some`, `postIndexAux_some`); for an existing node of level `≥ minL` inside the
  subtree they do answer (`auxOf_isSome`, for both orders at once: `auxOf`, `nodesOf`, `indexIn`).
* top level: `preIndex_spec`, `postIndex_spec` (a sound and complete answer for a list without
  repetitions is the position: `index_iff`, with the C12 injectivity); `indexOfNode_eq`.
* the nodes the verdicts call "of the tree": `inTree_cases`; `pre_model`, `post_model` (model offset =
  counting index, with the stable tag), `slot_model`, `relevant_model`.
* stores: `store_some`, `store_some_empty`, `store_none` (any hash instance).
* `treeoff` strings: `specTok`, `modelTok`, `treeoffVerdict`, `opTreeOff_eq`, `tok_eq`, `bads_nil`.
* `store` strings: `storeModelStr`, `storeVerdict`, `opStore_eq`, `verdict_some/none`,
  `model_some/none`, `randBytes_length`.
* tokens: no token contains a space (`noSp_modelTok`, `noSp_specTok`, `noSp_storeTokens`), so
  `splitOn " "` (`Lemmas/SpecIndexStr.lean`) recovers them: `treeoff_split_model`, `treeoff_split_spec`,
  `split_fmt5`; `storeTokens`.
-/

namespace Bao.SpecIndex
open Bao Bao.Spec Bao.Bits Bao.Offsets

theorem lt_ceil_div_iff (a b k : Nat) (hb : 0 < b) : k < (a + b - 1) / b ↔ k * b < a := by
  rw [Nat.lt_iff_add_one_le, Nat.le_div_iff_mul_le hb, Nat.add_mul, Nat.one_mul]
  omega

/-- `k` is below the ceiling bound of `countLevel` iff `midOf k L < n` -/
theorem lt_lim_iff (n L k : Nat) (h : ¬ n ≤ 2 ^ L) :
    k < (n - 2 ^ L + 2 ^ (L + 1) - 1) / 2 ^ (L + 1) ↔ midOf k L < n := by
  rw [lt_ceil_div_iff _ _ _ (two_pow_pos' _)]
  unfold midOf
  omega

theorem countLevel_single (n L k : Nat) :
    countLevel n L k (k + 1) = if midOf k L < n then 1 else 0 := by
  unfold countLevel
  by_cases h : n ≤ 2 ^ L
  · have : ¬ midOf k L < n := by unfold midOf; omega
    rw [if_pos h, if_neg this]
  · rw [if_neg h]
    have := lt_lim_iff n L k h
    simp only
    generalize (n - 2 ^ L + 2 ^ (L + 1) - 1) / 2 ^ (L + 1) = lim at *
    by_cases hm : midOf k L < n
    · rw [if_pos hm]; have := this.2 hm; omega
    · rw [if_neg hm]; have := mt this.1 hm; omega

theorem countLevel_add (n L lo mid hi : Nat) (h1 : lo ≤ mid) (h2 : mid ≤ hi) :
    countLevel n L lo hi = countLevel n L lo mid + countLevel n L mid hi := by
  unfold countLevel
  by_cases h : n ≤ 2 ^ L
  · simp only [if_pos h]
  · simp only [if_neg h]
    generalize (n - 2 ^ L + 2 ^ (L + 1) - 1) / 2 ^ (L + 1) = lim
    omega

/-- the contribution of level `L'` to `countSub n minL L k` -/
def term (n minL L k L' : Nat) : Nat :=
  if L' ≥ minL then countLevel n L' (k * 2 ^ (L - L')) ((k + 1) * 2 ^ (L - L')) else 0

def csum (n minL L k : Nat) : Nat → Nat
  | 0 => 0
  | m + 1 => csum n minL L k m + term n minL L k m

theorem foldl_eq_csum (n minL L k m : Nat) :
    (List.range m).foldl (fun acc L' =>
      if L' ≥ minL then acc + countLevel n L' (k * 2 ^ (L - L')) ((k + 1) * 2 ^ (L - L')) else acc) 0
      = csum n minL L k m := by
  induction m with
  | zero => rfl
  | succ m ih =>
    rw [List.range_succ, List.foldl_append, ih]
    simp only [List.foldl_cons, List.foldl_nil, csum, term]
    split <;> rfl

theorem countSub_eq_csum (n minL L k : Nat) : countSub n minL L k = csum n minL L k (L + 1) :=
  foldl_eq_csum n minL L k (L + 1)

theorem term_split (n minL L k m : Nat) (hm : m ≤ L) :
    term n minL (L + 1) k m = term n minL L (2 * k) m + term n minL L (2 * k + 1) m := by
  unfold term
  by_cases h : m ≥ minL
  · simp only [if_pos h]
    have e : L + 1 - m = (L - m) + 1 := by omega
    rw [e, Nat.pow_succ]
    have hp := two_pow_pos' (L - m)
    generalize 2 ^ (L - m) = p at *
    have e1 : k * (p * 2) = 2 * k * p := by
      rw [Nat.mul_comm p 2, ← Nat.mul_assoc, Nat.mul_comm k 2]
    have e2 : (k + 1) * (p * 2) = (2 * k + 1 + 1) * p := by
      rw [Nat.mul_comm p 2, ← Nat.mul_assoc]; congr 1; omega
    rw [e1, e2]
    apply countLevel_add
    · exact Nat.mul_le_mul_right _ (by omega)
    · exact Nat.mul_le_mul_right _ (by omega)
  · simp only [if_neg h]

theorem csum_split (n minL L k m : Nat) (hm : m ≤ L + 1) :
    csum n minL (L + 1) k m = csum n minL L (2 * k) m + csum n minL L (2 * k + 1) m := by
  induction m with
  | zero => rfl
  | succ m ih =>
    simp only [csum, ih (by omega), term_split n minL L k m (by omega)]
    omega

theorem term_top (n minL L k : Nat) :
    term n minL L k L = if midOf k L < n ∧ L ≥ minL then 1 else 0 := by
  unfold term
  by_cases h : L ≥ minL
  · simp only [if_pos h, Nat.sub_self, Nat.pow_zero, Nat.mul_one, countLevel_single]
    by_cases hm : midOf k L < n
    · rw [if_pos hm, if_pos ⟨hm, h⟩]
    · rw [if_neg hm, if_neg (fun c => hm c.1)]
  · rw [if_neg h, if_neg (fun c => h c.2)]

theorem countSub_zero (n minL k : Nat) :
    countSub n minL 0 k = if midOf k 0 < n ∧ 0 ≥ minL then 1 else 0 := by
  rw [countSub_eq_csum]
  simp only [csum, term_top, Nat.zero_add]

theorem countSub_succ (n minL L k : Nat) :
    countSub n minL (L + 1) k
      = countSub n minL L (2 * k) + countSub n minL L (2 * k + 1)
        + (if midOf k (L + 1) < n ∧ L + 1 ≥ minL then 1 else 0) := by
  rw [countSub_eq_csum, countSub_eq_csum, countSub_eq_csum]
  show csum n minL (L + 1) k (L + 1) + term n minL (L + 1) k (L + 1) = _
  rw [csum_split n minL L k (L + 1) (Nat.le_refl _), term_top]

theorem preNodes_nil_of_start (n minL L k : Nat) (h : n ≤ startOf k L) :
    preNodes n minL L k = [] := by
  induction L generalizing k with
  | zero =>
    have := startOf_lt_midOf k 0
    have hm : ¬ (midOf k 0 < n ∧ 0 ≥ minL) := by omega
    simp only [preNodes, if_neg hm]
  | succ L ih =>
    have := startOf_lt_midOf k (L + 1)
    have hm : ¬ midOf k (L + 1) < n := by omega
    simp only [preNodes, if_neg hm]
    exact ih _ (by rw [Bits.startOf_left]; exact h)

theorem postNodes_length (n minL L k : Nat) :
    (postNodes n minL L k).length = (preNodes n minL L k).length := by
  induction L generalizing k with
  | zero => rfl
  | succ L ih =>
    simp only [postNodes, preNodes]
    split
    · simp only [List.length_append, ih]; omega
    · exact ih _

theorem postNodes_nil_of_start (n minL L k : Nat) (h : n ≤ startOf k L) :
    postNodes n minL L k = [] :=
  List.eq_nil_of_length_eq_zero (by rw [postNodes_length, preNodes_nil_of_start n minL L k h]; rfl)

/-- the node `(k, L)` itself, if it exists and is of level `≥ minL` -/
def here (n minL L k : Nat) : List Nat := if midOf k L < n ∧ L ≥ minL then [nodeOf k L] else []

theorem here_length (n minL L k : Nat) :
    (here n minL L k).length = if midOf k L < n ∧ L ≥ minL then 1 else 0 := by
  unfold here
  split <;> rfl

/-- the pre-order list of a subtree: the node, the left half, the right half (empty when the node
does not exist, so the two cases of the definition have one shape) -/
theorem preNodes_succ (n minL L k : Nat) :
    preNodes n minL (L + 1) k
      = here n minL (L + 1) k ++ preNodes n minL L (2 * k) ++ preNodes n minL L (2 * k + 1) := by
  unfold here
  by_cases hm : midOf k (L + 1) < n
  · simp only [preNodes, hm, true_and, if_true]
  · rw [preNodes_nil_of_start n minL L (2 * k + 1) (by rw [Bits.startOf_right]; omega)]
    simp only [preNodes, hm, false_and, if_false, List.nil_append, List.append_nil]

theorem postNodes_succ (n minL L k : Nat) :
    postNodes n minL (L + 1) k
      = postNodes n minL L (2 * k) ++ postNodes n minL L (2 * k + 1) ++ here n minL (L + 1) k := by
  unfold here
  by_cases hm : midOf k (L + 1) < n
  · simp only [postNodes, hm, true_and, if_true]
  · rw [postNodes_nil_of_start n minL L (2 * k + 1) (by rw [Bits.startOf_right]; omega)]
    simp only [postNodes, hm, false_and, if_false, List.append_nil]

theorem countSub_eq_length (n minL L k : Nat) :
    countSub n minL L k = (preNodes n minL L k).length := by
  induction L generalizing k with
  | zero =>
    rw [countSub_zero]
    simp only [preNodes]
    split <;> rfl
  | succ L ih =>
    rw [countSub_succ, ih, ih, preNodes_succ, List.length_append, List.length_append, here_length]
    omega

theorem countSub_eq_length_post (n minL L k : Nat) :
    countSub n minL L k = (postNodes n minL L k).length := by
  rw [postNodes_length, countSub_eq_length]

theorem getElem?_mid {α : Type} (a l r : List α) (j : Nat) (x : α) (h : l[j]? = some x) :
    (a ++ l ++ r)[a.length + j]? = some x := by
  obtain ⟨hj, _⟩ := List.getElem?_eq_some_iff.1 h
  rw [List.append_assoc, List.getElem?_append_right (by omega), Nat.add_sub_cancel_left,
    List.getElem?_append_left hj, h]

theorem getElem?_right {α : Type} (a l r : List α) (j : Nat) :
    (a ++ l ++ r)[a.length + l.length + j]? = r[j]? := by
  rw [List.getElem?_append_right (by rw [List.length_append]; omega), List.length_append,
    Nat.add_sub_cancel_left]

theorem getElem?_left' {α : Type} (l r : List α) (j : Nat) (x : α) (h : l[j]? = some x) :
    (l ++ r)[j]? = some x := by
  obtain ⟨hj, _⟩ := List.getElem?_eq_some_iff.1 h
  rw [List.getElem?_append_left hj, h]

theorem preIndexAux_succ (n minL kx Lx d k idx : Nat) :
    preIndexAux n minL kx Lx (Lx + d + 1) k idx =
      if startOf kx Lx < midOf k (Lx + d + 1) then
        preIndexAux n minL kx Lx (Lx + d) (2 * k)
          (idx + (if midOf k (Lx + d + 1) < n ∧ Lx + d + 1 ≥ minL then 1 else 0))
      else preIndexAux n minL kx Lx (Lx + d) (2 * k + 1)
          (idx + (if midOf k (Lx + d + 1) < n ∧ Lx + d + 1 ≥ minL then 1 else 0)
            + countSub n minL (Lx + d) (2 * k)) := by
  rw [preIndexAux]
  rw [if_neg (by omega), if_neg (by omega)]

theorem preIndexAux_self (n minL kx Lx k idx : Nat) : preIndexAux n minL kx Lx Lx k idx =
    if k = kx ∧ midOf k Lx < n ∧ Lx ≥ minL then some idx else none := by
  rw [preIndexAux.eq_def]; simp only [if_true]

theorem postIndexAux_succ (n minL kx Lx d k idx : Nat) :
    postIndexAux n minL kx Lx (Lx + d + 1) k idx =
      if startOf kx Lx < midOf k (Lx + d + 1) then
        postIndexAux n minL kx Lx (Lx + d) (2 * k) idx
      else postIndexAux n minL kx Lx (Lx + d) (2 * k + 1)
          (idx + countSub n minL (Lx + d) (2 * k)) := by
  rw [postIndexAux]
  rw [if_neg (by omega), if_neg (by omega)]

theorem postIndexAux_self (n minL kx Lx k idx : Nat) : postIndexAux n minL kx Lx Lx k idx =
    if k = kx ∧ midOf k Lx < n ∧ Lx ≥ minL then some (idx + countSub n minL Lx k - 1)
    else none := by
  rw [postIndexAux.eq_def]; simp only [if_true]

/-- `(kx, Lx)` lies in the subtree `(k, Lx + d + 1)`: it lies in the left half iff its first chunk
is before the mid -/
theorem descend_cases (kx Lx d k : Nat) (h : kx / 2 ^ (d + 1) = k) :
    (startOf kx Lx < midOf k (Lx + d + 1) ∧ kx / 2 ^ d = 2 * k) ∨
    (¬ startOf kx Lx < midOf k (Lx + d + 1) ∧ kx / 2 ^ d = 2 * k + 1) := by
  have hq : kx / 2 ^ d / 2 = k := by rw [Nat.div_div_eq_div_mul, ← Nat.pow_succ]; exact h
  have hiff : startOf kx Lx < midOf k (Lx + d + 1) ↔ kx / 2 ^ d < 2 * k + 1 := by
    rw [Nat.div_lt_iff_lt_mul (two_pow_pos' d)]
    unfold startOf midOf
    have e1 : (2 : Nat) ^ (Lx + d + 1 + 1) = 2 * (2 ^ d * 2 ^ (Lx + 1)) := by
      rw [← Nat.pow_add, ← Nat.pow_succ']; congr 1; omega
    have e2 : (2 : Nat) ^ (Lx + d + 1) = 2 ^ d * 2 ^ (Lx + 1) := by
      rw [← Nat.pow_add]; congr 1; omega
    rw [e1, e2]
    have hp := two_pow_pos' (Lx + 1)
    generalize 2 ^ (Lx + 1) = p at *
    generalize 2 ^ d = e at *
    have e3 : k * (2 * (e * p)) + e * p = (2 * k + 1) * e * p := by grind
    rw [e3]
    exact Nat.mul_lt_mul_right hp
  omega

theorem preIndexAux_some (n minL kx Lx : Nat) : ∀ d k idx r, kx / 2 ^ d = k →
    preIndexAux n minL kx Lx (Lx + d) k idx = some r →
    ∃ j, r = idx + j ∧ (preNodes n minL (Lx + d) k)[j]? = some (nodeOf kx Lx) := by
  intro d
  induction d with
  | zero =>
    intro k idx r hk h
    rw [Nat.add_zero, preIndexAux_self] at h
    split at h
    · rename_i hc
      obtain ⟨rfl, hm, hl⟩ := hc
      injection h with h
      refine ⟨0, by omega, ?_⟩
      rw [Nat.add_zero]
      cases Lx with
      | zero => simp only [preNodes, if_pos (And.intro hm hl)]; rfl
      | succ L => rw [preNodes_succ, here, if_pos ⟨hm, hl⟩]; rfl
    · cases h
  | succ d ih =>
    intro k idx r hk h
    rw [← Nat.add_assoc, preIndexAux_succ] at h
    rw [← Nat.add_assoc, preNodes_succ]
    have hl := here_length n minL (Lx + d + 1) k
    rcases descend_cases kx Lx d k hk with ⟨hlt, hq⟩ | ⟨hlt, hq⟩
    · rw [if_pos hlt] at h
      obtain ⟨j, hr, hj⟩ := ih _ _ _ hq h
      exact ⟨(here n minL (Lx + d + 1) k).length + j, by omega, getElem?_mid _ _ _ _ _ hj⟩
    · rw [if_neg hlt] at h
      obtain ⟨j, hr, hj⟩ := ih _ _ _ hq h
      rw [countSub_eq_length] at hr
      exact ⟨(here n minL (Lx + d + 1) k).length + (preNodes n minL (Lx + d) (2 * k)).length + j,
        by omega, (getElem?_right _ _ _ _).trans hj⟩

theorem postNodes_last (n minL L k : Nat) (hm : midOf k L < n) (hl : L ≥ minL) :
    ∃ l, postNodes n minL L k = l ++ [nodeOf k L] := by
  cases L with
  | zero => exact ⟨[], by simp only [postNodes, if_pos (And.intro hm hl)]; rfl⟩
  | succ L => exact ⟨_, by rw [postNodes_succ, here, if_pos ⟨hm, hl⟩]⟩

theorem postIndexAux_some (n minL kx Lx : Nat) : ∀ d k idx r, kx / 2 ^ d = k →
    postIndexAux n minL kx Lx (Lx + d) k idx = some r →
    ∃ j, r = idx + j ∧ (postNodes n minL (Lx + d) k)[j]? = some (nodeOf kx Lx) := by
  intro d
  induction d with
  | zero =>
    intro k idx r hk h
    rw [Nat.add_zero, postIndexAux_self] at h
    split at h
    · rename_i hc
      obtain ⟨rfl, hm, hl⟩ := hc
      injection h with h
      obtain ⟨l, hl'⟩ := postNodes_last n minL Lx k hm hl
      rw [countSub_eq_length_post, hl', List.length_append, List.length_singleton] at h
      refine ⟨l.length, by omega, ?_⟩
      rw [Nat.add_zero, hl']
      simp
    · cases h
  | succ d ih =>
    intro k idx r hk h
    rw [← Nat.add_assoc, postIndexAux_succ] at h
    rw [← Nat.add_assoc, postNodes_succ, List.append_assoc]
    rcases descend_cases kx Lx d k hk with ⟨hlt, hq⟩ | ⟨hlt, hq⟩
    · rw [if_pos hlt] at h
      obtain ⟨j, hr, hj⟩ := ih _ _ _ hq h
      exact ⟨j, hr, getElem?_left' _ _ _ _ hj⟩
    · rw [if_neg hlt] at h
      obtain ⟨j, hr, hj⟩ := ih _ _ _ hq h
      rw [countSub_eq_length_post] at hr
      refine ⟨(postNodes n minL (Lx + d) (2 * k)).length + j, by omega, ?_⟩
      rw [List.getElem?_append_right (by omega), Nat.add_sub_cancel_left]
      exact getElem?_left' _ _ _ _ hj

theorem root_inside (n k L d : Nat) (hn : n ≤ 2 ^ (L + d)) (hst : startOf k L < n) :
    k / 2 ^ d = 0 := by
  apply Nat.div_eq_of_lt
  unfold startOf at hst
  have hp := two_pow_pos' L
  have e1 : (2 : Nat) ^ (L + d) = 2 ^ d * 2 ^ L := by rw [Nat.add_comm, Nat.pow_add]
  have e2 : (2 : Nat) ^ (L + 1) = 2 * 2 ^ L := Nat.pow_succ'
  rw [e1] at hn
  rw [e2] at hst
  have h4 : k * 2 ^ L < 2 ^ d * 2 ^ L := by
    have : k * 2 ^ L ≤ k * (2 * 2 ^ L) := Nat.mul_le_mul_left _ (by omega)
    omega
  exact (Nat.mul_lt_mul_right hp).1 h4

theorem no_node_above (n H k L : Nat) (hn : n ≤ 2 ^ H) (hL : H < L) : ¬ midOf k L < n := by
  have h1 : 2 ^ L ≤ midOf k L := by unfold midOf; omega
  have h2 : (2 : Nat) ^ H < 2 ^ L := Nat.pow_lt_pow_right (by decide) hL
  omega

/-- the walk, the node list and the index of a traversal order (`post = true`: post-order) -/
abbrev auxOf (post : Bool) := cond post postIndexAux preIndexAux
abbrev nodesOf (post : Bool) := cond post postNodes preNodes
abbrev indexIn (post : Bool) := cond post postIndex preIndex

theorem auxOf_self (post : Bool) (n minL kx Lx k idx : Nat) :
    (auxOf post n minL kx Lx Lx k idx).isSome = true ↔ k = kx ∧ midOf k Lx < n ∧ Lx ≥ minL := by
  cases post
  all_goals
    simp only [auxOf, cond, preIndexAux_self, postIndexAux_self]
    by_cases hc : k = kx ∧ midOf k Lx < n ∧ Lx ≥ minL <;> simp [hc]

theorem auxOf_succ (post : Bool) (n minL kx Lx d k idx : Nat) :
    ∃ i1 i2, auxOf post n minL kx Lx (Lx + d + 1) k idx =
      if startOf kx Lx < midOf k (Lx + d + 1) then auxOf post n minL kx Lx (Lx + d) (2 * k) i1
      else auxOf post n minL kx Lx (Lx + d) (2 * k + 1) i2 := by
  cases post
  · exact ⟨_, _, preIndexAux_succ n minL kx Lx d k idx⟩
  · exact ⟨_, _, postIndexAux_succ n minL kx Lx d k idx⟩

theorem auxOf_some (post : Bool) (n minL kx Lx d k idx r : Nat) (hk : kx / 2 ^ d = k)
    (h : auxOf post n minL kx Lx (Lx + d) k idx = some r) :
    ∃ j, r = idx + j ∧ (nodesOf post n minL (Lx + d) k)[j]? = some (nodeOf kx Lx) := by
  cases post
  · exact preIndexAux_some n minL kx Lx d k idx r hk h
  · exact postIndexAux_some n minL kx Lx d k idx r hk h

theorem auxOf_isSome (post : Bool) (n minL kx Lx : Nat) (hm : midOf kx Lx < n) (hl : Lx ≥ minL) :
    ∀ d k idx, kx / 2 ^ d = k → ∃ r, auxOf post n minL kx Lx (Lx + d) k idx = some r := by
  intro d
  induction d with
  | zero =>
    intro k idx hk
    rw [Nat.pow_zero, Nat.div_one] at hk
    rw [Nat.add_zero]
    exact Option.isSome_iff_exists.1 ((auxOf_self ..).2 ⟨hk.symm, hk ▸ hm, hl⟩)
  | succ d ih =>
    intro k idx hk
    obtain ⟨i1, i2, e⟩ := auxOf_succ post n minL kx Lx d k idx
    rw [← Nat.add_assoc, e]
    rcases descend_cases kx Lx d k hk with ⟨hlt, hq⟩ | ⟨hlt, hq⟩
    · rw [if_pos hlt]; exact ih _ _ hq
    · rw [if_neg hlt]; exact ih _ _ hq

theorem indexIn_nodeOf (post : Bool) (size bs k L : Nat) (hL : L ≤ 64) :
    indexIn post size bs (nodeOf k L) = if startOf k L ≥ nChunks size then none else
      auxOf post (nChunks size) bs k L (max (log2ceil 64 (nChunks size)) L) 0 0 := by
  cases post
  all_goals
    simp only [indexIn, auxOf, cond, preIndex, postIndex, levelOf_nodeOf hL, indexOf_nodeOf hL]

/-- The two functions are arguments (with `rfl` for the equations) so that an instance speaks of
`preIndex`, not of `indexIn false`, which is dear to unify. -/
theorem indexIn_spec (post : Bool) (idx : Nat → Nat → Nat → Option Nat)
    (nodes : Nat → Nat → Nat → Nat → List Nat) (hidx : idx = indexIn post)
    (hnodes : nodes = nodesOf post) (size bs k L : Nat) (hs : size ≤ 2 ^ 63) (hL : L ≤ 64) :
    (∀ i, idx size bs (nodeOf k L) = some i →
      (nodes (nChunks size) bs (log2ceil 64 (nChunks size)) 0)[i]? = some (nodeOf k L)) ∧
    (bs ≤ L → midOf k L < nChunks size → ∃ i, idx size bs (nodeOf k L) = some i) := by
  subst hidx hnodes
  have hH := log2ceil_spec 64 (nChunks size) (nChunks_le size hs)
  rw [indexIn_nodeOf post _ _ _ _ hL]
  generalize log2ceil 64 (nChunks size) = H at *
  have hst := startOf_lt_midOf k L
  by_cases hLH : L ≤ H
  · obtain ⟨d, rfl⟩ : ∃ d, H = L + d := ⟨H - L, by omega⟩
    rw [Nat.max_eq_left hLH]
    refine ⟨fun i h => ?_, fun hb hm => ?_⟩
    · split at h
      · cases h
      · obtain ⟨j, hj, hget⟩ := auxOf_some post _ _ _ _ d 0 0 i (root_inside _ _ _ _ hH (by omega)) h
        rw [hj, Nat.zero_add]
        exact hget
    · rw [if_neg (by omega)]
      exact auxOf_isSome post _ _ _ _ hm hb d 0 0 (root_inside _ _ _ _ hH (by omega))
  · have hno := no_node_above _ _ k L hH (by omega)
    refine ⟨fun i h => ?_, fun _ hm => absurd hm hno⟩
    split at h
    · cases h
    · rw [Nat.max_eq_right (by omega)] at h
      exact absurd ((auxOf_self ..).1 (by rw [h]; rfl)).2.1 (no_node_above _ _ 0 L hH (by omega))

theorem preIndex_isSome (size bs k L : Nat) (hs : size ≤ 2 ^ 63) (hL : L ≤ 64) (hb : bs ≤ L)
    (hm : midOf k L < nChunks size) : ∃ i, preIndex size bs (nodeOf k L) = some i :=
  (indexIn_spec false preIndex preNodes rfl rfl size bs k L hs hL).2 hb hm

theorem postIndex_isSome (size bs k L : Nat) (hs : size ≤ 2 ^ 63) (hL : L ≤ 64) (hb : bs ≤ L)
    (hm : midOf k L < nChunks size) : ∃ i, postIndex size bs (nodeOf k L) = some i :=
  (indexIn_spec true postIndex postNodes rfl rfl size bs k L hs hL).2 hb hm

theorem mem_persistedPre_coords (size bs x : Nat) (hs : size ≤ 2 ^ 63)
    (hx : x ∈ persistedPre size bs) :
    ∃ k L, x = nodeOf k L ∧ bs ≤ L ∧ L < 53 ∧ midOf k L < nChunks size := by
  obtain ⟨k, L, rfl, hb, hL, hm⟩ := OutboardL.persisted_coords hs
    ((OutboardL.persistedPost_perm size bs hs).mem_iff.2 hx)
  exact ⟨k, L, rfl, hb, hL, (Offsets.lt_nChunks_iff _ _
    (Nat.lt_of_le_of_lt (Nat.zero_le _) (startOf_lt_midOf k L))).2 hm⟩

theorem coords_of_u64 (x : Nat) (hx : x < 2 ^ 64) : ∃ k L, x = nodeOf k L ∧ L ≤ 64 := by
  obtain ⟨k, L, rfl⟩ := C18.coords_exist x
  exact ⟨k, L, rfl, level_le_of_lt hx⟩

/-- an answer `o` that is sound (`some i` is a position of `x`) and complete (`x ∈ l` is answered) for
a list without repetitions is "the position of `x`, if any" -/
theorem index_iff (l : List Nat) (hinj : ∀ i j (hi : i < l.length) (hj : j < l.length),
    l[i] = l[j] → i = j) (x : Nat) (o : Option Nat)
    (hsound : ∀ i, o = some i → l[i]? = some x) (hcompl : x ∈ l → ∃ r, o = some r) :
    (∀ i, o = some i ↔ l[i]? = some x) ∧ (o = none ↔ x ∉ l) := by
  have hiff : ∀ i, o = some i ↔ l[i]? = some x := by
    intro i
    refine ⟨hsound i, fun h => ?_⟩
    obtain ⟨r, hr⟩ := hcompl (List.mem_of_getElem? h)
    obtain ⟨hi, ei⟩ := List.getElem?_eq_some_iff.1 h
    obtain ⟨hr', er⟩ := List.getElem?_eq_some_iff.1 (hsound r hr)
    rw [hinj i r hi hr' (by rw [ei, er])]
    exact hr
  refine ⟨hiff, fun h hmem => ?_, fun h => ?_⟩
  · obtain ⟨r, hr⟩ := hcompl hmem
    rw [h] at hr
    cases hr
  · cases hp : o with
    | none => rfl
    | some i => exact absurd (List.mem_of_getElem? ((hiff i).1 hp)) h

theorem preIndex_spec (size bs x : Nat) (hs : size ≤ 2 ^ 63) (hbs : bs ≤ 10) (hx : x < 2 ^ 64) :
    (∀ i, preIndex size bs x = some i ↔ (persistedPre size bs)[i]? = some x) ∧
    (preIndex size bs x = none ↔ x ∉ persistedPre size bs) := by
  obtain ⟨k, L, rfl, hL⟩ := coords_of_u64 x hx
  refine index_iff _ (C12.pre_injective size bs hs hbs) _ _
    (indexIn_spec false preIndex preNodes rfl rfl size bs k L hs (by omega)).1 fun hmem => ?_
  obtain ⟨k', L', e, hb, hL', hm⟩ := mem_persistedPre_coords size bs _ hs hmem
  obtain ⟨rfl, rfl⟩ := C18.nodeOf_inj e
  exact preIndex_isSome size bs k L hs (by omega) hb hm

theorem postIndex_spec (size bs x : Nat) (hs : size ≤ 2 ^ 63) (hbs : bs ≤ 10) (hx : x < 2 ^ 64) :
    (∀ i, postIndex size bs x = some i ↔ (persistedPost size bs)[i]? = some x) ∧
    (postIndex size bs x = none ↔ x ∉ persistedPost size bs) := by
  obtain ⟨k, L, rfl, hL⟩ := coords_of_u64 x hx
  refine index_iff _ (C12.post_injective size bs hs hbs) _ _
    (indexIn_spec true postIndex postNodes rfl rfl size bs k L hs (by omega)).1 fun hmem => ?_
  obtain ⟨k', L', e, hb, hL', hm⟩ := mem_persistedPre_coords size bs _ hs
    ((OutboardL.persistedPost_perm size bs hs).mem_iff.1 hmem)
  obtain ⟨rfl, rfl⟩ := C18.nodeOf_inj e
  exact postIndex_isSome size bs k L hs (by omega) hb hm

theorem takeWhile_length_first (l : List Nat) (x i : Nat) (h : l[i]? = some x)
    (hf : ∀ j, j < i → l[j]? ≠ some x) : (l.takeWhile (· != x)).length = i := by
  induction l generalizing i with
  | nil => simp at h
  | cons a l ih =>
    cases i with
    | zero =>
      simp only [List.getElem?_cons_zero, Option.some.injEq] at h
      subst h
      simp
    | succ i =>
      have h0 := hf 0 (by omega)
      simp only [List.getElem?_cons_zero, ne_eq, Option.some.injEq] at h0
      have hne : (a != x) = true := by simpa using h0
      simp only [List.getElem?_cons_succ] at h
      rw [List.takeWhile_cons, if_pos hne, List.length_cons,
        ih i h (fun j hj => by have := hf (j + 1) (by omega); simpa using this)]

theorem takeWhile_not_mem (l : List Nat) (x : Nat) (h : x ∉ l) : l.takeWhile (· != x) = l := by
  induction l with
  | nil => rfl
  | cons a l ih =>
    have hne : (a != x) = true := by
      have : a ≠ x := fun e => h (by rw [e]; exact List.mem_cons_self ..)
      simpa using this
    rw [List.takeWhile_cons, if_pos hne, ih (fun hm => h (List.mem_cons_of_mem _ hm))]

theorem indexOfNode_eq (l : List Nat) (hinj : ∀ i j (hi : i < l.length) (hj : j < l.length),
    l[i] = l[j] → i = j) (x : Nat) (o : Option Nat)
    (hsome : ∀ i, o = some i → l[i]? = some x) (hnone : o = none → x ∉ l) :
    o = indexOfNode l x := by
  unfold indexOfNode
  cases o with
  | none =>
    rw [takeWhile_not_mem l x (hnone rfl)]
    simp
  | some i =>
    have h := hsome i rfl
    obtain ⟨hi, ei⟩ := List.getElem?_eq_some_iff.1 h
    have := takeWhile_length_first l x i h (fun j hj hc => by
      obtain ⟨hj', ej⟩ := List.getElem?_eq_some_iff.1 hc
      have := hinj j i hj' hi (by rw [ej, ei])
      omega)
    simp only [this, if_pos hi]

/-- `Ops.inTree` (= `relevant` of `opTreeOff`): a persisted node, a node below the block level, or
the half-filled last leaf -/
theorem inTree_cases (size bs x : Nat) (hs : size ≤ 2 ^ 63) (hx : x < 2 ^ 64)
    (h : Ops.inTree size bs x = true) :
    x ∈ persistedPre size bs ∨ Node.level x < bs ∨
      (Tree.blocks ⟨size, bs⟩ % 2 = 1 ∧ x = Node.subBs (Tree.blocks ⟨size, bs⟩ - 1) bs) := by
  obtain ⟨k, L, rfl, hL⟩ := coords_of_u64 x hx
  unfold Ops.inTree at h
  simp only [levelOf_nodeOf hL, indexOf_nodeOf hL,
    ← blocks_eq_nBlocks, Bool.or_eq_true, Bool.and_eq_true, decide_eq_true_eq, beq_iff_eq] at h
  rcases h with hm | ⟨hodd, he⟩
  · by_cases hb : bs ≤ L
    · obtain ⟨i, hi⟩ := preIndex_isSome size bs k L hs (by omega) hb hm
      exact .inl (List.mem_of_getElem?
        ((indexIn_spec false preIndex preNodes rfl rfl size bs k L hs (by omega)).1 i hi))
    · refine .inr (.inl ?_)
      rw [C18.level_nodeOf (by omega)]; omega
  · exact .inr (.inr ⟨hodd, he⟩)

theorem pre_model (size bs x : Nat) (hs : size ≤ 2 ^ 63) (hbs : bs ≤ 10) (hx : x < 2 ^ 64)
    (h : Ops.inTree size bs x = true) :
    Tree.preOrderOffset ⟨size, bs⟩ x = preIndex size bs x := by
  have hnone : Tree.preOrderOffset ⟨size, bs⟩ x = none →
      Tree.preOrderOffset ⟨size, bs⟩ x = preIndex size bs x := by
    intro hn
    rw [hn, eq_comm, (preIndex_spec size bs x hs hbs hx).2]
    intro hmem
    obtain ⟨i, hi, e⟩ := List.getElem_of_mem hmem
    have := (C12.pre size bs hs hbs).2 i hi
    rw [e, hn] at this; cases this
  rcases inTree_cases size bs x hs hx h with hmem | hlv | ⟨hodd, rfl⟩
  · obtain ⟨i, hi, e⟩ := List.getElem_of_mem hmem
    have h1 := (C12.pre size bs hs hbs).2 i hi
    rw [e] at h1
    rw [h1, ((preIndex_spec size bs x hs hbs hx).1 i).2 (List.getElem?_eq_some_iff.2 ⟨hi, e⟩)]
  · exact hnone ((C12.pre_none size bs hs hbs).1 x hlv)
  · exact hnone ((C12.pre_none size bs hs hbs).2 hodd)

/-- the tag the `treeoff` verdict expects -/
def tagOf (size x : Nat) (i : Nat) : Tree.PostOffset :=
  if endOf (indexOf x) (levelOf x) * 1024 ≤ size then .stable i else .unstable i

/-- for the nodes of the tree the model's post-order offset is the counting index, tagged stable
iff the whole (untruncated) chunk interval of the node lies inside the blob -/
theorem post_model (size bs x : Nat) (hs : size ≤ 2 ^ 63) (hbs : bs ≤ 10) (hx : x < 2 ^ 64)
    (h : Ops.inTree size bs x = true) :
    Tree.postOrderOffset ⟨size, bs⟩ x = (postIndex size bs x).map (tagOf size x) := by
  have hperm := OutboardL.persistedPost_perm size bs hs
  have hnone : Tree.postOrderOffset ⟨size, bs⟩ x = none →
      Tree.postOrderOffset ⟨size, bs⟩ x = (postIndex size bs x).map (tagOf size x) := by
    intro hn
    have : postIndex size bs x = none := by
      rw [(postIndex_spec size bs x hs hbs hx).2]
      intro hmem
      obtain ⟨i, hi, e⟩ := List.getElem_of_mem hmem
      have := (C12.post size bs hs hbs).2 i hi
      rw [e, hn] at this; cases this
    rw [hn, this]; rfl
  rcases inTree_cases size bs x hs hx h with hmem | hlv | ⟨hodd, rfl⟩
  · obtain ⟨k, L, rfl, hb, hL, hm⟩ := mem_persistedPre_coords size bs x hs hmem
    obtain ⟨i, hi, e⟩ := List.getElem_of_mem (hperm.mem_iff.2 hmem)
    have h1 := (C12.post size bs hs hbs).2 i hi
    rw [e] at h1
    rw [((postIndex_spec size bs _ hs hbs hx).1 i).2 (List.getElem?_eq_some_iff.2 ⟨hi, e⟩)]
    have hst := (C13.stable_iff size bs k L hs hbs hb).1
    simp only [Option.map_some, tagOf, levelOf_nodeOf (show L ≤ 64 by omega),
      indexOf_nodeOf (show L ≤ 64 by omega)]
    cases hpo : Tree.postOrderOffset ⟨size, bs⟩ (nodeOf k L) with
    | none => rw [hpo] at h1; cases h1
    | some po =>
      rw [hpo] at h1
      cases po with
      | stable v =>
        simp only [Option.map_some, Tree.PostOffset.value, Option.some.injEq] at h1
        rw [if_pos (hst.1 ⟨v, hpo⟩), h1]
      | unstable v =>
        simp only [Option.map_some, Tree.PostOffset.value, Option.some.injEq] at h1
        have hns : ¬ endOf k L * 1024 ≤ size := by
          intro hc
          obtain ⟨w, hw⟩ := hst.2 hc
          rw [hpo] at hw; cases hw
        rw [if_neg hns, h1]
  · exact hnone ((C12.post_none size bs hs hbs).1 x hlv)
  · exact hnone ((C12.post_none size bs hs hbs).2 hodd)

section store
open Bao.C12Store Bao.WriteAtL Bao.OutboardL
variable {H : Type}

/-- the index the `store` verdict expects for the slot of a node -/
def idxOf (kind : StoreKind) (size bs node : Nat) : Option Nat :=
  if Ops.isPostKind kind then postIndex size bs node else preIndex size bs node

theorem value_tagOf (size x i : Nat) : (tagOf size x i).value = i := by
  unfold tagOf; split <;> rfl

theorem slot_model (kind : StoreKind) (root : H) (size bs node : Nat) (data : List UInt8)
    (hs : size ≤ 2 ^ 63) (hbs : bs ≤ 10) (hx : node < 2 ^ 64)
    (hin : Ops.inTree size bs node = true) (hk : kind ≠ .empty) :
    Store.slot (⟨kind, root, ⟨size, bs⟩, data⟩ : Store H) node = idxOf kind size bs node := by
  unfold idxOf Store.slot
  cases kind
  case empty => exact absurd rfl hk
  case preIo | preMem => exact pre_model size bs node hs hbs hx hin
  case postIo | postMem =>
    simp only [Ops.isPostKind, if_true]
    rw [post_model size bs node hs hbs hx hin, Option.map_map]
    cases postIndex size bs node <;> simp [value_tagOf]

theorem relevant_model (size bs node : Nat) (hs : size ≤ 2 ^ 63) (hbs : bs ≤ 10)
    (hx : node < 2 ^ 64) (hin : Ops.inTree size bs node = true) :
    Tree.isRelevant ⟨size, bs⟩ node = (preIndex size bs node).isSome := by
  have hnone : Tree.preOrderOffset ⟨size, bs⟩ node = none → (preIndex size bs node).isSome = false := by
    intro h; rw [← pre_model size bs node hs hbs hx hin, h]; rfl
  rcases inTree_cases size bs node hs hx hin with hmem | hlv | ⟨hodd, rfl⟩
  · rw [isRelevant_persisted hs ((persistedPost_perm size bs hs).mem_iff.2 hmem)]
    obtain ⟨i, hi, e⟩ := List.getElem_of_mem hmem
    rw [((preIndex_spec size bs node hs hbs hx).1 i).2 (List.getElem?_eq_some_iff.2 ⟨hi, e⟩)]
    rfl
  · rw [hnone ((C12.pre_none size bs hs hbs).1 node hlv)]
    exact OutboardL.isRelevant_of_level_lt hlv
  · rw [hnone ((C12.pre_none size bs hs hbs).2 hodd)]
    exact halfLeaf_not_relevant ⟨size, bs⟩ hs hbs hodd

theorem idxOf_lt (kind : StoreKind) (size bs node i : Nat) (hs : size ≤ 2 ^ 63) (hbs : bs ≤ 10)
    (hx : node < 2 ^ 64) (h : idxOf kind size bs node = some i) :
    i < Tree.blocks ⟨size, bs⟩ - 1 := by
  unfold idxOf at h
  split at h
  · obtain ⟨hi, _⟩ := List.getElem?_eq_some_iff.1 (((postIndex_spec size bs node hs hbs hx).1 i).1 h)
    rw [(C12.post size bs hs hbs).1] at hi; exact hi
  · obtain ⟨hi, _⟩ := List.getElem?_eq_some_iff.1 (((preIndex_spec size bs node hs hbs hx).1 i).1 h)
    rw [(C12.pre size bs hs hbs).1] at hi; exact hi

theorem parsePair_bytes' (hf : HashFns H) (p : H × H)
    (hb1 : (hf.toBytes p.1).length = 32) (hb2 : (hf.toBytes p.2).length = 32)
    (hr1 : hf.ofBytes (hf.toBytes p.1) = p.1) (hr2 : hf.ofBytes (hf.toBytes p.2) = p.2) :
    parsePair hf (hf.toBytes p.1 ++ hf.toBytes p.2) = p := by
  unfold parsePair
  rw [List.take_left' hb1, List.drop_left' hb1, List.take_of_length_le (by rw [hb2]; omega), hr1, hr2]

theorem store_some (hf : HashFns H) (fl : Flavour) (kind : StoreKind) (root : H)
    (size bs node i : Nat) (backing : List UInt8) (pair : H × H)
    (hb1 : (hf.toBytes pair.1).length = 32) (hb2 : (hf.toBytes pair.2).length = 32)
    (hr1 : hf.ofBytes (hf.toBytes pair.1) = pair.1) (hr2 : hf.ofBytes (hf.toBytes pair.2) = pair.2)
    (hs : size ≤ 2 ^ 63) (hbs : bs ≤ 10) (hx : node < 2 ^ 64)
    (hin : Ops.inTree size bs node = true)
    (hdl : backing.length = Tree.outboardSize ⟨size, bs⟩)
    (hk : kind ≠ .empty) (hidx : idxOf kind size bs node = some i) :
    Store.load hf fl (⟨kind, root, ⟨size, bs⟩, backing⟩ : Store H) node
        = .ok (some (parsePair hf ((backing.drop (i * 64)).take 64))) ∧
    Store.save hf (⟨kind, root, ⟨size, bs⟩, backing⟩ : Store H) node pair
        = .ok ⟨kind, root, ⟨size, bs⟩, backing.take (i * 64)
            ++ (hf.toBytes pair.1 ++ hf.toBytes pair.2) ++ backing.drop (i * 64 + 64)⟩ ∧
    Store.load hf fl (⟨kind, root, ⟨size, bs⟩, backing.take (i * 64)
            ++ (hf.toBytes pair.1 ++ hf.toBytes pair.2) ++ backing.drop (i * 64 + 64)⟩ : Store H) node
        = .ok (some pair) := by
  have hlt := idxOf_lt kind size bs node i hs hbs hx hidx
  have hsz : Tree.outboardSize ⟨size, bs⟩ = (Tree.blocks ⟨size, bs⟩ - 1) * 64 := rfl
  have hinb : i * 64 + 64 ≤ backing.length := by omega
  have hb : (hf.toBytes pair.1 ++ hf.toBytes pair.2).length = 64 := by
    rw [List.length_append, hb1, hb2]
  have hsl := fun data => (slot_model kind root size bs node data hs hbs hx hin hk).trans hidx
  have hw := writeAt_slot backing i _ hb hinb
  refine ⟨?_, ?_, ?_⟩
  · exact load_some hf fl (s := ⟨kind, root, ⟨size, bs⟩, backing⟩) hk (hsl backing) hinb
  · rw [save_some hf (s := ⟨kind, root, ⟨size, bs⟩, backing⟩) hk (hsl backing) hinb pair]
    simp only [hw]
  · rw [← hw]
    have hin' : i * 64 + 64 ≤ (writeAt backing (i * 64) (hf.toBytes pair.1 ++ hf.toBytes pair.2)).length := by
      rw [length_writeAt]; omega
    rw [load_some hf fl (s := ⟨kind, root, ⟨size, bs⟩,
        writeAt backing (i * 64) (hf.toBytes pair.1 ++ hf.toBytes pair.2)⟩) hk (hsl _) hin',
      blockAt_writeAt_self _ _ _ hb, parsePair_bytes' hf pair hb1 hb2 hr1 hr2]

theorem store_some_empty (hf : HashFns H) (fl : Flavour) (root : H)
    (size bs node i : Nat) (backing : List UInt8) (pair : H × H)
    (hs : size ≤ 2 ^ 63) (hbs : bs ≤ 10) (hx : node < 2 ^ 64)
    (hin : Ops.inTree size bs node = true) (hidx : idxOf .empty size bs node = some i) :
    Store.load hf fl (⟨.empty, root, ⟨size, bs⟩, backing⟩ : Store H) node
        = .ok (some (hf.ofBytes zeros32, hf.ofBytes zeros32)) ∧
    Store.save hf (⟨.empty, root, ⟨size, bs⟩, backing⟩ : Store H) node pair
        = .ok ⟨.empty, root, ⟨size, bs⟩, backing⟩ := by
  have hrel : Tree.isRelevant ⟨size, bs⟩ node = true := by
    rw [relevant_model size bs node hs hbs hx hin]
    have : preIndex size bs node = some i := hidx
    rw [this]; rfl
  exact (empty_store hf fl ⟨.empty, root, ⟨size, bs⟩, backing⟩ rfl node pair).1 hrel

theorem store_none (hf : HashFns H) (fl : Flavour) (kind : StoreKind) (root : H)
    (size bs node : Nat) (backing : List UInt8) (pair : H × H)
    (hs : size ≤ 2 ^ 63) (hbs : bs ≤ 10) (hx : node < 2 ^ 64)
    (hin : Ops.inTree size bs node = true) (hidx : idxOf kind size bs node = none) :
    Store.load hf fl (⟨kind, root, ⟨size, bs⟩, backing⟩ : Store H) node = .ok none ∧
    Store.save hf (⟨kind, root, ⟨size, bs⟩, backing⟩ : Store H) node pair
      = (if kind = .preIo ∨ kind = .postIo then .ok ⟨kind, root, ⟨size, bs⟩, backing⟩
         else .err ⟨.invalidInput, false⟩) := by
  by_cases hk : kind = .empty
  · subst hk
    have hrel : Tree.isRelevant ⟨size, bs⟩ node = false := by
      rw [relevant_model size bs node hs hbs hx hin]
      have : preIndex size bs node = none := hidx
      rw [this]; rfl
    have := (empty_store hf fl ⟨.empty, root, ⟨size, bs⟩, backing⟩ rfl node pair).2.1 hrel
    rw [if_neg (by simp)]
    exact this
  · have hsl := (slot_model kind root size bs node backing hs hbs hx hin hk).trans hidx
    refine ⟨load_not_persisted hf fl _ node hsl, ?_⟩
    obtain ⟨h1, h2⟩ := save_not_persisted hf ⟨kind, root, ⟨size, bs⟩, backing⟩ node pair hsl
    cases kind with
    | empty => exact absurd rfl hk
    | preIo => rw [if_pos (.inl rfl)]; exact h1 (.inl rfl)
    | postIo => rw [if_pos (.inr rfl)]; exact h1 (.inr rfl)
    | preMem => rw [if_neg (by simp)]; exact h2 (.inl rfl)
    | postMem => rw [if_neg (by simp)]; exact h2 (.inr rfl)

end store

section treeoff
open Bao.Ops Bao.Proto

/-- the token the `treeoff` verdict computes for id `x` (verbatim copy of the `let`s of
`Ops.opTreeOff`; `opTreeOff_eq` ties the copy to the operation by `rfl`) -/
def specTok (size bs x : Nat) : String :=
  let L := Spec.levelOf x
  let k := Spec.indexOf x
  let pre := Spec.preIndex size bs x
  let post := Spec.postIndex size bs x
  let stable := Spec.endOf k L * 1024 ≤ size
  let postS := match post with
    | none => "-"
    | some i => if stable then s!"S{i}" else s!"U{i}"
  s!"{optNat pre}/{postS}"

def modelTok (size bs x : Nat) : String :=
  s!"{optNat (Tree.preOrderOffset ⟨size, bs⟩ x)}/{postOffStr (Tree.postOrderOffset ⟨size, bs⟩ x)}"

def treeoffVerdict (size bs id0 count : Nat) (impl : String) : Option String :=
  let ids := (List.range count).map (· + id0)
  let implT := impl.splitOn " "
  let specT := (" ".intercalate (ids.map (specTok size bs))).splitOn " "
  let bads := (List.zip ids (List.zip implT specT)).filter fun (x, (a, b)) => Ops.inTree size bs x && a != b
  match bads with
  | [] => if implT.length == ids.length then none else some "malformed"
  | (x, (a, b)) :: _ => some s!"node {x}: impl {a} spec {b}"

theorem opTreeOff_eq (args : List String) (impl : String) (size bs id0 count : Nat)
    (h : args.mapM (·.toNat?) = some [size, bs, id0, count]) :
    (opTreeOff args impl).specFail = treeoffVerdict size bs id0 count impl ∧
    (opTreeOff args impl).model
      = " ".intercalate (((List.range count).map (· + id0)).map (modelTok size bs)) := by
  unfold opTreeOff
  simp only [h]
  exact ⟨rfl, rfl⟩

theorem tok_eq (size bs x : Nat) (hs : size ≤ 2 ^ 63) (hbs : bs ≤ 10) (hx : x < 2 ^ 64)
    (h : Ops.inTree size bs x = true) : modelTok size bs x = specTok size bs x := by
  unfold modelTok specTok
  rw [pre_model size bs x hs hbs hx h, post_model size bs x hs hbs hx h]
  cases postIndex size bs x with
  | none => rfl
  | some i =>
    simp only [Option.map_some, tagOf]
    split <;> rfl

theorem bads_nil (size bs : Nat) (hs : size ≤ 2 ^ 63) (hbs : bs ≤ 10) (ids : List Nat)
    (hids : ∀ x ∈ ids, x < 2 ^ 64) :
    ((List.zip ids (List.zip (ids.map (modelTok size bs)) (ids.map (specTok size bs)))).filter
      fun (x, (a, b)) => Ops.inTree size bs x && a != b) = [] := by
  induction ids with
  | nil => rfl
  | cons x ids ih =>
    simp only [List.map_cons, List.zip_cons_cons, List.filter_cons]
    have hx := hids x (List.mem_cons_self ..)
    have ih' := ih (fun y hy => hids y (List.mem_cons_of_mem _ hy))
    by_cases hin : Ops.inTree size bs x = true
    · rw [tok_eq size bs x hs hbs hx hin]
      simp only [bne_self_eq_false, Bool.and_false, Bool.false_eq_true, if_false]
      exact ih'
    · simp only [Bool.not_eq_true] at hin
      simp only [hin, Bool.false_and, Bool.false_eq_true, if_false]
      exact ih'

end treeoff

section storeStr
open Bao.Ops Bao.Proto

/-- the model's output of `store` for a given backing and pair (verbatim copy of the `let`s of
`Ops.opStore`; `opStore_eq` ties the copies to the operation by `rfl`) -/
def storeModelStr (fl : Flavour) (kind : StoreKind) (size bs node : Nat) (backing : List UInt8)
    (pair : HB × HB) : String :=
  let tree : Tree := ⟨size, bs⟩
  let s0 : Store HB := ⟨kind, zeros32, tree, backing⟩
  let l0 := Store.load hf fl s0 node
  let r := Store.save hf s0 node pair
  let (rs, s1, rp) : String × Store HB × Bool := match r with
    | .ok s => ("Ok", s, false)
    | .err e => (ioErrStr e, s0, false)
    | .panic => ("", s0, true)
  let l1 := Store.load hf fl s1 node
  match loadStr l0, loadStr l1, rp with
    | some a, some c, false => s!"{a} {rs} {c} Ok {dig s1.data}"
    | _, _, _ => "panic"

def storeVerdict (kind : StoreKind) (size bs node : Nat) (backing : List UInt8) (pair : HB × HB)
    (tokens : List String) : Option String :=
  let idx := if isPostKind kind then Spec.postIndex size bs node else Spec.preIndex size bs node
  match tokens with
  | [a, b, c, d, after] =>
    let isIo := kind == .preIo || kind == .postIo
    match idx with
    | some i =>
      let old := if kind == .empty then zerosN 64 else (backing.drop (i * 64)).take 64
      let new := if kind == .empty then zerosN 64 else pair.1 ++ pair.2
      let exp := if kind == .empty then backing else backing.take (i * 64) ++ new ++ backing.drop (i * 64 + 64)
      if a != dig old then some "load does not return the 64 bytes of the node's slot"
      else if b != "Ok" then some "save of a persisted node failed"
      else if c != dig new then some "load after save does not return the saved pair"
      else if d != "Ok" then some "sync failed"
      else if after != dig exp then some "save changed something other than the node's slot"
      else none
    | none =>
      if a != "none" || c != "none" then some "a node that is not persisted has a pair"
      else if after != dig backing then some "save of a node that is not persisted changed the backing"
      else if b != (if isIo then "Ok" else "Io(InvalidInput)") then some "save of a node that is not persisted: unexpected result"
      else none
  | _ => some "malformed (panic?)"

/-- the three byte strings the verdict expects for a node with index `i` -/
def expOld (kind : StoreKind) (backing : List UInt8) (i : Nat) : List UInt8 :=
  if kind == .empty then zerosN 64 else (backing.drop (i * 64)).take 64
def expNew (kind : StoreKind) (pair : HB × HB) : List UInt8 :=
  if kind == .empty then zerosN 64 else pair.1 ++ pair.2
def expAfter (kind : StoreKind) (backing : List UInt8) (pair : HB × HB) (i : Nat) : List UInt8 :=
  if kind == .empty then backing
  else backing.take (i * 64) ++ expNew kind pair ++ backing.drop (i * 64 + 64)

theorem verdict_some (kind : StoreKind) (size bs node i : Nat) (backing : List UInt8)
    (pair : HB × HB) (hidx : idxOf kind size bs node = some i) :
    storeVerdict kind size bs node backing pair
      [dig (expOld kind backing i), "Ok", dig (expNew kind pair), "Ok",
        dig (expAfter kind backing pair i)] = none := by
  unfold idxOf at hidx
  unfold storeVerdict
  simp only [hidx]
  simp only [expOld, expNew, expAfter, bne_self_eq_false, Bool.false_eq_true, if_false]

theorem verdict_none (kind : StoreKind) (size bs node : Nat) (backing : List UInt8)
    (pair : HB × HB) (d : String) (hidx : idxOf kind size bs node = none) :
    storeVerdict kind size bs node backing pair
      ["none", if kind = .preIo ∨ kind = .postIo then "Ok" else "Io(InvalidInput)", "none", d,
        dig backing] = none := by
  unfold idxOf at hidx
  unfold storeVerdict
  simp only [hidx]
  cases kind <;> simp <;> decide

theorem parse_concat (b : List UInt8) (hb : b.length = 64) :
    (parsePair hf b).1 ++ (parsePair hf b).2 = b := by
  unfold parsePair
  show b.take 32 ++ (b.drop 32).take 32 = b
  rw [List.take_of_length_le (l := b.drop 32) (by rw [List.length_drop]; omega), List.take_append_drop]

def fmt5 (a rs c after : String) : String := s!"{a} {rs} {c} Ok {after}"

theorem model_some (fl : Flavour) (kind : StoreKind) (size bs node i : Nat) (backing : List UInt8)
    (pair : HB × HB) (hp1 : pair.1.length = 32) (hp2 : pair.2.length = 32)
    (hs : size ≤ 2 ^ 63) (hbs : bs ≤ 10) (hx : node < 2 ^ 64)
    (hin : Ops.inTree size bs node = true)
    (hdl : backing.length = Tree.outboardSize ⟨size, bs⟩)
    (hidx : idxOf kind size bs node = some i) :
    storeModelStr fl kind size bs node backing pair
      = fmt5 (dig (expOld kind backing i)) "Ok" (dig (expNew kind pair))
          (dig (expAfter kind backing pair i)) := by
  by_cases hk : kind = .empty
  · subst hk
    obtain ⟨h1, h2⟩ := store_some_empty hf fl zeros32 size bs node i backing pair hs hbs hx hin hidx
    have e : hf.ofBytes zeros32 ++ hf.ofBytes zeros32 = zerosN 64 := by decide
    have hke : (StoreKind.empty == StoreKind.empty) = true := rfl
    unfold storeModelStr
    simp only [h1, h2, loadStr, e, expOld, expNew, expAfter, hke, if_true, fmt5]
  · obtain ⟨h1, h2, h3⟩ := store_some hf fl kind zeros32 size bs node i backing pair hp1 hp2 rfl rfl
      hs hbs hx hin hdl hk hidx
    have hlt := idxOf_lt kind size bs node i hs hbs hx hidx
    have hsz : Tree.outboardSize ⟨size, bs⟩ = (Tree.blocks ⟨size, bs⟩ - 1) * 64 := rfl
    have hbl : ((backing.drop (i * 64)).take 64).length = 64 := by
      rw [List.length_take, List.length_drop]; omega
    have hke : (kind == StoreKind.empty) = false := by cases kind <;> first | rfl | exact absurd rfl hk
    have e := parse_concat _ hbl
    have et : ∀ p : HB × HB, hf.toBytes p.1 ++ hf.toBytes p.2 = p.1 ++ p.2 := fun _ => rfl
    simp only [et] at h2 h3
    unfold storeModelStr
    simp only [h1, h2, h3, loadStr, e, expOld, expNew, expAfter, hke, fmt5, Bool.false_eq_true, if_false]

theorem ioErrStr_invalid : ioErrStr ⟨.invalidInput, false⟩ = "Io(InvalidInput)" := by rfl

theorem model_none (fl : Flavour) (kind : StoreKind) (size bs node : Nat) (backing : List UInt8)
    (pair : HB × HB) (hs : size ≤ 2 ^ 63) (hbs : bs ≤ 10) (hx : node < 2 ^ 64)
    (hin : Ops.inTree size bs node = true) (hidx : idxOf kind size bs node = none) :
    storeModelStr fl kind size bs node backing pair
      = fmt5 "none" (if kind = .preIo ∨ kind = .postIo then "Ok" else "Io(InvalidInput)") "none"
          (dig backing) := by
  obtain ⟨h1, h2⟩ := store_none hf fl kind zeros32 size bs node backing pair hs hbs hx hin hidx
  unfold storeModelStr
  by_cases hio : kind = .preIo ∨ kind = .postIo
  · rw [if_pos hio] at h2
    simp only [h1, h2, loadStr, if_pos hio, fmt5]
  · rw [if_neg hio] at h2
    simp only [h1, h2, loadStr, if_neg hio, fmt5, ioErrStr_invalid]

theorem opStore_eq (a b c d e f impl : String) (fl : Flavour) (kind : StoreKind)
    (size bs seed node : Nat)
    (h1 : flavour? a = some fl) (h2 : storeKind? b = some kind) (h3 : c.toNat? = some size)
    (h4 : d.toNat? = some bs) (h5 : e.toNat? = some seed) (h6 : f.toNat? = some node) :
    (opStore [a, b, c, d, e, f] impl).model
      = storeModelStr fl kind size bs node (randBytes seed (Tree.outboardSize ⟨size, bs⟩))
          (randBytes (seed + 1) 32, randBytes (seed + 2) 32) ∧
    (opStore [a, b, c, d, e, f] impl).specFail
      = (if !Ops.inTree size bs node then none else
          storeVerdict kind size bs node (randBytes seed (Tree.outboardSize ⟨size, bs⟩))
            (randBytes (seed + 1) 32, randBytes (seed + 2) 32) (impl.splitOn " ")) := by
  unfold opStore
  simp only [h1, h2, h3, h4, h5, h6]
  refine ⟨rfl, ?_⟩
  simp only [Option.isSome_none, Bool.or_false]
  rfl

theorem forIn_inv {α σ : Type} (P : Nat → σ → Prop) (l : List α)
    (f : α → σ → Id (ForInStep σ))
    (hf : ∀ i a s, P i s → ∃ s', f a s = pure (ForInStep.yield s') ∧ P (i + 1) s')
    (init : σ) (i0 : Nat) (h0 : P i0 init) :
    P (i0 + l.length) ((forIn (m := Id) l init f).run) := by
  induction l generalizing init i0 with
  | nil => simpa using h0
  | cons a l ih =>
    obtain ⟨s', e, hs'⟩ := hf i0 a init h0
    simp only [List.forIn_cons, e, List.length_cons]
    rw [Nat.add_comm l.length, ← Nat.add_assoc]
    exact ih s' (i0 + 1) hs'

theorem randBytes_length (seed n : Nat) : (randBytes seed n).length = n := by
  unfold randBytes
  simp only [Std.Legacy.Range.forIn_eq_forIn_range', Id.run]
  show (Array.toList (Prod.fst (Id.run (forIn (m := Id) _ _ _)))).length = n
  rw [Array.length_toList,
    forIn_inv (fun i (s : Array UInt8 × UInt64 × UInt64) => s.1.size = i) _ _ ?_ _ 0 rfl]
  · simp [Std.Legacy.Range.size]
  · intro i a s h
    split
    · exact ⟨_, rfl, by rw [Array.size_push, h]⟩
    · exact ⟨_, rfl, by rw [Array.size_push, h]⟩

end storeStr

section tokens
open Bao.Ops Bao.Proto

theorem noSp_lit (s : String) (h : (s.toList.contains ' ') = false) : NoSp s := by
  unfold NoSp
  intro hm
  rw [List.contains_iff_mem.2 hm] at h
  cases h

/-- applies to a literal, which is `String.ofList` of its characters by definition: `toList` is not evaluated -/
theorem noSp_ofList (l : List Char) (h : ' ' ∉ l) : NoSp (String.ofList l) := by
  unfold NoSp
  rwa [String.toList_ofList]

theorem noSp_optNat (o : Option Nat) : NoSp (optNat o) := by
  cases o with
  | none => exact noSp_ofList _ (by decide)
  | some n => exact noSp_nat n

theorem noSp_postOffStr (o : Option Tree.PostOffset) : NoSp (postOffStr o) := by
  rcases o with _ | ⟨n | n⟩
  · exact noSp_ofList _ (by decide)
  · exact noSp_append (noSp_ofList _ (by decide)) (noSp_nat n)
  · exact noSp_append (noSp_ofList _ (by decide)) (noSp_nat n)

theorem noSp_modelTok (size bs x : Nat) : NoSp (modelTok size bs x) := by
  unfold modelTok
  exact noSp_append (noSp_append (noSp_optNat _) (noSp_ofList _ (by decide))) (noSp_postOffStr _)

theorem noSp_specTok (size bs x : Nat) : NoSp (specTok size bs x) := by
  unfold specTok
  refine noSp_append (noSp_append (noSp_optNat _) (noSp_ofList _ (by decide))) ?_
  show NoSp (match postIndex size bs x with | none => "-" | some i => _)
  cases postIndex size bs x with
  | none => exact noSp_ofList _ (by decide)
  | some i =>
    simp only []
    split
    · exact noSp_append (noSp_ofList _ (by decide)) (noSp_nat i)
    · exact noSp_append (noSp_ofList _ (by decide)) (noSp_nat i)

theorem noSp_dig (b : List UInt8) : NoSp (dig b) := by
  unfold dig
  exact noSp_append (noSp_append (noSp_nat _) (noSp_ofList _ (by decide))) (noSp_nat _)

theorem fmt5_eq (a rs c after : String) :
    fmt5 a rs c after = " ".intercalate [a, rs, c, "Ok", after] := by
  simp only [fmt5, String.intercalate_cons_cons, String.intercalate_singleton]
  have e : (" Ok " : String) = " " ++ ("Ok" ++ " ") := by decide
  show a ++ " " ++ rs ++ " " ++ c ++ " Ok " ++ after = _
  rw [e]
  simp only [String.append_assoc]


theorem treeoff_split_model (size bs : Nat) (ids : List Nat) (hne : ids ≠ []) :
    (" ".intercalate (ids.map (modelTok size bs))).splitOn " " = ids.map (modelTok size bs) := by
  apply splitOn_intercalate _ (by simpa using hne)
  intro t ht
  obtain ⟨x, _, rfl⟩ := List.mem_map.1 ht
  exact noSp_modelTok size bs x

theorem treeoff_split_spec (size bs : Nat) (ids : List Nat) (hne : ids ≠ []) :
    (" ".intercalate (ids.map (specTok size bs))).splitOn " " = ids.map (specTok size bs) := by
  apply splitOn_intercalate _ (by simpa using hne)
  intro t ht
  obtain ⟨x, _, rfl⟩ := List.mem_map.1 ht
  exact noSp_specTok size bs x

/-- the five tokens the `store` verdict expects (and, by `model_some` / `model_none`, the model
prints) -/
def storeTokens (kind : StoreKind) (size bs node : Nat) (backing : List UInt8) (pair : HB × HB) :
    List String :=
  match idxOf kind size bs node with
  | some i => [dig (expOld kind backing i), "Ok", dig (expNew kind pair), "Ok",
      dig (expAfter kind backing pair i)]
  | none => ["none", if kind = .preIo ∨ kind = .postIo then "Ok" else "Io(InvalidInput)", "none",
      "Ok", dig backing]

theorem noSp_storeTokens (kind : StoreKind) (size bs node : Nat) (backing : List UInt8)
    (pair : HB × HB) : ∀ t ∈ storeTokens kind size bs node backing pair, ' ' ∉ t.toList := by
  have hok : NoSp "Ok" := noSp_ofList _ (by decide)
  have hnone : NoSp "none" := noSp_ofList _ (by decide)
  have hio : NoSp (if kind = .preIo ∨ kind = .postIo then "Ok" else "Io(InvalidInput)") := by
    split
    · exact hok
    · exact noSp_ofList _ (by decide)
  unfold storeTokens
  cases idxOf kind size bs node with
  | some i =>
    simp only [List.forall_mem_cons, List.not_mem_nil, false_imp_iff, implies_true, and_true]
    exact ⟨noSp_dig _, hok, noSp_dig _, hok, noSp_dig _⟩
  | none =>
    simp only [List.forall_mem_cons, List.not_mem_nil, false_imp_iff, implies_true, and_true]
    exact ⟨hnone, hio, hnone, hok, noSp_dig _⟩

theorem split_fmt5 (a rs c after : String) (h : ∀ t ∈ [a, rs, c, "Ok", after], ' ' ∉ t.toList) :
    (fmt5 a rs c after).splitOn " " = [a, rs, c, "Ok", after] := by
  rw [fmt5_eq]
  exact splitOn_intercalate _ (by simp) h

end tokens

end Bao.SpecIndex
