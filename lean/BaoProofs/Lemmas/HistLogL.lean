import BaoProofs.Lemmas.HistLabelL

/-!
# The log of completed calls of a history, labelled (C07, stages A and B)

* `Log hf tree sink items es sink'` – `es` is the list of target writes / outboard saves COMPLETED
  by `decode_ranges` while it consumed a prefix of the decoder items `items`, starting from `sink`
  and ending in `sink'`;
* `faux_log` – the fault-injected driver `decodeRangesFAux` has such a log over the items of
  `Dec.runAux`;
* `EG hf d bs pre e` – a correctly labelled completed call: a save is the save of the true pair of
  an existing node of level `≥ bs` under its own label; a write is the write of a true leaf all of
  whose existing ancestors of level `≥ bs` have been saved before (`∈ pre`);
* `run_log_on` – any history into a sink with the true root and the true geometry is the
  application of a list of completed calls `es` with `Trace (EG hf d bs) [] es`.
-/

namespace Bao.C07L
open Bao Bao.Spec Bao.C01 Bao.C07 Bao.DecodeSpec Bao.Bits
open Bao.FaultL (Ev applyEv applyEvs saveOrKeep)

variable {H : Type}

inductive Log (hf : HashFns H) (tree : Tree) :
    Sink H → List (Item H) → List (Ev H) → Sink H → Prop
  | stop (sink : Sink H) (items : List (Item H)) : Log hf tree sink items [] sink
  | skip {sink sink' : Sink H} {node : Nat} {l r : H} {items : List (Item H)} {es : List (Ev H)} :
      tree.isRelevant node = false → Log hf tree sink items es sink' →
      Log hf tree sink (.parent node l r :: items) es sink'
  | save {sink sink' : Sink H} {node : Nat} {l r : H} {ob : Store H} {items : List (Item H)}
      {es : List (Ev H)} :
      tree.isRelevant node = true → sink.ob.save hf node (l, r) = .ok ob →
      Log hf tree { sink with ob } items es sink' →
      Log hf tree sink (.parent node l r :: items) (.save node l r :: es) sink'
  | skipLeaf {sink sink' : Sink H} {off : Nat} {items : List (Item H)} {es : List (Ev H)} :
      Log hf tree sink items es sink' → Log hf tree sink (.leaf off [] :: items) es sink'
  | write {sink sink' : Sink H} {off : Nat} {data : List UInt8} {items : List (Item H)}
      {es : List (Ev H)} :
      Log hf tree { sink with target := writeAt sink.target off data } items es sink' →
      Log hf tree sink (.leaf off data :: items) (.write off data :: es) sink'

theorem faux_log (hf : HashFns H) [BEq H] (fl : Flavour) (tree : Tree) (fw fs : Option Nat) :
    ∀ (fuel : Nat) (dec : Dec H) (sink : Sink H) (nw ns : Nat),
      ∃ es, Log hf tree sink (Dec.runAux hf fl fuel dec).items es
        (decodeRangesFAux hf fl tree fw fs fuel dec sink nw ns).1 := by
  intro fuel
  induction fuel with
  | zero => intro dec sink nw ns; exact ⟨[], .stop _ _⟩
  | succ fuel ih =>
    intro dec sink nw ns
    unfold decodeRangesFAux Dec.runAux
    cases hn : dec.next hf fl with
    | done d' => exact ⟨[], .stop _ _⟩
    | err e d' => exact ⟨[], .stop _ _⟩
    | panic => exact ⟨[], .stop _ _⟩
    | item i d' =>
      cases i with
      | parent node l r =>
        simp only
        by_cases hrel : tree.isRelevant node = true
        · simp only [hrel, if_true]
          split
          · exact ⟨[], .stop _ _⟩
          · cases hsv : sink.ob.save hf node (l, r) with
            | ok ob =>
              obtain ⟨es, h⟩ := ih d' { sink with ob } nw (ns + 1)
              exact ⟨_, .save hrel hsv h⟩
            | err e => exact ⟨[], .stop _ _⟩
            | panic => exact ⟨[], .stop _ _⟩
        · simp only [hrel, Bool.false_eq_true, if_false]
          obtain ⟨es, h⟩ := ih d' sink nw ns
          exact ⟨es, .skip (by simpa using hrel) h⟩
      | leaf off data =>
        simp only
        split
        · rename_i hskip
          have hd : data = [] := by
            simp only [Bool.and_eq_true, List.isEmpty_iff] at hskip
            exact hskip.2
          subst hd
          obtain ⟨es, h⟩ := ih d' sink nw ns
          exact ⟨es, .skipLeaf h⟩
        · split
          · exact ⟨[], .stop _ _⟩
          · obtain ⟨es, h⟩ := ih d' { sink with target := writeAt sink.target off data } (nw + 1) ns
            exact ⟨_, .write h⟩

/-- only a save can fail: every save of the list succeeds when the list is applied in order -/
def EvsOk (hf : HashFns H) : Sink H → List (Ev H) → Prop
  | _, [] => True
  | sink, e :: es =>
    (match e with
      | .save node l r => ∃ ob, sink.ob.save hf node (l, r) = .ok ob
      | .write .. => True) ∧ EvsOk hf (applyEv hf sink e) es

theorem applyEv_save_ok {hf : HashFns H} {sink : Sink H} {node : Nat} {l r : H} {ob : Store H}
    (hs : sink.ob.save hf node (l, r) = .ok ob) :
    applyEv hf sink (.save node l r) = { sink with ob } := by
  simp only [applyEv, saveOrKeep, hs]

theorem applyEvs_append (hf : HashFns H) (sink : Sink H) (a b : List (Ev H)) :
    applyEvs hf sink (a ++ b) = applyEvs hf (applyEvs hf sink a) b := by
  simp [applyEvs, List.foldl_append]

theorem EvsOk.append {hf : HashFns H} : ∀ (a b : List (Ev H)) (sink : Sink H),
    EvsOk hf sink a → EvsOk hf (applyEvs hf sink a) b → EvsOk hf sink (a ++ b) := by
  intro a
  induction a with
  | nil => intro b sink _ h; exact h
  | cons e a ih =>
    intro b sink h1 h2
    exact ⟨h1.1, ih b _ h1.2 h2⟩

theorem Log.apply {hf : HashFns H} {tree : Tree} {sink sink' : Sink H} {items : List (Item H)}
    {es : List (Ev H)} (h : Log hf tree sink items es sink') :
    sink' = applyEvs hf sink es ∧ EvsOk hf sink es := by
  induction h with
  | stop => exact ⟨rfl, trivial⟩
  | skip _ _ ih => exact ih
  | @save sink sink' node l r ob items es _ hs _ ih =>
    refine ⟨?_, ⟨_, hs⟩, ?_⟩
    · rw [FaultL.applyEvs_cons, applyEv_save_ok hs]; exact ih.1
    · rw [applyEv_save_ok hs]; exact ih.2
  | skipLeaf _ ih => exact ih
  | write _ ih => exact ⟨ih.1, trivial, ih.2⟩

section
variable (hf : HashFns H) (d : List UInt8) (bs : Nat)

/-- "save event" of node `(k, L)`: the completed call that `pItem hf d k L` leads to -/
def sEv (k L : Nat) : Ev H :=
  .save (nodeOf k L) (Spec.pair hf d k L).1 (Spec.pair hf d k L).2

/-- "event good": `IG` carried over to completed calls, the saves `pre` made so far taking the
place of the parent items seen so far -/
def EG (pre : List (Ev H)) : Ev H → Prop
  | .save node l r =>
    ∃ k L, L < 64 ∧ bs ≤ L ∧ midOf k L < nChunks d.length ∧ Ev.save node l r = sEv hf d k L
  | .write off data =>
    ∃ c e, Sub d c e ∧ c < e ∧ off = c * 1024 ∧ data = slice d c e ∧
      ∀ x, c ≤ x → x < e → ∀ L, bs ≤ L → midOf (x / 2 ^ (L + 1)) L < nChunks d.length →
        sEv hf d (x / 2 ^ (L + 1)) L ∈ pre

end

variable {hf : HashFns H} {d : List UInt8} {bs : Nat}

theorem EG.mono {p1 p2 : List (Ev H)} {e : Ev H} (h : ∀ y ∈ p1, y ∈ p2) (he : EG hf d bs p1 e) :
    EG hf d bs p2 e := by
  cases e with
  | save node l r => exact he
  | write off data =>
    obtain ⟨c, e, h1, h2, h3, h4, h5⟩ := he
    exact ⟨c, e, h1, h2, h3, h4, fun x a b L cc m => h _ (h5 x a b L cc m)⟩

/-- `is_relevant_for_outboard` of an existing node of the true tree: its level is `≥ bs` -/
theorem isRelevant_nodeOf {k L : Nat} (hL : L < 64) (hm : midOf k L < nChunks d.length) :
    Tree.isRelevant ⟨d.length, bs⟩ (nodeOf k L) = decide (bs ≤ L) := by
  unfold Tree.isRelevant
  simp only [C18.level_nodeOf (Nat.le_of_lt hL), C18.mid_spec]
  have hpos : 0 < midOf k L := Nat.lt_of_lt_of_le (two_pow_pos' L) (two_pow_le_midOf k L)
  have h1 := (Offsets.lt_nChunks_iff d.length (midOf k L) hpos).1 hm
  by_cases h : L < bs
  · simp [h]
  · by_cases h' : L > bs
    · simp [h, h']; omega
    · have : L = bs := by omega
      subst this
      simp [toBytes, h1]

theorem node_of_two_chunks {k L : Nat} (h : midOf k L < 2) : k = 0 ∧ L = 0 := by
  have e : midOf k L = k * 2 ^ (L + 1) + 2 ^ L := rfl
  have hp := Nat.two_pow_pos L
  have hL : L = 0 := by
    cases L with
    | zero => rfl
    | succ L => rw [e, Nat.pow_succ 2 L] at h; omega
  subst hL
  rw [e] at h
  exact ⟨by omega, rfl⟩

theorem Log.trace (hd : d.length ≤ 2 ^ 63) {sink sink' : Sink H} {items : List (Item H)}
    {es : List (Ev H)} (h : Log hf ⟨d.length, bs⟩ sink items es sink') :
    ∀ (ipre : List (Item H)) (epre : List (Ev H)),
      (∀ k L, bs ≤ L → pItem hf d k L ∈ ipre → sEv hf d k L ∈ epre) →
      Trace (IG hf d bs 64 0 (nChunks d.length)) ipre items → Trace (EG hf d bs) epre es := by
  induction h with
  | stop => intro _ _ _ _; trivial
  | @skip sink sink' node l r items es hrel _ ih =>
    intro ipre epre hlink ht
    obtain ⟨⟨k, L, hL, hm, hx⟩, ht'⟩ := ht
    refine ih _ epre ?_ ht'
    intro k' L' hb hmem
    rcases List.mem_cons.1 hmem with he | hmem
    · exfalso
      rw [hx] at he
      simp only [pItem, Item.parent.injEq] at he hx
      obtain ⟨rfl, rfl⟩ := C18.nodeOf_inj he.1
      rw [hx.1, isRelevant_nodeOf hL hm] at hrel
      simp at hrel; omega
    · exact hlink k' L' hb hmem
  | @save sink sink' node l r ob items es hrel hs _ ih =>
    intro ipre epre hlink ht
    obtain ⟨⟨k, L, hL, hm, hx⟩, ht'⟩ := ht
    simp only [pItem, Item.parent.injEq] at hx
    obtain ⟨rfl, rfl, rfl⟩ := hx
    rw [isRelevant_nodeOf hL hm] at hrel
    have hb : bs ≤ L := by simpa using hrel
    refine ⟨⟨k, L, hL, hb, hm, rfl⟩, ih _ _ ?_ ht'⟩
    intro k' L' hb' hmem
    rcases List.mem_cons.1 hmem with he | hmem
    · simp only [pItem, Item.parent.injEq] at he
      obtain ⟨rfl, rfl⟩ := C18.nodeOf_inj he.1
      exact List.mem_cons_self
    · exact List.mem_cons_of_mem _ (hlink k' L' hb' hmem)
  | @skipLeaf sink sink' off items es _ ih =>
    intro ipre epre hlink ht
    refine ih _ epre ?_ ht.2
    intro k' L' hb hmem
    rcases List.mem_cons.1 hmem with he | hmem
    · simp [pItem] at he
    · exact hlink k' L' hb hmem
  | @write sink sink' off data items es _ ih =>
    intro ipre epre hlink ht
    obtain ⟨⟨c, e, hs, -, h2, -, h4, h5, h6⟩, ht'⟩ := ht
    refine ⟨⟨c, e, hs, h2, h4, h5, ?_⟩, ih _ _ ?_ ht'⟩
    · intro x hx1 hx2 L hb hm
      exact hlink _ _ hb (h6 x hx1 hx2 L hb (level_lt_of_mid_lt hd hm) hm)
    · intro k' L' hb hmem
      rcases List.mem_cons.1 hmem with he | hmem
      · simp [pItem] at he
      · exact List.mem_cons_of_mem _ (hlink k' L' hb hmem)

section hist
variable [BEq H] [LawfulBEq H] {S : HashIn H → Prop}

theorem step_log_on (cf : CollisionFreeOn hf S) (hT : ∀ x ∈ trueEvals hf d, S x)
    (hd : d.length ≤ 2 ^ 63) (sink : Sink H) (op : Op)
    (hroot : sink.ob.root = Spec.root hf d) (htree : sink.ob.tree = ⟨d.length, bs⟩)
    (hE : ∀ x ∈ runEvals hf op.fl sink.ob.root sink.ob.tree op.ranges op.stream, S x) :
    ∃ es, step hf sink op = applyEvs hf sink es ∧ EvsOk hf sink es ∧
      Trace (EG hf d bs) [] es := by
  have hlog : ∃ es, Log hf sink.ob.tree sink
      (decodeAll hf op.fl sink.ob.root sink.ob.tree op.ranges op.stream).items es
      (step hf sink op) :=
    faux_log hf op.fl sink.ob.tree op.fw op.fs _ _ sink 0 0
  rw [hroot, htree] at hE hlog
  obtain ⟨es, hlog⟩ := hlog
  obtain ⟨h1, h2⟩ := hlog.apply
  exact ⟨es, h1, h2, hlog.trace hd [] [] (fun _ _ _ h => by cases h)
    (decodeAll_good cf hT hd op.fl op.ranges op.stream hE)⟩

omit [BEq H] [LawfulBEq H] in
theorem labelled_trans {a b c : Sink H}
    (h : ∃ es, b = applyEvs hf a es ∧ EvsOk hf a es ∧ Trace (EG hf d bs) [] es)
    (g : ∃ es, c = applyEvs hf b es ∧ EvsOk hf b es ∧ Trace (EG hf d bs) [] es) :
    ∃ es, c = applyEvs hf a es ∧ EvsOk hf a es ∧ Trace (EG hf d bs) [] es := by
  obtain ⟨es1, rfl, h2, h3⟩ := h
  obtain ⟨es2, rfl, g2, g3⟩ := g
  exact ⟨es1 ++ es2, (applyEvs_append hf a es1 es2).symm, EvsOk.append es1 es2 a h2 g2,
    (Trace.append es1 es2 []).2 ⟨h3,
      Trace.imp (pre2 := []) (fun _ _ _ h _ he => EG.mono h he) es2 [] _
        (fun _ h => by cases h) (fun _ h => by cases h) g3⟩⟩

theorem run_log_on (cf : CollisionFreeOn hf S) (hT : ∀ x ∈ trueEvals hf d, S x)
    (hd : d.length ≤ 2 ^ 63) (root : H) (tree : Tree) (hroot : root = Spec.root hf d)
    (htree : tree = ⟨d.length, bs⟩) (ops : List Op) (sink : Sink H) (hr : sink.ob.root = root)
    (ht : sink.ob.tree = tree)
    (hE : ∀ op ∈ ops, ∀ x ∈ runEvals hf op.fl root tree op.ranges op.stream, S x) :
    ∃ es, run hf ops sink = applyEvs hf sink es ∧ EvsOk hf sink es ∧
      Trace (EG hf d bs) [] es :=
  run_rel hf (R := fun s s' => ∃ es, s' = applyEvs hf s es ∧ EvsOk hf s es ∧
      Trace (EG hf d bs) [] es)
    (fun _ => ⟨[], rfl, trivial, trivial⟩) labelled_trans root tree ops sink hr ht
    fun op hop s hr ht => step_log_on cf hT hd s op (hr.trans hroot) (ht.trans htree)
      (by rw [hr, ht]; exact hE op hop)

theorem run_log (cf : CollisionFree hf) (hd : d.length ≤ 2 ^ 63) (ops : List Op) (sink : Sink H)
    (hroot : sink.ob.root = Spec.root hf d) (htree : sink.ob.tree = ⟨d.length, bs⟩) :
    ∃ es, run hf ops sink = applyEvs hf sink es ∧ EvsOk hf sink es ∧
      Trace (EG hf d bs) [] es :=
  run_log_on (cf.on fun _ => True) (fun _ _ => trivial) hd _ _ hroot htree ops sink rfl rfl
    (fun _ _ _ _ => trivial)

end hist

end Bao.C07L
