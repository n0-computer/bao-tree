import BaoProofs.Lemmas.SpecObL

/-!
# The executable specification verdict of `ob` never rejects the model  (property C03)

`ob blob bs entry` (`Ops.opOb`) creates an outboard of a blob through one of 26 entry points of the
crate and prints `root  digest-of-the-outboard-bytes  blake3::hash(data)  bao-crate-outboard-digest`.
The verdict judges the implementation's line with `Spec.root`, `Spec.preOutboard` /
`Spec.postOutboard` (the untouched stale filling for the `EmptyOutboard`), the size formula
`(nBlocks − 1) · 64`, and at block size 0 the bao crate's digest.  This file proves that the verdict
accepts the MODEL's own line:

1. hash instance.  The driver's instance `Ops.hf = realHash` represents a hash by its byte list
   (`real_hash_roundtrip`: `toBytes` and `ofBytes` are the identity), so the
   hypothesis `hlen : ∀ h, (toBytes h).length = 32` of the C03 theorems is FALSE for it (`h = []`).
   `real_hash_outputs` proves from the executable BLAKE3 code that every OUTPUT of `chunkCv` /
   `parentCv` has 32 bytes (`OutLen hf`), and `outboard_store_pre'`, `outboard_store_post'`, `size'`
   are the C03 store theorems under this weaker hypothesis (every `hf`; they imply the C03 versions
   by `outLen_of_hlen`).  `post_order_writer` and `outboard_store_empty` of C03 need no such
   hypothesis and are used as they are.
2. component level (`ob_component`, `b3_component`, `size_component`, `bao_component`,
   `verdict_tokens'`, `model_split`): each quantity the verdict compares, computed from the model,
   is what the verdict expects, and the model's line splits into these tokens.
3. op level: `ob_specFail` (any argument strings that parse), `ob_no_false_alarm` (the 26 entry
   names, with or without a `+t<m>` / `+p<k>` reader modifier), `ob_const_no_false_alarm`
   (descriptors `const:B:N`: no parse hypothesis left), `ob_bad_entry` (every other entry name is
   `bad-op`), `ob_entries` (the accepted names are exactly the 26).

Bounds: `d.length ≤ 2^63`, `bs ≤ 10`.
-/

set_option maxRecDepth 8192

namespace Bao.SpecOb
open Bao Bao.Spec Bao.Ops Bao.Proto Bao.SpecIndex

/-! ## 1. the hash instance -/

/-- the executable BLAKE3 returns 32 bytes: the outputs of `realHash` have a 32-byte representation
(proved from `Blake3.compress`: the result is 8 pushed words, 4 bytes each) -/
theorem real_hash_outputs : OutLen Ops.hf ∧
    (∀ c b r, (Blake3.chunkCv c b r).length = 32) ∧ (∀ l r f, (Blake3.parentCv l r f).length = 32) :=
  ⟨hf_outLen, chunkCv_length, parentCv_length⟩

/-- `toBytes` / `ofBytes` of the driver's instance are the identity (wire round trip) -/
theorem real_hash_roundtrip (h : HB) : Ops.hf.ofBytes (Ops.hf.toBytes h) = h ∧ Ops.hf.toBytes h = h :=
  ⟨rfl, rfl⟩

/-- the universal `hlen` of C03 does not hold for the driver's instance -/
example : ¬ ∀ h, (Ops.hf.toBytes h).length = 32 := fun h => absurd (h []) (by decide)

/-- C03 `outboard_store_pre` for every instance whose hash OUTPUTS are 32 bytes -/
theorem outboard_store_pre' {H : Type} (hf : HashFns H) (hol : OutLen hf)
    (d : List UInt8) (bs : Nat) (hs : d.length ≤ 2 ^ 63) (hbs : bs ≤ 10) (ob : Store H)
    (htree : ob.tree = ⟨d.length, bs⟩)
    (hk : (ob.kind = .preIo ∧ ob.data.length ≤ ob.tree.outboardSize) ∨
          (ob.kind = .preMem ∧ ob.data.length = ob.tree.outboardSize)) :
    outboard hf d ob.tree ob
      = ⟨.ok (Spec.root hf d), { ob with data := Spec.preOutboard hf d bs }⟩ :=
  outboard_run_pre' hf hol d bs hs hbs ob htree hk

/-- the store `opOb` uses for `sync-create-preMem` (root field `[]`, zero-filled backing) -/
example : outboard Ops.hf (List.replicate 3000 7) ⟨3000, 1⟩ ⟨.preMem, [], ⟨3000, 1⟩, zerosN 64⟩
    = ⟨.ok (Spec.root Ops.hf (List.replicate 3000 7)),
       ⟨.preMem, [], ⟨3000, 1⟩, Spec.preOutboard Ops.hf (List.replicate 3000 7) 1⟩⟩ := by
  have hl : (List.replicate 3000 (7 : UInt8)).length = 3000 := List.length_replicate ..
  have := outboard_store_pre' Ops.hf hf_outLen (List.replicate 3000 7) 1 (by rw [hl]; decide)
    (by decide) ⟨.preMem, [], ⟨3000, 1⟩, zerosN 64⟩ (by rw [hl]) (.inr ⟨rfl, by decide⟩)
  exact this

/-- C03 `outboard_store_post` under `OutLen` -/
theorem outboard_store_post' {H : Type} (hf : HashFns H) (hol : OutLen hf)
    (d : List UInt8) (bs : Nat) (hs : d.length ≤ 2 ^ 63) (hbs : bs ≤ 10) (ob : Store H)
    (htree : ob.tree = ⟨d.length, bs⟩)
    (hk : (ob.kind = .postIo ∧ ob.data.length ≤ ob.tree.outboardSize) ∨
          (ob.kind = .postMem ∧ ob.data.length = ob.tree.outboardSize)) :
    outboard hf d ob.tree ob
      = ⟨.ok (Spec.root hf d), { ob with data := Spec.postOutboard hf d bs }⟩ :=
  outboard_run_post' hf hol d bs hs hbs ob htree hk

example : outboard Ops.hf (List.replicate 3000 7) ⟨3000, 1⟩ ⟨.postIo, [], ⟨3000, 1⟩, []⟩
    = ⟨.ok (Spec.root Ops.hf (List.replicate 3000 7)),
       ⟨.postIo, [], ⟨3000, 1⟩, Spec.postOutboard Ops.hf (List.replicate 3000 7) 1⟩⟩ := by
  have hl : (List.replicate 3000 (7 : UInt8)).length = 3000 := List.length_replicate ..
  have := outboard_store_post' Ops.hf hf_outLen (List.replicate 3000 7) 1 (by rw [hl]; decide)
    (by decide) ⟨.postIo, [], ⟨3000, 1⟩, []⟩ (by rw [hl]) (.inl ⟨rfl, Nat.zero_le _⟩)
  exact this

/-- C03 `size` under `OutLen` -/
theorem size' {H : Type} (hf : HashFns H) (hol : OutLen hf)
    (d : List UInt8) (bs : Nat) (hs : d.length ≤ 2 ^ 63) (hbs : bs ≤ 10) :
    (Spec.preOutboard hf d bs).length = (Spec.nBlocks d.length bs - 1) * 64 ∧
    (Spec.postOutboard hf d bs).length = (Spec.nBlocks d.length bs - 1) * 64 := by
  rw [← C12.blocks_spec]
  exact ⟨preOutboard_length' hf hol d bs hs hbs, postOutboard_length' hf hol d bs hs hbs⟩

example : (Spec.preOutboard Ops.hf (List.replicate 3000 7) 1).length
    = (Spec.nBlocks (List.replicate 3000 (7 : UInt8)).length 1 - 1) * 64 :=
  (size' Ops.hf hf_outLen (List.replicate 3000 7) 1
    (by rw [List.length_replicate]; decide) (by decide)).1

/-! ## 2. component level -/

/-- clauses 1+2, first token: every entry that `opOb` accepts prints `hex (Spec.root hf d)` as root,
and clause 3: its outboard bytes are `obExpect` = the verdict's `specOb` (stale filling for the
`-empty` entries, else `Spec.preOutboard` / `Spec.postOutboard` by the order flag) -/
theorem ob_component (d : List UInt8) (bs : Nat) (hs : d.length ≤ 2 ^ 63) (hbs : bs ≤ 10)
    (entry rootS : String) (ob : List UInt8) (isPre : Bool)
    (h : obRes d bs entry = some (rootS, ob, isPre)) :
    rootS = hex (Spec.root hf d) ∧ ob = obExpect d bs entry isPre :=
  obRes_spec d bs hs hbs entry rootS ob isPre h

example : (viaStore (List.replicate 3000 7) 1 .preMem
      (zerosN (Tree.outboardSize ⟨(List.replicate 3000 (7 : UInt8)).length, 1⟩))).2
    = obExpect (List.replicate 3000 7) 1 "sync-create-preMem" true :=
  (ob_component (List.replicate 3000 7) 1 (by rw [List.length_replicate]; decide) (by decide)
    "sync-create-preMem" _ _ true rfl).2

/-- the order flag of an accepted entry and the `-empty` test are not needed for the remaining
clauses; clause 1, third token: the model's `blake3::hash(data)` is `Spec.root` -/
theorem b3_component (d : List UInt8) : hex (hashSubtree hf 0 d true) = hex (Spec.root hf d) := by
  rw [hashSubtree_root]

/-- clause 4: the expected bytes have `(nBlocks − 1) · 64` bytes -/
theorem size_component (d : List UInt8) (bs : Nat) (hs : d.length ≤ 2 ^ 63) (hbs : bs ≤ 10)
    (entry : String) (isPre : Bool) :
    (obExpect d bs entry isPre).length = (Spec.nBlocks d.length bs - 1) * 64 :=
  obExpect_length d bs hs hbs entry isPre

example : (obExpect (List.replicate 3000 7) 1 "sync-init-postIo" false).length
    = (Spec.nBlocks (List.replicate 3000 (7 : UInt8)).length 1 - 1) * 64 :=
  size_component _ 1 (by rw [List.length_replicate]; decide) (by decide) _ _

/-- clause 5: at block size 0, for a pre-order non-empty entry, the digest of the expected bytes is
the model's bao-crate token -/
theorem bao_component (d : List UInt8) (entry : String) (h : entry.endsWith "-empty" = false) :
    dig (obExpect d 0 entry true) = baoTok d 0 := by
  rw [obExpect_pre d 0 entry h]; rfl

example : dig (obExpect [1, 2, 3] 0 "sync-create-preMem" true) = baoTok [1, 2, 3] 0 :=
  bao_component _ _ ((endsWith_ofList _ _).trans (by decide +kernel))

/-- all clauses: the verdict accepts the four tokens computed from the specification (any entry
name, any order flag) -/
theorem verdict_tokens' (d : List UInt8) (bs : Nat) (hs : d.length ≤ 2 ^ 63) (hbs : bs ≤ 10)
    (entry : String) (isPre : Bool) :
    obVerdictT d bs entry isPre
      [hex (Spec.root hf d), dig (obExpect d bs entry isPre), hex (hashSubtree hf 0 d true),
        baoTok d bs] = none :=
  verdict_tokens d bs hs hbs entry isPre

example : obVerdictT [1, 2, 3] 0 "sync-create-preMem" true
    [hex (Spec.root hf [1, 2, 3]), dig (obExpect [1, 2, 3] 0 "sync-create-preMem" true),
      hex (hashSubtree hf 0 [1, 2, 3] true), baoTok [1, 2, 3] 0] = none :=
  verdict_tokens' _ 0 (by decide) (by decide) _ _

/-- … and the model's line splits into exactly these tokens -/
theorem model_split (d : List UInt8) (bs : Nat) (ob : List UInt8) :
    (obModelStr d bs (hex (Spec.root hf d)) ob).splitOn " "
      = [hex (Spec.root hf d), dig ob, hex (hashSubtree hf 0 d true), baoTok d bs] :=
  obModelStr_split d bs _ ob (noSp_hex _)

/-- the verdict does reject: different first and third token (any blob) -/
example (d : List UInt8) : obVerdictT d 0 "sync-create-preMem" true ["a", "b", "c", "e"] ≠ none :=
  fun h => absurd (verdict_sound _ _ _ _ _ _ _ _ h).1 (by decide)

/-- the verdict does reject: a wrong root (`-`, the rendering of an empty hash) for the empty blob:
a root has 32 bytes, so its rendering has 64 digits -/
example : obVerdictT [] 0 "sync-create-preMem" true ["-", "0:0", "-", "0:0"] ≠ none := by
  intro h
  have e := congrArg String.length (verdict_sound _ _ _ _ _ _ _ _ h).2.1
  rw [hex_length _ (List.ne_nil_of_length_pos (by rw [root_length]; decide)), root_length] at e
  revert e
  decide

/-- a line of the wrong shape is rejected -/
example (d : List UInt8) : obVerdictT d 0 "sync-create-preMem" true ["a", "b", "c"]
    = some "malformed" := rfl

/-! ## 3. op level -/

/-- the full statement for `opOb`: on the model's own output the verdict is `none`, for all
argument strings that parse: a blob descriptor, a block size, and an entry (possibly with a
`+…` modifier) that `opOb` accepts -/
theorem ob_specFail (b bs entry0 impl : String) (d : List UInt8) (bsn : Nat)
    (h1 : blob b = some d) (h2 : bs.toNat? = some bsn)
    (hs : d.length ≤ 2 ^ 63) (hbs : bsn ≤ 10)
    (h3 : (obRes d bsn (entryOf entry0)).isSome = true) :
    (opOb [b, bs, entry0] (opOb [b, bs, entry0] impl).model).specFail = none := by
  obtain ⟨⟨rootS, ob, isPre⟩, hr⟩ := Option.isSome_iff_exists.1 h3
  obtain ⟨rfl, rfl⟩ := obRes_spec d bsn hs hbs _ _ _ _ hr
  rw [opOb_eq b bs entry0 impl d bsn h1 h2, opOb_eq b bs entry0 _ d bsn h1 h2]
  simp only [hr]
  rw [obVerdict_eq, obModelStr_split d bsn _ _ (noSp_hex _)]
  exact verdict_tokens d bsn hs hbs _ _

/-- the accepted entry names are exactly the 26 of `obEntries` (= `ENTRIES` of the generator) -/
theorem ob_entries (d : List UInt8) (bs : Nat) (e : String) :
    (obRes d bs e).isSome = true ↔ e ∈ obEntries :=
  obRes_isSome_iff d bs e

/-- every other entry name is `bad-op` (does not parse) -/
theorem ob_bad_entry (b bs entry0 impl : String) (d : List UInt8) (bsn : Nat)
    (h1 : blob b = some d) (h2 : bs.toNat? = some bsn) (h3 : entryOf entry0 ∉ obEntries) :
    opOb [b, bs, entry0] impl = bad "ob entry" := by
  have hn : obRes d bsn (entryOf entry0) = none := by
    cases h : obRes d bsn (entryOf entry0) with
    | none => rfl
    | some r =>
      exact absurd ((obRes_isSome_iff d bsn _).1 (by rw [h]; rfl)) h3
  rw [opOb_eq b bs entry0 impl d bsn h1 h2, hn]

example : opOb ["const:7:3000", "1", "sync-outboard-foo"] "x" = bad "ob entry" :=
  ob_bad_entry _ _ _ _ _ 1 (blob_const 7 3000) (toNat?_toString 1)
    (by rw [entryOf_plain _ (noPlus_ofList _ (by decide +kernel))]; simp [obEntries])

/-- `(opOb [blob, bs, entry] m).specFail = none` for the model's own output `m`: the 26 entry names,
bare (`modifier = none`) or with a reader modifier `entry+t<m>` / `entry+p<k>` (any text after the
`+`) -/
theorem ob_no_false_alarm (b impl : String) (d : List UInt8) (bs : Nat) (e : String)
    (modifier : Option String)
    (h1 : blob b = some d) (hs : d.length ≤ 2 ^ 63) (hbs : bs ≤ 10) (he : e ∈ obEntries) :
    let entry0 := match modifier with | none => e | some t => e ++ "+" ++ t
    (opOb [b, toString bs, entry0] (opOb [b, toString bs, entry0] impl).model).specFail = none := by
  have hplus : '+' ∉ e.toList := noPlus_obEntries e he
  intro entry0
  have hent : entryOf entry0 = e := by
    cases modifier with
    | none => exact entryOf_plain e hplus
    | some t => exact entryOf_modified e t hplus
  exact ob_specFail b _ entry0 impl d bs h1 (toNat?_toString bs) hs hbs
    (by rw [hent]; exact (obRes_isSome_iff d bs e).2 he)

example : (opOb ["const:7:3000", toString 1, "sync-create-preMem"]
    (opOb ["const:7:3000", toString 1, "sync-create-preMem"] "").model).specFail = none :=
  ob_no_false_alarm "const:7:3000" "" _ 1 "sync-create-preMem" none (blob_const 7 3000)
    (by rw [List.length_replicate]; decide) (by decide) List.mem_cons_self

example : (opOb ["const:7:3000", toString 0, "sync-outboard-empty" ++ "+" ++ "t63"]
    (opOb ["const:7:3000", toString 0, "sync-outboard-empty" ++ "+" ++ "t63"] "x").model).specFail
    = none :=
  ob_no_false_alarm "const:7:3000" "x" _ 0 "sync-outboard-empty" (some "t63") (blob_const 7 3000)
    (by rw [List.length_replicate]; decide) (by decide) (by simp only [obEntries, List.mem_cons, true_or, or_true])

/-- no hypothesis about parsing left: constant blobs of every size `n ≤ 2^63` -/
theorem ob_const_no_false_alarm (byte n bs : Nat) (e impl : String) (modifier : Option String)
    (hn : n ≤ 2 ^ 63) (hbs : bs ≤ 10) (he : e ∈ obEntries) :
    let entry0 := match modifier with | none => e | some t => e ++ "+" ++ t
    let args := ["const:" ++ toString byte ++ ":" ++ toString n, toString bs, entry0]
    (opOb args (opOb args impl).model).specFail = none :=
  ob_no_false_alarm _ impl _ bs e modifier (blob_const byte n)
    (by rw [List.length_replicate]; exact hn) hbs he

example : (opOb ["const:" ++ toString 200 ++ ":" ++ toString 1000000, toString 4,
      "fsm-init-postIo" ++ "+" ++ "p8"]
    (opOb ["const:" ++ toString 200 ++ ":" ++ toString 1000000, toString 4,
      "fsm-init-postIo" ++ "+" ++ "p8"] "").model).specFail = none :=
  ob_const_no_false_alarm 200 1000000 4 "fsm-init-postIo" "" (some "p8") (by decide) (by decide)
    (by simp only [obEntries, List.mem_cons, true_or, or_true])

end Bao.SpecOb

/-
Status (operation `ob` = `Ops.opOb`, property C03).  Bounds: `d.length ≤ 2^63`, `bs ≤ 10`.

PROVED: `real_hash_outputs`, `real_hash_roundtrip`; `outboard_store_pre'`, `outboard_store_post'`, `size'` (the C03
  store theorems for every `hf` whose hash OUTPUTS are 32 bytes; C03's `hlen : ∀ h, (toBytes h).length = 32` is false of
  the driver's `realHash`, where `H = List UInt8` and `toBytes = id`); `ob_component`, `b3_component`, `size_component`,
  `bao_component`, `verdict_tokens'`, `model_split`; `ob_specFail`, `ob_entries`, `ob_bad_entry`, `ob_no_false_alarm`,
  `ob_const_no_false_alarm`.
PARTIAL: none.   OPEN: none.

FALSE ALARMS: none found.  The generator (`harness/src/gen2.rs`, property C03) emits `ob <blob> <bs> <entry>[+t<m>|+p<k>]`
  with `entry ∈ ENTRIES` (the 26 names of `obEntries`), `bs ≤ 8`, sizes ≤ 1.2 MB: all inside `ob_no_false_alarm`.
  The `-empty` test of the verdict is on the entry NAME, the model's choice of the store kind is by `storeKind?` of the
  text after `…-outboard-`; `SpecOb.entryKind_endsWith` shows the two agree.

Axioms (`#print axioms`): subsets of [propext, Classical.choice, Quot.sound].
-/
