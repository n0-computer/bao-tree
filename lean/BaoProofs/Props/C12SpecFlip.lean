import BaoProofs.Lemmas.SpecFlipL
import BaoProofs.Props.C12Copy
import BaoProofs.Props.C13Bytes

/-!
# The executable specification verdicts of `flipx`, `obpre` and `flip` never reject the model

The correspondence driver judges the implementation's output of

* `flipx seed size bs` (`Ops.opFlipX`): flip of memory outboards with ARBITRARY contents (and root),
  against the re-ordering of the 64-byte records computed from the recursive traversals
  `Spec.persistedPre` / `Spec.persistedPost` and `Spec.indexOfNode` (no offset function involved);
* `obpre pattern seed n m bs flavour` (`Ops.opObPre`): five numbers about the post-order outboards
  of a blob and of an extension (number of pairs, stable count, common prefix, the same two for
  the extension), against `Spec.nBlocks`, the count of persisted nodes whose subtree lies inside
  the blob, and the prefix inequalities;
* `flip blob bs` (`Ops.opFlip`): five flips / copies of the intact outboards (sync and fsm,
  memory and io), against `Spec.preOutboard` / `Spec.postOutboard`.

This file proves that each verdict accepts the model's own output:
`(op args (op args impl).model).specFail = none`, for all arguments that parse, `size ≤ 2^63`,
`bs ≤ 10` (and `n ≤ m` for `obpre`, see the FINDING at the end).

Hash instance.  The driver's `Ops.hf = realHash` has `toBytes = ofBytes = id`, so the hypothesis
`hlen : ∀ h, (toBytes h).length = 32` of `C12.flip_flip`, `C12.copy_spec`, `C13.writer_stable_prefix`
is false for it.  `Lemmas/SpecFlipL.lean` proves the closed forms of `copy` / `flip` from the byte
round trip alone (`ByteRT`, `copy_run'`, `flip_flip'`: the only use of `hlen` in `Lemmas/CopyL.lean`
is the length of a re-encoded record, and a verbatim copy of a 64-byte block has 64 bytes), and the
C13 byte statement / `copy_spec` from `SpecOb.OutLen` (hash OUTPUTS have 32 bytes, proved from the
BLAKE3 code in `Lemmas/SpecObL.lean`).
-/

set_option maxRecDepth 100000

namespace Bao.SpecFlip
open Bao Bao.Spec Bao.Ops Bao.Proto Bao.CopyL

/-! ## 0. `flip` / `copy` for instances without `hlen` -/

/-- `C12.flip_flip` from the byte round trip alone (no `hlen`): every memory store with ARBITRARY
data of exactly `outboardSize` bytes and arbitrary root flips to the store of the other kind, same
root and tree, holding the store's own 64-byte records re-ordered (`reorder`: position in the
source's list looked up with `Spec.indexOfNode`, concatenated along the target's list), and flipping
that gives the store back -/
theorem flip_flip_reorder {H : Type} (hf : HashFns H) (hbt : ByteRT hf) (s : Store H)
    (size bs : Nat) (hs : size ≤ 2 ^ 63) (hbs : bs ≤ 10) (ht : s.tree = ⟨size, bs⟩)
    (hk : s.kind = .preMem ∨ s.kind = .postMem)
    (hd : s.data.length = Tree.outboardSize ⟨size, bs⟩) :
    flip hf s = .ok ⟨flipKind s.kind, s.root, s.tree,
      reorder (plist s.kind size bs) (plist (flipKind s.kind) size bs) s.data⟩ ∧
    flip hf ⟨flipKind s.kind, s.root, s.tree,
      reorder (plist s.kind size bs) (plist (flipKind s.kind) size bs) s.data⟩ = .ok s :=
  flip_flip' hf hbt s size bs hs hbs ht hk hd

example : ∃ t, flip Ops.hf (⟨.preMem, [1], ⟨3000, 1⟩, List.replicate 64 9⟩ : Store HB) = .ok t ∧
    flip Ops.hf t = .ok ⟨.preMem, [1], ⟨3000, 1⟩, List.replicate 64 9⟩ :=
  ⟨_, flip_flip_reorder Ops.hf real_byteRT ⟨.preMem, [1], ⟨3000, 1⟩, List.replicate 64 9⟩ 3000 1
    (by decide) (by decide) rfl (.inl rfl) (by decide)⟩

/-- `C12.copy_spec` for instances whose hash outputs are 32 bytes and that have the byte round trip
(no `hlen`): copying a store that holds the specification outboard of its order yields the
specification outboard of the target's order (both flavours, memory or io on either side) -/
theorem copy_spec_outputs {H : Type} (hf : HashFns H) (hol : SpecOb.OutLen hf) (hbt : ByteRT hf)
    (fl : Flavour) (d : List UInt8) (bs : Nat) (src dst : Store H)
    (hp : C12.CopyPre src dst d.length bs)
    (hsrc : ((src.kind = .preIo ∨ src.kind = .preMem) ∧ src.data = Spec.preOutboard hf d bs) ∨
            ((src.kind = .postIo ∨ src.kind = .postMem) ∧ src.data = Spec.postOutboard hf d bs)) :
    copy hf fl src dst = .ok { dst with
      data := (if dst.kind = .postIo ∨ dst.kind = .postMem then Spec.postOutboard hf d bs
        else Spec.preOutboard hf d bs) } := by
  obtain ⟨hs, hbs, hst, hdt, hsk, _, hdk⟩ := hp
  have hsdat : src.data = specData hf d src.kind bs := by
    rcases hsrc with ⟨hk, hd⟩ | ⟨hk, hd⟩
    · rw [specData_pre hf d hk, hd]
    · rw [specData_post hf d hk, hd]
  rw [copy_spec' hf hol hbt fl d bs hs hbs src dst hst hdt hsk hsdat hdk.symm, specData_ite]

/-! ## 1. `flipx` -/

/-- the pre-order store with the random backing flips to the post-order store whose backing is the
verdict's `toPost` (records looked up in `persistedPre`, concatenated along `persistedPost`);
flipping again gives the original -/
theorem flipx_pre (seed size bs : Nat) (hs : size ≤ 2 ^ 63) (hbs : bs ≤ 10) :
    flip Ops.hf (fxPre seed size bs)
      = .ok ⟨.postMem, fxRoot seed size bs, ⟨size, bs⟩, fxToPost seed size bs⟩ ∧
    flip Ops.hf ⟨.postMem, fxRoot seed size bs, ⟨size, bs⟩, fxToPost seed size bs⟩
      = .ok (fxPre seed size bs) :=
  flip_flip' hf real_byteRT (fxPre seed size bs) size bs hs hbs rfl (.inl rfl)
    (fxData_length seed size bs)

example : flip Ops.hf (fxPre 3 5000 0)
    = .ok ⟨.postMem, fxRoot 3 5000 0, ⟨5000, 0⟩, fxToPost 3 5000 0⟩ :=
  (flipx_pre 3 5000 0 (by decide) (by decide)).1

/-- the post-order store with the random backing flips to the pre-order store whose backing is the
verdict's `toPre`; flipping again gives the original -/
theorem flipx_post (seed size bs : Nat) (hs : size ≤ 2 ^ 63) (hbs : bs ≤ 10) :
    flip Ops.hf (fxPost seed size bs)
      = .ok ⟨.preMem, fxRoot seed size bs, ⟨size, bs⟩, fxToPre seed size bs⟩ ∧
    flip Ops.hf ⟨.preMem, fxRoot seed size bs, ⟨size, bs⟩, fxToPre seed size bs⟩
      = .ok (fxPost seed size bs) :=
  flip_flip' hf real_byteRT (fxPost seed size bs) size bs hs hbs rfl (.inr rfl)
    (fxData_length seed size bs)

example : flip Ops.hf ⟨.preMem, fxRoot 3 5000 0, ⟨5000, 0⟩, fxToPre 3 5000 0⟩
    = .ok (fxPost 3 5000 0) :=
  (flipx_post 3 5000 0 (by decide) (by decide)).2

/-- the model's output line IS the verdict's expected line -/
theorem flipx_line (seed size bs : Nat) (hs : size ≤ 2 ^ 63) (hbs : bs ≤ 10) :
    fxModel seed size bs = fxSpec seed size bs :=
  fxModel_eq_spec seed size bs hs hbs

example : fxModel 3 5000 0 = fxSpec 3 5000 0 := flipx_line 3 5000 0 (by decide) (by decide)

/-- the full statement for `opFlipX`: on the model's own output the verdict is `none`, for every
argument list that parses to `seed size bs` -/
theorem flipx_specFail (args : List String) (impl : String) (seed size bs : Nat)
    (h : args.mapM (·.toNat?) = some [seed, size, bs]) (hs : size ≤ 2 ^ 63) (hbs : bs ≤ 10) :
    (opFlipX args (opFlipX args impl).model).specFail = none := by
  rw [(opFlipX_eq args _ seed size bs h).2, (opFlipX_eq args impl seed size bs h).1,
    flipx_line seed size bs hs hbs]
  exact (verdict_iff _ _ _).2 rfl

/-- `(opFlipX [seed, size, bs] m).specFail = none` for the model's own output `m` -/
theorem flipx_no_false_alarm (seed size bs : Nat) (impl : String)
    (hs : size ≤ 2 ^ 63) (hbs : bs ≤ 10) :
    (opFlipX [toString seed, toString size, toString bs]
      (opFlipX [toString seed, toString size, toString bs] impl).model).specFail = none :=
  flipx_specFail _ impl seed size bs (SpecIndex.mapM_toNat?_toString [seed, size, bs]) hs hbs

example : (opFlipX [toString 3, toString 5000, toString 0]
    (opFlipX [toString 3, toString 5000, toString 0] "").model).specFail = none :=
  flipx_no_false_alarm 3 5000 0 "" (by decide) (by decide)

example : (opFlipX [toString 77, toString 70000, toString 2]
    (opFlipX [toString 77, toString 70000, toString 2] "x").model).specFail = none :=
  flipx_specFail _ "x" 77 70000 2 (SpecIndex.mapM_toNat?_toString [77, 70000, 2]) (by decide)
    (by decide)

/-- the verdict is sharp: it accepts EXACTLY the model's line (so a wrong output is rejected) -/
theorem flipx_verdict_iff (args : List String) (impl : String) (seed size bs : Nat)
    (h : args.mapM (·.toNat?) = some [seed, size, bs]) (hs : size ≤ 2 ^ 63) (hbs : bs ≤ 10) :
    (opFlipX args impl).specFail = none ↔ impl = (opFlipX args impl).model := by
  rw [(opFlipX_eq args impl seed size bs h).2, (opFlipX_eq args impl seed size bs h).1,
    flipx_line seed size bs hs hbs]
  exact verdict_iff _ _ _

theorem append_ne_empty_left (a b : String) (h : a ≠ "") : a ++ b ≠ "" := by
  intro e
  have := congrArg String.toList e
  rw [String.toList_append] at this
  have h2 : a.toList = [] := (List.append_eq_nil_iff.1 this).1
  exact h (String.toList_inj.1 h2)

theorem append_ne_empty_right (a b : String) (h : b ≠ "") : a ++ b ≠ "" := by
  intro e
  have := congrArg String.toList e
  rw [String.toList_append] at this
  have h2 : b.toList = [] := (List.append_eq_nil_iff.1 this).2
  exact h (String.toList_inj.1 h2)

theorem fxSpec_ne_empty (seed size bs : Nat) : fxSpec seed size bs ≠ "" := by
  unfold fxSpec
  repeat apply append_ne_empty_left
  decide

/-- the verdict rejects a wrong output (the empty line) -/
example : (opFlipX [toString 3, toString 5000, toString 0] "").specFail ≠ none := by
  intro h
  have e := (opFlipX_eq _ "" 3 5000 0 (SpecIndex.mapM_toNat?_toString [3, 5000, 0])).2
  exact fxSpec_ne_empty 3 5000 0 ((verdict_iff _ _ _).1 (e.symm.trans h)).symm

/-! ## 2. `obpre` -/

/-- clause 1 (number of pairs): the writer's output for the first `n` bytes has
`Spec.nBlocks n bs - 1` pairs -/
theorem obpre_pairs (ext : List UInt8) (n bs : Nat) (hn : n ≤ ext.length) (hs : n ≤ 2 ^ 63)
    (hbs : bs ≤ 10) : (opA ext n bs).length / 64 = Spec.nBlocks n bs - 1 := by
  rw [opA_length ext n bs hn hs hbs, (C12.post n bs hs hbs).1, C12.blocks_spec,
    Nat.mul_div_cancel _ (by decide)]

example : (opA (List.replicate 5000 7) 3000 0).length / 64 = Spec.nBlocks 3000 0 - 1 :=
  obpre_pairs _ 3000 0 (by rw [List.length_replicate]; decide) (by decide) (by decide)

/-- clauses 2 and 4 (stable count, of the blob and of the extension): the number of nodes of
`post_order_nodes_iter` that `post_order_offset` classifies `Stable` is the number of persisted
nodes whose (untruncated) subtree lies inside the blob -/
theorem obpre_stable (size bs : Nat) (hs : size ≤ 2 ^ 63) (hbs : bs ≤ 10) :
    opStable size bs = opSpecStable size bs ∧
    opSpecStable size bs = C13.stableCount size bs :=
  ⟨opStable_eq size bs hs hbs, opSpecStable_eq_count size bs hs hbs⟩

example : opStable 5000 0 = opSpecStable 5000 0 := (obpre_stable 5000 0 (by decide) (by decide)).1

/-- clause 3 (stable prefix): the two outputs have at least `stable count` common leading pairs -/
theorem obpre_prefix (ext : List UInt8) (n bs : Nat) (hn : n ≤ ext.length)
    (hs : ext.length ≤ 2 ^ 63) (hbs : bs ≤ 10) : opStable n bs ≤ opL ext n bs := by
  have hS : opSpecStable n bs ≤ (Spec.persistedPost n bs).length := List.length_filter_le _ _
  have hS' : opSpecStable n bs ≤ (Spec.persistedPost ext.length bs).length := by
    rw [opSpecStable_eq_count n bs (by omega) hbs]
    exact C13L.stable_count_le' hn hs hbs
  have hla := opA_length ext n bs hn (by omega) hbs
  have hlb := opB_length ext bs hs hbs
  have := lcp_of_take (opSpecStable n bs) ((opA ext n bs).length / 64 + 1) (opA ext n bs)
    (opB ext bs) 0 (by rw [hla, Nat.mul_div_cancel _ (by decide)]; omega)
    (opA_opB_take ext n bs hn hs hbs) (by omega) (by omega)
  rw [opStable_eq n bs (by omega) hbs]
  unfold opL
  omega

example : opStable 3000 0 ≤ opL (List.replicate 5000 7) 3000 0 :=
  obpre_prefix _ 3000 0 (by rw [List.length_replicate]; decide) (by rw [List.length_replicate]; decide) (by decide)

/-- clause 5 (the extension's outboard holds all its stable pairs) -/
theorem obpre_grown (ext : List UInt8) (bs : Nat) (hs : ext.length ≤ 2 ^ 63) (hbs : bs ≤ 10) :
    opStable ext.length bs ≤ (opB ext bs).length / 64 := by
  rw [opB_length ext bs hs hbs, Nat.mul_div_cancel _ (by decide), opStable_eq _ bs hs hbs]
  exact List.length_filter_le _ _

example : opStable (List.replicate 5000 7).length 0 ≤ (opB (List.replicate 5000 7) 0).length / 64 := by
  -- the `7` of the first list is a `Nat`: both lengths are brought to `5000` instead of being compared by unfolding
  have h := obpre_grown (List.replicate 5000 7) 0 (by rw [List.length_replicate]; decide) (by decide)
  rw [List.length_replicate] at h ⊢
  exact h

/-- the verdict on the model's five numbers -/
theorem obpre_verdict_nums (ext : List UInt8) (n bs : Nat) (hn : n ≤ ext.length)
    (hs : ext.length ≤ 2 ^ 63) (hbs : bs ≤ 10) :
    opVerdictNums ext n bs (some (opNums ext n bs)) = none := by
  have h1 := obpre_pairs ext n bs hn (by omega) hbs
  have h2 := (obpre_stable n bs (by omega) hbs).1
  have h3 := obpre_prefix ext n bs hn hs hbs
  have h4 := (obpre_stable ext.length bs hs hbs).1
  have h5 := obpre_grown ext bs hs hbs
  unfold opVerdictNums opNums
  simp only [h1, h2, h4, bne_self_eq_false, Bool.false_eq_true, if_false]
  rw [h2] at h3
  rw [h4] at h5
  rw [if_neg (by omega), if_neg (by omega)]

example : opVerdictNums (List.replicate 5000 7) 3000 0 (some (opNums (List.replicate 5000 7) 3000 0))
    = none := obpre_verdict_nums (List.replicate 5000 7) 3000 0 (by rw [List.length_replicate]; decide) (by rw [List.length_replicate]; decide) (by decide)

/-- the verdict accepts the numbers the model prints for `obpre const 7 3000 5000 0` … -/
example : opVerdictNums (List.replicate 5000 7) 3000 0 (some [2, 1, 1, 4, 3]) = none := by
  -- the length of the extension is rewritten to `5000` first: the kernel would count the list
  simp only [opVerdictNums, List.length_replicate]
  decide +kernel

/-- … and rejects wrong ones: a stable count that is too large, a common prefix that is too short,
a wrong number of pairs, and a line that is not five numbers -/
example : opVerdictNums (List.replicate 5000 7) 3000 0 (some [2, 2, 2, 4, 3])
    = some "stable count 2, spec 1" := by
  simp only [opVerdictNums, List.length_replicate]
  decide +kernel
example : opVerdictNums (List.replicate 5000 7) 3000 0 (some [2, 1, 0, 4, 3])
    = some "stable prefix of 1 pairs is not a prefix of the extension's outboard (common prefix 0)" := by
  simp only [opVerdictNums, List.length_replicate]
  decide +kernel
example : opVerdictNums (List.replicate 5000 7) 3000 0 (some [3, 1, 1, 4, 3])
    = some "number of pairs" := by
  simp only [opVerdictNums, List.length_replicate]
  decide +kernel
example : opVerdictNums (List.replicate 5000 7) 3000 0 (some [2, 1, 1, 4]) = some "malformed" := rfl
example : opVerdictNums (List.replicate 5000 7) 3000 0 none = some "malformed" := rfl

/-- the full statement for `opObPre`: on the model's own output the verdict is `none`, for all
argument strings that parse (`blob "<pat>:<seed>:<m>" = some ext`, numbers `n`, `bs`; the flavour
argument is not looked at by the model) with `n ≤ ext.length ≤ 2^63`, `bs ≤ 10` -/
theorem obpre_specFail (pat seed n m' bs fl impl : String) (ext : List UInt8) (nn bsn : Nat)
    (h1 : blob s!"{pat}:{seed}:{m'}" = some ext) (h2 : n.toNat? = some nn)
    (h3 : bs.toNat? = some bsn) (hn : nn ≤ ext.length) (hs : ext.length ≤ 2 ^ 63)
    (hbs : bsn ≤ 10) :
    (opObPre [pat, seed, n, m', bs, fl]
      (opObPre [pat, seed, n, m', bs, fl] impl).model).specFail = none := by
  rw [(opObPre_eq pat seed n m' bs fl _ ext nn bsn h1 h2 h3).2,
    (opObPre_eq pat seed n m' bs fl impl ext nn bsn h1 h2 h3).1]
  unfold opVerdict
  rw [opModel_parse]
  exact obpre_verdict_nums ext nn bsn hn hs hbs

theorem blob_const_lit : blob s!"{"const"}:{toString 7}:{toString 5000}"
    = some (List.replicate 5000 (UInt8.ofNat 7)) := SpecOb.blob_const 7 5000

example : (opObPre ["const", toString 7, toString 3000, toString 5000, toString 0, "sync"]
    (opObPre ["const", toString 7, toString 3000, toString 5000, toString 0, "sync"] "").model).specFail
    = none :=
  obpre_specFail "const" _ _ _ _ "sync" "" _ 3000 0 blob_const_lit (SpecIndex.toNat?_toString _)
    (SpecIndex.toNat?_toString _) (by rw [List.length_replicate]; decide) (by rw [List.length_replicate]; decide) (by decide)

/-- no parse hypothesis left: constant blobs (`const:B:M`), every `n ≤ m ≤ 2^63`, `bs ≤ 10` -/
theorem obpre_const_no_false_alarm (byte n m bs : Nat) (fl impl : String) (hn : n ≤ m)
    (hm : m ≤ 2 ^ 63) (hbs : bs ≤ 10) :
    (opObPre ["const", toString byte, toString n, toString m, toString bs, fl]
      (opObPre ["const", toString byte, toString n, toString m, toString bs, fl] impl).model).specFail
      = none :=
  obpre_specFail "const" _ _ _ _ fl impl (List.replicate m (UInt8.ofNat byte)) n bs
    (SpecOb.blob_const byte m) (SpecIndex.toNat?_toString _) (SpecIndex.toNat?_toString _)
    (by rw [List.length_replicate]; exact hn) (by rw [List.length_replicate]; exact hm) hbs

example : (opObPre ["const", toString 9, toString 70000, toString 70001, toString 2, "growfsm"]
    (opObPre ["const", toString 9, toString 70000, toString 70001, toString 2, "growfsm"] "x").model).specFail
    = none :=
  obpre_const_no_false_alarm 9 70000 70001 2 "growfsm" "x" (by decide) (by decide) (by decide)

/-! ### FINDING: `n > m` is a false alarm of the machinery -/

/-- for `n > ext.length` (a "prefix" longer than the blob) the verdict REJECTS the model's own
output: the model cuts `ext.take n = ext` but builds the tree of `n` bytes; `obpre const 7 1025 1000 0`
prints `0 0 0 0 0`, the verdict expects `Spec.nBlocks 1025 0 - 1 = 1` pairs -/
theorem obpre_longer_prefix_rejected :
    opVerdictNums (List.replicate 1000 7) 1025 0 (some (opNums (List.replicate 1000 7) 1025 0))
      = some "number of pairs" := by
  have h1 : (opA (List.replicate 1000 7) 1025 0).length / 64 = 0 := by decide +kernel
  have h2 : Spec.nBlocks 1025 0 - 1 = 1 := by decide
  unfold opVerdictNums opNums
  simp only [h1, h2]
  rfl

theorem blob_const_lit2 : blob s!"{"const"}:{toString 7}:{toString 1000}"
    = some (List.replicate 1000 (UInt8.ofNat 7)) := SpecOb.blob_const 7 1000

/-- the same on the level of the operation -/
theorem obpre_false_alarm :
    (opObPre ["const", toString 7, toString 1025, toString 1000, toString 0, "sync"]
      (opObPre ["const", toString 7, toString 1025, toString 1000, toString 0, "sync"] "").model).specFail
      = some "number of pairs" := by
  rw [(opObPre_eq "const" _ _ _ _ "sync" _ _ 1025 0 blob_const_lit2 (SpecIndex.toNat?_toString _)
      (SpecIndex.toNat?_toString _)).2,
    (opObPre_eq "const" _ _ _ _ "sync" "" _ 1025 0 blob_const_lit2 (SpecIndex.toNat?_toString _)
      (SpecIndex.toNat?_toString _)).1]
  unfold opVerdict
  rw [opModel_parse]
  exact obpre_longer_prefix_rejected

/-! ## 3. `flip` -/

/-- the two intact stores of the driver hold the specification outboards and the BLAKE3 root -/
theorem flip_intact (d : List UInt8) (bs : Nat) (hs : d.length ≤ 2 ^ 63) (hbs : bs ≤ 10) :
    intactStore .preMem d bs
      = ⟨.preMem, Spec.root Ops.hf d, ⟨d.length, bs⟩, Spec.preOutboard Ops.hf d bs⟩ ∧
    intactStore .postMem d bs
      = ⟨.postMem, Spec.root Ops.hf d, ⟨d.length, bs⟩, Spec.postOutboard Ops.hf d bs⟩ :=
  ⟨intact_pre d bs hs hbs, intact_post d bs hs hbs⟩

example : (intactStore .postMem (List.replicate 3000 7) 1).data
    = Spec.postOutboard Ops.hf (List.replicate 3000 7) 1 := by
  rw [(flip_intact (List.replicate 3000 7) 1 (by rw [List.length_replicate]; decide) (by decide)).2]

/-- the five byte strings the model prints are the ones the verdict expects:
pre→post (sync, memory), post→pre (sync, memory), the first result copied back (sync),
pre→post into an empty io backing (fsm), that io store copied back to pre-order memory (fsm) -/
theorem flip_components (d : List UInt8) (bs : Nat) (hs : d.length ≤ 2 ^ 63) (hbs : bs ≤ 10) :
    flA d bs = Spec.postOutboard Ops.hf d bs ∧
    flB d bs = Spec.preOutboard Ops.hf d bs ∧
    flC d bs = Spec.preOutboard Ops.hf d bs ∧
    flIo d bs = Spec.postOutboard Ops.hf d bs ∧
    flBack d bs = Spec.preOutboard Ops.hf d bs :=
  ⟨flA_eq d bs hs hbs, flB_eq d bs hs hbs, flC_eq d bs hs hbs, flIo_eq d bs hs hbs,
    flBack_eq d bs hs hbs⟩

example : flIo (List.replicate 3000 7) 1 = Spec.postOutboard Ops.hf (List.replicate 3000 7) 1 :=
  (flip_components _ 1 (by rw [List.length_replicate]; decide) (by decide)).2.2.2.1

/-- the model's output line IS the verdict's expected line -/
theorem flip_line (d : List UInt8) (bs : Nat) (hs : d.length ≤ 2 ^ 63) (hbs : bs ≤ 10) :
    flModel d bs = flSpec d bs := flModel_eq_spec d bs hs hbs

example : flModel (List.replicate 3000 7) 1 = flSpec (List.replicate 3000 7) 1 :=
  flip_line _ 1 (by rw [List.length_replicate]; decide) (by decide)

/-- the full statement for `opFlip`: on the model's own output the verdict is `none`, for all
argument strings that parse to a blob of at most `2^63` bytes and a block size `≤ 10` -/
theorem flip_specFail (b bs impl : String) (d : List UInt8) (bsn : Nat)
    (h1 : blob b = some d) (h2 : bs.toNat? = some bsn) (hs : d.length ≤ 2 ^ 63) (hbs : bsn ≤ 10) :
    (opFlip [b, bs] (opFlip [b, bs] impl).model).specFail = none := by
  rw [(opFlip_eq b bs _ d bsn h1 h2).2, (opFlip_eq b bs impl d bsn h1 h2).1,
    flip_line d bsn hs hbs]
  exact (verdict_iff _ _ _).2 rfl

example : (opFlip ["const:7:3000", toString 1] (opFlip ["const:7:3000", toString 1] "").model).specFail
    = none :=
  flip_specFail "const:7:3000" _ "" _ 1 (SpecOb.blob_const 7 3000) (SpecIndex.toNat?_toString 1)
    (by rw [List.length_replicate]; decide) (by decide)

/-- no parse hypothesis left: constant blobs of every size `n ≤ 2^63` -/
theorem flip_const_no_false_alarm (byte n bs : Nat) (impl : String) (hn : n ≤ 2 ^ 63)
    (hbs : bs ≤ 10) :
    (opFlip ["const:" ++ toString byte ++ ":" ++ toString n, toString bs]
      (opFlip ["const:" ++ toString byte ++ ":" ++ toString n, toString bs] impl).model).specFail
      = none :=
  flip_specFail _ _ impl _ bs (SpecOb.blob_const byte n) (SpecIndex.toNat?_toString bs)
    (by rw [List.length_replicate]; exact hn) hbs

example : (opFlip ["const:" ++ toString 1 ++ ":" ++ toString 123456, toString 3]
    (opFlip ["const:" ++ toString 1 ++ ":" ++ toString 123456, toString 3] "y").model).specFail
    = none := flip_const_no_false_alarm 1 123456 3 "y" (by decide) (by decide)

/-- the verdict is sharp: it accepts EXACTLY the model's line -/
theorem flip_verdict_iff (b bs impl : String) (d : List UInt8) (bsn : Nat)
    (h1 : blob b = some d) (h2 : bs.toNat? = some bsn) (hs : d.length ≤ 2 ^ 63) (hbs : bsn ≤ 10) :
    (opFlip [b, bs] impl).specFail = none ↔ impl = (opFlip [b, bs] impl).model := by
  rw [(opFlip_eq b bs impl d bsn h1 h2).2, (opFlip_eq b bs impl d bsn h1 h2).1,
    flip_line d bsn hs hbs]
  exact verdict_iff _ _ _

theorem flSpec_ne_empty (d : List UInt8) (bs : Nat) : flSpec d bs ≠ "" := by
  unfold flSpec
  apply append_ne_empty_right
  decide

/-- the verdict rejects a wrong output (the empty line) -/
example : (opFlip ["const:7:3000", toString 1] "").specFail ≠ none := by
  rw [(opFlip_eq "const:7:3000" _ "" _ 1 (SpecOb.blob_const 7 3000)
    (SpecIndex.toNat?_toString 1)).2]
  exact fun h => flSpec_ne_empty _ 1 ((verdict_iff _ _ _).1 h).symm

end Bao.SpecFlip

/-
Status (no-false-alarm theorems for `flipx`, `obpre`, `flip`).
Hypotheses: sizes `≤ 2^63`, `bs ≤ 10`, arguments that parse.  No `hlen` anywhere: the 32-byte facts come from
`SpecOb.hf_outLen` (BLAKE3 outputs) and `real_byteRT` (`toBytes = ofBytes = id`).

PROVED: `flip_flip_reorder`, `copy_spec_outputs` (every `hf`); `flipx_pre`, `flipx_post`, `flipx_line`, `flipx_specFail`,
  `flipx_no_false_alarm`, `flipx_verdict_iff`; `obpre_pairs`, `obpre_stable`, `obpre_prefix`, `obpre_grown`,
  `obpre_verdict_nums`, `obpre_specFail`, `obpre_const_no_false_alarm` (hypothesis `n ≤ ext.length`); `flip_intact`,
  `flip_components`, `flip_line`, `flip_specFail`, `flip_const_no_false_alarm`, `flip_verdict_iff`.
PARTIAL: none.   OPEN: none.

FINDING (false alarm of the machinery, `obpre_longer_prefix_rejected`, `obpre_false_alarm`): for `n > m` (a "prefix"
  longer than the extension) the `obpre` verdict rejects the model's own output, e.g. `obpre const 7 1025 1000 0 sync`:
  the model prints `0 0 0 0 0` (it hashes `ext.take 1025 = ext`, 1000 bytes, with the tree of 1025 bytes), the verdict
  expects `Spec.nBlocks 1025 0 - 1 = 1` pairs.  The generator (`harness/src/gen2.rs`, property C13) only emits `n ≤ m`.

Axioms (`#print axioms`): `obpre_longer_prefix_rejected`: [propext, Quot.sound]; the others:
[propext, Classical.choice, Quot.sound].
-/
