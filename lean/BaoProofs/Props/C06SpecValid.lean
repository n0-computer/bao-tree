import BaoProofs.Lemmas.SpecValidL

/-!
# The executable specification verdict of `valid` never rejects the model (C06)

`Ops.opValid` (`valid flavour store blob bs ranges corruption data|ob`) prints the result of the
model's validator (`validRanges` / `validOutboardRanges`) on the intact store of the blob with the
listed corruptions applied, and judges the implementation's output with a verdict that walks the
tree over block intervals with the real hash and the specification's slot (`Ops.verifiableBlock`,
`Ops.specLoad`: traversal index `Spec.preIndex` / `Spec.postIndex`) and compares with
"verifiable and touched" (`want`).

This file proves: for every store content (intact or corrupted – no hypothesis on the hash) and
every state of the data file (altered bytes, zeroed regions, cut by `Td<len>`), on the model's own
output the verdict is `none` (`valid_specFail`).  The case of a data file that ends early is not
covered by the C06 theorems (their exactness half assumes `NoIo ∋ size ≤ data.length`); it is
treated separately in `Lemmas/SpecValidL.lean` (`rec_end`, `validRanges_end`, `run_short`) and summarised
here in `short_component`.
-/

set_option maxRecDepth 100000

namespace Bao.SpecValid
open Bao Bao.Ops Bao.Proto Bao.ValidL Bao.SpecIndex

/-! ## 1. component level -/

/-- the specification's slot lookup is the model's `load` on every persisted node (level `≥ bs`,
mid inside the blob), for all five store kinds, both flavours, a backing of the outboard size -/
theorem load_component (fl : Flavour) (kind : StoreKind) (root : HB) (size bs k M : Nat)
    (backing : List UInt8) (hs : size ≤ 2 ^ 63) (hbs : bs ≤ 10) (hM : bs ≤ M)
    (hm : Spec.midOf k M < Spec.nChunks size)
    (hdl : backing.length = Tree.outboardSize ⟨size, bs⟩) :
    ∃ p, specLoad kind size bs backing (Spec.nodeOf k M) = some p ∧
      Store.load hf fl (⟨kind, root, ⟨size, bs⟩, backing⟩ : Store HB) (Spec.nodeOf k M)
        = .ok (some p) :=
  load_specLoad fl kind root size bs k M backing hs hbs hM hm hdl

example : (5000 : Nat) ≤ 2 ^ 63 ∧ (0 : Nat) ≤ 10 ∧ (0 : Nat) ≤ 1 ∧
    Spec.midOf 0 1 < Spec.nChunks 5000 ∧
    (List.replicate 256 (7 : UInt8)).length = Tree.outboardSize ⟨5000, 0⟩ := by decide

/-- `Verifiable` of C06 (any store content) is the verdict's `verifiableBlock` for some chunk
group: the clause "verifiable" of `want` -/
theorem verifiable_component (fl : Flavour) (kind : StoreKind) (root : HB) (size bs : Nat)
    (data backing : List UInt8) (wd : Bool) (hs : size ≤ 2 ^ 63) (hbs : bs ≤ 10)
    (hdl : backing.length = Tree.outboardSize ⟨size, bs⟩) (hd : data.length ≤ size)
    (g : Nat × Nat) :
    Verifiable hf fl (⟨kind, root, ⟨size, bs⟩, backing⟩ : Store HB) data wd g ↔
      ∃ i, i < Tree.blocks ⟨size, bs⟩ ∧ g = groupRange ⟨size, bs⟩ i ∧
        verifiableBlock kind size bs data backing wd i (Spec.log2ceil 64 (Spec.nBlocks size bs)) 0
          root true = true :=
  verifiable_iff fl kind root size bs data backing wd hs hbs hdl hd g

example : (5000 : Nat) ≤ 2 ^ 63 ∧ (0 : Nat) ≤ 10 ∧
    (List.replicate 256 (7 : UInt8)).length = Tree.outboardSize ⟨5000, 0⟩ ∧
    (List.replicate 5000 (1 : UInt8)).length ≤ 5000 := by
  simp only [List.length_replicate]; decide

/-- the clause "touched" of `want` is C06's `blocks = 1 ∨ Touched` -/
theorem touched_component (size bs : Nat) (q : List Nat) (i : Nat)
    (hi : i < Tree.blocks ⟨size, bs⟩) :
    touchedB size bs q i = true ↔
      (Tree.blocks ⟨size, bs⟩ = 1 ∨ Touched size q (groupRange ⟨size, bs⟩ i)) :=
  touchedB_iff size bs q i hi

example : (3 : Nat) < Tree.blocks ⟨5000, 0⟩ := by decide

/-- the members of `want`: the verifiable groups the query touches -/
theorem want_component (fl : Flavour) (kind : StoreKind) (root : HB) (size bs : Nat) (q : List Nat)
    (data backing : List UInt8) (wd : Bool) (hs : size ≤ 2 ^ 63) (hbs : bs ≤ 10)
    (hdl : backing.length = Tree.outboardSize ⟨size, bs⟩) (hd : data.length ≤ size)
    (g : Nat × Nat) :
    g ∈ wantList kind size bs q data backing root wd ↔
      Verifiable hf fl (⟨kind, root, ⟨size, bs⟩, backing⟩ : Store HB) data wd g ∧
        (Tree.blocks ⟨size, bs⟩ = 1 ∨ Touched size q g) :=
  mem_want_iff fl kind root size bs q data backing wd hs hbs hdl hd g

/-- no io error is possible on a store whose backing has the outboard size (all five kinds, both
flavours) when the data file is as long as the blob -/
theorem noio_component (fl : Flavour) (kind : StoreKind) (root : HB) (size bs : Nat)
    (data backing : List UInt8) (wd : Bool) (hs : size ≤ 2 ^ 63) (hbs : bs ≤ 10)
    (hdl : backing.length = Tree.outboardSize ⟨size, bs⟩) (hd : wd = true → size ≤ data.length) :
    NoIo hf fl (⟨kind, root, ⟨size, bs⟩, backing⟩ : Store HB) data wd :=
  noIo_full fl kind root size bs data backing wd hs hbs hdl hd

/-- the corruptions of the driver keep the length of the outboard and never lengthen the data -/
theorem corruption_component (spec : String) (d ob root d' ob' root' : List UInt8)
    (h : applyCorruptionExt spec d ob root = some (d', ob', root')) :
    d'.length ≤ d.length ∧ ob'.length = ob.length :=
  applyCorruptionExt_len spec d ob root d' ob' root' h

-- `#eval applyCorruptionExt "d1^255,o0^1,r3^7,Zo1:2,Td2" [1, 2, 3] [4, 5, 6] (List.replicate 32 0)`
-- gives `some ([1, 253], [5, 0, 0], (List.replicate 32 0).set 3 7)`; `String.splitOn` does not reduce
-- under `decide`, so the instance proved here is the empty corruption
example : applyCorruptionExt "-" [1, 2, 3] [4, 5, 6] (List.replicate 32 0)
    = some ([1, 2, 3], [4, 5, 6], List.replicate 32 0) := rfl

/-- COMPONENT LEVEL SUMMARY: the model's run is `⟨want, ok⟩`: what the validator reports is the
list the verdict computes, in the same order, and it ends without error -/
theorem run_component (fl : Flavour) (kind : StoreKind) (d : List UInt8) (bs : Nat) (q : List Nat)
    (d' ob' root' : List UInt8) (wd : Bool) (hs : d.length ≤ 2 ^ 63) (hbs : bs ≤ 10)
    (hq : Ranges.WF q = true) (hdl : ob'.length = Tree.outboardSize ⟨d.length, bs⟩)
    (hd1 : d'.length ≤ d.length) (hd2 : wd = true → d.length ≤ d'.length) :
    validRun fl kind d bs q d' ob' root' wd
      = ⟨wantList kind d.length bs q d' ob' root' wd, .ok⟩ :=
  run_eq_want fl kind d bs q d' ob' root' wd hs hbs hq hdl hd1 hd2

/-- a store with ARBITRARY contents (backing `9 9 9 …`, root `5 5 5 …`, data `1 1 1 …` over the blob
`7 7 7 …` of 3000 bytes, three chunk groups at `bs = 0`): the hypotheses are met -/
example : (List.replicate 3000 (7 : UInt8)).length ≤ 2 ^ 63 ∧ (0 : Nat) ≤ 10 ∧
    Ranges.WF [1, 2] = true ∧
    (List.replicate 128 (9 : UInt8)).length
      = Tree.outboardSize ⟨(List.replicate 3000 (7 : UInt8)).length, 0⟩ ∧
    (List.replicate 3000 (1 : UInt8)).length ≤ (List.replicate 3000 (7 : UInt8)).length ∧
    (true = true → (List.replicate 3000 (7 : UInt8)).length
      ≤ (List.replicate 3000 (1 : UInt8)).length) := by
  simp only [List.length_replicate]; decide

/-! ## 2. op level -/

/-- the part that follows from the C06 theorems alone (`reported_iff`, `reported_iff_outboard`):
`(opValid args (opValid args impl).model).specFail = none` for all arguments that parse,
`size ≤ 2^63`, `bs ≤ 10`, a well-formed query, and – for the data validator – a data file that is
not cut (`d.length ≤ d'.length`); every corruption of data bytes, outboard bytes and root -/
theorem valid_specFail_uncut (a b c e f g m impl : String) (fl : Flavour) (kind : StoreKind)
    (d : List UInt8) (bs : Nat) (ranges : List Nat) (d' ob' root' : List UInt8)
    (h1 : flavour? a = some fl) (h2 : storeKind? b = some kind) (h3 : blob c = some d)
    (h4 : e.toNat? = some bs) (h5 : parseNatList f = some ranges)
    (h6 : applyCorruptionExt g d (intactStore kind d bs).data (intactStore kind d bs).root
      = some (d', ob', root'))
    (hs : d.length ≤ 2 ^ 63) (hbs : bs ≤ 10) (hq : Ranges.WF ranges = true)
    (hlen : m = "data" → d.length ≤ d'.length) :
    (opValid [a, b, c, e, f, g, m] (opValid [a, b, c, e, f, g, m] impl).model).specFail = none := by
  obtain ⟨hd1, hob⟩ := applyCorruptionExt_len g d _ _ d' ob' root' h6
  have hdl : ob'.length = Tree.outboardSize ⟨d.length, bs⟩ := by
    rw [hob, intactStore_data_length kind d bs hs hbs]
  have hd2 : (m == "data") = true → d.length ≤ d'.length := fun h => hlen (by simpa using h)
  rw [opValid_eq a b c e f g m impl fl kind d bs ranges d' ob' root' h1 h2 h3 h4 h5 h6,
    opValid_eq a b c e f g m _ fl kind d bs ranges d' ob' root' h1 h2 h3 h4 h5 h6]
  simp only
  rw [run_eq_want fl kind d bs ranges d' ob' root' _ hs hbs hq hdl hd1 hd2,
    shortGroups_nil d.length bs ranges d' _ hd2]
  exact verdict_want _ bs d'

/-- the data validator on a data file that may end early: every reported group is in `want`; the
run ends `ok` with all of `want` reported, or with `UnexpectedEof` at a touched group `i` whose
bytes are not all there (`i ∈ shortGroups`), everything of `want` in front of it reported -/
theorem short_component (fl : Flavour) (kind : StoreKind) (d : List UInt8) (bs : Nat) (q : List Nat)
    (d' ob' root' : List UInt8) (hs : d.length ≤ 2 ^ 63) (hbs : bs ≤ 10)
    (hq : Ranges.WF q = true) (hdl : ob'.length = Tree.outboardSize ⟨d.length, bs⟩)
    (hd1 : d'.length ≤ d.length) :
    (∀ g ∈ (validRun fl kind d bs q d' ob' root' true).yields,
      g ∈ wantList kind d.length bs q d' ob' root' true) ∧
    (validRun fl kind d bs q d' ob' root' true).yields.Pairwise (fun a b => a.1 < b.1) ∧
    (((validRun fl kind d bs q d' ob' root' true).terminal = .ok ∧
        ∀ g ∈ wantList kind d.length bs q d' ob' root' true,
          g ∈ (validRun fl kind d bs q d' ob' root' true).yields) ∨
      ((validRun fl kind d bs q d' ob' root' true).terminal = .err eofErr ∧
        ∃ i, i ∈ shortGroups d.length bs q d' true ∧
          ∀ g ∈ wantList kind d.length bs q d' ob' root' true, g.1 < i * 2 ^ bs →
            g ∈ (validRun fl kind d bs q d' ob' root' true).yields)) :=
  run_short fl kind d bs q d' ob' root' hs hbs hq hdl hd1

/-- the data file of 3000 bytes cut to 2000 bytes: the hypotheses are met -/
example : (List.replicate 3000 (7 : UInt8)).length ≤ 2 ^ 63 ∧ (0 : Nat) ≤ 10 ∧
    Ranges.WF [0] = true ∧
    (List.replicate 128 (9 : UInt8)).length
      = Tree.outboardSize ⟨(List.replicate 3000 (7 : UInt8)).length, 0⟩ ∧
    (List.replicate 2000 (7 : UInt8)).length ≤ (List.replicate 3000 (7 : UInt8)).length := by
  simp only [List.length_replicate]; decide

/-- when no touched group has missing bytes the run is `⟨want, ok⟩` (the file may be cut behind
the touched groups) -/
theorem no_short_component (fl : Flavour) (kind : StoreKind) (d : List UInt8) (bs : Nat)
    (q : List Nat) (d' ob' root' : List UInt8) (hs : d.length ≤ 2 ^ 63) (hbs : bs ≤ 10)
    (hq : Ranges.WF q = true) (hdl : ob'.length = Tree.outboardSize ⟨d.length, bs⟩)
    (hd1 : d'.length ≤ d.length) (hsg : shortGroups d.length bs q d' true = []) :
    validRun fl kind d bs q d' ob' root' true
      = ⟨wantList kind d.length bs q d' ob' root' true, .ok⟩ :=
  run_eq_want_of_no_short fl kind d bs q d' ob' root' hs hbs hq hdl hd1 hsg

/-- THE OP-LEVEL THEOREM: `(opValid args (opValid args impl).model).specFail = none` for all
arguments that parse, `size ≤ 2^63`, `bs ≤ 10`, a well-formed query: every flavour, store kind,
mode, and every corruption the driver knows (data bytes, outboard bytes, root, zeroed regions, a
data file that ends early) -/
theorem valid_specFail (a b c e f g m impl : String) (fl : Flavour) (kind : StoreKind)
    (d : List UInt8) (bs : Nat) (ranges : List Nat) (d' ob' root' : List UInt8)
    (h1 : flavour? a = some fl) (h2 : storeKind? b = some kind) (h3 : blob c = some d)
    (h4 : e.toNat? = some bs) (h5 : parseNatList f = some ranges)
    (h6 : applyCorruptionExt g d (intactStore kind d bs).data (intactStore kind d bs).root
      = some (d', ob', root'))
    (hs : d.length ≤ 2 ^ 63) (hbs : bs ≤ 10) (hq : Ranges.WF ranges = true) :
    (opValid [a, b, c, e, f, g, m] (opValid [a, b, c, e, f, g, m] impl).model).specFail = none := by
  by_cases hm : m = "data"
  · subst hm
    obtain ⟨hd1, hob⟩ := applyCorruptionExt_len g d _ _ d' ob' root' h6
    have hdl : ob'.length = Tree.outboardSize ⟨d.length, bs⟩ := by
      rw [hob, intactStore_data_length kind d bs hs hbs]
    rw [opValid_eq a b c e f g "data" impl fl kind d bs ranges d' ob' root' h1 h2 h3 h4 h5 h6,
      opValid_eq a b c e f g "data" _ fl kind d bs ranges d' ob' root' h1 h2 h3 h4 h5 h6]
    have hb : (("data" : String) == "data") = true := rfl
    simp only [hb]
    exact verdict_run_data fl kind d bs ranges d' ob' root' hs hbs hq hdl hd1
  · exact valid_specFail_uncut a b c e f g m impl fl kind d bs ranges d' ob' root' h1 h2 h3 h4 h5
      h6 hs hbs hq (fun h => absurd h hm)

/-- the intact store (`corruption = "-"`) -/
theorem valid_intact_specFail (a b c e f m impl : String) (fl : Flavour) (kind : StoreKind)
    (d : List UInt8) (bs : Nat) (ranges : List Nat)
    (h1 : flavour? a = some fl) (h2 : storeKind? b = some kind) (h3 : blob c = some d)
    (h4 : e.toNat? = some bs) (h5 : parseNatList f = some ranges)
    (hs : d.length ≤ 2 ^ 63) (hbs : bs ≤ 10) (hq : Ranges.WF ranges = true) :
    (opValid [a, b, c, e, f, "-", m] (opValid [a, b, c, e, f, "-", m] impl).model).specFail
      = none :=
  valid_specFail a b c e f "-" m impl fl kind d bs ranges d _ _ h1 h2 h3 h4 h5 rfl hs hbs hq

/-- no parsing hypothesis left: constant blobs of every size `n ≤ 2^63`, every flavour and store
kind, every well-formed query (printed canonically), the intact store, both modes -/
theorem valid_const_no_false_alarm (fls kinds m impl : String) (fl : Flavour) (kind : StoreKind)
    (h1 : flavour? fls = some fl) (h2 : storeKind? kinds = some kind) (byte n bs : Nat)
    (q : List Nat) (hn : n ≤ 2 ^ 63) (hbs : bs ≤ 10) (hq : Ranges.WF q = true) :
    let args := [fls, kinds, "const:" ++ toString byte ++ ":" ++ toString n, toString bs, natList q,
      "-", m]
    (opValid args (opValid args impl).model).specFail = none :=
  valid_intact_specFail fls kinds _ _ _ m impl fl kind _ bs q h1 h2 (SpecOb.blob_const byte n)
    (toNat?_toString bs) (SpecTrunc.parseNatList_natList q)
    (by rw [List.length_replicate]; exact hn) hbs hq

example : (opValid ["fsm", "postIo", "const:" ++ toString 7 ++ ":" ++ toString 100000, toString 2,
      natList [3, 9, 50], "-", "data"]
    (opValid ["fsm", "postIo", "const:" ++ toString 7 ++ ":" ++ toString 100000, toString 2,
      natList [3, 9, 50], "-", "data"] "").model).specFail = none :=
  valid_const_no_false_alarm "fsm" "postIo" "data" "" .fsm .postIo rfl rfl 7 100000 2 [3, 9, 50]
    (by decide) (by decide) (by decide)

example : (opValid ["sync", "empty", "const:" ++ toString 0 ++ ":" ++ toString 0, toString 0,
      natList [], "-", "ob"]
    (opValid ["sync", "empty", "const:" ++ toString 0 ++ ":" ++ toString 0, toString 0,
      natList [], "-", "ob"] "x").model).specFail = none :=
  valid_const_no_false_alarm "sync" "empty" "ob" "x" .sync .empty rfl rfl 0 0 0 []
    (by decide) (by decide) (by decide)

/-- no parsing hypothesis left, data file CUT at `len` bytes (`Td<len>`): constant blobs of every
size, every flavour and store kind, every well-formed query -/
theorem valid_const_cut_no_false_alarm (fls kinds m impl : String) (fl : Flavour)
    (kind : StoreKind) (h1 : flavour? fls = some fl) (h2 : storeKind? kinds = some kind)
    (byte n bs len : Nat) (q : List Nat) (hn : n ≤ 2 ^ 63) (hbs : bs ≤ 10)
    (hq : Ranges.WF q = true) :
    let args := [fls, kinds, "const:" ++ toString byte ++ ":" ++ toString n, toString bs, natList q,
      "Td" ++ toString len, m]
    (opValid args (opValid args impl).model).specFail = none :=
  valid_specFail fls kinds _ _ _ _ m impl fl kind _ bs q _ _ _ h1 h2 (SpecOb.blob_const byte n)
    (toNat?_toString bs) (SpecTrunc.parseNatList_natList q) (applyCorruptionExt_td len _ _ _)
    (by rw [List.length_replicate]; exact hn) hbs hq

/-- 5000 bytes cut at 2000, everything queried: the model prints `0:1 Io(UnexpectedEof)@last` and the
verdict accepts it -/
example : (opValid ["sync", "preMem", "const:" ++ toString 7 ++ ":" ++ toString 5000, toString 0,
      natList [0], "Td" ++ toString 2000, "data"]
    (opValid ["sync", "preMem", "const:" ++ toString 7 ++ ":" ++ toString 5000, toString 0,
      natList [0], "Td" ++ toString 2000, "data"] "").model).specFail = none :=
  valid_const_cut_no_false_alarm "sync" "preMem" "data" "" .sync .preMem rfl rfl 7 5000 0 2000 [0]
    (by decide) (by decide) (by decide)

/-! ## 3. the verdict is not vacuous: it rejects wrong outputs -/

/-- the verdict (no short group) rejects every terminal other than `ok` … -/
theorem verdict_rejects_terminal (want : List (Nat × Nat)) (bs : Nat) (d' : List UInt8)
    (iy ie : String) (h1 : NoSp iy) (h2 : NoSp ie) (hne : ie ≠ "ok") :
    validVerdict want [] bs d' (" ".intercalate [iy, ie]) = some s!"validator error {ie}" := by
  unfold validVerdict
  rw [split_two h1 h2]
  have : (ie != "ok") = true := by simpa using hne
  simp [this]

/-- … and every list of reported ranges other than `want` -/
theorem verdict_rejects_ranges (want : List (Nat × Nat)) (bs : Nat) (d' : List UInt8)
    (iy : String) (h1 : NoSp iy) (hne : iy ≠ rangesStr want) :
    (validVerdict want [] bs d' (" ".intercalate [iy, "ok"])).isSome = true := by
  unfold validVerdict
  rw [split_two h1 (noSp_lit "ok" (by decide))]
  have : (iy != (if want.isEmpty then "-" else ",".intercalate (want.map Proto.pair))) = true := by
    rw [bne_iff_ne]; exact hne
  simp only [List.isEmpty_nil, if_true, bne_self_eq_false, Bool.false_eq_true, if_false, this,
    Option.isSome_some]

example : validVerdict [(0, 1), (2, 3)] [] 0 [] (" ".intercalate ["0:1,2:3", "panic"])
    = some "validator error panic" :=
  verdict_rejects_terminal _ 0 [] "0:1,2:3" "panic" (noSp_lit _ (by decide)) (noSp_lit _ (by decide))
    (by decide)

example : (validVerdict [(0, 1), (2, 3)] [] 0 [] (" ".intercalate ["0:1", "ok"])).isSome = true :=
  verdict_rejects_ranges _ 0 [] "0:1" (noSp_lit _ (by decide)) (by decide)

example : validVerdict [(0, 1), (2, 3)] [] 0 [] (validModelStr ⟨[(0, 1), (2, 3)], .ok⟩) = none :=
  verdict_want _ 0 []


/-- the branch for a data file with missing bytes rejects a reported group that is not in `want` -/
theorem verdict_short_rejects (want ys : List (Nat × Nat)) (short : List Nat) (bs : Nat)
    (d' : List UInt8) (t : ValEnd) (hshort : short ≠ []) (hsp : NoSp (termStr t))
    (hbad : ∃ g ∈ ys, Proto.pair g ∉ want.map Proto.pair) :
    (validVerdict want short bs d' (validModelStr ⟨ys, t⟩)).isSome = true := by
  have hA : ((ys.map Proto.pair).all fun x => (want.map Proto.pair).contains x) = false := by
    rw [Bool.eq_false_iff]
    intro h
    rw [List.all_eq_true] at h
    obtain ⟨g, hg, hn⟩ := hbad
    have := h _ (List.mem_map_of_mem hg)
    rw [List.contains_iff_mem] at this
    exact hn this
  have hse : short.isEmpty = false := List.isEmpty_eq_false_iff.2 hshort
  unfold validVerdict
  simp only [split_model ⟨ys, t⟩ hsp, hse, Bool.false_eq_true, if_false, rep_eq, hA, Bool.not_false,
    if_true, Option.isSome_some]

example : (validVerdict [(0, 1)] [1] 0 [] (validModelStr ⟨[(0, 1), (1, 2)], .err eofErr⟩)).isSome
    = true :=
  verdict_short_rejects _ _ _ 0 [] _ (by decide) (noSp_lit _ (by decide))
    ⟨(1, 2), by decide, by decide⟩

example : validVerdict [(0, 1)] [1] 0 [] (validModelStr ⟨[(0, 1)], .err eofErr⟩) = none :=
  verdict_short _ _ _ 0 [] _ (by decide) (fun g hg => hg) (fun g hg _ => hg) (.inr rfl)


/-! ## 4. FINDING: the hypothesis `Ranges.WF` is needed

For a query whose boundaries are not strictly increasing the verdict REJECTS the model's own output
(a false alarm of the machinery, not of the crate: `ChunkRanges` cannot hold such a list, and the
generators `sort` + `dedup` every query).  Driver level (`#eval`):
`valid sync preMem idx:3000 0 3,1 - data` → model `2:3 ok`, verdict
`some "reported 2:3, verifiable and touched -"` (`Spec.selected 3000 [3, 1]` selects nothing, the
model's `split` of `[3, 1]` keeps the right half non-empty).  Component level, proved: an
`EmptyOutboard` over 3000 bytes whose root is the parent hash of two zero hashes, outboard-only
validator, query `[3, 1]`. -/

theorem not_wf_false_alarm :
    Ranges.WF [3, 1] = false ∧
    validRun .sync .empty (List.replicate 3000 7) 0 [3, 1] [] [] (hf.parentCv zeros32 zeros32 true)
      false = ⟨[(2, 3)], .ok⟩ ∧
    wantList .empty 3000 0 [3, 1] [] [] (hf.parentCv zeros32 zeros32 true) false = [] ∧
    (validVerdict [] [] 0 [] (validModelStr ⟨[(2, 3)], .ok⟩)).isSome = true := by
  -- the root spelt as the validator computes it from the loaded pair (`ofBytes` is the identity
  -- of `hf`): the kernel then hashes it once
  have hrun : validRun .sync .empty (List.replicate 3000 7) 0 [3, 1] [] []
      (hf.parentCv (hf.ofBytes zeros32) (hf.ofBytes zeros32) true) false = ⟨[(2, 3)], .ok⟩ := by
    decide +kernel
  refine ⟨by decide, hrun, by decide +kernel, ?_⟩
  rw [validModelStr_eq]
  exact verdict_rejects_ranges [] 0 [] _ (noSp_rangesStr _) (by decide)

end Bao.SpecValid

/-
Status (operation `valid` = `Ops.opValid`, property C06).
Bounds throughout: `d.length ≤ 2^63`, `bs ≤ 10`, query well-formed (`Ranges.WF`, strictly increasing
boundaries).  Hash instance: the driver's `Ops.hf = realHash` (BLAKE3); NO hypothesis on the hash (no
collision freedom, no `hlen`): only the OUTPUT-length facts `SpecOb.hf_outLen` are used, to know that
the intact store's backing has the outboard size.  Every store content: the corrupted backing
`ob'`, the corrupted root `root'` and the data file `d'` are arbitrary subject to
`ob'.length = outboardSize`, `d'.length ≤ d.length` (both follow from `applyCorruptionExt_len`).

PROVED (component level; `Lemmas/SpecValidL.lean` has the lemmas): `load_component`,
  `verifiable_component` (`linked_iff_vb`: `LinkedC` in shifted coordinates = the verdict's walk over
  block intervals; `log2ceil_blocks`: the verdict's start height is the shifted root level + 1;
  `leaf_iff`: same bytes hashed when `data.length ≤ size`), `touched_component`, `want_component`,
  `noio_component`, `corruption_component`, `run_component` (data file not cut; from
  `ValidL.validRanges_touched` / `validOutboardRanges_touched`), `short_component` (data file
  possibly cut, NOT covered by the C06 theorems: a further induction over `validate_rec`,
  `SpecValidL.rec_end`), `no_short_component`.
PROVED (op level, string level included: `splitOn " "`, `splitOn ","` of the model's line):
  `valid_specFail` (all seven argument strings that parse, every corruption incl. `Td<len>`, both
  branches of the verdict), `valid_specFail_uncut` (the part that needs only the C06 theorems),
  `valid_intact_specFail`, `valid_const_no_false_alarm`, `valid_const_cut_no_false_alarm` (no parsing
  hypothesis left); non-vacuity of the verdict: `verdict_rejects_terminal`, `verdict_rejects_ranges`,
  `verdict_short_rejects`.
PARTIAL: none.   OPEN: none.

FINDING (`not_wf_false_alarm`, proved with `decide +kernel`): without `Ranges.WF` the statement is
  FALSE – `valid sync preMem idx:3000 0 3,1 - data` prints `2:3 ok` and the verdict answers
  `some "reported 2:3, verifiable and touched -"`.  The generators (`harness/src/gen2.rs`, properties
  `C06` and `C06short`) cannot emit such a query: `query_classes` / `random_ranges` `sort` and `dedup`
  every boundary list, `C06short` uses `[0]`, `[a]`, `[a, b]` with `a < b`; block sizes are `0 … 4`,
  sizes `≤ 300 000`.  So every generated `valid` case lies inside the theorem.
REMARKS on the model / verdict (no statement affected):
  * `want` hashes, for a group whose bytes are not all in the data file, the bytes that ARE there
    (`(data.drop s).take n`), the model's validator answers such a group with an io error; the two
    agree because a short group is never reported (`short_component`), not because of the hash.
  * the verdict's `shortGroups.head!` is the least short touched group (`shortGroups_sorted`); the model
    stops at a short touched group that is also linked, which may be a later one.
  * `opValid` with an unparsable corruption answers `bad-op` with `specFail = some "bad-op"` whatever the
    implementation prints (not an "argument list that parses").

Axioms (`#print axioms`): every theorem of this file and of `SpecValidL`: [propext, Classical.choice,
Quot.sound].
-/
