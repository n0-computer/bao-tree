import BaoProofs.Props.C14
import BaoProofs.Lemmas.SpecTruncL

/-!
# No false alarm: the `trunc` verdict never rejects the model's own output

`opTrunc [rs, size] impl` (`BaoModel/Ops1.lean`) prints the model's `Ranges.truncate rs size` in the
canonical list form (`natList`) and judges the implementation's output text `impl` by

  0. `parseNatList impl` must succeed                         (else `"malformed"`),
  1. the parsed list `it` must be strictly sorted             (else `"not strictly sorted"`),
  2. `it` and `rs` select the same chunks of the blob (`selEq`, chunks `0 .. nChunks size + 1`)
                                                              (else `"selected set changed"`),
  3. `truncate it size = it`                                  (else `"not idempotent …"`).

Here: one lemma per clause for `it := truncate rs size` (from `C14.truncate_wf`,
`C14.truncate_selected`, `C14.truncate_idempotent`, and the string round trip
`parseNatList_natList`), then the operation-level theorem `trunc_specFail`.

Hypothesis: the query `rs` is a well-formed range set (`WF rs`: strictly increasing).  It is needed:
for `rs = [3, 1]` the verdict REJECTS the model's own output (`trunc_not_wf_false_alarm`).  No bound on
`size` or on the boundaries is needed.
-/

namespace Bao.SpecTrunc
open Bao Bao.Ops Bao.Proto Bao.Ranges Bao.SpecIndex

/-- clause 0: the model's output text parses back to the model's list (no hypothesis) -/
theorem trunc_parse (rs : List Nat) (size : Nat) :
    parseNatList (natList (truncate rs size)) = some (truncate rs size) :=
  parseNatList_natList _

/-- clause 1 ("not strictly sorted" does not fire) -/
theorem trunc_wf_clause {rs : List Nat} (size : Nat) (h : WF rs = true) :
    (!WF (truncate rs size)) = false := by
  rw [C14.truncate_wf size h]; rfl

example : WF [1, 3, 5, 7] = true := by decide

/-- clause 2 ("selected set changed" does not fire): the selected sets agree on every probe chunk -/
theorem trunc_selEq_clause {rs : List Nat} (size : Nat) (h : WF rs = true) :
    selEq size rs (truncate rs size) = true := by
  unfold selEq
  rw [List.all_eq_true]
  intro c _
  rw [C14.truncate_selected size h c]
  exact beq_self_eq_true _

example : WF [0, 2, 5, 9] = true ∧ selEq 4000 [0, 2, 5, 9] [0, 2, 5] = true := by decide

/-- clause 3 ("not idempotent" does not fire) -/
theorem trunc_idem_clause {rs : List Nat} (size : Nat) (h : WF rs = true) :
    (truncate (truncate rs size) size != truncate rs size) = false := by
  rw [C14.truncate_idempotent size h]
  exact bne_self_eq_false _

example : WF [0, 2, 3, 9] = true ∧ truncate [0, 2, 3, 9] 4000 = [0, 2, 3] := by decide

/-- what the cascade certifies about a parsed output `it` (no hypothesis) -/
theorem truncVerdictL_none_iff (rs : List Nat) (size : Nat) (it : List Nat) :
    truncVerdictL rs size it = none ↔
      WF it = true ∧ selEq size rs it = true ∧ truncate it size = it := by
  unfold truncVerdictL
  cases hw : WF it <;> cases hs : selEq size rs it <;>
    by_cases hi : truncate it size = it <;> simp [hi]

/-- the cascade accepts the model's list -/
theorem truncVerdictL_model {rs : List Nat} (size : Nat) (h : WF rs = true) :
    truncVerdictL rs size (truncate rs size) = none := by
  unfold truncVerdictL
  rw [trunc_wf_clause size h, trunc_selEq_clause size h, trunc_idem_clause size h]
  rfl

/-- the verdict accepts the model's output text -/
theorem truncVerdict_model {rs : List Nat} (size : Nat) (h : WF rs = true) :
    truncVerdict rs size (natList (truncate rs size)) = none := by
  unfold truncVerdict
  rw [trunc_parse]
  exact truncVerdictL_model size h

example : WF [0, 2, 5, 9] = true := by decide

/-- the full statement for `opTrunc`: on the model's own output the verdict is `none`, for all
argument tokens that parse to a well-formed range set `rs` and a size -/
theorem trunc_specFail (rsS sizeS impl : String) (rs : List Nat) (size : Nat)
    (h1 : parseNatList rsS = some rs) (h2 : sizeS.toNat? = some size) (hwf : WF rs = true) :
    (opTrunc [rsS, sizeS] (opTrunc [rsS, sizeS] impl).model).specFail = none := by
  rw [(opTrunc_eq rsS sizeS _ rs size h1 h2).2, (opTrunc_eq rsS sizeS impl rs size h1 h2).1]
  exact truncVerdict_model size hwf

/-- the same for an argument list `args` -/
theorem trunc_specFail_args (args : List String) (rsS sizeS impl : String) (rs : List Nat)
    (size : Nat) (ha : args = [rsS, sizeS])
    (h1 : parseNatList rsS = some rs) (h2 : sizeS.toNat? = some size) (hwf : WF rs = true) :
    (opTrunc args (opTrunc args impl).model).specFail = none := by
  subst ha
  exact trunc_specFail rsS sizeS impl rs size h1 h2 hwf

/-- `(opTrunc [rs, size] m).specFail = none` for the model's own output `m`, arguments in canonical
text form -/
theorem trunc_no_false_alarm (rs : List Nat) (size : Nat) (impl : String) (hwf : WF rs = true) :
    (opTrunc [natList rs, toString size]
      (opTrunc [natList rs, toString size] impl).model).specFail = none :=
  trunc_specFail _ _ impl rs size (parseNatList_natList rs) (toNat?_toString size) hwf

example : (opTrunc [natList [0, 2, 5, 9], toString 4000]
    (opTrunc [natList [0, 2, 5, 9], toString 4000] "").model).specFail = none :=
  trunc_no_false_alarm [0, 2, 5, 9] 4000 "" (by decide)

example : (opTrunc [natList [], toString 0]
    (opTrunc [natList [], toString 0] "x").model).specFail = none :=
  trunc_no_false_alarm [] 0 "x" (by decide)

example : (opTrunc [natList [3, 1099511627776, 18446744073709551615], toString 9216]
    (opTrunc [natList [3, 1099511627776, 18446744073709551615], toString 9216] "7").model).specFail
      = none :=
  trunc_specFail _ _ "7" [3, 1099511627776, 18446744073709551615] 9216 (parseNatList_natList _)
    (toNat?_toString _) (by decide)

/-- component level: for the boundary list `[3, 1]` (not strictly increasing) the verdict REJECTS the
model's own output: `truncate [3, 1] 5000 = [3, 1]`, which clause 1 refuses -/
theorem trunc_not_wf_verdict :
    truncate [3, 1] 5000 = [3, 1] ∧
    truncVerdict [3, 1] 5000 (natList (truncate [3, 1] 5000)) = some "not strictly sorted" := by
  refine ⟨by decide, ?_⟩
  unfold truncVerdict
  rw [trunc_parse]
  have : truncate [3, 1] 5000 = [3, 1] := by decide
  rw [this]
  rfl

/-- operation level: a false alarm of the machinery on a list that is not a range set.  (The case
generators never emit such arguments: `harness/src/gen1.rs`, `"C14"`, takes sub-sequences of
`0 ..= top` and sorted, deduplicated random lists; the harness' `ranges_of` would panic on it.) -/
theorem trunc_not_wf_false_alarm (impl : String) :
    (opTrunc [natList [3, 1], toString 5000]
      (opTrunc [natList [3, 1], toString 5000] impl).model).specFail
      = some "not strictly sorted" := by
  have h1 := parseNatList_natList [3, 1]
  have h2 := toNat?_toString 5000
  rw [(opTrunc_eq _ _ _ [3, 1] 5000 h1 h2).2, (opTrunc_eq _ _ impl [3, 1] 5000 h1 h2).1]
  exact trunc_not_wf_verdict.2

/-- accepted: the model's output for `[0, 2, 5, 9]` on 4000 bytes (4 chunks) is `[0, 2, 5]` -/
example : truncate [0, 2, 5, 9] 4000 = [0, 2, 5] ∧
    truncVerdictL [0, 2, 5, 9] 4000 [0, 2, 5] = none := by
  refine ⟨by decide, ?_⟩
  rw [truncVerdictL_none_iff]; decide

/-- rejected: the untruncated query (same selected set, but not canonical) -/
example : truncVerdictL [0, 2, 5, 9] 4000 [0, 2, 5, 9]
    = some "not idempotent (model truncate on impl output)" := by
  unfold truncVerdictL
  rw [if_neg (by decide), if_neg (by decide), if_pos (by decide)]

/-- rejected: a too short prefix (chunk 3 is not selected by it) -/
example : truncVerdictL [0, 2, 5, 9] 4000 [0, 2] = some "selected set changed" := by
  unfold truncVerdictL
  rw [if_neg (by decide), if_pos (by decide)]

/-- rejected: an unsorted list -/
example : truncVerdictL [0, 2, 5, 9] 4000 [2, 0, 5] = some "not strictly sorted" := by
  unfold truncVerdictL
  rw [if_pos (by decide)]

/-- rejected at operation level: the output text `natList [0, 2]` -/
example : (opTrunc [natList [0, 2, 5, 9], toString 4000] (natList [0, 2])).specFail
    = some "selected set changed" := by
  rw [(opTrunc_eq _ _ _ [0, 2, 5, 9] 4000 (parseNatList_natList _) (toNat?_toString _)).2]
  unfold truncVerdict
  rw [parseNatList_natList]
  show truncVerdictL [0, 2, 5, 9] 4000 [0, 2] = _
  unfold truncVerdictL
  rw [if_neg (by decide), if_pos (by decide)]

/-- accepted at operation level: the output text `natList [0, 2, 5]` -/
example : (opTrunc [natList [0, 2, 5, 9], toString 4000] (natList [0, 2, 5])).specFail = none := by
  rw [(opTrunc_eq _ _ _ [0, 2, 5, 9] 4000 (parseNatList_natList _) (toNat?_toString _)).2]
  unfold truncVerdict
  rw [parseNatList_natList]
  show truncVerdictL [0, 2, 5, 9] 4000 [0, 2, 5] = none
  rw [truncVerdictL_none_iff]; decide

/-
## Status

Proved (axioms ⊆ {propext, Classical.choice, Quot.sound}): every theorem of this file.
Hypotheses of the operation-level theorems: the tokens parse, `WF rs`; no bounds on `size` or the
boundaries.  Without `WF rs` there is a false alarm (`trunc_not_wf_verdict`, `trunc_not_wf_false_alarm`:
`rs = [3, 1]`, size 5000, the verdict answers "not strictly sorted" on the model's own output); not
reachable from the generators (gen1.rs "C14" emits strictly increasing lists only).
Partial: none.  OPEN: none.
-/

end Bao.SpecTrunc
