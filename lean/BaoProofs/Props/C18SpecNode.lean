import BaoProofs.Lemmas.SpecNodeL

/-!
# The executable specification verdicts of `node`, `nodebs`, `noderp` never reject the model

The correspondence driver judges the implementation's output of `node x` (`Ops.opNode`),
`nodebs x n` (`Ops.opNodeBs`) and `noderp x len` (`Ops.opNodeRp`) by comparing it with ONE string
computed from the `(k, L)` coordinates `Spec.indexOf x`, `Spec.levelOf x` of the id, without calling
any `Bao.Node.*` function of the model (`if impl == spec then none else some …`).  This file proves
that these verdicts accept the model's own output, from the C18 theorems
(`BaoProofs/Props/C18.lean`: every `TreeNode` method of the model equals its `(k, L)` meaning):

1. component level: `node_model` (the thirteen quantities of `node`), `nodebs_model` (two),
   `noderp_model` (the verdict's walk `opNodeRp.up` equals `Node.restrictedParent`);
2. token / string level: `node_tokens`, `node_string`, `nodebs_string`, `noderp_string`;
3. op level: `node_specFail`, `nodebs_specFail`, `noderp_specFail`
   (`(op args (op args impl).model).specFail = none` for all argument strings that parse) and
   `…_no_false_alarm` (arguments rendered with `toString`); `…_accepts_iff`: the verdicts accept
   exactly one output string - the model's;
4. false alarms OUTSIDE the hypotheses (proved as `example`s): `node 18446744073709551615`
   (`x = u64::MAX`), `nodebs 9223372036854775808 1` (`(x+1)·2^n > 2^64`: the model wraps like the
   `u64` code, the verdict's `Spec.nodeOf k (L+n)` does not), `noderp 18446744073709551615 2^66`.

Hypotheses: `x + 1 < 2^64` (`x ≠ u64::MAX`) for `node` and `noderp` (no bound on `len`; or every
`x < 2^64` with `len ≤ 2^64`: `noderp_specFail_u64`); `x < 2^64` and `(x+1)·2^n ≤ 2^64` for `nodebs`.
-/

namespace Bao.SpecNode
open Bao Bao.Ops Bao.Proto
open Bao.Spec (nodeOf startOf endOf midOf levelOf indexOf)

/-- every quantity the `node` verdict compares, computed from the model, equals what the verdict
expects (`sLc … sPor` are the `let`s of `Ops.nodeSpecStr`, see `node_spec_is_verdict`) -/
theorem node_model {x : Nat} (hx : x + 1 < 2 ^ 64) :
    Node.level x = levelOf x ∧
    Node.mid x = x + 1 ∧
    Node.isLeaf x = (levelOf x == 0) ∧
    Node.leftChild x
      = (if levelOf x = 0 then none else some (nodeOf (2 * indexOf x) (levelOf x - 1))) ∧
    Node.rightChild x
      = (if levelOf x = 0 then none else some (nodeOf (2 * indexOf x + 1) (levelOf x - 1))) ∧
    Node.parent x
      = (if levelOf x = 63 then none else some (nodeOf (indexOf x / 2) (levelOf x + 1))) ∧
    Node.countBelow x = 2 ^ (levelOf x + 1) - 2 ∧
    Node.nextLeftAncestor x
      = (if indexOf x = 0 then none else some (x + 1 - 2 ^ levelOf x - 1)) ∧
    Node.nodeRange x = (startOf (indexOf x) (levelOf x),
      startOf (indexOf x) (levelOf x) + 2 ^ (levelOf x + 1) - 1) ∧
    Node.chunkRange x = (startOf (indexOf x) (levelOf x), endOf (indexOf x) (levelOf x)) ∧
    Node.rightCount x = Spec.popc 64 (x + 1) - 1 ∧
    Node.postOrderOffset x = (2 ^ (levelOf x + 1) - 2)
      + (startOf (indexOf x) (levelOf x) - Spec.popc 64 (startOf (indexOf x) (levelOf x))) ∧
    Node.postOrderRange x = (sPoo x - sBelow x, sPoo x + 1) := by
  have h : x < 2 ^ 64 := by omega
  exact ⟨level_clause h, mid_clause x, isLeaf_clause h, leftChild_clause h, rightChild_clause h,
    parent_clause hx, countBelow_clause hx, nextLeftAncestor_clause h, nodeRange_clause h,
    chunkRange_clause h, rightCount_clause x, postOrderOffset_clause hx, postOrderRange_clause hx⟩

example : Node.parent 87 = some (nodeOf (indexOf 87 / 2) (levelOf 87 + 1)) := by
  have := (node_model (x := 87) (by decide)).2.2.2.2.2.1
  rw [this]; decide

/-- the named components are literally the `let`s of `Ops.nodeSpecStr`, and the model's output is
the join of the model's thirteen tokens -/
theorem node_spec_is_verdict (x : Nat) :
    nodeSpecStr x = " ".intercalate (specTokens x) ∧
    nodeStr x = " ".intercalate (modelTokens x) := ⟨rfl, rfl⟩

/-- token level: the thirteen tokens the model prints are the thirteen tokens the verdict expects -/
theorem node_tokens {x : Nat} (hx : x + 1 < 2 ^ 64) : modelTokens x = specTokens x :=
  modelTokens_eq hx

example : modelTokens 87 = specTokens 87 := node_tokens (by decide)

/-- string level: the model's output is the string the verdict compares with -/
theorem node_string {x : Nat} (hx : x + 1 < 2 ^ 64) : nodeStr x = nodeSpecStr x := nodeStr_eq hx

example : nodeStr (2 ^ 63 - 1) = nodeSpecStr (2 ^ 63 - 1) := node_string (by decide)

/-- the `node` verdict accepts exactly one output: the spec string -/
theorem node_accepts_iff (a impl : String) (x : Nat) (h : a.toNat? = some x) :
    (opNode [a] impl).specFail = none ↔ impl = nodeSpecStr x := by
  rw [(opNode_eq a impl x h).2]
  exact verdict_none_iff _ _ _

example : (opNode [toString 87] "x").specFail ≠ none := by
  rw [Ne, node_accepts_iff _ _ 87 (SpecIndex.toNat?_toString 87)]
  decide +kernel

/-- the full statement for `opNode`: on the model's own output the verdict is `none`, for every
argument string that parses to an id other than `u64::MAX` -/
theorem node_specFail (a impl : String) (x : Nat) (h : a.toNat? = some x) (hx : x + 1 < 2 ^ 64) :
    (opNode [a] (opNode [a] impl).model).specFail = none := by
  rw [(opNode_eq a impl x h).1, node_accepts_iff a _ x h]
  exact node_string hx

example : (opNode [toString 87] (opNode [toString 87] "").model).specFail = none :=
  node_specFail _ "" 87 (SpecIndex.toNat?_toString 87) (by decide)

/-- `(opNode [x] m).specFail = none` for the model's own output `m` -/
theorem node_no_false_alarm (x : Nat) (impl : String) (hx : x + 1 < 2 ^ 64) :
    (opNode [toString x] (opNode [toString x] impl).model).specFail = none :=
  node_specFail _ impl x (SpecIndex.toNat?_toString x) hx

example : (opNode [toString (2 ^ 62 - 1)] (opNode [toString (2 ^ 62 - 1)] "?").model).specFail
    = none := node_no_false_alarm _ "?" (by decide)

/-- a wrong output is rejected: the model's output with the `count_below` of another level -/
example : (opNode [toString 3]
    "2 4 0 1 5 7 2 - 0:7 0:8 0 6 0:7").specFail ≠ none := by
  rw [Ne, node_accepts_iff _ _ 3 (SpecIndex.toNat?_toString 3)]
  decide +kernel

/-- … and the right one is accepted (`count_below = 6`) -/
example : (opNode [toString 3]
    "2 4 0 1 5 7 6 - 0:7 0:8 0 6 0:7").specFail = none := by
  rw [node_accepts_iff _ _ 3 (SpecIndex.toNat?_toString 3)]
  decide +kernel

/-- the hypothesis `x + 1 < 2^64` is needed: at `x = u64::MAX` (level 64) the verdict REJECTS the
model's own output - the model's `count_below` wraps to `0` (`lowestBit 2^64 = 0`), the verdict
expects `2^65 − 2` (the Rust code overflows on this id: `self.0 + 1`) -/
example : Node.countBelow (2 ^ 64 - 1) = 0 ∧ sBelow (2 ^ 64 - 1) = 2 ^ 65 - 2 := by decide +kernel

example : (opNode [toString (2 ^ 64 - 1)]
    (opNode [toString (2 ^ 64 - 1)] "").model).specFail ≠ none := by
  have h := SpecIndex.toNat?_toString (2 ^ 64 - 1)
  rw [(opNode_eq _ "" _ h).1, Ne, node_accepts_iff _ _ _ h]
  decide +kernel

/-- component level: `subtract_block_size` and `add_block_size` of the model are the nodes
`(k, L + n)` and `(k, L − n)` (the latter iff `n ≤ L`) the verdict expects -/
theorem nodebs_model {x n : Nat} (hx : x < 2 ^ 64) (h : (x + 1) * 2 ^ n ≤ 2 ^ 64) :
    Node.subBs x n = nodeOf (indexOf x) (levelOf x + n) ∧
    Node.addBs x n
      = (if levelOf x ≥ n then some (nodeOf (indexOf x) (levelOf x - n)) else none) :=
  ⟨subBs_clause hx h, addBs_clause hx⟩

example : Node.subBs 87 4 = nodeOf (indexOf 87) (levelOf 87 + 4) :=
  (nodebs_model (by decide) (by decide)).1

/-- `add_block_size` alone needs no overflow hypothesis -/
theorem nodebs_add_model {x : Nat} (n : Nat) (hx : x < 2 ^ 64) :
    Node.addBs x n
      = (if levelOf x ≥ n then some (nodeOf (indexOf x) (levelOf x - n)) else none) :=
  addBs_clause hx

example : Node.addBs 87 70 = none := by rw [nodebs_add_model 70 (by decide)]; decide

/-- string level (`nodeBsModel`, `nodeBsSpec` are the two strings of `opNodeBs`: `opNodeBs_eq`) -/
theorem nodebs_string {x n : Nat} (hx : x < 2 ^ 64) (h : (x + 1) * 2 ^ n ≤ 2 ^ 64) :
    nodeBsModel x n = nodeBsSpec x n := nodeBsModel_eq hx h

example : nodeBsModel 87 4 = nodeBsSpec 87 4 := nodebs_string (by decide) (by decide)

theorem nodebs_accepts_iff (args : List String) (impl : String) (x n : Nat)
    (h : args.mapM (·.toNat?) = some [x, n]) :
    (opNodeBs args impl).specFail = none ↔ impl = nodeBsSpec x n := by
  rw [(opNodeBs_eq args impl x n h).2]
  exact verdict_none_iff _ _ _

example : (opNodeBs [toString 87, toString 4] "1407 -").specFail = none := by
  rw [nodebs_accepts_iff _ _ 87 4 (mapM_two 87 4)]; decide +kernel

example : (opNodeBs [toString 87, toString 4] "1407 5").specFail ≠ none := by
  rw [Ne, nodebs_accepts_iff _ _ 87 4 (mapM_two 87 4)]; decide +kernel

/-- the full statement for `opNodeBs`: on the model's own output the verdict is `none`, for every
argument list that parses to `[x, n]` with `(x+1)·2^n` inside the `u64` range -/
theorem nodebs_specFail (args : List String) (impl : String) (x n : Nat)
    (h : args.mapM (·.toNat?) = some [x, n]) (hx : x < 2 ^ 64) (hn : (x + 1) * 2 ^ n ≤ 2 ^ 64) :
    (opNodeBs args (opNodeBs args impl).model).specFail = none := by
  rw [(opNodeBs_eq args impl x n h).1, nodebs_accepts_iff args _ x n h]
  exact nodebs_string hx hn

example : (opNodeBs [toString 87, toString 4]
    (opNodeBs [toString 87, toString 4] "").model).specFail = none :=
  nodebs_specFail _ "" 87 4 (mapM_two 87 4) (by decide) (by decide)

theorem nodebs_no_false_alarm (x n : Nat) (impl : String) (hx : x < 2 ^ 64)
    (hn : (x + 1) * 2 ^ n ≤ 2 ^ 64) :
    (opNodeBs [toString x, toString n]
      (opNodeBs [toString x, toString n] impl).model).specFail = none :=
  nodebs_specFail _ impl x n (mapM_two x n) hx hn

/-- the generator's range (`x < 2^52`, `n ≤ 10`) is inside the hypotheses -/
theorem nodebs_no_false_alarm_gen (x n : Nat) (impl : String) (hx : x < 2 ^ 53) (hn : n ≤ 10) :
    (opNodeBs [toString x, toString n]
      (opNodeBs [toString x, toString n] impl).model).specFail = none := by
  refine nodebs_no_false_alarm x n impl (by omega) ?_
  calc (x + 1) * 2 ^ n ≤ 2 ^ 53 * 2 ^ 10 :=
        Nat.mul_le_mul (by omega) (Nat.pow_le_pow_right (by decide) hn)
    _ ≤ 2 ^ 64 := by decide

example : (opNodeBs [toString (2 ^ 53 - 1), toString 10]
    (opNodeBs [toString (2 ^ 53 - 1), toString 10] "").model).specFail = none :=
  nodebs_no_false_alarm_gen _ _ "" (by decide) (by decide)

/-- the overflow hypothesis is needed: FALSE ALARM at `nodebs 9223372036854775808 1` (and at
`nodebs 9223372036854775807 2`, an id below `2^63`): the model computes `!(!x << n)` with `u64`
wrap-around like the Rust code, the verdict computes `nodeOf k (L + n)` in unbounded arithmetic -/
example : Node.subBs (2 ^ 63) 1 = 1 ∧ nodeOf (indexOf (2 ^ 63)) (levelOf (2 ^ 63) + 1) = 2 ^ 64 + 1 := by
  decide +kernel

example : Node.subBs (2 ^ 63 - 1) 2 = 2 ^ 64 - 1 ∧
    nodeOf (indexOf (2 ^ 63 - 1)) (levelOf (2 ^ 63 - 1) + 2) = 2 ^ 65 - 1 := by decide +kernel

example : (opNodeBs [toString (2 ^ 63), toString 1]
    (opNodeBs [toString (2 ^ 63), toString 1] "").model).specFail ≠ none := by
  have h := mapM_two (2 ^ 63) 1
  rw [(opNodeBs_eq _ "" _ _ h).1, Ne, nodebs_accepts_iff _ _ _ _ h]
  decide +kernel

example : (opNodeBs [toString (2 ^ 63 - 1), toString 2]
    (opNodeBs [toString (2 ^ 63 - 1), toString 2] "").model).specFail ≠ none := by
  have h := mapM_two (2 ^ 63 - 1) 2
  rw [(opNodeBs_eq _ "" _ _ h).1, Ne, nodebs_accepts_iff _ _ _ _ h]
  decide +kernel

/-- component level: the verdict's walk up the complete tree in `(k, L)` coordinates
(`opNodeRp.up len 64 k L`, the nearest proper ancestor with id `< len`, levels `≤ 63`) is the
model's `restricted_parent`; every `len` -/
theorem noderp_model {x : Nat} (len : Nat) (hx : x + 1 < 2 ^ 64) :
    Node.restrictedParent x len = opNodeRp.up len 64 (indexOf x) (levelOf x) :=
  restrictedParent_clause len hx

example : Node.restrictedParent 8 9 = opNodeRp.up 9 64 (indexOf 8) (levelOf 8) :=
  noderp_model 9 (by decide)

/-- the walk and the model's loop agree step by step, any fuel -/
theorem noderp_walk (len fuel k L : Nat) (hL : L ≤ 63) :
    opNodeRp.up len fuel k L = Node.restrictedParentAux fuel (nodeOf k L) len :=
  up_eq len fuel k L hL

example : opNodeRp.up 9 3 4 0 = Node.restrictedParentAux 3 (nodeOf 4 0) 9 :=
  noderp_walk 9 3 4 0 (by decide)

theorem noderp_string {x : Nat} (len : Nat) (hx : x + 1 < 2 ^ 64) :
    optNat (Node.restrictedParent x len) = optNat (sRp x len) := by
  rw [restrictedParent_clause len hx]

example : optNat (Node.restrictedParent 8 9) = optNat (sRp 8 9) := noderp_string 9 (by decide)

theorem noderp_accepts_iff (args : List String) (impl : String) (x len : Nat)
    (h : args.mapM (·.toNat?) = some [x, len]) :
    (opNodeRp args impl).specFail = none ↔ impl = optNat (sRp x len) := by
  rw [(opNodeRp_eq args impl x len h).2]
  exact verdict_none_iff _ _ _

example : (opNodeRp [toString 8, toString 9] "7").specFail = none := by
  rw [noderp_accepts_iff _ _ 8 9 (mapM_two 8 9)]; decide +kernel

example : (opNodeRp [toString 8, toString 9] "-").specFail ≠ none := by
  rw [Ne, noderp_accepts_iff _ _ 8 9 (mapM_two 8 9)]; decide +kernel

example : (opNodeRp [toString 8, toString 3] "-").specFail = none := by
  rw [noderp_accepts_iff _ _ 8 3 (mapM_two 8 3)]; decide +kernel

/-- the full statement for `opNodeRp`: on the model's own output the verdict is `none`, for every
argument list that parses to `[x, len]`, `x ≠ u64::MAX`, any `len` -/
theorem noderp_specFail (args : List String) (impl : String) (x len : Nat)
    (h : args.mapM (·.toNat?) = some [x, len]) (hx : x + 1 < 2 ^ 64) :
    (opNodeRp args (opNodeRp args impl).model).specFail = none := by
  rw [(opNodeRp_eq args impl x len h).1, noderp_accepts_iff args _ x len h]
  exact noderp_string len hx

example : (opNodeRp [toString 8, toString 9]
    (opNodeRp [toString 8, toString 9] "").model).specFail = none :=
  noderp_specFail _ "" 8 9 (mapM_two 8 9) (by decide)

theorem noderp_no_false_alarm (x len : Nat) (impl : String) (hx : x + 1 < 2 ^ 64) :
    (opNodeRp [toString x, toString len]
      (opNodeRp [toString x, toString len] impl).model).specFail = none :=
  noderp_specFail _ impl x len (mapM_two x len) hx

example : (opNodeRp [toString (2 ^ 63 - 2), toString (2 ^ 64 - 1)]
    (opNodeRp [toString (2 ^ 63 - 2), toString (2 ^ 64 - 1)] "").model).specFail = none :=
  noderp_no_false_alarm _ _ "" (by decide)

/-- the same for EVERY `u64` id (including `u64::MAX`) when `len` is a `u64` too -/
theorem noderp_model_u64 {x len : Nat} (hx : x < 2 ^ 64) (hlen : len ≤ 2 ^ 64) :
    Node.restrictedParent x len = opNodeRp.up len 64 (indexOf x) (levelOf x) :=
  restrictedParent_clause_u64 hx hlen

example : Node.restrictedParent (2 ^ 64 - 1) 5 = opNodeRp.up 5 64 (indexOf (2 ^ 64 - 1))
    (levelOf (2 ^ 64 - 1)) := noderp_model_u64 (by decide) (by decide)

theorem noderp_specFail_u64 (args : List String) (impl : String) (x len : Nat)
    (h : args.mapM (·.toNat?) = some [x, len]) (hx : x < 2 ^ 64) (hlen : len ≤ 2 ^ 64) :
    (opNodeRp args (opNodeRp args impl).model).specFail = none := by
  rw [(opNodeRp_eq args impl x len h).1, noderp_accepts_iff args _ x len h,
    restrictedParent_clause_u64 hx hlen]

example : (opNodeRp [toString (2 ^ 64 - 1), toString (2 ^ 64 - 1)]
    (opNodeRp [toString (2 ^ 64 - 1), toString (2 ^ 64 - 1)] "").model).specFail = none :=
  noderp_specFail_u64 _ "" _ _ (mapM_two _ _) (by decide) (by decide)

/-- the hypothesis `x ≠ u64::MAX` is needed for unbounded `len`: at `x = 2^64 − 1`, `len = 2^66`
(not a `u64`) the model walks on above level 63 (`some (2^65 − 1)`), the verdict stops
(`none`) -/
example : Node.restrictedParent (2 ^ 64 - 1) (2 ^ 66) = some (2 ^ 65 - 1) ∧
    sRp (2 ^ 64 - 1) (2 ^ 66) = none := by decide +kernel

example : (opNodeRp [toString (2 ^ 64 - 1), toString (2 ^ 66)]
    (opNodeRp [toString (2 ^ 64 - 1), toString (2 ^ 66)] "").model).specFail ≠ none := by
  have h := mapM_two (2 ^ 64 - 1) (2 ^ 66)
  rw [(opNodeRp_eq _ "" _ _ h).1, Ne, noderp_accepts_iff _ _ _ _ h]
  decide +kernel

end Bao.SpecNode

/-
Status (the `node`, `nodebs`, `noderp` verdicts never reject the model).

PROVED (full strength):
  node    `node_model`   the thirteen compared quantities (level, mid, is_leaf, left/right child, parent,
            count_below, next_left_ancestor, node_range, chunk_range, right_count, post_order_offset,
            post_order_range) computed by `Bao.Node.*` equal the verdict's `(k, L)` expressions, `x + 1 < 2^64`
            (one lemma per clause in `SpecNodeL`: `level_clause` … `postOrderRange_clause`; `popc_eq`: the
            verdict's `Spec.popc` is the model's `popcountAux`);
          `node_spec_is_verdict`   the named components ARE the `let`s of `nodeSpecStr` (`rfl`);
          `node_tokens`, `node_string`   `modelTokens x = specTokens x`, `nodeStr x = nodeSpecStr x`;
          `node_accepts_iff`   `(opNode [a] impl).specFail = none ↔ impl = nodeSpecStr x`;
          `node_specFail`   `(opNode [a] (opNode [a] impl).model).specFail = none` for every `a` that parses to
            `x`, `x + 1 < 2^64`;  `node_no_false_alarm`   the same with `a = toString x`.
  nodebs  `nodebs_model` (`x < 2^64`, `(x+1)·2^n ≤ 2^64`), `nodebs_add_model` (`x < 2^64` only),
          `nodebs_string`, `nodebs_accepts_iff`, `nodebs_specFail`, `nodebs_no_false_alarm`,
          `nodebs_no_false_alarm_gen` (`x < 2^53`, `n ≤ 10`: covers the generator).
  noderp  `noderp_walk`   `opNodeRp.up len fuel k L = Node.restrictedParentAux fuel (nodeOf k L) len`, `L ≤ 63`,
            any fuel, any `len`;
          `noderp_model` (`x + 1 < 2^64`, any `len`), `noderp_model_u64` (`x < 2^64`, `len ≤ 2^64`),
          `noderp_string`, `noderp_accepts_iff`, `noderp_specFail`, `noderp_specFail_u64`,
          `noderp_no_false_alarm`.
PARTIAL: none.   OPEN: none.

FINDINGS (false alarms of the verdicts outside the hypotheses, each proved as an `example` above; none of
them can be emitted by `/verif/harness/src/gen1.rs`, property "C18": `node` ids are `< 2^63`, `nodebs` ids are
`< 2^52` with `n ≤ 10`, `noderp` ids are `< 2^63` and `len` is a `u64`):
  * `node 18446744073709551615` (`u64::MAX`, level 64): model `count_below = 0`, `post_order_offset = 0`,
    `post_order_range = 0:1`; verdict expects `2^65−2` …  (the Rust code overflows at `self.0 + 1`).
  * `nodebs 9223372036854775808 1`, `nodebs 9223372036854775807 2`: `(x+1)·2^n > 2^64`; the model wraps like
    `!(!x << n)` on `u64` (`1`, resp. `2^64−1`), the verdict's `Spec.nodeOf k (L+n)` is unbounded (`2^64+1`,
    resp. `2^65−1`).  Here the verdict would reject a CORRECT implementation; the hypothesis
    `(x+1)·2^n ≤ 2^64` is exactly `subBs_eq`'s.
  * `noderp 18446744073709551615 73786976294838206464` (`len = 2^66`, not a `u64`): model `some (2^65−1)`,
    verdict `none`.  With `len ≤ 2^64` there is no false alarm at `u64::MAX` (`noderp_specFail_u64`).
  Arguments `≥ 2^64` are not covered (`Spec.levelOf` counts at most 64 trailing zeros).

Axioms (`#print axioms`): `node_spec_is_verdict`: [propext]; `noderp_walk` (= `up_eq`): [propext, Quot.sound];
`popc_eq`: [propext]; every other theorem of this file and `opNode_eq`, `opNodeBs_eq`, `opNodeRp_eq`:
[propext, Classical.choice, Quot.sound].  (`decide +kernel` adds no axiom.)
-/
