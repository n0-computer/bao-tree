import BaoProofs.Lemmas.HistL

/-!
# C07: any history of partial downloads stays consistent and converges

A *history* is a list of `decode_ranges` calls (`Op`: flavour, an ARBITRARY byte stream — honest,
truncated at any point, or tampered —, a query, and an optional injected failure of the `fw`-th
target write / `fs`-th outboard save of that call), all applied to the same sink (`run`).  The
sink's outboard carries the true root hash `Spec.root hf d` of the blob `d`; its kind (pre/post,
io/mem, empty), its claimed tree geometry, its backing bytes and the initial target are arbitrary.

Hypotheses: `CollisionFree hf` and `d.length ≤ 2^64 · 1024`, as in C01.

Vocabulary (`Lemmas/C01Inv.lean`, `Lemmas/HistL.lean`):
* `TrueLeaf d off bytes` – `bytes` are the bytes of a subtree chunk interval of `d`, `off` is
  where they live in `d` (so `bytes = (d.drop off).take bytes.length`, `off + len ≤ |d|`);
* `TruePair hf d l r` – `(l, r)` is the stored pair of an existing node of the true tree of `d`;
* `applyWrites t wl` / `applySaves hf ob pl` – the target after the positioned writes `wl`, the
  outboard after the successful saves `pl`;
* `Cov wl i` – byte position `i` lies inside some write of `wl` (the *delivered* positions `Δ`).

Every theorem quantifies over ALL histories `ops`; "after every step" is the instance at each
prefix (`inv_prefix`), and `inv_extend` says that the delivered set only grows.
-/

namespace Bao.C07

open Bao.Spec Bao.C01

variable {H : Type} [BEq H] [LawfulBEq H] {hf : HashFns H} {d : List UInt8}

omit [LawfulBEq H] in
/-- the root hash of the outboard never changes (any hash functions, any root) -/
theorem root_preserved (hf : HashFns H) (ops : List Op) (sink : Sink H) :
    (run hf ops sink).ob.root = sink.ob.root :=
  (run_root hf ops sink).1

omit [LawfulBEq H] in
/-- the tree geometry (and the kind) of the outboard never changes -/
theorem tree_preserved (hf : HashFns H) (ops : List Op) (sink : Sink H) :
    (run hf ops sink).ob.tree = sink.ob.tree ∧ (run hf ops sink).ob.kind = sink.ob.kind :=
  (run_root hf ops sink).2

/-- **C01 for the fault-injected `decode_ranges`.**  Whatever the stream and whichever write /
save is made to fail: the final target is the initial one after positioned writes of true leaves,
the final outboard is the initial one after successful saves of true pairs. -/
theorem decodeRangesF_sound (cf : CollisionFree hf) (hd : d.length ≤ 2 ^ 64 * 1024) (fl : Flavour)
    (s : List UInt8) (ranges : Ranges) (sink : Sink H) (fw fs : Option Nat)
    (hroot : sink.ob.root = Spec.root hf d) :
    ∃ (wl : List (Nat × List UInt8)) (pl : List (Nat × H × H)),
      (∀ w ∈ wl, TrueLeaf d w.1 w.2) ∧ (∀ p ∈ pl, TruePair hf d p.2.1 p.2.2) ∧
      (decodeRangesF hf fl s ranges sink fw fs).1.target = applyWrites sink.target wl ∧
      (decodeRangesF hf fl s ranges sink fw fs).1.ob = applySaves hf sink.ob pl :=
  run_effect cf hd [⟨fl, s, ranges, fw, fs⟩] sink hroot

/-- **Invariant of histories.**  After any history there is a list `wl` of writes of true leaves
(the chunks delivered so far) with: the target is the initial target after `wl`; and if the target
was pre-sized to the blob's length then its length is unchanged, no byte outside the delivered
positions has changed, every delivered position holds the blob's byte (so each position holds its
initial byte or the blob's byte), and delivered positions lie inside the blob. -/
theorem inv (cf : CollisionFree hf) (hd : d.length ≤ 2 ^ 64 * 1024) (ops : List Op) (sink : Sink H)
    (hroot : sink.ob.root = Spec.root hf d) :
    ∃ wl : List (Nat × List UInt8),
      (∀ w ∈ wl, TrueLeaf d w.1 w.2) ∧
      (run hf ops sink).target = applyWrites sink.target wl ∧
      (sink.target.length = d.length →
        (run hf ops sink).target.length = d.length ∧
        ∀ i : Nat,
          (¬ Cov wl i → (run hf ops sink).target[i]? = sink.target[i]?) ∧
          (Cov wl i → (run hf ops sink).target[i]? = d[i]? ∧ i < d.length) ∧
          ((run hf ops sink).target[i]? = sink.target[i]? ∨ (run hf ops sink).target[i]? = d[i]?)) :=
  (run_effect cf hd ops sink hroot).inv

/-- "after every step": the invariant at every prefix of a history -/
theorem inv_prefix (cf : CollisionFree hf) (hd : d.length ≤ 2 ^ 64 * 1024) (ops : List Op)
    (sink : Sink H) (hroot : sink.ob.root = Spec.root hf d) (hlen : sink.target.length = d.length)
    (n : Nat) :
    ∃ wl : List (Nat × List UInt8),
      (∀ w ∈ wl, TrueLeaf d w.1 w.2) ∧
      (run hf (ops.take n) sink).target.length = d.length ∧
      ∀ i : Nat,
        (¬ Cov wl i → (run hf (ops.take n) sink).target[i]? = sink.target[i]?) ∧
        (Cov wl i → (run hf (ops.take n) sink).target[i]? = d[i]?) := by
  obtain ⟨wl, hw, _, h⟩ := inv cf hd (ops.take n) sink hroot
  obtain ⟨hl, hg⟩ := h hlen
  exact ⟨wl, hw, hl, fun i => ⟨(hg i).1, fun hc => ((hg i).2.1 hc).1⟩⟩

/-- the delivered set only grows: the writes of a longer history extend those of the shorter one
(so a delivered position stays delivered, and by `inv` keeps holding the blob's byte) -/
theorem inv_extend (cf : CollisionFree hf) (hd : d.length ≤ 2 ^ 64 * 1024) (ops more : List Op)
    (sink : Sink H) (hroot : sink.ob.root = Spec.root hf d) :
    ∃ wl wl' : List (Nat × List UInt8),
      (∀ w ∈ wl ++ wl', TrueLeaf d w.1 w.2) ∧
      (run hf ops sink).target = applyWrites sink.target wl ∧
      (run hf (ops ++ more) sink).target = applyWrites sink.target (wl ++ wl') ∧
      ∀ i, Cov wl i → Cov (wl ++ wl') i := by
  rw [run_append]
  exact (run_effect cf hd ops sink hroot).extend
    (run_effect cf hd more _ ((root_preserved hf ops sink).trans hroot))

omit [LawfulBEq H] in
/-- **Convergence.**  Once every byte position of the blob has been delivered, the (pre-sized)
target equals the blob — whatever else happened in the history. -/
theorem converges_target (ops : List Op) (sink : Sink H) (wl : List (Nat × List UInt8))
    (hw : ∀ w ∈ wl, TrueLeaf d w.1 w.2) (ht : (run hf ops sink).target = applyWrites sink.target wl)
    (hlen : sink.target.length = d.length) (hall : ∀ i, i < d.length → Cov wl i) :
    (run hf ops sink).target = d := by
  rw [ht]
  exact applyWrites_full wl sink.target hlen hw hall

/-- convergence, packaged with `inv`: there is a delivered list such that, if it covers the blob,
the target is the blob -/
theorem converges (cf : CollisionFree hf) (hd : d.length ≤ 2 ^ 64 * 1024) (ops : List Op)
    (sink : Sink H) (hroot : sink.ob.root = Spec.root hf d) (hlen : sink.target.length = d.length) :
    ∃ wl : List (Nat × List UInt8),
      (∀ w ∈ wl, TrueLeaf d w.1 w.2) ∧
      (run hf ops sink).target = applyWrites sink.target wl ∧
      ((∀ i, i < d.length → Cov wl i) → (run hf ops sink).target = d) := by
  obtain ⟨wl, hw, ht, _⟩ := inv cf hd ops sink hroot
  exact ⟨wl, hw, ht, converges_target ops sink wl hw ht hlen⟩

/-- **Every pair ever saved is a pair of the blob's true tree**: the final outboard is the initial
one after a list of successful saves, each of the true pair of an existing node. -/
theorem saved_pairs_true (cf : CollisionFree hf) (hd : d.length ≤ 2 ^ 64 * 1024) (ops : List Op)
    (sink : Sink H) (hroot : sink.ob.root = Spec.root hf d) :
    ∃ pl : List (Nat × H × H),
      (∀ p ∈ pl, TruePair hf d p.2.1 p.2.2) ∧
      (run hf ops sink).ob = applySaves hf sink.ob pl := by
  obtain ⟨_, pl, _, hp, _, ho⟩ := run_effect cf hd ops sink hroot
  exact ⟨pl, hp, ho⟩

/-! ## non-vacuity: the symbolic collision free hash, a 3-chunk blob, a three-call history -/

section
private def blob : List UInt8 := List.replicate 2500 7
private def tampered : List UInt8 := List.replicate 64 1 ++ List.replicate 2500 8

private theorem blob_len : blob.length ≤ 2 ^ 64 * 1024 := by
  simp only [blob, List.length_replicate]; omega

/-- pre-sized target, post-order memory outboard with the true root, claimed tree of block size 1 -/
private def sink0 : Sink Term :=
  { ob := { kind := .postMem, root := Spec.root termHash blob, tree := ⟨2500, 1⟩,
            data := List.replicate 64 0 },
    target := List.replicate 2500 0 }

private theorem sink0_root : sink0.ob.root = Spec.root termHash blob := by simp only [sink0]
private theorem sink0_len : sink0.target.length = blob.length := by
  simp only [sink0, blob, List.length_replicate]

/-- a tampered stream with the first write failing, a truncated (empty) stream, an overlapping
query on the other flavour with the first save failing -/
private def hist : List Op :=
  [⟨.sync, tampered, [0], some 0, none⟩, ⟨.fsm, [], [1, 2], none, none⟩,
   ⟨.fsm, tampered, [0, 2], none, some 0⟩]

example : (run termHash hist sink0).ob.root = sink0.ob.root := root_preserved termHash hist sink0

example : (run termHash hist sink0).ob.tree = sink0.ob.tree ∧
    (run termHash hist sink0).ob.kind = sink0.ob.kind := tree_preserved termHash hist sink0

example : ∃ (wl : List (Nat × List UInt8)) (pl : List (Nat × Term × Term)),
    (∀ w ∈ wl, TrueLeaf blob w.1 w.2) ∧ (∀ p ∈ pl, TruePair termHash blob p.2.1 p.2.2) ∧
    (decodeRangesF termHash .sync tampered [0] sink0 (some 1) none).1.target
      = applyWrites sink0.target wl ∧
    (decodeRangesF termHash .sync tampered [0] sink0 (some 1) none).1.ob
      = applySaves termHash sink0.ob pl :=
  decodeRangesF_sound termHash_cf blob_len .sync tampered [0] sink0 (some 1) none sink0_root

example : ∃ wl : List (Nat × List UInt8),
    (∀ w ∈ wl, TrueLeaf blob w.1 w.2) ∧
    (run termHash hist sink0).target = applyWrites sink0.target wl ∧
    (sink0.target.length = blob.length →
      (run termHash hist sink0).target.length = blob.length ∧
      ∀ i : Nat,
        (¬ Cov wl i → (run termHash hist sink0).target[i]? = sink0.target[i]?) ∧
        (Cov wl i → (run termHash hist sink0).target[i]? = blob[i]? ∧ i < blob.length) ∧
        ((run termHash hist sink0).target[i]? = sink0.target[i]? ∨
          (run termHash hist sink0).target[i]? = blob[i]?)) :=
  inv termHash_cf blob_len hist sink0 sink0_root

example : ∃ wl : List (Nat × List UInt8),
    (∀ w ∈ wl, TrueLeaf blob w.1 w.2) ∧
    (run termHash (hist.take 2) sink0).target.length = blob.length ∧
    ∀ i : Nat,
      (¬ Cov wl i → (run termHash (hist.take 2) sink0).target[i]? = sink0.target[i]?) ∧
      (Cov wl i → (run termHash (hist.take 2) sink0).target[i]? = blob[i]?) :=
  inv_prefix termHash_cf blob_len hist sink0 sink0_root sink0_len 2

example : ∃ wl wl' : List (Nat × List UInt8),
    (∀ w ∈ wl ++ wl', TrueLeaf blob w.1 w.2) ∧
    (run termHash hist sink0).target = applyWrites sink0.target wl ∧
    (run termHash (hist ++ hist) sink0).target = applyWrites sink0.target (wl ++ wl') ∧
    ∀ i, Cov wl i → Cov (wl ++ wl') i :=
  inv_extend termHash_cf blob_len hist hist sink0 sink0_root

private theorem blob_leaf : TrueLeaf blob 0 blob :=
  ⟨0, nChunks blob.length, Sub.root blob, rfl, (slice_full blob).symm⟩

/-- the hypotheses of `converges_target` are jointly satisfiable: the empty history on a sink that
already holds the blob, with the delivered list "the whole blob at offset 0" -/
example : (run termHash [] { sink0 with target := blob }).target = blob :=
  converges_target (hf := termHash) (d := blob) [] { sink0 with target := blob } [(0, blob)]
    (by intro w hw; simp only [List.mem_singleton] at hw; subst hw; exact blob_leaf)
    (applyWrites_whole blob).symm
    rfl
    (by intro i hi; exact ⟨(0, blob), List.mem_singleton.2 rfl, Nat.zero_le _, by simpa using hi⟩)

example : ∃ wl : List (Nat × List UInt8),
    (∀ w ∈ wl, TrueLeaf blob w.1 w.2) ∧
    (run termHash hist sink0).target = applyWrites sink0.target wl ∧
    ((∀ i, i < blob.length → Cov wl i) → (run termHash hist sink0).target = blob) :=
  converges termHash_cf blob_len hist sink0 sink0_root sink0_len

example : ∃ pl : List (Nat × Term × Term),
    (∀ p ∈ pl, TruePair termHash blob p.2.1 p.2.2) ∧
    (run termHash hist sink0).ob = applySaves termHash sink0.ob pl :=
  saved_pairs_true termHash_cf blob_len hist sink0 sink0_root

end

/-
## Status

Proved (axioms: propext, Classical.choice, Quot.sound): `root_preserved`, `tree_preserved`,
`decodeRangesF_sound`, `inv`, `inv_prefix`, `inv_extend`, `converges_target`, `converges`,
`saved_pairs_true`.  `_partial`: none.

The rest of the C07 sentence needs the claimed geometry to be the true one
(`sink.ob.tree = ⟨d.length, bs⟩`; nothing forces this here: with a wrong claimed size pairs are saved
under node labels of the claimed tree) and is proved in `Props/C07Conv.lean`: `C07.converges_outboard`
(once every byte position has been delivered the outboard data equals `Spec.preOutboard` /
`Spec.postOutboard`), `C07.validator_exact_partial`, `C07.validator_after_history` (`validRanges` of
the final sink reports exactly the delivered chunk groups, under the side condition that untouched
bytes of the target do not coincide with the blob's).

-- OPEN: relating `Cov wl` to the queries: for an op with an honest stream and no fault, `wl`
--   covers exactly the selected chunk groups (this is C02/C04 territory, not needed for safety).

Remarks on the model
* `decodeRangesF` drops the `writes`/`saves` logs that `decodeRanges` keeps, so the delivered list
  `wl` is existential here; it is the list of `(off, data)` of the leaf items actually written.
* In `decodeRangesFAux` the sync flavour skips the write of an empty leaf, the fsm flavour calls
  `writeAt t off []`; under the hypotheses here an empty true leaf only occurs for the empty blob
  at offset 0, where `writeAt` is the identity, so the two agree on the target.
-/

end Bao.C07
