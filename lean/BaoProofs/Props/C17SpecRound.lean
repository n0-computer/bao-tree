import BaoProofs.Lemmas.SpecRoundL

/-!
# The executable specification verdict of `round` never rejects the model (property C17)

`Ops.opRound` (`round kind ranges bs`, `BaoModel/Ops1.lean`) prints the model's
`round_up_to_chunks` / `round_up_to_chunks_groups` / `full_chunk_groups` of a range set and judges
the implementation's output `out` with a verdict that does not run the model: `out` must be strictly
sorted, and on every probe unit `u` (chunk for `chunks`, chunk group otherwise) three boundary-list
tests must agree: `want u` (the unit meets resp. lies inside the input), `outHas u` (the unit lies
inside `out`) and `outAny u` (the unit meets `out`).

This file proves that the verdict accepts the model's own output:

1. component level, one theorem per kind (`chunks_components`, `groups_components`,
   `full_components`): the model's output is strictly sorted and the three tests agree on EVERY
   unit up to the last unit of the u64 universe (not only on the probe units) - derived from the
   C17 theorems `chunks_wf`/`chunks`, `groups_wf`/`groups`, `full_wf`/`full`;
   `round_core_model`: the verdict on the parsed model output is `none`;
2. string level: `parse_model` (`parseNatList` inverts `natList`, and the output is never `"panic"`);
3. op level: `round_specFail` / `round_no_false_alarm`:
   `(opRound args (opRound args impl).model).specFail = none`;
4. the hypotheses are needed: `round_not_sorted_alarm` (an input that is not strictly sorted),
   `round_bad_kind_alarm` (a kind other than the three).
-/

namespace Bao.SpecRound
open Bao Bao.Ops Bao.Proto Bao.Ranges

/-- `chunks`: the model's output is strictly sorted; on every chunk `u ≤ lastUnit = 2^54 - 1` the
verdict's `want` ("chunk `u` meets the byte set", from the boundary list) equals `outHas`
(membership of `u` in the output), and `outHas = outAny` -/
theorem chunks_components {R : List Nat} (bs : Nat) (h : WF R = true) (hN : C17.Bounded R) :
    WF (roundUpToChunks R) = true ∧
    ∀ u, u ≤ (U64 - 1) / gOf "chunks" bs →
      wantB "chunks" R (gOf "chunks" bs) u = outHasB "chunks" (roundUpToChunks R) (gOf "chunks" bs) u ∧
      outHasB "chunks" (roundUpToChunks R) (gOf "chunks" bs) u
        = outAnyB "chunks" (roundUpToChunks R) (gOf "chunks" bs) u :=
  ⟨(C17.chunks_wf h hN).1, fun u hu => ⟨chunks_unit h hN u hu, rfl⟩⟩

example : WF (roundUpToChunks [3, 1024, 5000]) = true ∧
    ∀ u, u ≤ (U64 - 1) / gOf "chunks" 0 →
      wantB "chunks" [3, 1024, 5000] (gOf "chunks" 0) u
        = outHasB "chunks" (roundUpToChunks [3, 1024, 5000]) (gOf "chunks" 0) u ∧
      outHasB "chunks" (roundUpToChunks [3, 1024, 5000]) (gOf "chunks" 0) u
        = outAnyB "chunks" (roundUpToChunks [3, 1024, 5000]) (gOf "chunks" 0) u :=
  chunks_components (R := [3, 1024, 5000]) 0 (by decide) (by decide)

/-- `groups` (every `bs`): the model's output is strictly sorted; on every group `u ≤ lastUnit` the
verdict's `want` ("group `u` meets the input") equals `outHas` ("group `u` lies inside the output"),
which equals `outAny` ("group `u` meets the output": the output is a union of whole groups) -/
theorem groups_components {R : List Nat} (bs : Nat) (h : WF R = true) (hN : C17.Bounded R) :
    WF (roundUpToChunkGroups R bs) = true ∧
    ∀ u, u ≤ (U64 - 1) / gOf "groups" bs →
      wantB "groups" R (gOf "groups" bs) u
        = outHasB "groups" (roundUpToChunkGroups R bs) (gOf "groups" bs) u ∧
      outHasB "groups" (roundUpToChunkGroups R bs) (gOf "groups" bs) u
        = outAnyB "groups" (roundUpToChunkGroups R bs) (gOf "groups" bs) u :=
  ⟨(C17.groups_wf bs h hN).1, fun u hu => groups_unit bs h hN u hu⟩

example : WF (roundUpToChunkGroups [3, 18, 40] 2) = true ∧
    ∀ u, u ≤ (U64 - 1) / gOf "groups" 2 →
      wantB "groups" [3, 18, 40] (gOf "groups" 2) u
        = outHasB "groups" (roundUpToChunkGroups [3, 18, 40] 2) (gOf "groups" 2) u ∧
      outHasB "groups" (roundUpToChunkGroups [3, 18, 40] 2) (gOf "groups" 2) u
        = outAnyB "groups" (roundUpToChunkGroups [3, 18, 40] 2) (gOf "groups" 2) u :=
  groups_components (R := [3, 18, 40]) 2 (by decide) (by decide)

/-- `full` (`bs ≤ 64`): the model's output is strictly sorted; on every group `u ≤ lastUnit` the
verdict's `want` ("group `u` lies inside the input") equals `outHas`, which equals `outAny` -/
theorem full_components {R : List Nat} (bs : Nat) (hbs : bs ≤ 64) (h : WF R = true)
    (hN : C17.Bounded R) :
    WF (fullChunkGroups R bs) = true ∧
    ∀ u, u ≤ (U64 - 1) / gOf "full" bs →
      wantB "full" R (gOf "full" bs) u
        = outHasB "full" (fullChunkGroups R bs) (gOf "full" bs) u ∧
      outHasB "full" (fullChunkGroups R bs) (gOf "full" bs) u
        = outAnyB "full" (fullChunkGroups R bs) (gOf "full" bs) u :=
  ⟨(C17.full_wf bs hbs h hN).1, fun u hu => full_unit bs hbs h hN u hu⟩

example : WF (fullChunkGroups [3, 18, 40] 2) = true ∧
    ∀ u, u ≤ (U64 - 1) / gOf "full" 2 →
      wantB "full" [3, 18, 40] (gOf "full" 2) u
        = outHasB "full" (fullChunkGroups [3, 18, 40] 2) (gOf "full" 2) u ∧
      outHasB "full" (fullChunkGroups [3, 18, 40] 2) (gOf "full" 2) u
        = outAnyB "full" (fullChunkGroups [3, 18, 40] 2) (gOf "full" 2) u :=
  full_components (R := [3, 18, 40]) 2 (by decide) (by decide) (by decide)

/-- the boundary-list tests of the verdict mean what their names say (`R` strictly sorted,
`lo < hi`): `meets`/`outAny` = the interval `[lo, hi)` meets the set, `inside`/`outHas` = it lies
inside the set -/
theorem tests_meaning {R : List Nat} (h : WF R = true) {lo hi : Nat} (hlt : lo < hi) :
    (meetsB R lo hi = true ↔ ∃ x, lo ≤ x ∧ x < hi ∧ C17.Mem R x) ∧
    (insideB R lo hi = true ↔ ∀ x, lo ≤ x → x < hi → C17.Mem R x) :=
  ⟨meetsB_iff h hlt, insideB_iff h hlt⟩

example : (meetsB [3, 18, 40] 16 20 = true ↔ ∃ x, 16 ≤ x ∧ x < 20 ∧ C17.Mem [3, 18, 40] x) ∧
    (insideB [3, 18, 40] 16 20 = true ↔ ∀ x, 16 ≤ x → x < 20 → C17.Mem [3, 18, 40] x) :=
  tests_meaning (R := [3, 18, 40]) (by decide) (by decide)

/-- the model's output list of `round kind` -/
def modelOut (kind : String) (R : List Nat) (bs : Nat) : List Nat :=
  match kind with
  | "chunks" => roundUpToChunks R
  | "groups" => roundUpToChunkGroups R bs
  | _ => fullChunkGroups R bs

/-- component level "no false alarm": the verdict on the (parsed) model output is `none` -/
theorem round_core_model (kind : String) (R : List Nat) (bs : Nat)
    (hk : kind = "chunks" ∨ kind = "groups" ∨ kind = "full")
    (h : WF R = true) (hN : C17.Bounded R) (hbs : kind = "full" → bs ≤ 64) :
    roundModel kind R bs = natList (modelOut kind R bs) ∧
    roundCore kind R bs (modelOut kind R bs) = none := by
  rcases hk with rfl | rfl | rfl
  · have := chunks_components bs h hN
    exact ⟨rfl, roundCore_none _ _ _ _ this.1 this.2⟩
  · have := groups_components bs h hN
    exact ⟨rfl, roundCore_none _ _ _ _ this.1 this.2⟩
  · have := full_components bs (hbs rfl) h hN
    exact ⟨rfl, roundCore_none _ _ _ _ this.1 this.2⟩

example : roundCore "full" [3, 18, 40] 2 (modelOut "full" [3, 18, 40] 2) = none :=
  (round_core_model "full" [3, 18, 40] 2 (by decide) (by decide) (by decide) (by decide)).2

/-- the rendering of a list parses back, and is not the word `panic` -/
theorem parse_model (l : List Nat) : parseNatList (natList l) = some l ∧ natList l ≠ "panic" :=
  ⟨SpecTrunc.parseNatList_natList l, natList_ne_panic l⟩

/-- the verdict on the rendering of a list is the verdict on the list -/
theorem roundVerdict_natList (kind : String) (R : List Nat) (bs : Nat) (out : List Nat) :
    roundVerdict kind R bs (natList out) = roundCore kind R bs out := by
  unfold roundVerdict
  have hb : (natList out == "panic") = false := by simpa using natList_ne_panic out
  rw [hb, SpecTrunc.parseNatList_natList]
  rfl

/-- the full statement for `opRound`: on the model's own output the verdict is `none`, for every
argument list `[kind, rs, bs]` with one of the three kinds whose `rs` parses to a strictly sorted
list of `u64` boundaries (`bs ≤ 64` for `full`) -/
theorem round_specFail (kind rs bs impl : String) (R : List Nat) (b : Nat)
    (hk : kind = "chunks" ∨ kind = "groups" ∨ kind = "full")
    (h1 : parseNatList rs = some R) (h2 : bs.toNat? = some b)
    (h : WF R = true) (hN : C17.Bounded R) (hbs : kind = "full" → b ≤ 64) :
    (opRound [kind, rs, bs] (opRound [kind, rs, bs] impl).model).specFail = none := by
  obtain ⟨hm, hc⟩ := round_core_model kind R b hk h hN hbs
  rw [(opRound_eq kind rs bs impl R b h1 h2).1, (opRound_eq kind rs bs _ R b h1 h2).2, hm,
    roundVerdict_natList, hc]

/-- `(opRound [kind, natList R, toString bs] m).specFail = none` for the model's own output `m` -/
theorem round_no_false_alarm (kind impl : String) (R : List Nat) (bs : Nat)
    (hk : kind = "chunks" ∨ kind = "groups" ∨ kind = "full")
    (h : WF R = true) (hN : C17.Bounded R) (hbs : kind = "full" → bs ≤ 64) :
    (opRound [kind, natList R, toString bs]
      (opRound [kind, natList R, toString bs] impl).model).specFail = none :=
  round_specFail kind _ _ impl R bs hk (SpecTrunc.parseNatList_natList R)
    (SpecIndex.toNat?_toString bs) h hN hbs

example : (opRound ["chunks", natList [3, 1024, 5000], toString 0]
    (opRound ["chunks", natList [3, 1024, 5000], toString 0] "").model).specFail = none :=
  round_no_false_alarm "chunks" "" [3, 1024, 5000] 0 (by decide) (by decide) (by decide) (by decide)

example : (opRound ["groups", natList [1, 2 ^ 64 - 3], toString 10]
    (opRound ["groups", natList [1, 2 ^ 64 - 3], toString 10] "x").model).specFail = none :=
  round_no_false_alarm "groups" "x" [1, 2 ^ 64 - 3] 10 (by decide) (by decide) (by decide)
    (by decide)

example : (opRound ["full", natList [], toString 3]
    (opRound ["full", natList [], toString 3] "").model).specFail = none :=
  round_specFail "full" _ _ "" [] 3 (by decide) (SpecTrunc.parseNatList_natList [])
    (SpecIndex.toNat?_toString 3) (by decide) (by decide) (by decide)

/-- the verdict of `opRound` on renderings: the verdict on the lists -/
theorem round_on (kind rs bs impl : String) (R : List Nat) (b : Nat) (out : List Nat)
    (h1 : natList R = rs) (h2 : toString b = bs) (h3 : natList out = impl) :
    (opRound [kind, rs, bs] impl).specFail = roundCore kind R b out := by
  subst h1 h2 h3
  rw [(opRound_eq kind _ _ _ R b (SpecTrunc.parseNatList_natList R) (SpecIndex.toNat?_toString b)).2,
    roundVerdict_natList]

/-- accepted: the model's outputs -/
example : (opRound ["chunks", "3,1024,5000", "0"] "0,1,4").specFail = none := by
  rw [round_on "chunks" _ _ _ [3, 1024, 5000] 0 [0, 1, 4] (by decide) (by decide) (by decide)]
  decide +kernel

example : (opRound ["groups", "3,18,40", "2"] "0,20,40").specFail = none := by
  rw [round_on "groups" _ _ _ [3, 18, 40] 2 [0, 20, 40] (by decide) (by decide) (by decide)]
  decide +kernel

example : (opRound ["full", "3,18,40", "2"] "4,16,40").specFail = none := by
  rw [round_on "full" _ _ _ [3, 18, 40] 2 [4, 16, 40] (by decide) (by decide) (by decide)]
  decide +kernel

example : (opRound ["full", "18446744073709551608,18446744073709551615", "2"]
    "18446744073709551608,18446744073709551612").specFail = none := by
  -- rendering twenty-digit numbers is slow in the elaborator's evaluator: left to the kernel
  rw [round_on "full" _ _ _ [2 ^ 64 - 8, 2 ^ 64 - 1] 2 [2 ^ 64 - 8, 2 ^ 64 - 4] (by decide +kernel)
    (by decide) (by decide +kernel)]
  decide +kernel

/-- rejected: wrong outputs -/
example : (opRound ["chunks", "3,1024,5000", "0"] "0,1,5").specFail
    = some "unit 4: want true got false/false" := by
  rw [round_on "chunks" _ _ _ [3, 1024, 5000] 0 [0, 1, 5] (by decide) (by decide) (by decide)]
  decide +kernel

example : (opRound ["groups", "3,18,40", "2"] "0,16,40").specFail
    = some "unit 4: want true got false/false" := by
  rw [round_on "groups" _ _ _ [3, 18, 40] 2 [0, 16, 40] (by decide) (by decide) (by decide)]
  decide +kernel

/-- a superset of the right answer that is not a union of groups -/
example : (opRound ["groups", "3,18,40", "2"] "0,18,40").specFail
    = some "unit 4: want true got false/true" := by
  rw [round_on "groups" _ _ _ [3, 18, 40] 2 [0, 18, 40] (by decide) (by decide) (by decide)]
  decide +kernel

example : (opRound ["full", "3,18,40", "2"] "4,20,40").specFail
    = some "unit 4: want false got true/true" := by
  rw [round_on "full" _ _ _ [3, 18, 40] 2 [4, 20, 40] (by decide) (by decide) (by decide)]
  decide +kernel

example : (opRound ["groups", "3,18,40", "2"] "0,40,20").specFail = some "not strictly sorted" := by
  rw [round_on "groups" _ _ _ [3, 18, 40] 2 [0, 40, 20] (by decide) (by decide) (by decide)]
  decide +kernel

example : (opRound ["groups", natList [3, 18, 40], toString 2] "panic").specFail = some "panic" := by
  rw [(opRound_eq "groups" _ _ _ [3, 18, 40] 2 (SpecTrunc.parseNatList_natList _)
    (SpecIndex.toNat?_toString 2)).2]
  rfl

/-- FALSE ALARM outside the hypotheses (1): the input must be strictly sorted.  For the boundary
list `5,3` the model's `round groups … 1` prints `-` and the verdict rejects it.  (The generators
only emit sorted, deduplicated lists, and the Rust side cannot build such a set.) -/
theorem round_not_sorted_alarm (impl : String) :
    (opRound ["groups", "5,3", "1"] (opRound ["groups", "5,3", "1"] impl).model).specFail
      = some "unit 2: want true got false/false" := by
  have h1 : parseNatList "5,3" = some [5, 3] := SpecTrunc.parseNatList_natList [5, 3]
  have h2 : "1".toNat? = some 1 := SpecIndex.toNat?_toString 1
  have hm : roundModel "groups" [5, 3] 1 = natList [] := by decide +kernel
  rw [(opRound_eq "groups" _ _ impl [5, 3] 1 h1 h2).1, (opRound_eq "groups" _ _ _ [5, 3] 1 h1 h2).2,
    hm, roundVerdict_natList]
  decide +kernel

/-- FALSE ALARM outside the hypotheses (2): a kind other than `chunks`, `groups`, `full`.  The model
prints `bad-kind`, which the verdict calls malformed.  (The generators only emit the three kinds.) -/
theorem round_bad_kind_alarm (kind rs bs impl : String) (R : List Nat) (b : Nat)
    (hk : ¬ (kind = "chunks" ∨ kind = "groups" ∨ kind = "full"))
    (h1 : parseNatList rs = some R) (h2 : bs.toNat? = some b) :
    (opRound [kind, rs, bs] (opRound [kind, rs, bs] impl).model).specFail = some "malformed" := by
  rw [(opRound_eq kind rs bs impl R b h1 h2).1, (opRound_eq kind rs bs _ R b h1 h2).2,
    roundModel_bad kind R b hk]
  unfold roundVerdict
  rw [if_neg (by decide), parseNatList_bad]

example : (opRound ["foo", natList [1], toString 7]
    (opRound ["foo", natList [1], toString 7] "").model).specFail = some "malformed" :=
  round_bad_kind_alarm "foo" _ _ "" [1] 7 (by decide) (SpecTrunc.parseNatList_natList _)
    (SpecIndex.toNat?_toString 7)

end Bao.SpecRound

/-
Status (the `round` verdict never rejects the model; property C17).
Hypotheses throughout: kind ∈ {chunks, groups, full}; the input `R` strictly sorted (`WF R`) with
boundaries `< 2^64` (`C17.Bounded R`); every `bs` for `chunks` / `groups`, `bs ≤ 64` for `full`
(exactly the hypotheses of `C17.chunks`, `C17.groups`, `C17.full`; they cover the property's `bs ≤ 10`).

PROVED: every theorem of this file (levels 1-4 of the header).  The component theorems speak of EVERY unit
`u ≤ lastUnit = (2^64-1)/g`, a superset of the probe units.  The named definitions of `SpecRoundL`
(`roundModel`, `gOf`, `loOf`, `hiOf`, `wantB`, `outHasB`, `outAnyB`, `unitsOf`, `roundCore`, `roundVerdict`)
ARE the `let`s of `opRound`, by `rfl` after the argument parse (`opRound_eq`).
PARTIAL: none.   OPEN: none.
Not covered: `full` with `bs > 64` (`C17.full` needs `bs ≤ 64`; no counterexample found by `#eval`),
  boundaries `≥ 2^64` (not `u64`; no counterexample found by `#eval`).

FINDINGS (false alarms of the machinery OUTSIDE the hypotheses, both proved):
  * `round_not_sorted_alarm`   input `5,3` (not strictly sorted), `round groups 5,3 1`: the model prints
      `-`, the verdict answers `some "unit 2: want true got false/false"`.  `harness/src/gen1.rs` ("C17")
      emits only `subsets(..)` of sorted, deduplicated point lists, so the generators cannot emit it.
  * `round_bad_kind_alarm`   any kind other than the three: the model prints `bad-kind`, the verdict
      answers `some "malformed"`.  The generators emit `chunks`, `groups`, `full` only.
  Inside the hypotheses there is no false alarm (`round_specFail`).

Axioms (`#print axioms`): `roundCore_none`: [propext, Quot.sound]; every other theorem of this file:
[propext, Classical.choice, Quot.sound].
-/
