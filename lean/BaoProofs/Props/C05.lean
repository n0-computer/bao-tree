import BaoProofs.Lemmas.C05LocL

/-!
# C05: the validating encoder never sends bytes that fail verification

`encodeRangesValidated hf fl data ob q` (`sync::encode_ranges_validated` /
`fsm::encode_ranges_validated`) walks the plan `planOf ob q` of the query with a stack of pending
hashes that starts as `[ob.root]`, and checks every loaded pair and every leaf it reads against the
popped hash BEFORE writing anything of that item.

Setting.  `S = (data, ob)` is ANY store contents; `S₀ = (data₀, ob₀)` is a *reference* store with
the same root and the same tree on which the validating encoder runs to `.ok` ("honest" is
characterised abstractly by this; by `validated_ok_reads_true` such a store holds, at every place
the query reads, the true data of the blob committed to by the root, and by `validated_ok_unique`
all such stores emit the same bytes: *the* honest encoding for this root, tree and query).  The two
runs may even use different flavours.

Hypotheses: `CollisionFree hf` (`Lemmas/HashCF.lean`), `[LawfulBEq H]`, and both data files at most
`2^64 · 1024` bytes (the domain of `hash_subtree`).  Properness of the prefix needs
`hf.toBytes h ≠ []` (true for 32-byte hashes).

NOT assumed: the wire round trip `ofBytes (toBytes h) = h` and `|toBytes h| = 32`.  They are not
needed, and together with the global `CollisionFree hf` they would be UNSATISFIABLE (`toBytes`
injective into the finite set of 32-byte strings makes `H` finite, `chunkCv` injective on an
infinite domain makes it infinite; machine-checked: `Bao.collisionFree_wire_unsat` in
`Lemmas/CFUnsat.lean`) — every theorem carrying all three would be vacuous.

Vocabulary (`Lemmas/EncL.lean`):
* `planOf ob q`   – the plan the encoder walks (`none` = the plan iterator panics);
* `AgreeAt hf fl fl₀ data ob data₀ ob₀ c` – the one store access plan item `c` makes returns the
  same in both stores: `load` of the node for a parent item, `readExactAt` of the byte range for a
  leaf item.  "The parts of the store the query depends on" are these accesses for `c ∈ plan`;
* `ReadTrue hf fl data ob d c` – that access returns a `TruePair` / `TrueLeaf` of blob `d` (C01);
* `heightRun 1 plan` – height of the pending-hash stack along the plan (`none` = underflow).
-/

namespace Bao.C05

variable {H : Type} [BEq H] [LawfulBEq H] {hf : HashFns H}

omit [BEq H] [LawfulBEq H] in
/-- the hash `encode_selected_rec` returns for a partially selected chunk group is the subtree hash
of ALL its bytes (so the leaf check of a partial group is as strong as that of a full one) -/
theorem selectedRec_hash (hf : HashFns H) (start : Nat) (buf : List UInt8) (isRoot : Bool)
    (query : Ranges) (minLevel : Nat) (emit : Bool) (h : buf.length ≤ 2 ^ 64 * 1024) :
    (encodeSelectedRec hf recFuel start buf isRoot query minLevel emit).1
      = hashSubtree hf start buf isRoot :=
  encodeSelectedRec_hash hf recFuel start buf isRoot query minLevel emit (Nat.le_refl _) h

/-- **Prefix.**  On ANY store the validating encoder emits a prefix of what it emits on a
reference store with the same root and tree that passes all checks; if it returns `.ok` it emitted
exactly the same bytes. -/
theorem validated_prefix_rel (cf : CollisionFree hf) (fl fl₀ : Flavour) (data data₀ : List UInt8)
    (ob ob₀ : Store H) (q : Ranges) (htree : ob.tree = ob₀.tree) (hroot : ob.root = ob₀.root)
    (hd : data.length ≤ 2 ^ 64 * 1024) (hd₀ : data₀.length ≤ 2 ^ 64 * 1024)
    (hok : (encodeRangesValidated hf fl₀ data₀ ob₀ q).terminal = .ok) :
    (encodeRangesValidated hf fl data ob q).out <+: (encodeRangesValidated hf fl₀ data₀ ob₀ q).out ∧
    ((encodeRangesValidated hf fl data ob q).terminal = .ok →
      (encodeRangesValidated hf fl data ob q).out = (encodeRangesValidated hf fl₀ data₀ ob₀ q).out) := by
  obtain ⟨_, _, _, h1, h2, _⟩ :=
    C05Loc.validated_rel_loc (fl := fl) htree hroot hd hd₀ q (cf.on _) hok
  exact ⟨h1, fun h => (h2 h).1⟩

/-- **Proper prefix.**  If the run on `S` does not end `.ok` (hash mismatch, io error or panic),
what it emitted is strictly shorter than the reference output. -/
theorem validated_proper_prefix (cf : CollisionFree hf) (hb : ∀ h, hf.toBytes h ≠ [])
    (fl fl₀ : Flavour) (data data₀ : List UInt8) (ob ob₀ : Store H) (q : Ranges)
    (htree : ob.tree = ob₀.tree) (hroot : ob.root = ob₀.root)
    (hd : data.length ≤ 2 ^ 64 * 1024) (hd₀ : data₀.length ≤ 2 ^ 64 * 1024)
    (hok : (encodeRangesValidated hf fl₀ data₀ ob₀ q).terminal = .ok)
    (hne : (encodeRangesValidated hf fl data ob q).terminal ≠ .ok) :
    (encodeRangesValidated hf fl data ob q).out <+: (encodeRangesValidated hf fl₀ data₀ ob₀ q).out ∧
    (encodeRangesValidated hf fl data ob q).out.length
      < (encodeRangesValidated hf fl₀ data₀ ob₀ q).out.length := by
  obtain ⟨_, _, _, h1, _, h3⟩ :=
    C05Loc.validated_rel_loc (fl := fl) htree hroot hd hd₀ q (cf.on _) hok
  exact ⟨h1, h3 hb hne⟩

/-- **Detection.**  If the run on `S` ends `.ok` too, then `S` and the reference store agree on
every access the plan makes … -/
theorem validated_ok_agree (cf : CollisionFree hf) (fl fl₀ : Flavour) (data data₀ : List UInt8)
    (ob ob₀ : Store H) (q : Ranges) (htree : ob.tree = ob₀.tree) (hroot : ob.root = ob₀.root)
    (hd : data.length ≤ 2 ^ 64 * 1024) (hd₀ : data₀.length ≤ 2 ^ 64 * 1024)
    (hok₀ : (encodeRangesValidated hf fl₀ data₀ ob₀ q).terminal = .ok)
    (hok : (encodeRangesValidated hf fl data ob q).terminal = .ok) :
    ∃ plan, planOf ob q = some plan ∧ ∀ c ∈ plan, AgreeAt hf fl fl₀ data ob data₀ ob₀ c := by
  obtain ⟨plan, hp, _, _, h2, _⟩ :=
    C05Loc.validated_rel_loc (fl := fl) htree hroot hd hd₀ q (cf.on _) hok₀
  exact ⟨plan, hp, (h2 hok).2⟩

/-- … hence: if `S` differs from the reference store in anything the query depends on (the pair
loaded for some parent of the plan, or the bytes read for some leaf of the plan), the run on `S`
does not end `.ok` (by `validated_error_kind` it ends with a hash mismatch, unless io fails or it
panics), and what it emitted is a proper prefix by `validated_proper_prefix`. -/
theorem validated_detects (cf : CollisionFree hf) (fl fl₀ : Flavour) (data data₀ : List UInt8)
    (ob ob₀ : Store H) (q : Ranges) (htree : ob.tree = ob₀.tree) (hroot : ob.root = ob₀.root)
    (hd : data.length ≤ 2 ^ 64 * 1024) (hd₀ : data₀.length ≤ 2 ^ 64 * 1024)
    (hok₀ : (encodeRangesValidated hf fl₀ data₀ ob₀ q).terminal = .ok)
    {plan : List Chunk} (hp : planOf ob q = some plan) {c : Chunk} (hc : c ∈ plan)
    (hdiff : ¬ AgreeAt hf fl fl₀ data ob data₀ ob₀ c) :
    (encodeRangesValidated hf fl data ob q).terminal ≠ .ok := by
  intro hok
  obtain ⟨plan', hp', h⟩ := validated_ok_agree cf fl fl₀ data data₀ ob ob₀ q htree hroot hd hd₀ hok₀ hok
  rw [hp] at hp'
  cases hp'
  exact hdiff (h c hc)

omit [LawfulBEq H] in
/-- **Error kind.**  When `load` cannot fail with an io error (e.g. the memory stores,
`load_mem_ne_err`) and the data file covers every leaf of the plan, the terminal is `.ok`, a
`ParentHashMismatch` at a parent node of the plan, a `LeafHashMismatch` at a leaf of the plan, or a
panic — the last only if the plan iterator panics, the pending-hash stack underflows, or `load`
returns `None` / panics for a parent node of the plan.  (`Props/C05Plan.lean` removes the first two
causes for trees with `size ≤ 2^63`, `bs ≤ 10` and derives the data hypothesis from
`ob.tree.size ≤ data.length`.) -/
theorem validated_error_kind (hf : HashFns H) (fl : Flavour) (data : List UInt8) (ob : Store H)
    (q : Ranges) (hio : ∀ node e, ob.load hf fl node ≠ .err e)
    (hdata : ∀ plan, planOf ob q = some plan → ∀ start size ir rs,
      Chunk.leaf start size ir rs ∈ plan → toBytes start + size ≤ data.length) :
    (encodeRangesValidated hf fl data ob q).terminal = .ok ∨
    (∃ plan node ir lf rf rs, planOf ob q = some plan ∧ Chunk.parent node ir lf rf rs ∈ plan ∧
      (encodeRangesValidated hf fl data ob q).terminal = .err (.parentHashMismatch node)) ∨
    (∃ plan start size ir rs, planOf ob q = some plan ∧ Chunk.leaf start size ir rs ∈ plan ∧
      (encodeRangesValidated hf fl data ob q).terminal = .err (.leafHashMismatch start)) ∨
    ((encodeRangesValidated hf fl data ob q).terminal = .panic ∧
      (planOf ob q = none ∨
       (∃ plan, planOf ob q = some plan ∧ heightRun 1 plan = none) ∨
       (∃ plan node ir lf rf rs, planOf ob q = some plan ∧ Chunk.parent node ir lf rf rs ∈ plan ∧
          (ob.load hf fl node = .panic ∨ ob.load hf fl node = .ok none)))) :=
  validated_kind hf fl data ob q hio hdata

omit [LawfulBEq H] in
/-- **Frame.**  Two stores with the same root and tree that agree on every `load` of the plan's
parent nodes and every `readExactAt` of the plan's leaves give identical runs (output and
terminal): differences anywhere else in the data file or in the outboard change nothing. -/
theorem frame (hf : HashFns H) (fl fl₀ : Flavour) (data data₀ : List UInt8) (ob ob₀ : Store H)
    (q : Ranges) (htree : ob.tree = ob₀.tree) (hroot : ob.root = ob₀.root)
    (h : ∀ plan, planOf ob q = some plan → ∀ c ∈ plan, AgreeAt hf fl fl₀ data ob data₀ ob₀ c) :
    encodeRangesValidated hf fl data ob q = encodeRangesValidated hf fl₀ data₀ ob₀ q :=
  validated_frame htree hroot q h

/-- all stores (same root, same tree) that pass validation emit the same bytes -/
theorem validated_ok_unique (cf : CollisionFree hf) (fl fl₀ : Flavour) (data data₀ : List UInt8)
    (ob ob₀ : Store H) (q : Ranges) (htree : ob.tree = ob₀.tree) (hroot : ob.root = ob₀.root)
    (hd : data.length ≤ 2 ^ 64 * 1024) (hd₀ : data₀.length ≤ 2 ^ 64 * 1024)
    (hok₀ : (encodeRangesValidated hf fl₀ data₀ ob₀ q).terminal = .ok)
    (hok : (encodeRangesValidated hf fl data ob q).terminal = .ok) :
    (encodeRangesValidated hf fl data ob q).out = (encodeRangesValidated hf fl₀ data₀ ob₀ q).out :=
  (validated_prefix_rel cf fl fl₀ data data₀ ob ob₀ q htree hroot hd hd₀ hok₀).2 hok

/-- **What "passes validation" means.**  If the root is the root hash of blob `d` and the run ends
`.ok`, then every pair it loaded is the true pair of a node of the tree of `d` and every leaf it
read is the bytes of `d` at that place — so everything it sent verifies. -/
theorem validated_ok_reads_true (cf : CollisionFree hf) {d : List UInt8}
    (hd : d.length ≤ 2 ^ 64 * 1024) (fl : Flavour) (data : List UInt8) (ob : Store H) (q : Ranges)
    (hdata : data.length ≤ 2 ^ 64 * 1024) (hroot : ob.root = Spec.root hf d)
    (hok : (encodeRangesValidated hf fl data ob q).terminal = .ok) :
    ∃ plan, planOf ob q = some plan ∧ ∀ c ∈ plan, ReadTrue hf fl data ob d c :=
  C05Loc.validated_true_loc hd hdata hroot q (cf.on _) hok

/-! ## non-vacuity

`exHash` (`Lemmas/EncL.lean`): the free term algebra (collision free) with non-empty wire bytes.
Reference store: the two-chunk blob `1024 × 0 ++ [1]` with its one-pair pre-order outboard, which
passes validation (plan: the root parent, two leaves).  Corrupted stores: the last data byte
changed; the second stored hash changed. -/

section
private def blob2 : List UInt8 := List.replicate 1024 0 ++ [1]
private def bad2 : List UInt8 := List.replicate 1024 0 ++ [2]
private def root2 : Term := .parent (.chunk 0 (List.replicate 1024 0) false) (.chunk 1 [1] false) true
private def ob2 : Store Term := ⟨.preMem, root2, ⟨1025, 0⟩, zeros32 ++ List.replicate 32 1⟩
/-- the same outboard with an unused trailing byte -/
private def ob2' : Store Term := ⟨.preMem, root2, ⟨1025, 0⟩, zeros32 ++ List.replicate 32 1 ++ [9]⟩

private theorem len_blob2 : blob2.length ≤ 2 ^ 64 * 1024 := by
  simp only [blob2, List.length_append, List.length_replicate, List.length_singleton]; omega
private theorem len_bad2 : bad2.length ≤ 2 ^ 64 * 1024 := by
  simp only [bad2, List.length_append, List.length_replicate, List.length_singleton]; omega

set_option maxRecDepth 100000 in
private theorem ok2 : (encodeRangesValidated exHash .sync blob2 ob2 [0]).terminal = .ok :=
  exHash_runs.1

set_option maxRecDepth 100000 in
private theorem ok2' : (encodeRangesValidated exHash .fsm blob2 ob2' [0]).terminal = .ok :=
  exHash_runs.2.2.1

set_option maxRecDepth 100000 in
private theorem bad2_err :
    (encodeRangesValidated exHash .fsm bad2 ob2 [0]).terminal = .err (.leafHashMismatch 1) :=
  exHash_runs.2.2.2.1

set_option maxRecDepth 100000 in
private theorem plan2 : planOf ob2 [0] = some
    [.parent 0 true true true [0], .leaf 0 1024 false [0], .leaf 1 1 false [0]] :=
  exHash_runs.2.2.2.2.2

example : (encodeSelectedRec exHash recFuel 0 blob2 true [0, 1] 0 true).1
    = hashSubtree exHash 0 blob2 true :=
  selectedRec_hash exHash 0 blob2 true [0, 1] 0 true len_blob2

example :
    (encodeRangesValidated exHash .fsm bad2 ob2 [0]).out
      <+: (encodeRangesValidated exHash .sync blob2 ob2 [0]).out ∧
    ((encodeRangesValidated exHash .fsm bad2 ob2 [0]).terminal = .ok →
      (encodeRangesValidated exHash .fsm bad2 ob2 [0]).out
        = (encodeRangesValidated exHash .sync blob2 ob2 [0]).out) :=
  validated_prefix_rel exHash_cf .fsm .sync bad2 blob2 ob2 ob2 [0] rfl rfl len_bad2 len_blob2 ok2

example :
    (encodeRangesValidated exHash .fsm bad2 ob2 [0]).out
      <+: (encodeRangesValidated exHash .sync blob2 ob2 [0]).out ∧
    (encodeRangesValidated exHash .fsm bad2 ob2 [0]).out.length
      < (encodeRangesValidated exHash .sync blob2 ob2 [0]).out.length :=
  validated_proper_prefix exHash_cf exHash_toBytes_ne .fsm .sync bad2 blob2 ob2 ob2 [0] rfl rfl
    len_bad2 len_blob2 ok2 (by rw [bad2_err]; simp)

example : ∃ plan, planOf ob2' [0] = some plan ∧
    ∀ c ∈ plan, AgreeAt exHash .fsm .sync blob2 ob2' blob2 ob2 c :=
  validated_ok_agree exHash_cf .fsm .sync blob2 blob2 ob2' ob2 [0] rfl rfl len_blob2 len_blob2 ok2 ok2'

set_option maxRecDepth 100000 in
example : (encodeRangesValidated exHash .fsm bad2 ob2 [0]).terminal ≠ .ok :=
  validated_detects exHash_cf .fsm .sync bad2 blob2 ob2 ob2 [0] rfl rfl len_bad2 len_blob2 ok2
    plan2 (c := .leaf 1 1 false [0]) (by simp)
    (fun h => exHash_runs.2.2.2.2.1 (congrArg Except.toOption h))

set_option maxRecDepth 100000 in
example :
    (encodeRangesValidated exHash .fsm bad2 ob2 [0]).terminal = .ok ∨
    (∃ plan node ir lf rf rs, planOf ob2 [0] = some plan ∧ Chunk.parent node ir lf rf rs ∈ plan ∧
      (encodeRangesValidated exHash .fsm bad2 ob2 [0]).terminal = .err (.parentHashMismatch node)) ∨
    (∃ plan start size ir rs, planOf ob2 [0] = some plan ∧ Chunk.leaf start size ir rs ∈ plan ∧
      (encodeRangesValidated exHash .fsm bad2 ob2 [0]).terminal = .err (.leafHashMismatch start)) ∨
    ((encodeRangesValidated exHash .fsm bad2 ob2 [0]).terminal = .panic ∧
      (planOf ob2 [0] = none ∨
       (∃ plan, planOf ob2 [0] = some plan ∧ heightRun 1 plan = none) ∨
       (∃ plan node ir lf rf rs, planOf ob2 [0] = some plan ∧ Chunk.parent node ir lf rf rs ∈ plan ∧
          (ob2.load exHash .fsm node = .panic ∨ ob2.load exHash .fsm node = .ok none)))) :=
  validated_error_kind exHash .fsm bad2 ob2 [0]
    (fun node e => load_mem_ne_err exHash .fsm ob2 node (.inl rfl) e)
    (by
      intro plan hp start size ir rs hmem
      rw [plan2] at hp
      cases hp
      simp only [List.mem_cons, List.not_mem_nil, or_false, Chunk.leaf.injEq, reduceCtorEq,
        false_or] at hmem
      have hl : bad2.length = 1025 := by
        simp only [bad2, List.length_append, List.length_replicate, List.length_singleton]
      rw [hl]
      rcases hmem with ⟨rfl, rfl, _, _⟩ | ⟨rfl, rfl, _, _⟩ <;> decide)

set_option maxRecDepth 100000 in
/-- the trailing byte of `ob2'` is not read by the plan -/
example : encodeRangesValidated exHash .fsm blob2 ob2' [0]
    = encodeRangesValidated exHash .sync blob2 ob2 [0] :=
  frame exHash .fsm .sync blob2 blob2 ob2' ob2 [0] rfl rfl (by
    intro plan hp c hc
    obtain ⟨plan', hp', h⟩ := validated_ok_agree exHash_cf .fsm .sync blob2 blob2 ob2' ob2 [0] rfl
      rfl len_blob2 len_blob2 ok2 ok2'
    rw [hp] at hp'
    cases hp'
    exact h c hc)

example : (encodeRangesValidated exHash .fsm blob2 ob2' [0]).out
    = (encodeRangesValidated exHash .sync blob2 ob2 [0]).out :=
  validated_ok_unique exHash_cf .fsm .sync blob2 blob2 ob2' ob2 [0] rfl rfl len_blob2 len_blob2 ok2 ok2'

/-- a one-chunk blob with its true root: the hypotheses of `validated_ok_reads_true` hold -/
private def blob1 : List UInt8 := [1, 2, 3]
private def ob1 : Store Term := ⟨.postMem, Spec.root exHash blob1, ⟨3, 0⟩, []⟩

set_option maxRecDepth 100000 in
example : ∃ plan, planOf ob1 [0] = some plan ∧ ∀ c ∈ plan, ReadTrue exHash .sync blob1 ob1 blob1 c :=
  validated_ok_reads_true exHash_cf (d := blob1) (by decide) .sync blob1 ob1 [0] (by decide) rfl
    (by decide)

end

/-
## Status

Proved (axioms: propext, Classical.choice, Quot.sound): `selectedRec_hash`, `validated_prefix_rel`,
`validated_proper_prefix`, `validated_ok_agree`, `validated_detects`, `validated_error_kind`, `frame`,
`validated_ok_unique`, `validated_ok_reads_true` (`Props/C05Plan.lean`: `validated_error_kind_tree`,
the panic causes reduced to `load` for `size ≤ 2^63`, `bs ≤ 10`).

`_partial`: none in this file.

OPEN
-- That the honest store (`Spec.preOutboard` / `Spec.postOutboard`, root `Spec.root hf d`) passes
--   validation and emits `Spec.encode hf d bs q` is `C04.encode_is_spec`; with it "prefix of the
--   reference output" is "prefix of `Spec.encode`".
-- OPEN: byte-level reading of `AgreeAt` for parents: `load` agrees iff the 64 stored bytes of the
--   slot parse to the same pair; "any differing stored byte is detected" additionally needs
--   `ofBytes` injective on 32-byte strings (true for the real `Hash::from`).
-- "Never panics" (plan parents are persisted nodes of the tree, so `load` returns `Some`, and does
--   not panic when `outboardSize ≤ ob.data.length`) is not stated here; the ingredients are
--   `PlanPre.item_node`, `ValidL.mem_persistedPre` and `DecSim.slot_lt_pre/post`.
-- The item-stream encoder (`mixed.rs`, `traverseRangesValidated`) is related to this one by
--   `C08.mixed_flatten`; not restated here.

Remarks on the model
* `encodeRangesValidated` checks leaves with `encodeSelectedRec … recFuel` (`recFuel = 64`); the
  equality with `hashSubtree` needs `buf.length ≤ 2^64·1024`, which is where the data length
  hypotheses come from (any real chunk group is far smaller).
* The empty-query early return of the sync flavour coincides with the loop on the empty plan
  (`validated_eq_loop`), so all theorems hold across flavours.
-/

end Bao.C05
