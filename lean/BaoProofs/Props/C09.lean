import BaoProofs.Lemmas.DecodeSpec

/-!
# C09 — stream faults are classified and located exactly

"Cut at any byte → all items that lie completely before the cut, then a not-found error naming the
parent node or chunk whose bytes are missing; a byte altered → all items before the altered one,
then a hash-mismatch error naming exactly the altered parent node or the altered leaf's first
chunk; as io errors these are UnexpectedEof and InvalidData; no stream makes a decoder panic."

Vocabulary (`Lemmas/DecodeSpec.lean`): `e := Spec.encode hf d bs q` is the honest stream, the
concatenation of the bytes of `I := Spec.items hf d bs q`; `locate I k` is the index of the item
that contains byte `k` (by cumulative sizes); `SItem.notFound` / `SItem.mismatch` are
`.parentNotFound node` / `.leafNotFound startChunk` and `.parentHashMismatch node` /
`.leafHashMismatch startChunk` of an item; `toItem hf` is the item the decoder returns.

Collision freedom.  `CollisionFree hf` together with `hrt` and `hlen` is unsatisfiable
(`Lemmas/CFUnsat.lean`), and the honest run needs `hrt`/`hlen`.  `alteration` therefore assumes
collision freedom only for the finitely many hash inputs of the check of the honest and of the
altered item (`NoCollision hf (itemInputs …)`): one parent input each for a parent item, the inputs
of the two tree hashes for a leaf.  It also assumes `hinj`: `ofBytes` is injective on 32-byte
strings — otherwise two different 64-byte strings are the same pair and the alteration is invisible.
-/

namespace Bao.C09
open Bao Bao.Spec Bao.DecodeSpec Bao.PlanPre

variable {H : Type} {hf : HashFns H}

section
variable [BEq H] [LawfulBEq H]

/-- **cut stream**: decoding the first `k` bytes of the honest stream (`k` inside the stream)
returns exactly the items that lie completely in front of the cut, then fails with the not-found
error of the item `it` the cut falls into — `.parentNotFound node` or `.leafNotFound startChunk` -/
theorem truncation (hrt : ∀ h, hf.ofBytes (hf.toBytes h) = h)
    (hlen : ∀ h, (hf.toBytes h).length = 32) (fl : Flavour) (d : List UInt8) (bs : Nat)
    (q : Ranges) (hd : d.length ≤ 2 ^ 63) (hwf : Ranges.WF q = true) (k : Nat)
    (hk : k < (Spec.encode hf d bs q).length) :
    ∃ it, (Spec.items hf d bs q)[locate (Spec.items hf d bs q) k]? = some it ∧
      (decodeAll hf fl (Spec.root hf d) ⟨d.length, bs⟩ q ((Spec.encode hf d bs q).take k)).items
        = ((Spec.items hf d bs q).take (locate (Spec.items hf d bs q) k)).map (toItem hf) ∧
      (decodeAll hf fl (Spec.root hf d) ⟨d.length, bs⟩ q ((Spec.encode hf d bs q).take k)).terminal
        = .err it.notFound := by
  obtain ⟨P1, c, P2, I1, it, I2, hP, hm, hit, htake, -, hk1, hk2, -, ⟨st, hok⟩, hitems⟩ :=
    split_at_byte hrt hlen d bs q hd hwf k hk
  have ht := runL_truncate hf hok hk1 hk2
  rw [decodeAll_eq_runL hf fl _ _ _ _ _ hd, hP, ht, hitems, htake]
  exact ⟨it, hit, rfl, congrArg DecEnd.err (match_notFound hm)⟩

/-- **altered stream**: `e'` has the length of the honest stream `e`, agrees with it in front of
byte `k` and differs at byte `k`.  With `it` the item that contains byte `k`, `off` the offset of
`it` in the stream and `b'` the bytes of `e'` in the place of `it`: if the hash inputs of the check of
`it` on its honest bytes and on `b'` do not collide, decoding `e'` returns exactly the items in
front of `it`, then fails with the hash-mismatch error of `it` — `.parentHashMismatch node` or
`.leafHashMismatch startChunk` -/
theorem alteration (hrt : ∀ h, hf.ofBytes (hf.toBytes h) = h)
    (hlen : ∀ h, (hf.toBytes h).length = 32)
    (hinj : ∀ a b : List UInt8, a.length = 32 → b.length = 32 → hf.ofBytes a = hf.ofBytes b → a = b)
    (fl : Flavour) (d : List UInt8) (bs : Nat) (q : Ranges) (hd : d.length ≤ 2 ^ 63)
    (hwf : Ranges.WF q = true) (e' : List UInt8) (k : Nat)
    (hk : k < (Spec.encode hf d bs q).length) (hl : e'.length = (Spec.encode hf d bs q).length)
    (hpre : e'.take k = (Spec.encode hf d bs q).take k)
    (hdiff : e'[k]? ≠ (Spec.encode hf d bs q)[k]?) :
    ∃ it, (Spec.items hf d bs q)[locate (Spec.items hf d bs q) k]? = some it ∧
      ((∀ f, NoCollision hf (itemInputs hf f it it.bytes ++ itemInputs hf f it
          ((e'.drop (((Spec.items hf d bs q).take
            (locate (Spec.items hf d bs q) k)).flatMap SItem.bytes).length).take it.bytes.length))) →
        (decodeAll hf fl (Spec.root hf d) ⟨d.length, bs⟩ q e').items
          = ((Spec.items hf d bs q).take (locate (Spec.items hf d bs q) k)).map (toItem hf) ∧
        (decodeAll hf fl (Spec.root hf d) ⟨d.length, bs⟩ q e').terminal = .err it.mismatch) := by
  obtain ⟨P1, c, P2, I1, it, I2, hP, hm, hit, htake, hps, hk1, hk2, he, ⟨st, hok⟩, hitems⟩ :=
    split_at_byte hrt hlen d bs q hd hwf k hk
  have hsz := hm.size hlen
  refine ⟨it, hit, fun hnc => ?_⟩
  rw [htake, ← hps, hsz] at hnc
  have hbytes : ((Spec.encode hf d bs q).drop (psize P1)).take c.size = it.bytes := by
    rw [he, List.drop_left' hps.symm, List.take_left' hsz]
  have hpre' : e'.take (psize P1) = (Spec.encode hf d bs q).take (psize P1) := by
    have := congrArg (List.take (psize P1)) hpre
    rwa [List.take_take, List.take_take, Nat.min_eq_left hk1] at this
  have hlen2 : psize P1 + c.size ≤ e'.length := by
    rw [hl, he]; simp only [List.length_append]; omega
  have hne : check hf c ((e'.drop (psize P1)).take c.size)
      ≠ check hf c (((Spec.encode hf d bs q).drop (psize P1)).take c.size) := by
    -- equal checks would make the two byte strings equal, also at byte `k`
    intro heq
    rw [hbytes] at heq
    have hnc' := hnc c.rootFlag
    rw [← match_inputs hm, ← match_inputs hm] at hnc'
    have hb := check_inj_local hinj c it.bytes _ hsz
      (by rw [List.length_take, List.length_drop]; omega)
      (fun x hx y hy => hnc' x (List.mem_append_left _ hx) y (List.mem_append_right _ hy)) heq.symm
    exact hdiff (by rw [getElem?_drop_take e' hk1 hk2,
      getElem?_drop_take (Spec.encode hf d bs q) hk1 hk2, hbytes, ← hb])
  have ha := runL_alter hf hok hpre' hlen2 hne
  rw [decodeAll_eq_runL hf fl _ _ _ _ _ hd, hP, ha, hitems, htake]
  exact ⟨rfl, congrArg DecEnd.err (match_mismatch hm)⟩

/-- the same under the global `CollisionFree hf`.  NOTE: `cf`, `hrt` and `hlen` together are
unsatisfiable (`collisionFree_wire_unsat`), so this form is vacuous; it is kept only because it is
the shape in which the property is usually quoted.  Use `alteration`. -/
theorem alteration_cf (cf : CollisionFree hf) (hrt : ∀ h, hf.ofBytes (hf.toBytes h) = h)
    (hlen : ∀ h, (hf.toBytes h).length = 32)
    (hinj : ∀ a b : List UInt8, a.length = 32 → b.length = 32 → hf.ofBytes a = hf.ofBytes b → a = b)
    (fl : Flavour) (d : List UInt8) (bs : Nat) (q : Ranges) (hd : d.length ≤ 2 ^ 63)
    (hwf : Ranges.WF q = true) (e' : List UInt8) (k : Nat)
    (hk : k < (Spec.encode hf d bs q).length) (hl : e'.length = (Spec.encode hf d bs q).length)
    (hpre : e'.take k = (Spec.encode hf d bs q).take k)
    (hdiff : e'[k]? ≠ (Spec.encode hf d bs q)[k]?) :
    ∃ it, (Spec.items hf d bs q)[locate (Spec.items hf d bs q) k]? = some it ∧
      (decodeAll hf fl (Spec.root hf d) ⟨d.length, bs⟩ q e').items
        = ((Spec.items hf d bs q).take (locate (Spec.items hf d bs q) k)).map (toItem hf) ∧
      (decodeAll hf fl (Spec.root hf d) ⟨d.length, bs⟩ q e').terminal = .err it.mismatch := by
  obtain ⟨it, h1, h2⟩ := alteration hrt hlen hinj fl d bs q hd hwf e' k hk hl hpre hdiff
  exact ⟨it, h1, h2 (fun _ => NoCollision.of_cf cf _)⟩

end

/-- **io kinds**: converted to `io::Error`, the not-found errors are `UnexpectedEof` and the
hash-mismatch errors are `InvalidData` -/
theorem io_kind (n : Nat) (it : SItem) :
    (DecodeError.parentNotFound n).toIoKind = .unexpectedEof ∧
    (DecodeError.leafNotFound n).toIoKind = .unexpectedEof ∧
    (DecodeError.parentHashMismatch n).toIoKind = .invalidData ∧
    (DecodeError.leafHashMismatch n).toIoKind = .invalidData ∧
    it.notFound.toIoKind = .unexpectedEof ∧ it.mismatch.toIoKind = .invalidData := by
  refine ⟨rfl, rfl, rfl, rfl, ?_, ?_⟩ <;> cases it <;> rfl

/-- **no panic**: for EVERY stream, root, claimed size `≤ 2^63`, block size and query — well-formed
or not — the decoder (either flavour) does not panic: the plan iterator never reaches a
`debug_assert!`/`unwrap()` and the hash stack never underflows -/
theorem no_panic (hf : HashFns H) [BEq H] (fl : Flavour) (root : H) (size' bs : Nat) (q : Ranges)
    (s : List UInt8) (hs : size' ≤ 2 ^ 63) :
    (decodeAll hf fl root ⟨size', bs⟩ q s).terminal ≠ .panic :=
  decode_no_panic hf fl root size' bs q s hs

/-- a toy hash with 32-byte representation and round trip -/
private def toy : HashFns UInt8 where
  chunkCv := fun c b r => b.foldl (· + ·) (UInt8.ofNat c + if r then 1 else 0)
  parentCv := fun l r f => l + 2 * r + if f then 1 else 0
  ofBytes := fun b => b.headD 0
  toBytes := fun h => List.replicate 32 h

private theorem toy_len : ∀ h, (toy.toBytes h).length = 32 := fun _ => List.length_replicate ..
private theorem toy_rt : ∀ h, toy.ofBytes (toy.toBytes h) = h := fun _ => rfl
private def blob : List UInt8 := List.replicate 3000 7
private theorem blob_size : blob.length ≤ 2 ^ 63 := by
  simp only [blob, List.length_replicate]; decide

/-- the honest stream of chunk 1 of the 3-chunk blob: two parents and one leaf, 1152 bytes -/
private theorem enc_len : (Spec.encode toy blob 0 [1, 2]).length = 1152 := by
  have h := (DecodeSpec.plan_items toy blob 0 [1, 2] blob_size (by decide))
  have hp : plan ⟨blob.length, 0⟩ 0 (Ranges.truncate [1, 2] blob.length)
      = [.parent 1 true true false [1, 2], .parent 0 false false true [1],
         .leaf 1 1024 false [0]] := by
    have : blob.length = 3000 := by simp only [blob, List.length_replicate]
    rw [this]; decide
  have := skel_psize toy_len h
  rw [hp] at this
  unfold Spec.encode
  rw [← this]; rfl

example : ∃ it, (Spec.items toy blob 0 [1, 2])[locate (Spec.items toy blob 0 [1, 2]) 100]? = some it ∧
    (decodeAll toy .sync (Spec.root toy blob) ⟨blob.length, 0⟩ [1, 2]
      ((Spec.encode toy blob 0 [1, 2]).take 100)).terminal = .err it.notFound := by
  obtain ⟨it, h1, -, h3⟩ := truncation toy_rt toy_len .sync blob 0 [1, 2] blob_size (by decide) 100
    (by rw [enc_len]; decide)
  exact ⟨it, h1, h3⟩

/-- a toy hash whose hashes ARE 32-byte strings: `ofBytes` is injective on them -/
private abbrev W := { l : List UInt8 // l.length = 32 }

private def padW (l : List UInt8) : W :=
  ⟨(l ++ List.replicate 32 0).take 32, by
    rw [List.length_take, List.length_append, List.length_replicate]; omega⟩

private def toyW : HashFns W where
  chunkCv := fun c b r => padW (UInt8.ofNat c :: (if r then 1 else 0) :: b)
  parentCv := fun l r f => padW ((if f then 3 else 2) :: (l.val.take 15 ++ r.val.take 15))
  ofBytes := fun b => if h : b.length = 32 then ⟨b, h⟩ else padW []
  toBytes := fun h => h.val

private theorem toyW_len : ∀ h, (toyW.toBytes h).length = 32 := fun h => h.2
private theorem toyW_rt : ∀ h, toyW.ofBytes (toyW.toBytes h) = h := fun h => by
  simp only [toyW, dif_pos h.2]
private theorem toyW_inj : ∀ a b : List UInt8, a.length = 32 → b.length = 32 →
    toyW.ofBytes a = toyW.ofBytes b → a = b := fun a b ha hb h => by
  simp only [toyW, dif_pos ha, dif_pos hb, Subtype.mk.injEq] at h
  exact h

private def blob5 : List UInt8 := [1, 2, 3, 4, 5]

private theorem items5 : Spec.items toyW blob5 0 [0] = [.leaf 0 [1, 2, 3, 4, 5]] := by decide

/-- the 5-byte blob, first byte altered: the root leaf is reported as mismatching -/
example : (decodeAll toyW .fsm (Spec.root toyW blob5) ⟨blob5.length, 0⟩ [0] [9, 2, 3, 4, 5]).terminal
    = .err (.leafHashMismatch 0) := by
  have henc : Spec.encode toyW blob5 0 [0] = [1, 2, 3, 4, 5] := by
    unfold Spec.encode; rw [items5]; rfl
  obtain ⟨it, h1, h2⟩ := alteration toyW_rt toyW_len toyW_inj .fsm blob5 0 [0] (by decide) (by decide)
    [9, 2, 3, 4, 5] 0 (by rw [henc]; decide) (by rw [henc]; rfl) rfl (by rw [henc]; decide)
  rw [items5] at h1 h2
  simp only [locate, SItem.bytes, List.length_cons, List.length_nil, Nat.zero_lt_succ, if_true,
    List.getElem?_cons_zero, Option.some.injEq] at h1
  subst h1
  refine (h2 (fun f => ?_)).2
  simp only [locate, SItem.bytes, List.length_cons, List.length_nil, Nat.zero_lt_succ, if_true,
    List.take_zero, List.flatMap_nil, List.drop_zero, itemInputs]
  rw [hashInputs_chunk _ _ _ _ _ (by decide), hashInputs_chunk _ _ _ _ _ (by decide)]
  intro x hx y hy e
  simp only [List.cons_append, List.nil_append, List.mem_cons, List.not_mem_nil, or_false] at hx hy
  rcases hx with rfl | rfl <;> rcases hy with rfl | rfl
  · rfl
  · exact absurd e (by cases f <;> decide)
  · exact absurd e (by cases f <;> decide)
  · rfl

example : (DecodeError.leafNotFound 3).toIoKind = .unexpectedEof := (io_kind 3 (.leaf 0 [])).2.1

example : (decodeAll toy .sync 0 ⟨2 ^ 63, 10⟩ [5, 3, 3] [1, 2, 3]).terminal ≠ .panic :=
  no_panic toy .sync 0 (2 ^ 63) 10 [5, 3, 3] [1, 2, 3] (Nat.le_refl _)

/-
## Status (C09)

All theorems depend on the axioms `propext`, `Classical.choice`, `Quot.sound` only.

Proved:
  truncation     (full strength: every cut position inside the stream, both flavours),
  alteration     (full strength for the location and classification; collision freedom localised to
                  the hash inputs of the honest and the altered item: `NoCollision hf (itemInputs …)`,
                  plus `hinj`: `ofBytes` injective on 32-byte strings),
  alteration_cf  (the corollary under the global `CollisionFree hf`; vacuous, see the note there),
  io_kind, no_panic (every stream, root, claimed size ≤ 2^63, block size, query — also ill-formed ones;
                  `bs ≤ 10` not needed).
Partial: none.   OPEN: none.

What is assumed exactly for `alteration`: `hrt`, `hlen`, `hinj`, lawful `==`, `d.length ≤ 2^63`,
`WF q`, `e'.length = e.length`, `e'.take k = e.take k`, `e'[k]? ≠ e[k]?` and, for the item `it`
containing byte `k` with altered bytes `b'`: `∀ f, NoCollision hf (itemInputs hf f it it.bytes ++
itemInputs hf f it b')` (`f` ranges over the root flag; only the flag of the plan item is used).

Remarks on the model.
* After a short read the model leaves `encoded` untouched, after a mismatch it has consumed the
  item; `DecRun.rest` is documented as meaningful for `done` only, so nothing is claimed about it.
* `no_panic` covers the decoder proper (`decodeAll`); `decodeRanges` can additionally panic in
  `Store.save` of a too-short in-memory outboard (`.preMem`/`.postMem`, `slice index out of range`),
  which is a property of the store, not of the stream.
-/

end Bao.C09
