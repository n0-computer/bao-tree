import BaoProofs.Lemmas.ScriptL

/-!
# C11: results do not depend on how the transport slices the bytes

"Outboard creation, encoding and decoding give the same results no matter how the underlying
reader fragments its data (one byte at a time, arbitrary short reads, cuts at or next to item
boundaries) and, for the async code, no matter where the io object suspends between polls."

Model (`BaoModel/Script.lean`): a transport is a script `List Frag` (`.bytes b` = the next `read`
calls can deliver at most `b`, `.pending` = one `Poll::Pending`); the crate touches a stream only
through exact-length reads, modelled by the loop `readExactFrags`.  A `Client σ ρ` is any program
that talks to its transport only through exact reads (`step` either finishes with a `ρ` or asks for
`n` bytes and continues with the outcome).  `runFrags` runs a client against a script, `runPlain`
against the plain byte list.

Proved here, for every script (empty fragments, any number of `pending`s, any cut positions):
* `readExact_concat`  – one exact read over a script = the plain exact read of the concatenation;
* `invariance`, `invariance_two` – any client, any fuel, any state: result and unread bytes only
  depend on `concat frags` (nothing is assumed about the bytes: honest, truncated, tampered);
* `decode_is_client` – the response decoder (`Dec.run`, both flavours) *is* such a client
  (`decClient`: 64 bytes per parent plan item, `size` bytes per leaf plan item), hence
  `decode_invariance`: decoding over any script yields the items and terminal of `decodeAll` on the
  concatenated bytes;
* `outboard_is_client`, `outboard_invariance` (and the `…PostOrder` twins) – the same for outboard
  creation reading a fragmenting data source.
-/

namespace Bao.C11

open Bao Bao.Script Bao.ScriptL

variable {H : Type}

/-- equational form: forgetting how the unread part is sliced (`flat`), the exact-read loop over a
script is `readExact` on the concatenated bytes -/
theorem readExact_concat_eq (frags : List Frag) (n : Nat) :
    flat (readExactFrags frags n) = readExact (concat frags) n :=
  flat_readExactFrags frags n

/-- `readExactFrags frags n` and `readExact (concat frags) n` agree: one is `.ok (b, _)` iff the
other is, with the same `b`, and the remaining script concatenates to the remaining bytes; one is
`.error e` iff the other is, with the same `e` -/
theorem readExact_concat (frags : List Frag) (n : Nat) :
    (∀ b fr, readExactFrags frags n = .ok (b, fr) → readExact (concat frags) n = .ok (b, concat fr)) ∧
    (∀ b rest, readExact (concat frags) n = .ok (b, rest) →
      ∃ fr, readExactFrags frags n = .ok (b, fr) ∧ concat fr = rest) ∧
    (∀ e, readExactFrags frags n = .error e ↔ readExact (concat frags) n = .error e) :=
  ⟨fun _ _ h => readExactFrags_ok h, fun _ _ h => readExact_ok_frags h,
   fun _ => ⟨readExactFrags_error, readExact_error_frags⟩⟩

/-- success across two fragments, a `pending` and an empty fragment … -/
example : readExactFrags [.bytes [1, 2], .pending, .bytes [], .bytes [3]] 3 = .ok ([1, 2, 3], []) ∧
    readExact (concat [.bytes [1, 2], .pending, .bytes [], .bytes [3]]) 3 = .ok ([1, 2, 3], []) :=
  ⟨rfl, rfl⟩
/-- … a cut inside a fragment (the remainder stays in the script) … -/
example : readExactFrags [.bytes [1, 2], .pending, .bytes [], .bytes [3, 4]] 3 =
    .ok ([1, 2, 3], [.bytes [4]]) := rfl
/-- … and a failure (end of script after 3 of 4 bytes) -/
example : readExactFrags [.bytes [1, 2], .pending, .bytes [], .bytes [3]] 4 =
      .error ⟨.unexpectedEof, false⟩ ∧
    readExact (concat [.bytes [1, 2], .pending, .bytes [], .bytes [3]]) 4 =
      .error ⟨.unexpectedEof, false⟩ := ⟨rfl, rfl⟩

/-- running a client against a script = running it against the plain concatenated bytes: same
result (or same running out of fuel), same unread bytes -/
theorem invariance {σ ρ : Type} (c : Client σ ρ) (fuel : Nat) (s : σ) (frags : List Frag) :
    runFrags c fuel s frags = runPlain c fuel s (concat frags) :=
  runFrags_eq_runPlain c fuel s frags

/-- two scripts that deliver the same bytes give the same run -/
theorem invariance_two {σ ρ : Type} (c : Client σ ρ) (fuel : Nat) (s : σ) (f₁ f₂ : List Frag)
    (h : concat f₁ = concat f₂) : runFrags c fuel s f₁ = runFrags c fuel s f₂ := by
  rw [invariance, invariance, h]

/-- one byte at a time with polls in between vs. one block -/
example : concat [.bytes [1], .pending, .pending, .bytes [2], .bytes [], .bytes [3]] =
    concat [.bytes [1, 2, 3]] := by decide

/-- a toy hash instance for the examples -/
def toy : HashFns Nat :=
  ⟨fun c d r => c + d.length + r.toNat, fun l r root => 3 * l + 5 * r + root.toNat,
   fun b => b.length, fun _ => []⟩

/-- fuel that `Dec.run` gives to `Dec.runAux` for a fresh decoder -/
def decFuel (tree : Tree) (ranges : Ranges) : Nat :=
  PrePartial.fuelFor (Response.new tree (Ranges.truncate ranges tree.size)).tree + 1

/-- initial client state of a decoder for `(root, tree, ranges)` -/
def decInit (root : H) (tree : Tree) (ranges : Ranges) : DSt H :=
  DSt.ofDec (decFuel tree ranges) (Dec.new root tree ranges []) []

/-- `decClient hf fl`, run on the plain stream `s` with enough fuel (one step per item plus two),
produces exactly the items and the terminal of `Dec.run hf fl (Dec.new root tree ranges s)`
(= `decodeAll`), and the same unread bytes whenever `Dec.run` reports a transport position
(`restKept`: terminal `done` or a hash mismatch).  After a failed read (`readFailed`: `…NotFound`)
the transport is empty (`Dec.run` keeps the bytes of the short read instead); for a `panic`
terminal the two `rest`s are unrelated (`Dec.runAux` reports the position before the read). -/
theorem decode_is_client (hf : HashFns H) [BEq H] (fl : Flavour) (root : H) (tree : Tree)
    (ranges : Ranges) (s : List UInt8) (F : Nat) (hF : decFuel tree ranges + 2 ≤ F) :
    ∃ rest', runPlain (decClient hf fl) F (decInit root tree ranges) s =
        some (((decodeAll hf fl root tree ranges s).items,
               (decodeAll hf fl root tree ranges s).terminal), rest') ∧
      (restKept (decodeAll hf fl root tree ranges s).terminal = true →
        rest' = (decodeAll hf fl root tree ranges s).rest) ∧
      (readFailed (decodeAll hf fl root tree ranges s).terminal = true → rest' = []) := by
  have := runPlain_decClient hf fl (decFuel tree ranges) F hF (Dec.new root tree ranges s) []
  simpa [decodeAll, Dec.run, decFuel, decInit, DSt.ofDec, Dec.new] using this

/-- C11 for decoding: over ANY script the decoder yields the items and terminal that `decodeAll`
computes from the concatenated bytes (and the same unread bytes on `done` / hash mismatch) -/
theorem decode_invariance (hf : HashFns H) [BEq H] (fl : Flavour) (root : H) (tree : Tree)
    (ranges : Ranges) (frags : List Frag) (F : Nat) (hF : decFuel tree ranges + 2 ≤ F) :
    ∃ rest', runFrags (decClient hf fl) F (decInit root tree ranges) frags =
        some (((decodeAll hf fl root tree ranges (concat frags)).items,
               (decodeAll hf fl root tree ranges (concat frags)).terminal), rest') ∧
      (restKept (decodeAll hf fl root tree ranges (concat frags)).terminal = true →
        rest' = (decodeAll hf fl root tree ranges (concat frags)).rest) := by
  obtain ⟨rest', h1, h2, _⟩ := decode_is_client hf fl root tree ranges (concat frags) F hF
  exact ⟨rest', by rw [invariance, h1], h2⟩

/-- a 5-byte blob (root `0 + 5 + 1` under `toy`) delivered as `7 7 | pending | (empty) | 7 7 7 9`:
one leaf item, terminal `done`, the trailing `9` is left unread -/
example : decFuel ⟨5, 0⟩ [0] + 2 ≤ 20 ∧
    runFrags (decClient toy .fsm) 20 (decInit 6 ⟨5, 0⟩ [0])
      [.bytes [7, 7], .pending, .bytes [], .bytes [7, 7, 7, 9]] =
      some (([.leaf 0 [7, 7, 7, 7, 7]], .done), [9]) ∧
    restKept (decodeAll toy .fsm 6 ⟨5, 0⟩ [0] [7, 7, 7, 7, 7, 9]).terminal = true := by
  decide +kernel

/-- a truncated stream: terminal `leafNotFound`, transport drained -/
example : runFrags (decClient toy .sync) 20 (decInit 6 ⟨5, 0⟩ [0]) [.bytes [7, 7], .pending] =
      some (([], .err (.leafNotFound 0)), []) ∧
    readFailed (decodeAll toy .sync 6 ⟨5, 0⟩ [0] [7, 7]).terminal = true := by
  decide +kernel

/-- `sync::outboard` / `fsm::outboard` (`outboard_impl`) reading the data from the plain list
`data` = the client `obClient hf (parOb hf)` (a read of `size` bytes per leaf item of the
post-order plan, a 0-byte read per parent item) run on `data` -/
theorem outboard_is_client (hf : HashFns H) (data : List UInt8) (tree : Tree) (ob : Store H)
    (F : Nat) (hF : tree.postOrderChunks.length + 2 ≤ F) :
    ∃ rest', runPlain (obClient hf (parOb hf)) F (.run tree.postOrderChunks [] ob) data =
      some (outboard hf data tree ob, rest') := by
  unfold outboard; rw [outboardLoop_eq]
  exact runPlain_obClient hf (parOb hf) _ F hF [] data ob

/-- the same for `outboard_post_order` -/
theorem outboardPostOrder_is_client (hf : HashFns H) (data : List UInt8) (tree : Tree)
    (F : Nat) (hF : tree.postOrderChunks.length + 2 ≤ F) :
    ∃ rest', runPlain (obClient hf (parPo hf)) F (.run tree.postOrderChunks [] []) data =
      some (outboardPostOrder hf data tree, rest') := by
  unfold outboardPostOrder; rw [outboardPostOrderLoop_eq]
  exact runPlain_obClient hf (parPo hf) _ F hF [] data []

/-- C11 for outboard creation: over ANY fragmentation of the data source the computed root (or
error) and the outboard written are those of `outboard` on the concatenated bytes -/
theorem outboard_invariance (hf : HashFns H) (frags : List Frag) (tree : Tree) (ob : Store H)
    (F : Nat) (hF : tree.postOrderChunks.length + 2 ≤ F) :
    ∃ rest', runFrags (obClient hf (parOb hf)) F (.run tree.postOrderChunks [] ob) frags =
      some (outboard hf (concat frags) tree ob, rest') := by
  rw [invariance]; exact outboard_is_client hf (concat frags) tree ob F hF

theorem outboardPostOrder_invariance (hf : HashFns H) (frags : List Frag) (tree : Tree)
    (F : Nat) (hF : tree.postOrderChunks.length + 2 ≤ F) :
    ∃ rest', runFrags (obClient hf (parPo hf)) F (.run tree.postOrderChunks [] []) frags =
      some (outboardPostOrder hf (concat frags) tree, rest') := by
  rw [invariance]; exact outboardPostOrder_is_client hf (concat frags) tree F hF

/-- a 5-byte blob arriving as `7 7 | pending | (empty) | 7 7 7`: one leaf item, root `0 + 5 + 1` -/
example : (Tree.postOrderChunks ⟨5, 0⟩).length + 2 ≤ 5 ∧
    (runFrags (obClient toy (parPo toy)) 5 (.run (Tree.postOrderChunks ⟨5, 0⟩) [] [])
      [.bytes [7, 7], .pending, .bytes [], .bytes [7, 7, 7]]).map (fun r => (r.1.res, r.1.sink, r.2)) =
      some (.ok 6, [], []) := by decide +kernel

/-!
## Status (C11)

proved (no hypotheses beyond fuel):
* `readExact_concat_eq`, `readExact_concat` – exact reads over scripts vs plain bytes;
* `invariance`, `invariance_two` – every `Client`, every fuel/state/script;
* `decode_is_client` – `decClient` under `runPlain` = `Dec.run` / `decodeAll` (items, terminal
  always; unread bytes when the terminal is `done` or a hash mismatch; `[]` after a failed read);
* `decode_invariance` – the decoder over any script;
* `outboard_is_client`, `outboardPostOrder_is_client`, `outboard_invariance`,
  `outboardPostOrder_invariance` – outboard creation from a fragmenting data source.

not covered here: encoding reads its data positionally (`readExactAt`, no stream) and writes to a
plain list; it is not phrased as a `Client` in this file.

model remark: `Dec.runAux` reports `d.encoded` *before* the read for the terminal `.panic`
(`DecNext.panic` carries no state) and the undrained stream after a failed read, whereas
`runFrags`/`runPlain` report the transport after the read / the drained transport; hence the
`restKept` / `readFailed` side conditions on the unread bytes.
-/

end Bao.C11
