import BaoProofs.Lemmas.EncodeSpec

/-!
# C04 — the wire format is bao's, minus hash pairs inside fully sent chunk groups
# (and C14, second half: queries that select the same chunks produce identical encodings)

"… For larger block sizes the encoding is the block-size-0 encoding of the same selection with
exactly those hash pairs removed that belong to subtrees of at most one chunk group lying
completely inside the selection.  The encoding is a function of data, block size and selected
chunks only."

The wire format is specified by `Spec.itemsI` / `Spec.items` / `Spec.encode` (`BaoModel/Spec.lean`):
a recursion over chunk intervals that mentions only the blob, the block size and the set of
selected chunks `Spec.selected size q`.  This file proves, for every `hf : HashFns H` whose hashes
are 32 bytes (`hlen`) and survive the byte round trip (`hrt`), `[BEq H] [LawfulBEq H]`, every blob
`d` with `d.length ≤ 2^63`, every `bs ≤ 10`, every well-formed query `q`:

1. `function_of_selection`: queries selecting the same chunks have the same `Spec.encode`.
2. `prune`: `Spec.encode hf d bs q` is the concatenation of those items of the block-size-0 stream
   `Spec.items hf d 0 q` that `keep bs sel n` keeps: all leaves, and every parent except those of a
   node of level `< bs` all of whose chunks (inside the blob) are selected.
3. `encodeSelectedRec_spec`, `encodeSelectedRec_on_plan`: `encode_selected_rec` on the bytes of a chunk
   group returns `Spec.cv` of the group and the bytes of `Spec.itemsI` of the group, for the range
   sets the traversal plan attaches to its leaves (`leaf_ranges_repr`).
4. `encode_is_spec`: on the intact store (the outboard of `d`, root `Spec.root hf d`), the
   validating encoders (sync and fsm) emit exactly `Spec.encode hf d bs q` and end with `Ok`:
   every hash comparison succeeds.  `encode_plain_is_spec`: so do the non-validating encoders;
   `mixed_is_spec`: and the flattened item stream of `traverse_ranges_validated`.
5. `interchangeable_encode`: hence all encoders emit identical bytes for queries selecting the same
   chunks.

Method: `Lemmas/EncodeSpec.lean`.  The invariant `EncodeSpec.Repr size sel rs a b` says that the
range set `rs` is what `split_inner` hands down to the node with chunk interval `[a, b)` for the
selection `sel` (well-formed, minimal boundaries, truncated, same selected chunks); it gives
`rs.is_empty() ↔` nothing selected and `rs.is_all() ↔` everything selected.  `loop_sub` runs
`encodeValidatedLoop` over the recursive plan of `C15` with `Spec.cv` of the pending interval on
the expected-hash stack.
-/

namespace Bao.C04
open Bao Bao.Spec Bao.EncodeSpec

variable {H : Type}

/-- a blob, a store holding its outboard at block size 1, for the non-vacuity examples -/
def toyStore : Store UInt8 :=
  ⟨.preIo, Spec.root C03.toyHash C03.toyBlob, ⟨3000, 1⟩, Spec.preOutboard C03.toyHash C03.toyBlob 1⟩

theorem toyStore_tree : toyStore.tree = ⟨C03.toyBlob.length, 1⟩ := C03.toy_tree
theorem toyStore_root : toyStore.root = Spec.root C03.toyHash C03.toyBlob := by simp only [toyStore]
theorem toyStore_data :
    ((toyStore.kind = .preIo ∨ toyStore.kind = .preMem) ∧
        toyStore.data = Spec.preOutboard C03.toyHash C03.toyBlob 1) ∨
    ((toyStore.kind = .postIo ∨ toyStore.kind = .postMem) ∧
        toyStore.data = Spec.postOutboard C03.toyHash C03.toyBlob 1) :=
  .inl ⟨.inl (by simp only [toyStore]), by simp only [toyStore]⟩

/-! ## 1. the encoding is a function of the selection -/

/-- the honest item stream and encoding depend on the query only through the selected chunks -/
theorem function_of_selection (hf : HashFns H) (d : List UInt8) (bs : Nat) {q₁ q₂ : Ranges}
    (h : ∀ c, Spec.selected d.length q₁ c = Spec.selected d.length q₂ c) :
    Spec.items hf d bs q₁ = Spec.items hf d bs q₂ ∧ Spec.encode hf d bs q₁ = Spec.encode hf d bs q₂ := by
  have e : Spec.selected d.length q₁ = Spec.selected d.length q₂ := funext h
  simp only [Spec.encode, Spec.items, e, and_self]

/-- two different queries on a 3-chunk blob that select the same chunk (the last one) -/
theorem toy_same_selection : ∀ c, Spec.selected C03.toyBlob.length [2] c =
    Spec.selected C03.toyBlob.length [5, 7] c := by
  intro c
  rw [C03.toy_length]
  match c with
  | 0 => decide
  | 1 => decide
  | 2 => decide
  | c + 3 =>
    have hn : Spec.nChunks 3000 = 3 := by decide
    have : decide (c + 3 < Spec.nChunks 3000) = false := by rw [hn]; simp
    simp only [Spec.selected, this, Bool.false_and]

example : Spec.encode C03.toyHash C03.toyBlob 1 [2] = Spec.encode C03.toyHash C03.toyBlob 1 [5, 7] :=
  (function_of_selection C03.toyHash C03.toyBlob 1 toy_same_selection).2

/-! ## 2. larger block sizes prune the block-size-0 stream -/

abbrev keep := @EncodeSpec.keep

theorem keep_leaf (bs : Nat) (sel : Nat → Bool) (n s : Nat) (b : List UInt8) :
    keep bs sel n (.leaf s b) = true := rfl

theorem keep_parent (bs : Nat) (sel : Nat → Bool) (n node : Nat) (b : List UInt8) :
    keep bs sel n (.parent node b) =
      !(decide (levelOf node < bs) &&
        allSel sel (startOf (indexOf node) (levelOf node))
          (min (endOf (indexOf node) (levelOf node)) n)) := rfl

/-- the encoding at block size `bs` is the block-size-0 stream of the same selection with exactly
the hash pairs of fully selected sub-group nodes removed (leaf bytes are unchanged by merging the
leaves of such a node into one leaf) -/
theorem prune (hf : HashFns H) (d : List UInt8) (bs : Nat) (q : Ranges) :
    Spec.encode hf d bs q =
      ((Spec.items hf d 0 q).filter
        (keep bs (Spec.selected d.length q) (nChunks d.length))).flatMap SItem.bytes :=
  prune_aux hf d (nChunks d.length) bs (Spec.selected d.length q) (log2ceil 64 (nChunks d.length)) 0
    0 (by simp) (log2ceil_le _ _) (Ranges.nChunks_pos _)

/-- at block size 0 nothing is pruned -/
theorem keep_zero (sel : Nat → Bool) (n : Nat) (i : SItem) : keep 0 sel n i = true := by
  cases i with
  | leaf s b => rfl
  | parent node b => simp [keep, EncodeSpec.keep]

/-- the running example: 3000 bytes (3 chunks), everything selected, block size 1: the pair of
node 0 (chunks 0 and 1, one chunk group) is removed, the root pair (node 1) stays; with only
chunk 1 selected the pair of node 0 stays as well -/
example : keep 1 (Spec.selected 3000 [0]) 3 (.parent 0 []) = false ∧
    keep 1 (Spec.selected 3000 [0]) 3 (.parent 1 []) = true ∧
    keep 1 (Spec.selected 3000 [1, 2]) 3 (.parent 0 []) = true := by decide

/-! ## 3. `encode_selected_rec` inside a chunk group -/

/-- `encode_selected_rec` on the bytes of the interval of height `h ≤ bs` and index `j` (first chunk
`a = j·2^h` inside the blob), with a range set `rs` that represents the selection `sel` on that
interval (`Repr`), and any level bound `fuel` covering the interval: the hash is `Spec.cv` of the
interval and the bytes are those of `Spec.itemsI` of the interval -/
theorem encodeSelectedRec_spec (hf : HashFns H) (d : List UInt8) (bs : Nat) (hbs : bs ≤ 10)
    (sel : Nat → Bool) {h j a : Nat} {rs : Ranges} (isRoot : Bool) (fuel : Nat) (hfuel : h ≤ fuel)
    (hf64 : fuel ≤ 64) (ha : a = j * 2 ^ h) (hh : h ≤ bs) (han : a < nChunks d.length)
    (hr : Repr d.length sel rs a (a + 2 ^ h)) :
    encodeSelectedRec hf fuel a (slice d a (a + 2 ^ h)) isRoot rs bs true =
      (cv hf d a (min (a + 2 ^ h) (nChunks d.length)) isRoot,
        (itemsI hf d (nChunks d.length) bs sel h j).flatMap SItem.bytes) :=
  rec_spec hf d bs sel (by omega) isRoot fuel hfuel hf64 ha hh han hr

/-- non-vacuity: the whole 3-chunk blob as one group of height 2, range set of the query `[1, 2]` -/
example : (2 : Nat) ≤ 64 ∧ (0 : Nat) = 0 * 2 ^ 2 ∧ 0 < nChunks C03.toyBlob.length ∧
    Repr C03.toyBlob.length (Spec.selected C03.toyBlob.length [1, 2])
      (Ranges.truncate [1, 2] C03.toyBlob.length) 0 (0 + 2 ^ 2) :=
  ⟨by decide, by decide, Ranges.nChunks_pos _,
    repr_root (by decide) (by rw [C03.toy_length]; decide)⟩

/-- the range sets the plan delivers: every leaf of the encoder's plan for the truncated query is
one chunk group starting inside the blob, its size field is the group's byte count, and its range
set represents the selection on the group -/
theorem leaf_ranges_repr {size bs : Nat} (hs : size ≤ 2 ^ 63) (hbs : bs ≤ 10) {q : Ranges}
    (hwf : Ranges.WF q = true) {p : List Chunk}
    (hp : Tree.prePartialChunks ⟨size, bs⟩ (Ranges.truncate q size) 0 = some p)
    {s z : Nat} {r : Bool} {x : Ranges} (hm : Chunk.leaf s z r x ∈ p) :
    ∃ j, s = j * 2 ^ bs ∧ s < nChunks size ∧
      z = min ((s + 2 ^ bs) * 1024) size - s * 1024 ∧
      Repr size (Spec.selected size q) x s (s + 2 ^ bs) := by
  rw [C15.eq_plan hs hbs hp] at hm
  exact plan_leaf_repr (PlanPre.shifted_geo size bs hs hbs) _ (PlanPre.rootLevel ⟨size, bs⟩) 0 _
    (by rw [PlanPre.startOf_zero_left]; exact repr_root hwf (PlanPre.rootLevel_covers size bs hs))
    (by rw [PlanPre.startOf_zero_left]; exact Ranges.nChunks_pos size) _ _ _ _ hm

/-- … hence at every leaf of the plan the call the encoders make returns the group's `Spec.cv` and
the bytes of the group's items -/
theorem encodeSelectedRec_on_plan (hf : HashFns H) (d : List UInt8) (bs : Nat)
    (hs : d.length ≤ 2 ^ 63) (hbs : bs ≤ 10) {q : Ranges} (hwf : Ranges.WF q = true)
    {p : List Chunk}
    (hp : Tree.prePartialChunks ⟨d.length, bs⟩ (Ranges.truncate q d.length) 0 = some p)
    {s z : Nat} {r : Bool} {x : Ranges} (hm : Chunk.leaf s z r x ∈ p) :
    ∃ j, s = j * 2 ^ bs ∧
      readExactAt d (toBytes s) z = .ok (slice d s (s + 2 ^ bs)) ∧
      encodeSelectedRec hf recFuel s (slice d s (s + 2 ^ bs)) r x bs true =
        (cv hf d s (min (s + 2 ^ bs) (nChunks d.length)) r,
          (itemsI hf d (nChunks d.length) bs (Spec.selected d.length q) bs j).flatMap SItem.bytes) := by
  obtain ⟨j, hj, hsn, hz, hr⟩ := leaf_ranges_repr hs hbs hwf hp hm
  exact ⟨j, hj, readExactAt_slice hsn (Bits.two_pow_pos' bs) hz,
    rec_spec hf d bs _ (by omega) r recFuel (by unfold recFuel; omega) (by unfold recFuel; omega)
      hj (Nat.le_refl _) hsn hr⟩

example : C03.toyBlob.length ≤ 2 ^ 63 ∧ (1 : Nat) ≤ 10 ∧ Ranges.WF [1, 2] = true ∧
    Tree.prePartialChunks ⟨3000, 1⟩ (Ranges.truncate [1, 2] 3000) 0 =
      some [.parent 1 true true false [1, 2], .leaf 0 2048 false [1]] ∧
    Chunk.leaf 0 2048 false [1] ∈
      [Chunk.parent 1 true true false [1, 2], Chunk.leaf 0 2048 false [1]] :=
  ⟨C03.toy_size, by decide, by decide, by decide, by simp⟩

/-! ## 4. the encoders emit the honest encoding -/

section intact
variable {hf : HashFns H} [BEq H] [LawfulBEq H] {d : List UInt8} {bs : Nat} {st : Store H}

/-- **the validating encoders emit `Spec.encode`.**  On the intact store — tree `⟨d.length, bs⟩`,
root `Spec.root hf d`, backing = the pre-order (post-order) outboard of `d` for the pre-order
(post-order) kinds — `encode_ranges_validated` (sync and fsm) over the data `d` writes exactly the
honest encoding and returns `Ok`: the expected-hash stack holds `Spec.cv` of the pending intervals
and every comparison succeeds. -/
theorem encode_is_spec (hlen : ∀ h, (hf.toBytes h).length = 32)
    (hrt : ∀ h, hf.ofBytes (hf.toBytes h) = h) (hs : d.length ≤ 2 ^ 63) (hbs : bs ≤ 10)
    (htree : st.tree = ⟨d.length, bs⟩) (hroot : st.root = Spec.root hf d)
    (hdata : ((st.kind = .preIo ∨ st.kind = .preMem) ∧ st.data = Spec.preOutboard hf d bs) ∨
             ((st.kind = .postIo ∨ st.kind = .postMem) ∧ st.data = Spec.postOutboard hf d bs))
    (fl : Flavour) {q : Ranges} (hwf : Ranges.WF q = true) :
    encodeRangesValidated hf fl d st q = ⟨Spec.encode hf d bs q, .ok⟩ :=
  validated_spec (Intact.loads ⟨hlen, hrt, hs, hbs, htree, hdata⟩) hroot fl hwf

example : encodeRangesValidated C03.toyHash .fsm C03.toyBlob toyStore [1, 2]
    = ⟨Spec.encode C03.toyHash C03.toyBlob 1 [1, 2], .ok⟩ :=
  encode_is_spec C03.toy_len C03.toy_rt C03.toy_size (by decide) toyStore_tree toyStore_root
    toyStore_data .fsm (by decide)

/-- the non-validating encoders (`encode_ranges`, sync and fsm) emit the same bytes -/
theorem encode_plain_is_spec (hlen : ∀ h, (hf.toBytes h).length = 32)
    (hrt : ∀ h, hf.ofBytes (hf.toBytes h) = h) (hs : d.length ≤ 2 ^ 63) (hbs : bs ≤ 10)
    (htree : st.tree = ⟨d.length, bs⟩) (hroot : st.root = Spec.root hf d)
    (hdata : ((st.kind = .preIo ∨ st.kind = .preMem) ∧ st.data = Spec.preOutboard hf d bs) ∨
             ((st.kind = .postIo ∨ st.kind = .postMem) ∧ st.data = Spec.postOutboard hf d bs))
    (fl : Flavour) {q : Ranges} (hwf : Ranges.WF q = true) :
    encodeRanges hf fl d st q = ⟨Spec.encode hf d bs q, .ok⟩ :=
  plain_spec (Intact.loads ⟨hlen, hrt, hs, hbs, htree, hdata⟩) hroot fl hwf

example : encodeRanges C03.toyHash .sync C03.toyBlob toyStore [1, 2]
    = ⟨Spec.encode C03.toyHash C03.toyBlob 1 [1, 2], .ok⟩ :=
  encode_plain_is_spec C03.toy_len C03.toy_rt C03.toy_size (by decide) toyStore_tree toyStore_root
    toyStore_data .sync (by decide)

/-- the item stream of `traverse_ranges_validated` (`mixed.rs`) ends with `Done` and flattens to
the honest encoding -/
theorem mixed_is_spec (hlen : ∀ h, (hf.toBytes h).length = 32)
    (hrt : ∀ h, hf.ofBytes (hf.toBytes h) = h) (hs : d.length ≤ 2 ^ 63) (hbs : bs ≤ 10)
    (htree : st.tree = ⟨d.length, bs⟩) (hroot : st.root = Spec.root hf d)
    (hdata : ((st.kind = .preIo ∨ st.kind = .preMem) ∧ st.data = Spec.preOutboard hf d bs) ∨
             ((st.kind = .postIo ∨ st.kind = .postMem) ∧ st.data = Spec.postOutboard hf d bs))
    {q : Ranges} (hwf : Ranges.WF q = true) :
    ∃ items, traverseRangesValidated hf d st q = some items ∧
      items.flatMap (EncodedItem.flatten hf) = Spec.encode hf d bs q ∧
      items.getLast? = some .done :=
  mixed_spec (Intact.loads ⟨hlen, hrt, hs, hbs, htree, hdata⟩) hroot hwf

example : ∃ items, traverseRangesValidated C03.toyHash C03.toyBlob toyStore [1, 2] = some items ∧
    items.flatMap (EncodedItem.flatten C03.toyHash) = Spec.encode C03.toyHash C03.toyBlob 1 [1, 2] ∧
    items.getLast? = some .done :=
  mixed_is_spec C03.toy_len C03.toy_rt C03.toy_size (by decide) toyStore_tree toyStore_root
    toyStore_data (by decide)

/-! ## 5. (C14, second half) queries with the same selection are interchangeable -/

/-- if two well-formed queries select the same chunks of the blob, every encoder (validating or
not, sync or fsm) emits the same bytes for both, namely `Spec.encode` of either -/
theorem interchangeable_encode (hlen : ∀ h, (hf.toBytes h).length = 32)
    (hrt : ∀ h, hf.ofBytes (hf.toBytes h) = h) (hs : d.length ≤ 2 ^ 63) (hbs : bs ≤ 10)
    (htree : st.tree = ⟨d.length, bs⟩) (hroot : st.root = Spec.root hf d)
    (hdata : ((st.kind = .preIo ∨ st.kind = .preMem) ∧ st.data = Spec.preOutboard hf d bs) ∨
             ((st.kind = .postIo ∨ st.kind = .postMem) ∧ st.data = Spec.postOutboard hf d bs))
    {q₁ q₂ : Ranges} (hwf₁ : Ranges.WF q₁ = true) (hwf₂ : Ranges.WF q₂ = true)
    (hsel : ∀ c, Spec.selected d.length q₁ c = Spec.selected d.length q₂ c)
    (fl₁ fl₂ : Flavour) :
    encodeRangesValidated hf fl₁ d st q₁ = encodeRangesValidated hf fl₂ d st q₂ ∧
    encodeRanges hf fl₁ d st q₁ = encodeRanges hf fl₂ d st q₂ ∧
    encodeRanges hf fl₁ d st q₁ = encodeRangesValidated hf fl₂ d st q₂ ∧
    (encodeRanges hf fl₁ d st q₁).out = Spec.encode hf d bs q₂ := by
  have e := (function_of_selection hf d bs hsel).2
  rw [encode_is_spec hlen hrt hs hbs htree hroot hdata fl₁ hwf₁,
    encode_is_spec hlen hrt hs hbs htree hroot hdata fl₂ hwf₂,
    encode_plain_is_spec hlen hrt hs hbs htree hroot hdata fl₁ hwf₁,
    encode_plain_is_spec hlen hrt hs hbs htree hroot hdata fl₂ hwf₂, e]
  exact ⟨rfl, rfl, rfl, rfl⟩

example : encodeRangesValidated C03.toyHash .sync C03.toyBlob toyStore [2]
    = encodeRangesValidated C03.toyHash .fsm C03.toyBlob toyStore [5, 7] :=
  (interchangeable_encode C03.toy_len C03.toy_rt C03.toy_size (by decide) toyStore_tree toyStore_root
    toyStore_data (by decide) (by decide) toy_same_selection .sync .fsm).1

end intact

/-
## Status (C04; C14 second half)

All theorems depend on the axioms `propext`, `Classical.choice`, `Quot.sound` only.

Proved (every `hf` with `hlen`, `hrt`, `[BEq H] [LawfulBEq H]`; `d.length ≤ 2^63`; `bs ≤ 10`;
well-formed `q`; NO collision-freedom assumption): `function_of_selection`, `prune`, `keep_leaf`,
`keep_parent`, `keep_zero` (no hypotheses at all), `encodeSelectedRec_spec`, `leaf_ranges_repr`,
`encodeSelectedRec_on_plan`, `encode_is_spec`, `encode_plain_is_spec`, `mixed_is_spec`,
`interchangeable_encode` (C14, 2nd half).
Partial: none.
OPEN:
  -- OPEN: item-level form of `prune` (b): "`Spec.items hf d bs q` is `Spec.items hf d 0 q` with the
  --   dropped parents deleted and the leaves below each dropped maximal node merged into one
  --   `SItem.leaf`".  Only the byte-level statement `prune` is proved (leaf bytes are unchanged by
  --   merging); an item-level statement needs a `mergeLeaves` function on `List SItem`, which the
  --   spec layer does not define (the doc comment of `Spec.itemsI` mentions one).
  -- OPEN: "for block size 0 the encoding is bao's" is a statement about the external `bao` crate;
  --   it is checked by the differential harness (`baocmp`), not provable in the model.
  -- Not covered: the `EmptyOutboard` kind (its `load` returns zero pairs, so validated encoding
  --   fails with a hash mismatch unless the tree has a single chunk group; `encode_is_spec` has no
  --   analogue there by design).
Remarks on the model:
  * `encodeSelectedRec` tests `level ≥ minLevel` with `level` = level of the node being split; the
    encoders call it only on chunk groups (`height ≤ bs`), where that test is always false, so a
    parent is emitted iff the range set is neither empty nor "all" — which is what `Spec.itemsI`
    says.  `Ranges.isAll rs` (`rs == [0]`) coincides with "every chunk of the node selected" only
    for nodes with at least two chunks inside the blob (`EncodeSpec.repr_all_iff`); for a single
    (last) chunk the plan can carry e.g. `[20]` on a 13-chunk blob — harmless, because a single
    chunk is emitted whenever the range set is non-empty.
  * The equivalence `isAll ↔ all selected` genuinely needs `truncate_ranges`: without truncation a
    query `[1, 20]` on a 16-chunk blob would reach the node `[8, 16)` as `[1, 20]` (not "all")
    although all its chunks are selected, and hash pairs inside fully selected groups would be
    emitted.  Both `encodeRangesValidated` and (after defect D6) `encodeRanges` truncate first.
-/

end Bao.C04
