import BaoModel.Misc
import BaoProofs.Props.C17
import BaoProofs.Lemmas.Bits

/-!
# C17 (supplement): the public `ChunkNum::chunk_group_end` and `BlockSize::from_bytes`

`round_up_to_chunks_groups` uses the checked rounding (`chunkGroupEnd?`, `Props/C17.lean`); the public
`ChunkNum::chunk_group_end` is the unchecked one (`chunkGroupEnd`, `BaoModel/Misc.lean`): it agrees with the
checked one whenever that has a value and wraps modulo `2^64` otherwise.
-/

namespace Bao.C17Misc

open Bao.Ranges Bao.Bits

/-- whenever the end of the chunk group fits into a `u64`, the public helper returns it -/
theorem chunkGroupEnd_of_fits {e bs r : Nat} (h : chunkGroupEnd? e bs = some r) :
    chunkGroupEnd e bs = r := by
  unfold chunkGroupEnd? at h
  unfold chunkGroupEnd
  simp only at h ⊢
  by_cases hlt : (e / 2 ^ bs + if e % 2 ^ bs ≠ 0 then 1 else 0) * 2 ^ bs < U64
  · rw [if_pos hlt] at h
    cases h
    exact Nat.mod_eq_of_lt hlt
  · rw [if_neg hlt] at h
    cases h

/-- … and that value is the tightest group-aligned bound (`C17.chunkGroupEnd_is_ceil`) -/
theorem chunkGroupEnd_is_ceil_of_fits {e bs r : Nat} (h : ceilGroup? e bs = some r) :
    chunkGroupEnd e bs = r :=
  chunkGroupEnd_of_fits (by rw [C17.chunkGroupEnd_is_ceil]; exact h)

/-- otherwise the result is that bound modulo `2^64` — not a bound at all (this is what defect D4 was) -/
theorem chunkGroupEnd_wraps {e bs : Nat} (h : chunkGroupEnd? e bs = none) :
    chunkGroupEnd e bs = ((e / 2 ^ bs + if e % 2 ^ bs ≠ 0 then 1 else 0) * 2 ^ bs) % 2 ^ 64 ∧
    2 ^ 64 ≤ (e / 2 ^ bs + if e % 2 ^ bs ≠ 0 then 1 else 0) * 2 ^ bs := by
  refine ⟨rfl, ?_⟩
  unfold chunkGroupEnd? at h
  simp only at h
  by_cases hlt : (e / 2 ^ bs + if e % 2 ^ bs ≠ 0 then 1 else 0) * 2 ^ bs < U64
  · rw [if_pos hlt] at h; cases h
  · exact Nat.le_of_not_lt hlt

example : chunkGroupEnd (2 ^ 64 - 1) 4 = 0 ∧ chunkGroupEnd? (2 ^ 64 - 1) 4 = none := by decide

example : chunkGroupEnd? 13 2 = some 16 ∧ chunkGroupEnd 13 2 = 16 := by decide

/-! ## `BlockSize::from_bytes` -/

theorem popcountAux_eq_zero (f y : Nat) (h : y < 2 ^ f) (h0 : popcountAux f y = 0) : y = 0 := by
  induction f generalizing y with
  | zero => simpa using h
  | succ f ih =>
    rw [popcountAux] at h0
    rw [Nat.pow_succ] at h
    have := ih (y / 2) (by omega) (Nat.eq_zero_of_add_eq_zero_left h0)
    have := Nat.eq_zero_of_add_eq_zero_right h0
    omega

/-- `count_ones() == 1` means: a power of two -/
theorem popcount_eq_one_iff {n : Nat} (hn : n < 2 ^ 64) : popcount n = 1 ↔ ∃ k, n = 2 ^ k := by
  constructor
  · intro h
    have hpos : 0 < n := Nat.pos_of_ne_zero fun h0 => by
      rw [h0, popcount, popcountAux_zero] at h; cases h
    obtain ⟨k, L, rfl⟩ := odd_pow_decomp n hpos
    -- `(2k+1)·2^L < 2^64` bounds the exponent and the odd part
    have hL : L < 64 := (Nat.pow_lt_pow_iff_right (by decide)).1
      (Nat.lt_of_le_of_lt (Nat.le_mul_of_pos_left _ (by omega)) hn)
    have hk : k < 2 ^ (63 - L) := by
      apply Nat.lt_of_not_le
      intro hc
      have h1 := Nat.mul_le_mul_right (2 ^ L) hc
      rw [← Nat.pow_add, Nat.sub_add_cancel (by omega), Nat.add_mul, Nat.mul_assoc] at *
      omega
    unfold popcount at h
    rw [show 64 = (63 - L) + 1 + L by omega, popcountAux_odd_mul_pow] at h
    have hk0 : k = 0 := popcountAux_eq_zero _ _ hk (by omega)
    exact ⟨L, by rw [hk0]; simp⟩
  · rintro ⟨k, rfl⟩
    have hk : k < 64 := (Nat.pow_lt_pow_iff_right (by decide)).1 hn
    unfold popcount
    rw [show 64 = (63 - k) + 1 + k by omega, show (2 : Nat) ^ k = (2 * 0 + 1) * 2 ^ k by simp,
      popcountAux_odd_mul_pow, popcountAux_zero]
/-- `BlockSize::from_bytes(n) = Some(k)` exactly for `n = 1024 · 2^k` -/
theorem blockSizeFromBytes_iff {n k : Nat} (hn : n < 2 ^ 64) :
    blockSizeFromBytes n = some k ↔ n = 1024 * 2 ^ k := by
  unfold blockSizeFromBytes
  constructor
  · intro h
    split at h
    · cases h
    · rename_i hp
      obtain ⟨j, rfl⟩ := (popcount_eq_one_iff hn).1 (by simpa using hp)
      split at h
      · cases h
      · rename_i hge
        have hj : 10 ≤ j := Nat.le_of_not_lt fun hc => hge (Nat.pow_lt_pow_right (by decide) hc)
        simp only [Nat.log2_two_pow, Option.some.injEq] at h
        show 2 ^ j = 2 ^ 10 * 2 ^ k
        rw [← h, ← Nat.pow_add, Nat.add_sub_cancel' hj]
  · intro h
    subst h
    have e : 1024 * 2 ^ k = 2 ^ (10 + k) := by rw [Nat.pow_add]
    rw [e] at hn ⊢
    have hp : popcount (2 ^ (10 + k)) = 1 := (popcount_eq_one_iff hn).2 ⟨_, rfl⟩
    have hge : ¬ 2 ^ (10 + k) < 1024 :=
      Nat.not_lt.2 (Nat.pow_le_pow_right (n := 2) (by decide) (Nat.le_add_right 10 k))
    simp [hp, hge]

/-- no other byte count is a block size -/
theorem blockSizeFromBytes_none {n : Nat} (hn : n < 2 ^ 64) (h : ∀ k, n ≠ 1024 * 2 ^ k) :
    blockSizeFromBytes n = none := by
  cases hb : blockSizeFromBytes n with
  | none => rfl
  | some k => exact absurd ((blockSizeFromBytes_iff hn).1 hb) (h k)

example : blockSizeFromBytes 16384 = some 4 ∧ blockSizeFromBytes 1000 = none ∧ blockSizeFromBytes 512 = none := by
  decide

end Bao.C17Misc
