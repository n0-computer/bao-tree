import BaoProofs.Lemmas.SerdeL

/-!
# C19: wire items survive serialisation in the two modelled formats (postcard, compact JSON)

"Every serialisable protocol value - node ids, chunk numbers, parent and leaf items, content
items, encoded items, encode errors - deserialises to an equal value after serialisation, both
with a self-describing format and with a compact length-prefixed binary format."

The two format classes are modelled in `BaoModel/Serde.lean`: postcard (`pc…`, compact,
length-prefixed) and compact JSON as `serde_json::to_string` writes it (`js…`, self-describing).
`TreeNode` and `ChunkNum` are newtypes over `u64`; both formats write them as the bare number.

Well-formedness of a value (defined in `BaoProofs/Lemmas/SerdeL.lean`):
* `ParentWF p`  : `p.node < 2^64 ∧ p.l.length = 32 ∧ p.r.length = 32`;
* `LeafWF l`    : `l.offset < 2^64`;
* `EncErrWF e`  : the node id / chunk number carried by the variant is `< 2^64`
                  (`True` for `sizeMismatch` and `io`);
* `ContentWF`, `EncItemWF` : the above, by variant (`size n` needs `n < 2^64`).
The length-prefixed format additionally writes the length of a byte sequence as a varint `usize`:
* `LeafLen l` : `l.data.length < 2^64`; `EncErrLen (.io t)` : `t.length < 2^64`;
  `ContentLen`, `EncItemLen` : the same by variant, `True` for the other variants.
The JSON theorems need no length hypothesis.

Every theorem comes in two forms: the property itself (the whole input is the serialisation, the
reader returns the value and the empty remainder) and a `_suffix` form for an arbitrary trailing
byte string `rest`, which is what makes the codecs compose (a stream of items).  The only reader
that looks beyond its own value is the JSON number reader: a bare JSON number followed by another
digit is a different number, hence the side condition of `roundtrip_u64_json_suffix`.
-/

namespace Bao.C19

open Bao.Serde Bao.SerdeL

/-! ## node ids and chunk numbers (`u64`) -/

/-- both formats, whole input -/
theorem roundtrip_u64 (n : Nat) (h : n < 2 ^ 64) :
    readVarint (varint n) = some (n, []) ∧ jsReadNat (jsNat n) = some (n, []) := by
  have h1 := readVarint_varint n [] h
  have h2 := jsReadNat_jsNat n [] h noDigitHead_nil
  rw [List.append_nil] at h1 h2
  exact ⟨h1, h2⟩

example : readVarint (varint 300) = some (300, []) ∧ jsReadNat (jsNat 300) = some (300, []) :=
  roundtrip_u64 300 (by decide)

/-- the core lemma of the binary format: 10 groups of 7 bits suffice for a u64 -/
theorem roundtrip_u64_postcard_suffix (n : Nat) (rest : List UInt8) (h : n < 2 ^ 64) :
    readVarint (varint n ++ rest) = some (n, rest) :=
  readVarint_varint n rest h

example : readVarint (varint (2 ^ 64 - 1) ++ [1, 2]) = some (2 ^ 64 - 1, [1, 2]) :=
  roundtrip_u64_postcard_suffix _ _ (by decide)

theorem roundtrip_u64_json_suffix (n : Nat) (rest : List UInt8) (h : n < 2 ^ 64)
    (hr : ∀ b ∈ rest.head?, ¬ (48 ≤ b.toNat ∧ b.toNat ≤ 57)) :
    jsReadNat (jsNat n ++ rest) = some (n, rest) :=
  jsReadNat_jsNat n rest h hr

example : jsReadNat (jsNat 7 ++ [44, 49]) = some (7, [44, 49]) :=
  roundtrip_u64_json_suffix 7 [44, 49] (by decide) (by decide)

/-- the side condition is necessary: `1` followed by the digit `2` reads as `12` -/
example : jsReadNat (jsNat 1 ++ [50]) = some (12, []) := by decide

/-! ## building blocks of the JSON format: byte arrays and strings -/

theorem roundtrip_json_bytes_suffix (b rest : List UInt8) :
    jsReadBytes (jsBytes b ++ rest) = some (b, rest) :=
  jsReadBytes_jsBytes b rest

/-- every byte string survives serde_json's escaping, whatever follows the closing quote -/
theorem roundtrip_json_string_suffix (t rest : List UInt8) :
    jsReadString (jsString t ++ rest) = some (t, rest) :=
  jsReadString_jsString t rest

/-! ## `Parent` -/

theorem roundtrip_postcard_parent_suffix (p : ParentV) (rest : List UInt8)
    (hn : p.node < 2 ^ 64) (hl : p.l.length = 32) (hr : p.r.length = 32) :
    pcReadParent (pcParent p ++ rest) = some (p, rest) :=
  pcReadParent_pcParent p rest ⟨hn, hl, hr⟩

theorem roundtrip_json_parent_suffix (p : ParentV) (rest : List UInt8)
    (hn : p.node < 2 ^ 64) (hl : p.l.length = 32) (hr : p.r.length = 32) :
    jsReadParent (jsParent p ++ rest) = some (p, rest) :=
  jsReadParent_jsParent p rest ⟨hn, hl, hr⟩

theorem roundtrip_postcard_parent (p : ParentV)
    (hn : p.node < 2 ^ 64) (hl : p.l.length = 32) (hr : p.r.length = 32) :
    pcReadParent (pcParent p) = some (p, []) := by
  have := roundtrip_postcard_parent_suffix p [] hn hl hr
  rwa [List.append_nil] at this

theorem roundtrip_json_parent (p : ParentV)
    (hn : p.node < 2 ^ 64) (hl : p.l.length = 32) (hr : p.r.length = 32) :
    jsReadParent (jsParent p) = some (p, []) := by
  have := roundtrip_json_parent_suffix p [] hn hl hr
  rwa [List.append_nil] at this

def exParent : ParentV := ⟨5, List.replicate 32 1, List.replicate 32 200⟩

example : pcReadParent (pcParent exParent ++ [9]) = some (exParent, [9]) :=
  roundtrip_postcard_parent_suffix exParent [9] (by decide) (by decide) (by decide)
example : jsReadParent (jsParent exParent ++ [57]) = some (exParent, [57]) :=
  roundtrip_json_parent_suffix exParent [57] (by decide) (by decide) (by decide)
example : pcReadParent (pcParent exParent) = some (exParent, []) :=
  roundtrip_postcard_parent exParent (by decide) (by decide) (by decide)
example : jsReadParent (jsParent exParent) = some (exParent, []) :=
  roundtrip_json_parent exParent (by decide) (by decide) (by decide)

/-! ## `Leaf` -/

theorem roundtrip_postcard_leaf_suffix (l : LeafV) (rest : List UInt8)
    (ho : l.offset < 2 ^ 64) (hd : l.data.length < 2 ^ 64) :
    pcReadLeaf (pcLeaf l ++ rest) = some (l, rest) :=
  pcReadLeaf_pcLeaf l rest ho hd

theorem roundtrip_json_leaf_suffix (l : LeafV) (rest : List UInt8) (ho : l.offset < 2 ^ 64) :
    jsReadLeaf (jsLeaf l ++ rest) = some (l, rest) :=
  jsReadLeaf_jsLeaf l rest ho

theorem roundtrip_postcard_leaf (l : LeafV)
    (ho : l.offset < 2 ^ 64) (hd : l.data.length < 2 ^ 64) :
    pcReadLeaf (pcLeaf l) = some (l, []) := by
  have := roundtrip_postcard_leaf_suffix l [] ho hd
  rwa [List.append_nil] at this

theorem roundtrip_json_leaf (l : LeafV) (ho : l.offset < 2 ^ 64) :
    jsReadLeaf (jsLeaf l) = some (l, []) := by
  have := roundtrip_json_leaf_suffix l [] ho
  rwa [List.append_nil] at this

def exLeaf : LeafV := ⟨1024, [0, 34, 255]⟩

example : pcReadLeaf (pcLeaf exLeaf ++ [9]) = some (exLeaf, [9]) :=
  roundtrip_postcard_leaf_suffix exLeaf [9] (by decide) (by decide)
example : jsReadLeaf (jsLeaf exLeaf ++ [57]) = some (exLeaf, [57]) :=
  roundtrip_json_leaf_suffix exLeaf [57] (by decide)
example : pcReadLeaf (pcLeaf exLeaf) = some (exLeaf, []) :=
  roundtrip_postcard_leaf exLeaf (by decide) (by decide)
example : jsReadLeaf (jsLeaf exLeaf) = some (exLeaf, []) :=
  roundtrip_json_leaf exLeaf (by decide)

/-! ## `EncodeError` -/

theorem roundtrip_postcard_encerr_suffix (e : EncErrV) (rest : List UInt8)
    (h : EncErrWF e) (hl : EncErrLen e) :
    pcReadEncErr (pcEncErr e ++ rest) = some (e, rest) :=
  pcReadEncErr_pcEncErr e rest h hl

theorem roundtrip_json_encerr_suffix (e : EncErrV) (rest : List UInt8) (h : EncErrWF e) :
    jsReadEncErr (jsEncErr e ++ rest) = some (e, rest) :=
  jsReadEncErr_jsEncErr e rest h

theorem roundtrip_postcard_encerr (e : EncErrV) (h : EncErrWF e) (hl : EncErrLen e) :
    pcReadEncErr (pcEncErr e) = some (e, []) := by
  have := roundtrip_postcard_encerr_suffix e [] h hl
  rwa [List.append_nil] at this

theorem roundtrip_json_encerr (e : EncErrV) (h : EncErrWF e) :
    jsReadEncErr (jsEncErr e) = some (e, []) := by
  have := roundtrip_json_encerr_suffix e [] h
  rwa [List.append_nil] at this

example : pcReadEncErr (pcEncErr (.leafWrite 7) ++ [9]) = some (.leafWrite 7, [9]) :=
  roundtrip_postcard_encerr_suffix (.leafWrite 7) [9] (show (7 : Nat) < 2 ^ 64 by decide) trivial
example : jsReadEncErr (jsEncErr (.leafWrite 7) ++ [57]) = some (.leafWrite 7, [57]) :=
  roundtrip_json_encerr_suffix (.leafWrite 7) [57] (show (7 : Nat) < 2 ^ 64 by decide)
example : pcReadEncErr (pcEncErr (.io [79, 34, 10])) = some (.io [79, 34, 10], []) :=
  roundtrip_postcard_encerr (.io [79, 34, 10]) trivial (show (3 : Nat) < 2 ^ 64 by decide)
example : jsReadEncErr (jsEncErr (.io [79, 34, 10])) = some (.io [79, 34, 10], []) :=
  roundtrip_json_encerr (.io [79, 34, 10]) trivial

/-! ## `BaoContentItem` -/

theorem roundtrip_postcard_content_suffix (c : ContentV) (rest : List UInt8)
    (h : ContentWF c) (hl : ContentLen c) :
    pcReadContent (pcContent c ++ rest) = some (c, rest) :=
  pcReadContent_pcContent c rest h hl

theorem roundtrip_json_content_suffix (c : ContentV) (rest : List UInt8) (h : ContentWF c) :
    jsReadContent (jsContent c ++ rest) = some (c, rest) :=
  jsReadContent_jsContent c rest h

theorem roundtrip_postcard_content (c : ContentV) (h : ContentWF c) (hl : ContentLen c) :
    pcReadContent (pcContent c) = some (c, []) := by
  have := roundtrip_postcard_content_suffix c [] h hl
  rwa [List.append_nil] at this

theorem roundtrip_json_content (c : ContentV) (h : ContentWF c) :
    jsReadContent (jsContent c) = some (c, []) := by
  have := roundtrip_json_content_suffix c [] h
  rwa [List.append_nil] at this

private theorem exParent_wf : ParentWF exParent := ⟨by decide, by decide, by decide⟩
private theorem exLeaf_wf : LeafWF exLeaf := show (1024 : Nat) < 2 ^ 64 by decide
private theorem exLeaf_len : LeafLen exLeaf := show (3 : Nat) < 2 ^ 64 by decide

example : pcReadContent (pcContent (.leaf exLeaf) ++ [9]) = some (.leaf exLeaf, [9]) :=
  roundtrip_postcard_content_suffix (.leaf exLeaf) [9] exLeaf_wf exLeaf_len
example : jsReadContent (jsContent (.leaf exLeaf) ++ [57]) = some (.leaf exLeaf, [57]) :=
  roundtrip_json_content_suffix (.leaf exLeaf) [57] exLeaf_wf
example : pcReadContent (pcContent (.parent exParent)) = some (.parent exParent, []) :=
  roundtrip_postcard_content (.parent exParent) exParent_wf trivial
example : jsReadContent (jsContent (.parent exParent)) = some (.parent exParent, []) :=
  roundtrip_json_content (.parent exParent) exParent_wf

/-! ## `EncodedItem` -/

theorem roundtrip_postcard_encitem_suffix (c : EncItemV) (rest : List UInt8)
    (h : EncItemWF c) (hl : EncItemLen c) :
    pcReadEncItem (pcEncItem c ++ rest) = some (c, rest) :=
  pcReadEncItem_pcEncItem c rest h hl

theorem roundtrip_json_encitem_suffix (c : EncItemV) (rest : List UInt8) (h : EncItemWF c) :
    jsReadEncItem (jsEncItem c ++ rest) = some (c, rest) :=
  jsReadEncItem_jsEncItem c rest h

theorem roundtrip_postcard_encitem (c : EncItemV) (h : EncItemWF c) (hl : EncItemLen c) :
    pcReadEncItem (pcEncItem c) = some (c, []) := by
  have := roundtrip_postcard_encitem_suffix c [] h hl
  rwa [List.append_nil] at this

theorem roundtrip_json_encitem (c : EncItemV) (h : EncItemWF c) :
    jsReadEncItem (jsEncItem c) = some (c, []) := by
  have := roundtrip_json_encitem_suffix c [] h
  rwa [List.append_nil] at this

example : pcReadEncItem (pcEncItem (.error (.parentWrite 3)) ++ [9])
    = some (.error (.parentWrite 3), [9]) :=
  roundtrip_postcard_encitem_suffix (.error (.parentWrite 3)) [9]
    (show (3 : Nat) < 2 ^ 64 by decide) trivial
example : jsReadEncItem (jsEncItem (.error (.parentWrite 3)) ++ [57])
    = some (.error (.parentWrite 3), [57]) :=
  roundtrip_json_encitem_suffix (.error (.parentWrite 3)) [57] (show (3 : Nat) < 2 ^ 64 by decide)
example : pcReadEncItem (pcEncItem (.leaf exLeaf)) = some (.leaf exLeaf, []) :=
  roundtrip_postcard_encitem (.leaf exLeaf) exLeaf_wf exLeaf_len
example : jsReadEncItem (jsEncItem (.size 4096)) = some (.size 4096, []) :=
  roundtrip_json_encitem (.size 4096) (show (4096 : Nat) < 2 ^ 64 by decide)

/-! ## the io error text -/

/-- `io_error_serde::serialize` writes `format!("{:?}:{}", kind, error)`; the text is what the
value carries (`EncErrV.io text`), and by `roundtrip_*_encerr` it comes back unchanged, to be
rebuilt as `io::Error::new(Other, text)`: the original kind and message are both contained in it,
as its beginning and its end, separated by `:` -/
theorem io_text (kind msg : List UInt8) :
    ioErrorText kind msg = kind ++ [58] ++ msg ∧
    kind <+: ioErrorText kind msg ∧ msg <:+ ioErrorText kind msg :=
  ⟨rfl, ioErrorText_spec kind msg⟩

/-
## Status

Proved (no `sorry`; axioms: propext, Quot.sound, Classical.choice at most):
* `roundtrip_u64` (both formats), `roundtrip_u64_postcard_suffix`, `roundtrip_u64_json_suffix`
  (side condition: `rest` does not start with a digit; shown necessary by an `example`);
* `roundtrip_json_bytes_suffix`, `roundtrip_json_string_suffix` (every byte string, any suffix);
* `roundtrip_postcard_{parent,leaf,encerr,content,encitem}` and
  `roundtrip_json_{parent,leaf,encerr,content,encitem}` (whole input, `rest = []`);
* the `_suffix` form of each of the ten (arbitrary `rest`, no side condition: every composite JSON
  value ends with `]`, `}` or `"`);
* `io_text`.
Partial: none.  OPEN: none.

Hypotheses beyond "u64 fields are u64, hashes are 32 bytes": the postcard theorems for values that
carry a byte sequence (`Leaf.data`, the io text) need its length `< 2^64` (`LeafLen`, `EncErrLen`;
always true of a Rust `Vec`/`String`); with a length `≥ 2^70` the model's 10-byte varint would
truncate.  The JSON theorems need no such hypothesis.
-/

end Bao.C19
