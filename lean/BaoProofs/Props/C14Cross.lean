import BaoProofs.Props.C02
import BaoProofs.Props.C04
import BaoProofs.Lemmas.C14CrossL

/-!
# C14 (third part): equivalent queries decode each other's encodings

"Any two queries that select the same chunks of a blob produce identical encodings and each decodes
the other's encoding, so requester and provider need not agree on representation."

`Props/C14.lean` proves the canonicalisation, `Props/C04.lean` (`function_of_selection`,
`interchangeable_encode`) that all encoders emit identical bytes for two queries with the same
selection, `Props/C02.lean` that the honest encoding of `q` decodes with the SAME `q`.  This file
states the cross statements: the provider encodes with `q₂`, the requester decodes with `q₁`, and
`q₁`, `q₂` select the same chunks of the blob (`hsel`).
-/

namespace Bao.C14
open Bao Bao.Spec Bao.DecodeSpec Bao.C14CrossL

variable {H : Type} {hf : HashFns H} [BEq H] [LawfulBEq H]

/-! ## 1. decoding the honest encoding of an equivalent query -/

/-- **cross decode**: decoding the honest encoding of `q₂` with the query `q₁` (either decoder
flavour) ends `done`, leaves nothing unread and yields exactly the specification items of `q₁`,
which are the items of `q₂` -/
theorem cross_decode (hrt : ∀ h, hf.ofBytes (hf.toBytes h) = h)
    (hlen : ∀ h, (hf.toBytes h).length = 32) (fl : Flavour) (d : List UInt8) (bs : Nat)
    {q₁ q₂ : Ranges} (hd : d.length ≤ 2 ^ 63) (hwf₁ : Ranges.WF q₁ = true)
    (hsel : ∀ c, Spec.selected d.length q₁ c = Spec.selected d.length q₂ c) :
    decodeAll hf fl (Spec.root hf d) ⟨d.length, bs⟩ q₁ (Spec.encode hf d bs q₂)
      = ⟨(Spec.items hf d bs q₁).map (toItem hf), .done, []⟩ ∧
    Spec.items hf d bs q₁ = Spec.items hf d bs q₂ := by
  obtain ⟨hi, he⟩ := C04.function_of_selection hf d bs hsel
  exact ⟨by rw [← he]; exact C02.roundtrip hrt hlen fl d bs q₁ hd hwf₁, hi⟩

example : decodeAll C03.toyHash .fsm (Spec.root C03.toyHash C03.toyBlob) ⟨C03.toyBlob.length, 1⟩ [2]
      (Spec.encode C03.toyHash C03.toyBlob 1 [5, 7])
    = ⟨(Spec.items C03.toyHash C03.toyBlob 1 [2]).map (toItem C03.toyHash), .done, []⟩ :=
  (cross_decode C03.toy_rt C03.toy_len .fsm C03.toyBlob 1 C03.toy_size (by decide)
    C04.toy_same_selection).1

/-- the same with arbitrary bytes `x` after the encoding: they are left untouched -/
theorem cross_decode_trailing (hrt : ∀ h, hf.ofBytes (hf.toBytes h) = h)
    (hlen : ∀ h, (hf.toBytes h).length = 32) (fl : Flavour) (d : List UInt8) (bs : Nat)
    {q₁ q₂ : Ranges} (hd : d.length ≤ 2 ^ 63) (hwf₁ : Ranges.WF q₁ = true)
    (hsel : ∀ c, Spec.selected d.length q₁ c = Spec.selected d.length q₂ c) (x : List UInt8) :
    decodeAll hf fl (Spec.root hf d) ⟨d.length, bs⟩ q₁ (Spec.encode hf d bs q₂ ++ x)
      = ⟨(Spec.items hf d bs q₂).map (toItem hf), .done, x⟩ := by
  obtain ⟨hi, he⟩ := C04.function_of_selection hf d bs hsel
  rw [← he, ← hi]
  exact C02.trailing hrt hlen fl d bs q₁ hd hwf₁ x

example : decodeAll C03.toyHash .sync (Spec.root C03.toyHash C03.toyBlob) ⟨C03.toyBlob.length, 0⟩
      [5, 7] (Spec.encode C03.toyHash C03.toyBlob 0 [2] ++ [1, 2, 3])
    = ⟨(Spec.items C03.toyHash C03.toyBlob 0 [2]).map (toItem C03.toyHash), .done, [1, 2, 3]⟩ :=
  cross_decode_trailing C03.toy_rt C03.toy_len .sync C03.toyBlob 0 C03.toy_size (by decide)
    (fun c => (C04.toy_same_selection c).symm) [1, 2, 3]

/-! ## 2. decoding what the model encoders emit for an equivalent query -/

/-- **cross decode, encoder side**: on the intact store of the blob the four model encoders
(validating / plain, sync / fsm: flavour `fe`) run with `q₂` end `ok`, and their output decodes
with `q₁` (decoder flavour `fl`) to `done`, nothing unread, exactly the items of `q₁` -/
theorem cross_decode_encoder (hrt : ∀ h, hf.ofBytes (hf.toBytes h) = h)
    (hlen : ∀ h, (hf.toBytes h).length = 32) (fl fe : Flavour) {d : List UInt8} {bs : Nat}
    {st : Store H} {q₁ q₂ : Ranges} (hd : d.length ≤ 2 ^ 63) (hbs : bs ≤ 10)
    (htree : st.tree = ⟨d.length, bs⟩) (hroot : st.root = Spec.root hf d)
    (hdata : ((st.kind = .preIo ∨ st.kind = .preMem) ∧ st.data = Spec.preOutboard hf d bs) ∨
             ((st.kind = .postIo ∨ st.kind = .postMem) ∧ st.data = Spec.postOutboard hf d bs))
    (hwf₁ : Ranges.WF q₁ = true) (hwf₂ : Ranges.WF q₂ = true)
    (hsel : ∀ c, Spec.selected d.length q₁ c = Spec.selected d.length q₂ c) :
    (encodeRangesValidated hf fe d st q₂).terminal = .ok ∧
    (encodeRanges hf fe d st q₂).terminal = .ok ∧
    decodeAll hf fl (Spec.root hf d) ⟨d.length, bs⟩ q₁ (encodeRangesValidated hf fe d st q₂).out
      = ⟨(Spec.items hf d bs q₁).map (toItem hf), .done, []⟩ ∧
    decodeAll hf fl (Spec.root hf d) ⟨d.length, bs⟩ q₁ (encodeRanges hf fe d st q₂).out
      = ⟨(Spec.items hf d bs q₁).map (toItem hf), .done, []⟩ := by
  rw [C04.encode_is_spec hlen hrt hd hbs htree hroot hdata fe hwf₂,
    C04.encode_plain_is_spec hlen hrt hd hbs htree hroot hdata fe hwf₂]
  have h := (cross_decode hrt hlen fl d bs hd hwf₁ hsel).1
  exact ⟨rfl, rfl, h, h⟩

example : decodeAll C03.toyHash .sync (Spec.root C03.toyHash C03.toyBlob) ⟨C03.toyBlob.length, 1⟩ [2]
      (encodeRangesValidated C03.toyHash .fsm C03.toyBlob C04.toyStore [5, 7]).out
    = ⟨(Spec.items C03.toyHash C03.toyBlob 1 [2]).map (toItem C03.toyHash), .done, []⟩ :=
  (cross_decode_encoder C03.toy_rt C03.toy_len .sync .fsm C03.toy_size (by decide) C04.toyStore_tree
    C04.toyStore_root C04.toyStore_data (by decide) (by decide) C04.toy_same_selection).2.2.1

/-! ## 3. the `decode_ranges` driver -/

/-- a sink for the examples: an in-memory pre-order outboard of exactly the outboard size (one
pair) with the blob's root, and an empty target -/
def toySink : Sink UInt8 :=
  ⟨⟨.preMem, Spec.root C03.toyHash C03.toyBlob, ⟨3000, 1⟩, List.replicate 64 0⟩, []⟩

theorem toySink_ready :
    SaveReady (Spec.root C03.toyHash C03.toyBlob) C03.toyBlob.length 1 toySink.ob :=
  ⟨by simp only [toySink], C03.toy_tree, .inr (.inr (.inr ⟨.inl (by simp only [toySink]), by
    rw [← C03.toy_tree]
    simp only [toySink, List.length_replicate]
    decide⟩))⟩

/-- **cross `decode_ranges`**: `sync::decode_ranges` / `fsm::decode_ranges` with the query `q₁` on
the honest encoding of `q₂`, into a sink whose outboard has the blob's root and geometry and is
`SaveReady` (`Lemmas/C14CrossL.lean`: kind `preIo` / `postIo` / `EmptyOutboard` with any backing, or
`preMem` / `postMem` with a backing of at least `outboardSize` bytes): the run ends `done` with
nothing unread; with `its` the items of `q₁` (= of `q₂`): the target writes are exactly the leaves
of `its`, in order; the saves are exactly the parents of `its` that are relevant for the outboard;
the final target is the initial one after these writes; the outboard is still `SaveReady` (same
root, tree, kind class). -/
theorem cross_decode_ranges (hrt : ∀ h, hf.ofBytes (hf.toBytes h) = h)
    (hlen : ∀ h, (hf.toBytes h).length = 32) (fl : Flavour) (d : List UInt8) (bs : Nat)
    {q₁ q₂ : Ranges} (hd : d.length ≤ 2 ^ 63) (hbs : bs ≤ 10) (hwf₁ : Ranges.WF q₁ = true)
    (hsel : ∀ c, Spec.selected d.length q₁ c = Spec.selected d.length q₂ c) (sink : Sink H)
    (hr : SaveReady (Spec.root hf d) d.length bs sink.ob) :
    let r := decodeRanges hf fl (Spec.encode hf d bs q₂) q₁ sink
    let its := (Spec.items hf d bs q₁).map (toItem hf)
    r.terminal = .done ∧ r.rest = [] ∧
    r.writes = (leafWrites its).map (fun w => (w.1, w.2.length)) ∧
    r.saves = savedNodes ⟨d.length, bs⟩ its ∧
    r.sink.target = (leafWrites its).foldl (fun t w => writeAt t w.1 w.2) sink.target ∧
    SaveReady (Spec.root hf d) d.length bs r.sink.ob ∧
    Spec.items hf d bs q₁ = Spec.items hf d bs q₂ := by
  obtain ⟨h, hi⟩ := cross_decode hrt hlen fl d bs hd hwf₁ hsel
  obtain ⟨h1, h2, h3, h4, h5, h6⟩ := decodeRanges_items hf hlen fl d bs hd hbs q₁ q₁ _ _ _ sink hr h
  exact ⟨h1, h2, h3, h4, h5, h6, hi⟩

example : (decodeRanges C03.toyHash .sync (Spec.encode C03.toyHash C03.toyBlob 1 [5, 7]) [2]
    toySink).terminal = .done :=
  (cross_decode_ranges C03.toy_rt C03.toy_len .sync C03.toyBlob 1 C03.toy_size (by decide)
    (by decide) C04.toy_same_selection toySink toySink_ready).1

/-- the same with explicit hypotheses on the sink, and only "ends `done`, nothing unread" -/
theorem cross_decode_ranges_done (hrt : ∀ h, hf.ofBytes (hf.toBytes h) = h)
    (hlen : ∀ h, (hf.toBytes h).length = 32) (fl : Flavour) (d : List UInt8) (bs : Nat)
    {q₁ q₂ : Ranges} (hd : d.length ≤ 2 ^ 63) (hbs : bs ≤ 10) (hwf₁ : Ranges.WF q₁ = true)
    (hsel : ∀ c, Spec.selected d.length q₁ c = Spec.selected d.length q₂ c) (sink : Sink H)
    (hroot : sink.ob.root = Spec.root hf d) (htree : sink.ob.tree = ⟨d.length, bs⟩)
    (hkind : sink.ob.kind = .preIo ∨ sink.ob.kind = .postIo ∨ sink.ob.kind = .empty ∨
      ((sink.ob.kind = .preMem ∨ sink.ob.kind = .postMem) ∧
        Tree.outboardSize ⟨d.length, bs⟩ ≤ sink.ob.data.length)) :
    (decodeRanges hf fl (Spec.encode hf d bs q₂) q₁ sink).terminal = .done ∧
    (decodeRanges hf fl (Spec.encode hf d bs q₂) q₁ sink).rest = [] :=
  have h := cross_decode_ranges hrt hlen fl d bs hd hbs hwf₁ hsel sink ⟨hroot, htree, hkind⟩
  ⟨h.1, h.2.1⟩

example : (decodeRanges C03.toyHash .fsm (Spec.encode C03.toyHash C03.toyBlob 1 [2]) [5, 7]
    toySink).terminal = .done :=
  (cross_decode_ranges_done C03.toy_rt C03.toy_len .fsm C03.toyBlob 1 C03.toy_size (by decide)
    (by decide) (fun c => (C04.toy_same_selection c).symm) toySink toySink_ready.1 toySink_ready.2.1
    toySink_ready.2.2).1

/-- … and on the stream the model encoders (validating / plain, flavour `fe`) emit for `q₂` from
the intact store `st` of the blob -/
theorem cross_decode_ranges_encoder (hrt : ∀ h, hf.ofBytes (hf.toBytes h) = h)
    (hlen : ∀ h, (hf.toBytes h).length = 32) (fl fe : Flavour) {d : List UInt8} {bs : Nat}
    {st : Store H} {q₁ q₂ : Ranges} (hd : d.length ≤ 2 ^ 63) (hbs : bs ≤ 10)
    (htree : st.tree = ⟨d.length, bs⟩) (hroot : st.root = Spec.root hf d)
    (hdata : ((st.kind = .preIo ∨ st.kind = .preMem) ∧ st.data = Spec.preOutboard hf d bs) ∨
             ((st.kind = .postIo ∨ st.kind = .postMem) ∧ st.data = Spec.postOutboard hf d bs))
    (hwf₁ : Ranges.WF q₁ = true) (hwf₂ : Ranges.WF q₂ = true)
    (hsel : ∀ c, Spec.selected d.length q₁ c = Spec.selected d.length q₂ c) (sink : Sink H)
    (hr : SaveReady (Spec.root hf d) d.length bs sink.ob) :
    (decodeRanges hf fl (encodeRangesValidated hf fe d st q₂).out q₁ sink).terminal = .done ∧
    (decodeRanges hf fl (encodeRangesValidated hf fe d st q₂).out q₁ sink).rest = [] ∧
    decodeRanges hf fl (encodeRangesValidated hf fe d st q₂).out q₁ sink
      = decodeRanges hf fl (Spec.encode hf d bs q₂) q₁ sink ∧
    decodeRanges hf fl (encodeRanges hf fe d st q₂).out q₁ sink
      = decodeRanges hf fl (Spec.encode hf d bs q₂) q₁ sink := by
  rw [C04.encode_is_spec hlen hrt hd hbs htree hroot hdata fe hwf₂,
    C04.encode_plain_is_spec hlen hrt hd hbs htree hroot hdata fe hwf₂]
  have h := cross_decode_ranges hrt hlen fl d bs hd hbs hwf₁ hsel sink hr
  exact ⟨h.1, h.2.1, rfl, rfl⟩

example : (decodeRanges C03.toyHash .sync
    (encodeRanges C03.toyHash .fsm C03.toyBlob C04.toyStore [5, 7]).out [2] toySink)
      = decodeRanges C03.toyHash .sync (Spec.encode C03.toyHash C03.toyBlob 1 [5, 7]) [2] toySink :=
  (cross_decode_ranges_encoder C03.toy_rt C03.toy_len .sync .fsm C03.toy_size (by decide)
    C04.toyStore_tree C04.toyStore_root C04.toyStore_data (by decide) (by decide)
    C04.toy_same_selection toySink toySink_ready).2.2.2

/-! ## 4. what is delivered -/

/-- **the cross decode delivers exactly the selected chunks**: with `its` the items of the decode,
with query `q₁`, of the honest encoding of `q₂`: a chunk is selected by `q₂` (equivalently by `q₁`)
iff it lies in the span of a leaf item; the spans are non-empty, pairwise disjoint and increasing
(every selected chunk is delivered exactly once, in offset order); every leaf carries the blob's
bytes at its chunk-aligned offset -/
theorem cross_delivers_selected (hrt : ∀ h, hf.ofBytes (hf.toBytes h) = h)
    (hlen : ∀ h, (hf.toBytes h).length = 32) (fl : Flavour) (d : List UInt8) (bs : Nat)
    {q₁ q₂ : Ranges} (hd : d.length ≤ 2 ^ 63) (hwf₁ : Ranges.WF q₁ = true)
    (hsel : ∀ c, Spec.selected d.length q₁ c = Spec.selected d.length q₂ c) :
    let its := (decodeAll hf fl (Spec.root hf d) ⟨d.length, bs⟩ q₁ (Spec.encode hf d bs q₂)).items
    (∀ c, Spec.selected d.length q₂ c = true ↔ ∃ a ∈ itemSpans its, a.1 ≤ c ∧ c < a.2) ∧
    (∀ c, Spec.selected d.length q₁ c = true ↔ ∃ a ∈ itemSpans its, a.1 ≤ c ∧ c < a.2) ∧
    (∀ a ∈ itemSpans its, a.1 < a.2) ∧
    (itemSpans its).Pairwise (fun a b => a.2 ≤ b.1) ∧
    (itemSpans its).Pairwise (fun a b => a.1 < b.1) ∧
    (∀ off bytes, Item.leaf off bytes ∈ its →
      off % 1024 = 0 ∧ off + bytes.length ≤ d.length ∧ bytes = (d.drop off).take bytes.length) := by
  have h := C02.delivered_exactly_selected hrt hlen fl d bs q₁ hd hwf₁
  rw [(C04.function_of_selection hf d bs hsel).2] at h
  exact ⟨fun c => by rw [← hsel c]; exact h.1 c, h.1, h.2⟩

example (c : Nat) : Spec.selected C03.toyBlob.length [5, 7] c = true ↔
    ∃ a ∈ itemSpans (decodeAll C03.toyHash .sync (Spec.root C03.toyHash C03.toyBlob)
      ⟨C03.toyBlob.length, 1⟩ [2] (Spec.encode C03.toyHash C03.toyBlob 1 [5, 7])).items,
      a.1 ≤ c ∧ c < a.2 :=
  (cross_delivers_selected C03.toy_rt C03.toy_len .sync C03.toyBlob 1 C03.toy_size (by decide)
    C04.toy_same_selection).1 c

/-
## Status (C14, cross statements)

All theorems depend on the axioms `propext`, `Classical.choice`, `Quot.sound` only.
`q₁` = the decoder's (requester's) query, `q₂` = the encoder's (provider's) query,
`hsel : ∀ c, Spec.selected d.length q₁ c = Spec.selected d.length q₂ c`.

PROVED (every `hf` with `hrt`, `hlen`, `[BEq H] [LawfulBEq H]`; `d.length ≤ 2^63`; both decoder
flavours; every `bs` unless stated): `cross_decode`, `cross_decode_trailing` (need only `WF q₁`: the
stream is a function of the selection alone), `cross_decode_encoder` (`bs ≤ 10`, `WF q₂`, intact
store), `cross_decode_ranges`, `cross_decode_ranges_done`, `cross_decode_ranges_encoder` (`bs ≤ 10`,
`SaveReady` sink; the bridge `decodeRangesAux` ↔ `Dec.runAux` is `C14CrossL.aux_of_run`, and
`C14CrossL.save_ready` shows that every save of an existing relevant node succeeds),
`cross_delivers_selected`.
PARTIAL: none.
OPEN: none.

Remarks.
* `SaveReady` (in `Lemmas/C14CrossL.lean`) for the in-memory kinds requires a backing of at least
  `outboardSize` bytes.  This is necessary in the model: with a `preMem` backing of 63 bytes for the
  3000-byte blob at block size 1 the cross (and the same-query) `decodeRanges` ends `panic`
  (`Store.save`: slice index out of range, see C09).
* `EmptyOutboard` sinks are covered (`save` of a relevant node is a no-op).
-/

end Bao.C14
