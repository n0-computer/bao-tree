import BaoProofs.Lemmas.SpecIndexL

/-!
# The executable specification verdicts of `store` and `treeoff` never reject the model

The correspondence driver judges the implementation's output of `treeoff` (`Ops.opTreeOff`) and
`store` (`Ops.opStore`) with verdict code that does not use the model's offset functions
(`Tree.preOrderOffset`, `Tree.postOrderOffset`, `Store.slot`) but the counting indices
`Spec.preIndex` / `Spec.postIndex`.  This file proves that the verdicts accept the model:

1. `preIndex_eq_idxOf`, `postIndex_eq_idxOf` – the counting index is the position in the recursive
   lists `Spec.persistedPre` / `Spec.persistedPost` (the lists the C12 / C13 theorems are about);
2. `treeoff_model` – for every id `opTreeOff` calls relevant the model's offsets are the counting
   indices, with the Stable/Unstable tag the verdict computes, and the model's token is the
   verdict's token; `treeoff_bads_nil` – the list of rejected components is empty;
3. `store_model` – for the nodes of the tree and a full-length backing the components the `store`
   verdict compares, computed from the model, are the ones it expects (any hash instance);
   `store_verdict_model` – the model's output string consists of five tokens on which the verdict
   answers `none`.

Level of the statements.  The component-level theorems (`treeoff_bads_nil`, `store_model`,
`store_verdict_model`) speak about the compared token lists.  `Lemmas/SpecIndexStr.lean` proves that
`String.splitOn " "` inverts joining space-free tokens with `" "` (by following the legacy
`String.splitOnAux` on the list of characters), so the op-level statements
`(op args (op args impl).model).specFail = none` are proved as well: `treeoff_specFail`,
`store_specFail` (any argument strings that parse to the given values) and `treeoff_no_false_alarm`,
`store_no_false_alarm` (the decimal renderings of the numbers as arguments).
-/

set_option maxRecDepth 8192   -- `decide` on the 256-byte backings of the examples

namespace Bao.SpecIndex
open Bao Bao.Spec Bao.Ops Bao.Proto

/-! ## 1. the counting index is the position in the recursive list -/

/-- pre-order: `preIndex = some i` iff the `i`-th persisted node in pre-order is `x`; `none` iff `x`
is not persisted (every `u64` id) -/
theorem preIndex_eq_idxOf (size bs x : Nat) (hs : size ≤ 2 ^ 63) (hbs : bs ≤ 10) (hx : x < 2 ^ 64) :
    (∀ i, Spec.preIndex size bs x = some i ↔ (Spec.persistedPre size bs)[i]? = some x) ∧
    (Spec.preIndex size bs x = none ↔ x ∉ Spec.persistedPre size bs) :=
  preIndex_spec size bs x hs hbs hx

example : Spec.preIndex 5000 0 1 = some 1 :=
  ((preIndex_eq_idxOf 5000 0 1 (by decide) (by decide) (by decide)).1 1).2 (by decide)

example : Spec.preIndex 5000 0 4 = none :=
  (preIndex_eq_idxOf 5000 0 4 (by decide) (by decide) (by decide)).2.2 (by decide)

/-- post-order twin -/
theorem postIndex_eq_idxOf (size bs x : Nat) (hs : size ≤ 2 ^ 63) (hbs : bs ≤ 10) (hx : x < 2 ^ 64) :
    (∀ i, Spec.postIndex size bs x = some i ↔ (Spec.persistedPost size bs)[i]? = some x) ∧
    (Spec.postIndex size bs x = none ↔ x ∉ Spec.persistedPost size bs) :=
  postIndex_spec size bs x hs hbs hx

example : Spec.postIndex 5000 0 1 = some 2 :=
  ((postIndex_eq_idxOf 5000 0 1 (by decide) (by decide) (by decide)).1 2).2 (by decide)

example : Spec.postIndex 20000 1 2 = none :=
  (postIndex_eq_idxOf 20000 1 2 (by decide) (by decide) (by decide)).2.2 (by decide)

/-- the same as one equation with the specification's own `Spec.indexOfNode` (position of the first
occurrence) -/
theorem preIndex_eq_indexOfNode (size bs x : Nat) (hs : size ≤ 2 ^ 63) (hbs : bs ≤ 10)
    (hx : x < 2 ^ 64) :
    Spec.preIndex size bs x = Spec.indexOfNode (Spec.persistedPre size bs) x :=
  indexOfNode_eq _ (C12.pre_injective size bs hs hbs) x _
    (fun i => ((preIndex_spec size bs x hs hbs hx).1 i).1) (preIndex_spec size bs x hs hbs hx).2.1

example : Spec.preIndex 20000 1 7 = Spec.indexOfNode (Spec.persistedPre 20000 1) 7 :=
  preIndex_eq_indexOfNode 20000 1 7 (by decide) (by decide) (by decide)

theorem postIndex_eq_indexOfNode (size bs x : Nat) (hs : size ≤ 2 ^ 63) (hbs : bs ≤ 10)
    (hx : x < 2 ^ 64) :
    Spec.postIndex size bs x = Spec.indexOfNode (Spec.persistedPost size bs) x :=
  indexOfNode_eq _ (C12.post_injective size bs hs hbs) x _
    (fun i => ((postIndex_spec size bs x hs hbs hx).1 i).1) (postIndex_spec size bs x hs hbs hx).2.1

example : Spec.postIndex 20000 1 7 = Spec.indexOfNode (Spec.persistedPost 20000 1) 7 :=
  postIndex_eq_indexOfNode 20000 1 7 (by decide) (by decide) (by decide)

/-- `Spec.countSub` (used by both walks) counts the nodes of the recursive lists -/
theorem countSub_eq (n minL L k : Nat) :
    Spec.countSub n minL L k = (Spec.preNodes n minL L k).length ∧
    Spec.countSub n minL L k = (Spec.postNodes n minL L k).length :=
  ⟨countSub_eq_length n minL L k, countSub_eq_length_post n minL L k⟩

/-! ## 2. `treeoff` -/

/-- for every id that `opTreeOff` calls relevant (`Ops.inTree` is literally that predicate): the
model's pre-order offset is `Spec.preIndex`, the model's post-order offset is `Spec.postIndex` with
the tag "stable iff `endOf k L * 1024 ≤ size`", and the model's token equals the verdict's token -/
theorem treeoff_model (size bs x : Nat) (hs : size ≤ 2 ^ 63) (hbs : bs ≤ 10) (hx : x < 2 ^ 64)
    (hrel : Ops.inTree size bs x = true) :
    Tree.preOrderOffset ⟨size, bs⟩ x = Spec.preIndex size bs x ∧
    Tree.postOrderOffset ⟨size, bs⟩ x = (Spec.postIndex size bs x).map (fun i =>
      if Spec.endOf (Spec.indexOf x) (Spec.levelOf x) * 1024 ≤ size then Tree.PostOffset.stable i
      else Tree.PostOffset.unstable i) ∧
    modelTok size bs x = specTok size bs x :=
  ⟨pre_model size bs x hs hbs hx hrel, post_model size bs x hs hbs hx hrel,
    tok_eq size bs x hs hbs hx hrel⟩

example : Tree.preOrderOffset ⟨5000, 0⟩ 3 = Spec.preIndex 5000 0 3 :=
  (treeoff_model 5000 0 3 (by decide) (by decide) (by decide) (by decide)).1

/-- the half-filled last leaf (id 4 of the 5-chunk tree) is relevant too -/
example : Tree.postOrderOffset ⟨5000, 0⟩ 4 = none ∧ Spec.postIndex 5000 0 4 = none := by
  have := (treeoff_model 5000 0 4 (by decide) (by decide) (by decide) (by decide)).2.1
  exact ⟨by decide, by decide⟩

/-- `relevant` of `opTreeOff` is `Ops.inTree` -/
theorem relevant_eq_inTree (size bs x : Nat) :
    (let n := Spec.nChunks size
     let sblocks := Spec.nBlocks size bs
     let halfLeaf := Node.subBs (sblocks - 1) bs
     let L := Spec.levelOf x
     let k := Spec.indexOf x
     Spec.midOf k L < n || (sblocks % 2 == 1 && x == halfLeaf)) = Ops.inTree size bs x := rfl

/-- component level "no false alarm" for `treeoff`: with the model's tokens as the implementation's
tokens, the list `bads` of `opTreeOff` is empty and the token count matches -/
theorem treeoff_bads_nil (size bs id0 count : Nat) (hs : size ≤ 2 ^ 63) (hbs : bs ≤ 10)
    (hid : id0 + count ≤ 2 ^ 64) :
    let ids := (List.range count).map (· + id0)
    let implT := ids.map (modelTok size bs)
    let specT := ids.map (specTok size bs)
    ((List.zip ids (List.zip implT specT)).filter
      fun (x, (a, b)) => Ops.inTree size bs x && a != b) = [] ∧ implT.length = ids.length := by
  refine ⟨bads_nil size bs hs hbs _ ?_, by simp⟩
  intro x hx
  obtain ⟨j, hj, rfl⟩ := List.mem_map.1 hx
  have := List.mem_range.1 hj
  omega

example :
    ((List.zip ((List.range 6).map (· + 0)) (List.zip
        (((List.range 6).map (· + 0)).map (modelTok 5000 0))
        (((List.range 6).map (· + 0)).map (specTok 5000 0)))).filter
      fun (x, (a, b)) => Ops.inTree 5000 0 x && a != b) = [] :=
  (treeoff_bads_nil 5000 0 0 6 (by decide) (by decide) (by decide)).1

/-- the full statement for `opTreeOff`: on the model's own output the verdict is `none`, for every
argument list that parses to `size bs id0 count` with `count > 0` (for `count = 0` the statement is
FALSE: the output is `""`, `"".splitOn " " = [""]` has one token for zero ids, and the verdict is
`some "malformed"`) -/
theorem treeoff_specFail (args : List String) (impl : String) (size bs id0 count : Nat)
    (h : args.mapM (·.toNat?) = some [size, bs, id0, count])
    (hs : size ≤ 2 ^ 63) (hbs : bs ≤ 10) (hid : id0 + count ≤ 2 ^ 64) (hc : 0 < count) :
    (opTreeOff args (opTreeOff args impl).model).specFail = none := by
  have hne : (List.range count).map (· + id0) ≠ [] := by
    intro e
    have := congrArg List.length e
    simp at this
    omega
  rw [(opTreeOff_eq args impl size bs id0 count h).2, (opTreeOff_eq args _ size bs id0 count h).1]
  unfold treeoffVerdict
  simp only [treeoff_split_model size bs _ hne, treeoff_split_spec size bs _ hne,
    (treeoff_bads_nil size bs id0 count hs hbs hid).1, List.length_map,
    beq_self_eq_true, if_true]

/-- `(opTreeOff [size, bs, id0, count] m).specFail = none` for the model's own output `m` -/
theorem treeoff_no_false_alarm (size bs id0 count : Nat) (impl : String)
    (hs : size ≤ 2 ^ 63) (hbs : bs ≤ 10) (hid : id0 + count ≤ 2 ^ 64) (hc : 0 < count) :
    (opTreeOff [toString size, toString bs, toString id0, toString count]
      (opTreeOff [toString size, toString bs, toString id0, toString count] impl).model).specFail
      = none :=
  treeoff_specFail _ impl size bs id0 count (mapM_toNat?_toString [size, bs, id0, count]) hs hbs
    hid hc

example : (opTreeOff [toString 5000, toString 0, toString 0, toString 6]
    (opTreeOff [toString 5000, toString 0, toString 0, toString 6] "").model).specFail = none :=
  treeoff_no_false_alarm 5000 0 0 6 "" (by decide) (by decide) (by decide) (by decide)

example : (opTreeOff [toString 20000, toString 1, toString 3, toString 30]
    (opTreeOff [toString 20000, toString 1, toString 3, toString 30] "x").model).specFail = none :=
  treeoff_specFail _ "x" 20000 1 3 30 (mapM_toNat?_toString [20000, 1, 3, 30]) (by decide) (by decide) (by decide)
    (by decide)

/-- the hypothesis `0 < count` is needed: for `count = 0` the verdict REJECTS the model's own output
(the output is `""`, which `splitOn " "` splits into the one token `""` for zero ids) -/
theorem treeoff_count_zero_malformed (size bs id0 : Nat) (impl : String) :
    (opTreeOff [toString size, toString bs, toString id0, toString 0]
      (opTreeOff [toString size, toString bs, toString id0, toString 0] impl).model).specFail
      = some "malformed" := by
  have h : [toString size, toString bs, toString id0, toString 0].mapM (·.toNat?)
      = some [size, bs, id0, 0] := mapM_toNat?_toString [size, bs, id0, 0]
  rw [(opTreeOff_eq _ impl size bs id0 0 h).2, (opTreeOff_eq _ _ size bs id0 0 h).1]
  unfold treeoffVerdict
  have e : ("" : String).splitOn " " = [""] := by
    rw [splitOn_space]; rfl
  simp [e]

/-! ## 3. `store` -/

section store
variable {H : Type}

/-- component level statement for `store`, any hash instance (`idxOf kind size bs node` is the
verdict's `idx`: `Spec.postIndex` for the post-order kinds, `Spec.preIndex` otherwise).  For a node
of the tree and a backing of the outboard size:

* index `some i`, persisting kind: the first `load` returns the 64 bytes at `64·i`, `save` succeeds
  and replaces exactly these 64 bytes by the pair, the second `load` returns the saved pair;
* index `some i`, `EmptyOutboard`: `load` returns the zero pair, `save` succeeds, nothing changes;
* index `none`: `load` returns `none`, the io kinds accept the save and change nothing, the memory
  kinds and the `EmptyOutboard` answer `Io(InvalidInput)`.

(`sync` has no model: the driver prints the constant `Ok`.) -/
theorem store_model (hf : HashFns H) (fl : Flavour) (kind : StoreKind) (root : H)
    (size bs node : Nat) (backing : List UInt8) (pair : H × H)
    (hb1 : (hf.toBytes pair.1).length = 32) (hb2 : (hf.toBytes pair.2).length = 32)
    (hr1 : hf.ofBytes (hf.toBytes pair.1) = pair.1) (hr2 : hf.ofBytes (hf.toBytes pair.2) = pair.2)
    (hs : size ≤ 2 ^ 63) (hbs : bs ≤ 10) (hx : node < 2 ^ 64)
    (hin : Ops.inTree size bs node = true)
    (hdl : backing.length = Tree.outboardSize ⟨size, bs⟩) :
    match (if isPostKind kind then Spec.postIndex size bs node else Spec.preIndex size bs node) with
    | some i =>
      if kind = .empty then
        Store.load hf fl (⟨kind, root, ⟨size, bs⟩, backing⟩ : Store H) node
            = .ok (some (hf.ofBytes zeros32, hf.ofBytes zeros32)) ∧
        Store.save hf (⟨kind, root, ⟨size, bs⟩, backing⟩ : Store H) node pair
            = .ok ⟨kind, root, ⟨size, bs⟩, backing⟩
      else
        Store.load hf fl (⟨kind, root, ⟨size, bs⟩, backing⟩ : Store H) node
            = .ok (some (parsePair hf ((backing.drop (i * 64)).take 64))) ∧
        Store.save hf (⟨kind, root, ⟨size, bs⟩, backing⟩ : Store H) node pair
            = .ok ⟨kind, root, ⟨size, bs⟩, backing.take (i * 64)
                ++ (hf.toBytes pair.1 ++ hf.toBytes pair.2) ++ backing.drop (i * 64 + 64)⟩ ∧
        Store.load hf fl (⟨kind, root, ⟨size, bs⟩, backing.take (i * 64)
                ++ (hf.toBytes pair.1 ++ hf.toBytes pair.2) ++ backing.drop (i * 64 + 64)⟩ : Store H)
            node = .ok (some pair)
    | none =>
      Store.load hf fl (⟨kind, root, ⟨size, bs⟩, backing⟩ : Store H) node = .ok none ∧
      Store.save hf (⟨kind, root, ⟨size, bs⟩, backing⟩ : Store H) node pair
        = (if kind = .preIo ∨ kind = .postIo then .ok ⟨kind, root, ⟨size, bs⟩, backing⟩
           else .err ⟨.invalidInput, false⟩) := by
  have hidx : (if isPostKind kind then Spec.postIndex size bs node else Spec.preIndex size bs node)
      = idxOf kind size bs node := rfl
  rw [hidx]
  cases h : idxOf kind size bs node with
  | none => exact store_none hf fl kind root size bs node backing pair hs hbs hx hin h
  | some i =>
    by_cases hk : kind = .empty
    · simp only [if_pos hk]
      subst hk
      exact store_some_empty hf fl root size bs node i backing pair hs hbs hx hin h
    · simp only [if_neg hk]
      exact store_some hf fl kind root size bs node i backing pair hb1 hb2 hr1 hr2 hs hbs hx hin
        hdl hk h

/-- 5000 bytes, block size 0, pre-order memory outboard, node 1 (index 1): toy hash -/
example :
    Store.load C12Store.toyHash .sync (⟨.preMem, 0, ⟨5000, 0⟩, List.replicate 256 9⟩ : Store UInt8) 1
      = .ok (some (parsePair C12Store.toyHash (((List.replicate 256 9).drop (1 * 64)).take 64))) := by
  have := store_model C12Store.toyHash .sync .preMem 0 5000 0 1 (List.replicate 256 9) (5, 6)
    (by decide) (by decide) rfl rfl (by decide) (by decide) (by decide) (by decide) (by decide)
  have e : (if isPostKind .preMem then Spec.postIndex 5000 0 1 else Spec.preIndex 5000 0 1)
      = some 1 := by decide
  rw [e] at this
  exact this.1

end store

/-- `store` with the driver's hash instance, on the level of the output string: the model prints
`a rs c Ok after` (`fmt5`) where `[a, rs, c, "Ok", after] = storeTokens …`, and the verdict
(`storeVerdict`, the verbatim copy of the verdict code of `opStore`, see `opStore_eq`) answers
`none` on these five tokens -/
theorem store_verdict_model (fl : Flavour) (kind : StoreKind) (size bs node : Nat)
    (backing : List UInt8) (pair : HB × HB) (hp1 : pair.1.length = 32) (hp2 : pair.2.length = 32)
    (hs : size ≤ 2 ^ 63) (hbs : bs ≤ 10) (hx : node < 2 ^ 64)
    (hin : Ops.inTree size bs node = true)
    (hdl : backing.length = Tree.outboardSize ⟨size, bs⟩) :
    (∃ a rs c after, storeTokens kind size bs node backing pair = [a, rs, c, "Ok", after] ∧
      storeModelStr fl kind size bs node backing pair = fmt5 a rs c after) ∧
    storeVerdict kind size bs node backing pair (storeTokens kind size bs node backing pair)
      = none := by
  unfold storeTokens
  cases h : idxOf kind size bs node with
  | none =>
    exact ⟨⟨_, _, _, _, rfl, model_none fl kind size bs node backing pair hs hbs hx hin h⟩,
      verdict_none kind size bs node backing pair "Ok" h⟩
  | some i =>
    exact ⟨⟨_, _, _, _, rfl,
      model_some fl kind size bs node i backing pair hp1 hp2 hs hbs hx hin hdl h⟩,
      verdict_some kind size bs node i backing pair h⟩

example : storeVerdict .postIo 5000 0 3 (List.replicate 256 9)
    (List.replicate 32 1, List.replicate 32 2)
    (storeTokens .postIo 5000 0 3 (List.replicate 256 9) (List.replicate 32 1, List.replicate 32 2))
    = none :=
  (store_verdict_model .fsm .postIo 5000 0 3 (List.replicate 256 9)
    (List.replicate 32 1, List.replicate 32 2) (by decide) (by decide) (by decide) (by decide)
    (by decide) (by decide) (by decide)).2

/-- the model's output, split at the spaces, is the list of the five expected tokens -/
theorem store_split (fl : Flavour) (kind : StoreKind) (size bs node : Nat)
    (backing : List UInt8) (pair : HB × HB) (hp1 : pair.1.length = 32) (hp2 : pair.2.length = 32)
    (hs : size ≤ 2 ^ 63) (hbs : bs ≤ 10) (hx : node < 2 ^ 64)
    (hin : Ops.inTree size bs node = true)
    (hdl : backing.length = Tree.outboardSize ⟨size, bs⟩) :
    (storeModelStr fl kind size bs node backing pair).splitOn " "
      = storeTokens kind size bs node backing pair := by
  obtain ⟨⟨a, rs, c, after, htok, hm⟩, -⟩ :=
    store_verdict_model fl kind size bs node backing pair hp1 hp2 hs hbs hx hin hdl
  rw [hm, htok]
  exact split_fmt5 a rs c after (htok ▸ noSp_storeTokens kind size bs node backing pair)

example : (storeModelStr .sync .preMem 5000 0 1 (List.replicate 256 9)
      (List.replicate 32 1, List.replicate 32 2)).splitOn " "
    = storeTokens .preMem 5000 0 1 (List.replicate 256 9)
      (List.replicate 32 1, List.replicate 32 2) :=
  store_split .sync .preMem 5000 0 1 _ _ (by decide) (by decide) (by decide) (by decide)
    (by decide) (by decide) (by decide)

/-- the full statement for `opStore` (six arguments: no `short` backing): on the model's own output
the verdict is `none`.  No hypothesis "node of the tree": for other ids the verdict is `none`
anyway; the random backing and pair have the right lengths by `randBytes_length`. -/
theorem store_specFail (a b c d e f impl : String) (fl : Flavour) (kind : StoreKind)
    (size bs seed node : Nat)
    (h1 : flavour? a = some fl) (h2 : storeKind? b = some kind) (h3 : c.toNat? = some size)
    (h4 : d.toNat? = some bs) (h5 : e.toNat? = some seed) (h6 : f.toNat? = some node)
    (hs : size ≤ 2 ^ 63) (hbs : bs ≤ 10) (hx : node < 2 ^ 64) :
    (opStore [a, b, c, d, e, f] (opStore [a, b, c, d, e, f] impl).model).specFail = none := by
  rw [(opStore_eq a b c d e f impl fl kind size bs seed node h1 h2 h3 h4 h5 h6).1,
    (opStore_eq a b c d e f _ fl kind size bs seed node h1 h2 h3 h4 h5 h6).2]
  by_cases hin : Ops.inTree size bs node = true
  · rw [hin, store_split fl kind size bs node _ _ (randBytes_length _ _) (randBytes_length _ _)
      hs hbs hx hin (randBytes_length _ _)]
    exact (store_verdict_model fl kind size bs node _ _ (randBytes_length _ _)
      (randBytes_length _ _) hs hbs hx hin (randBytes_length _ _)).2
  · simp only [Bool.not_eq_true] at hin
    rw [hin]; rfl

/-- `(opStore [flavour, kind, size, bs, seed, node] m).specFail = none` for the model's own output -/
theorem store_no_false_alarm (a b impl : String) (fl : Flavour) (kind : StoreKind)
    (size bs seed node : Nat) (h1 : flavour? a = some fl) (h2 : storeKind? b = some kind)
    (hs : size ≤ 2 ^ 63) (hbs : bs ≤ 10) (hx : node < 2 ^ 64) :
    (opStore [a, b, toString size, toString bs, toString seed, toString node]
      (opStore [a, b, toString size, toString bs, toString seed, toString node] impl).model).specFail
      = none :=
  store_specFail a b _ _ _ _ impl fl kind size bs seed node h1 h2 (toNat?_toString _)
    (toNat?_toString _) (toNat?_toString _) (toNat?_toString _) hs hbs hx

example : (opStore ["sync", "preIo", toString 5000, toString 0, toString 7, toString 3]
    (opStore ["sync", "preIo", toString 5000, toString 0, toString 7, toString 3] "").model).specFail
    = none :=
  store_no_false_alarm "sync" "preIo" "" .sync .preIo 5000 0 7 3 rfl rfl (by decide) (by decide)
    (by decide)

example : (opStore ["fsm", "postMem", toString 20000, toString 1, toString 9, toString 12]
    (opStore ["fsm", "postMem", toString 20000, toString 1, toString 9, toString 12] "").model).specFail
    = none :=
  store_specFail "fsm" "postMem" _ _ _ _ "" .fsm .postMem 20000 1 9 12 rfl rfl (toNat?_toString _)
    (toNat?_toString _) (toNat?_toString _) (toNat?_toString _) (by decide) (by decide) (by decide)

end Bao.SpecIndex

/-
Status (the `store` / `treeoff` verdicts never reject the model).
Hypotheses: `size ≤ 2^63`, `bs ≤ 10`, id `x < 2^64` (every `u64` id).

PROVED: `preIndex_eq_idxOf`, `postIndex_eq_idxOf`, `preIndex_eq_indexOfNode`, `postIndex_eq_indexOfNode`, `countSub_eq`;
  `treeoff_model`, `relevant_eq_inTree`, `treeoff_bads_nil`, `treeoff_specFail`, `treeoff_no_false_alarm`;
  `store_model` (any hash instance), `store_verdict_model`, `store_split`, `store_specFail`, `store_no_false_alarm`.
PARTIAL: none.   OPEN: none.
Not covered: the seven-argument form of `store` (`short=N`, truncated backing): there the verdict is `none` by
  definition (`short.isSome`).

FINDING (degenerate false alarm, `treeoff_count_zero_malformed`): for `count = 0` the verdict rejects the model's own
  `treeoff` output: the output is `""`, `"".splitOn " " = [""]` has length 1 ≠ 0, `specFail = some "malformed"`.
  Harmless as long as the generator never emits `count = 0`.

Axioms (`#print axioms`): `relevant_eq_inTree`: none; the others: [propext, Classical.choice, Quot.sound].
-/
