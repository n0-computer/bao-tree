import BaoProofs.Lemmas.ReadFaultL
import BaoProofs.Lemmas.SizeProofLoc
import BaoProofs.Props.C01
import BaoProofs.Props.C01Loc

/-!
# `decode_ranges` with ONE failing read of the stream (`decrt`): `decodeRangesR`

`BaoModel/FaultRead.lean` repeats the two decoders and the `decode_ranges` loop with a counter of
the read calls made on the stream; the `f.k`-th call returns `f.err` instead of data.  Here that
code-shaped model is related to the plain model `decodeRanges`.

Vocabulary.
* `readCalls hf fl s q sink : List ReadCall` – the read calls the FAULT-FREE run `decodeRanges hf fl
  s q sink` makes on the stream, in order (model file; independent of any fault).  A call records the
  index `item` of the plan item it is made for, the offset `off` of that item in the stream and the
  plan item `chunk`.  fsm: one call per item.  sync: no call for an empty item, two calls (same
  item, same offset) when the stream ends inside the item.
  "The fault is reached" – the first `k` read calls come back – is `(readCalls …)[f.k]? = some rc`.
* `rc.fail e` – `maybe_parent_not_found(e, node)` / `maybe_leaf_not_found(e, start_chunk)` of the item.
* `decodeRangesUpTo hf fl s q sink m` – the fault-free loop stopped in front of item `m` (the model's
  loop with fuel `m`; its terminal is meaningless, its sink / writes / saves / rest are the state
  reached).
-/

namespace Bao.C01Read

open Bao Bao.Spec Bao.C01

variable {H : Type}

/-- the fault-free `decode_ranges` loop stopped in front of plan item number `m` -/
def decodeRangesUpTo (hf : HashFns H) [BEq H] (fl : Flavour) (s : List UInt8) (q : Ranges)
    (sink : Sink H) (m : Nat) : DecodeRangesRun H :=
  decodeRangesAux hf fl sink.ob.tree m (Dec.new sink.ob.root sink.ob.tree q s) sink [] []

section
variable (hf : HashFns H) [BEq H]

/-! ## 1. no fault -/

/-- **`readR_none`**: without a failing call the model with the read counter IS the plain model -/
theorem readR_none (fl : Flavour) (s : List UInt8) (q : Ranges) (sink : Sink H) :
    decodeRangesR hf fl s q sink none = decodeRanges hf fl s q sink :=
  rAux_none hf fl _ _ _ 0 sink [] []

/-! ## 2. the fault is reached / not reached -/

/-- **`readR_stop`** (the general form of 2): if the fault-free run makes a read call number `f.k`,
for item `rc.item`, the faulty run is the fault-free run stopped in front of that item, and ends
with the mapped injected error.  Holds for every item, also the empty leaf of the empty blob. -/
theorem readR_stop (fl : Flavour) (s : List UInt8) (q : Ranges) (sink : Sink H) (f : ReadFault)
    {rc : ReadCall} (h : (readCalls hf fl s q sink)[f.k]? = some rc) :
    decodeRangesR hf fl s q sink (some f) =
      { decodeRangesUpTo hf fl s q sink rc.item with terminal := .err (rc.fail f.err) } :=
  ((rAux_start hf fl sink.ob.tree f _ (Dec.new sink.ob.root sink.ob.tree q s) sink).1 rc h).2

/-- a failing call made for the FIRST item (in particular: the zero-length leaf of the empty blob in
the fsm flavour, where cutting the stream cannot make the read fail): nothing has happened – the
sink is the initial sink, no write, no save, the whole stream unread -/
theorem readR_first (fl : Flavour) (s : List UInt8) (q : Ranges) (sink : Sink H) (f : ReadFault)
    {rc : ReadCall} (h : (readCalls hf fl s q sink)[f.k]? = some rc) (h0 : rc.item = 0) :
    decodeRangesR hf fl s q sink (some f) = ⟨sink, .err (rc.fail f.err), s, [], []⟩ := by
  rw [readR_stop hf fl s q sink f h, h0]
  rfl

/-- **`readR_cut`**: if the fault is reached, at a call for a non-empty item, the item starts
inside the stream, and sink, writes and saves of the faulty run are those of the fault-free run on
the stream CUT in front of that item; the terminal is the mapped injected error where the cut run
reports the item as not found. -/
theorem readR_cut (fl : Flavour) (s : List UInt8) (q : Ranges) (sink : Sink H) (f : ReadFault)
    {rc : ReadCall} (h : (readCalls hf fl s q sink)[f.k]? = some rc) (hpos : 0 < rc.chunk.size) :
    rc.off ≤ s.length ∧
    (decodeRangesR hf fl s q sink (some f)).sink = (decodeRanges hf fl (s.take rc.off) q sink).sink ∧
    (decodeRangesR hf fl s q sink (some f)).writes = (decodeRanges hf fl (s.take rc.off) q sink).writes ∧
    (decodeRangesR hf fl s q sink (some f)).saves = (decodeRanges hf fl (s.take rc.off) q sink).saves ∧
    (decodeRangesR hf fl s q sink (some f)).terminal = .err (rc.fail f.err) ∧
    (decodeRanges hf fl (s.take rc.off) q sink).terminal = .err (rc.fail ⟨.unexpectedEof, false⟩) := by
  obtain ⟨m, b, hm, hb, hbl, -, rest', hC⟩ :=
    cut_aux hf fl sink.ob.tree _ (Dec.new sink.ob.root sink.ob.tree q s) sink 0 0 f.k rc h hpos [] []
  rw [Nat.zero_add] at hm hb
  subst hm hb
  have hcut : decodeRanges hf fl (s.take rc.off) q sink =
      { decodeRangesUpTo hf fl s q sink rc.item with
        terminal := .err (rc.fail ⟨.unexpectedEof, false⟩), rest := rest' } := hC
  rw [readR_stop hf fl s q sink f h, hcut]
  exact ⟨hbl, rfl, rfl, rfl, rfl, rfl⟩

/-- **`readR_unreached`**: if the fault-free run makes at most `f.k` read calls, the failing call is
never made and the run is the fault-free run (all five observables) -/
theorem readR_unreached (fl : Flavour) (s : List UInt8) (q : Ranges) (sink : Sink H) (f : ReadFault)
    (h : (readCalls hf fl s q sink).length ≤ f.k) :
    decodeRangesR hf fl s q sink (some f) = decodeRanges hf fl s q sink :=
  (rAux_start hf fl sink.ob.tree f _ (Dec.new sink.ob.root sink.ob.tree q s) sink).2 h

/-- **`readR_off`**: where a read call is made – the decoder yields (at least) the `rc.item` items in
front of it, and `rc.off` is the total wire size of exactly these items -/
theorem readR_off (fl : Flavour) (s : List UInt8) (q : Ranges) (sink : Sink H) {rc : ReadCall}
    (h : rc ∈ readCalls hf fl s q sink) :
    rc.item ≤ (decodeAll hf fl sink.ob.root sink.ob.tree q s).items.length ∧
    rc.off = DecSim.itemsSize ((decodeAll hf fl sink.ob.root sink.ob.tree q s).items.take rc.item) := by
  obtain ⟨r, hr⟩ := List.mem_iff_getElem?.1 h
  obtain ⟨m, hm, hml, hoff⟩ :=
    calls_items hf fl sink.ob.tree _ (Dec.new sink.ob.root sink.ob.tree q s) sink 0 0 r rc hr
  rw [Nat.zero_add] at hm hoff
  subst hm
  exact ⟨hml, hoff⟩

/-- the error reported for a failed read: the not-found variant for `UnexpectedEof`, `Io` otherwise -/
theorem fail_kind (rc : ReadCall) (e : IoErr) :
    rc.fail e = (if e.kind == .unexpectedEof then rc.fail ⟨.unexpectedEof, false⟩ else .io e) := by
  obtain ⟨j, off, ch⟩ := rc
  cases ch <;> simp only [ReadCall.fail, DecodeError.maybeParentNotFound,
    DecodeError.maybeLeafNotFound] <;> split <;> rfl

/-- every faulty run is the fault-free run or the fault-free run stopped in front of an item -/
theorem readR_cases (fl : Flavour) (s : List UInt8) (q : Ranges) (sink : Sink H) (f : Option ReadFault) :
    decodeRangesR hf fl s q sink f = decodeRanges hf fl s q sink ∨
    ∃ fk rc, f = some fk ∧ (readCalls hf fl s q sink)[fk.k]? = some rc ∧
      rc.item < PrePartial.fuelFor (Dec.new sink.ob.root sink.ob.tree q s).iter.tree + 1 ∧
      decodeRangesR hf fl s q sink f =
        { decodeRangesUpTo hf fl s q sink rc.item with terminal := .err (rc.fail fk.err) } := by
  cases f with
  | none => exact .inl (readR_none hf fl s q sink)
  | some f =>
    cases h : (readCalls hf fl s q sink)[f.k]? with
    | none =>
      exact .inl (readR_unreached hf fl s q sink f (by simpa using h))
    | some rc =>
      exact .inr ⟨f, rc, rfl, h,
        (rAux_start hf fl sink.ob.tree f _ (Dec.new sink.ob.root sink.ob.tree q s) sink).1 rc h⟩

/-! ## 4. prefix, terminal, no panic -/

/-- **`readR_prefix`**: the target writes and the saves of a faulty run are a prefix of those of the
fault-free run on the same stream -/
theorem readR_prefix (fl : Flavour) (s : List UInt8) (q : Ranges) (sink : Sink H)
    (f : Option ReadFault) :
    (decodeRangesR hf fl s q sink f).writes <+: (decodeRanges hf fl s q sink).writes ∧
    (decodeRangesR hf fl s q sink f).saves <+: (decodeRanges hf fl s q sink).saves := by
  rcases readR_cases hf fl s q sink f with h | ⟨fk, rc, -, -, hlt, h⟩
  · rw [h]; exact ⟨List.prefix_refl _, List.prefix_refl _⟩
  · rw [h]
    exact aux_fuel_prefix hf fl sink.ob.tree rc.item _ _ sink [] [] (by omega)

/-- a faulty run ends as the fault-free run does, or with the mapped injected error of a read call -/
theorem readR_terminal (fl : Flavour) (s : List UInt8) (q : Ranges) (sink : Sink H)
    (f : Option ReadFault) :
    (decodeRangesR hf fl s q sink f).terminal = (decodeRanges hf fl s q sink).terminal ∨
    ∃ fk rc, f = some fk ∧ (readCalls hf fl s q sink)[fk.k]? = some rc ∧
      (decodeRangesR hf fl s q sink f).terminal = .err (rc.fail fk.err) := by
  rcases readR_cases hf fl s q sink f with h | ⟨fk, rc, h1, h2, -, h⟩
  · rw [h]; exact .inl rfl
  · exact .inr ⟨fk, rc, h1, h2, by rw [h]⟩

/-- a failing read never turns into a panic: if the fault-free run does not panic, no faulty run does -/
theorem readR_no_panic_of (fl : Flavour) (s : List UInt8) (q : Ranges) (sink : Sink H)
    (f : Option ReadFault) (h : (decodeRanges hf fl s q sink).terminal ≠ .panic) :
    (decodeRangesR hf fl s q sink f).terminal ≠ .panic := by
  rcases readR_terminal hf fl s q sink f with h' | ⟨fk, rc, -, -, h'⟩
  · rw [h']; exact h
  · rw [h']; exact fun h => by cases h

/-- **`readR_no_panic`**: under the hypothesis of `C09.no_panic` (claimed size `≤ 2^63`; any stream,
block size, query, flavour, read fault), with an outboard that cannot panic in `save` (the io kinds
and `EmptyOutboard`), `decode_ranges` with a failing read does not panic.  (For the two in-memory
kinds a `save` on a too short `Vec` panics – a property of the store, not of the stream;
`readR_no_panic_of` covers them.) -/
theorem readR_no_panic (fl : Flavour) (s : List UInt8) (q : Ranges) (sink : Sink H)
    (f : Option ReadFault) (hs : sink.ob.tree.size ≤ 2 ^ 63)
    (hk : sink.ob.kind ≠ .preMem ∧ sink.ob.kind ≠ .postMem) :
    (decodeRangesR hf fl s q sink f).terminal ≠ .panic := by
  refine readR_no_panic_of hf fl s q sink f (fun hp => ?_)
  have := aux_panic hf fl sink.ob.tree _ (Dec.new sink.ob.root sink.ob.tree q s) sink [] [] hk hp
  exact DecodeSpec.decode_no_panic hf fl sink.ob.root sink.ob.tree.size sink.ob.tree.bs q s hs this

end

/-! ## where the failing call lands, in terms of the response plan -/

section
variable (hf : HashFns H) [BEq H]
open Bao.PlanPre Bao.DecodeSpec

/-- fsm: one read call per plan item, so call number `k` is made for item number `k` -/
theorem readR_fsm_item (s : List UInt8) (q : Ranges) (sink : Sink H) {k : Nat} {rc : ReadCall}
    (h : (readCalls hf .fsm s q sink)[k]? = some rc) : rc.item = k := by
  have := calls_fsm_item hf sink.ob.tree _ (Dec.new sink.ob.root sink.ob.tree q s) sink 0 0 k rc h
  omega

/-- **`readR_plan`** (claimed size `≤ 2^63`): a read call for item number `rc.item` is made for the
`rc.item`-th item `c` of the response plan (`Tree.responseChunks` = `plan ⟨size, 0⟩ bs q'` with the
ranges erased, `C15.response_refines`), and `rc.off` is the total size of the plan items in front
of it – the `offK` of the driver operation `decrt` -/
theorem readR_plan (fl : Flavour) (s : List UInt8) (q : Ranges) (sink : Sink H) (size bs : Nat)
    (ht : sink.ob.tree = ⟨size, bs⟩) (hs : size ≤ 2 ^ 63) {rc : ReadCall}
    (h : rc ∈ readCalls hf fl s q sink) :
    ∃ c, (plan ⟨size, 0⟩ bs (Ranges.truncate q size))[rc.item]? = some c ∧
      rc.chunk = c.withoutRanges ∧
      rc.off = psize ((plan ⟨size, 0⟩ bs (Ranges.truncate q size)).take rc.item) := by
  have g := shifted_geo size 0 hs (by omega)
  obtain ⟨stack, hit, hv, hpend⟩ := new_iter size bs hs (Ranges.truncate q size)
  obtain ⟨r, hr⟩ := List.mem_iff_getElem?.1 h
  unfold readCalls at hr
  simp only [ht] at hr
  obtain ⟨m, c, hm, hc, hch, hoff⟩ := calls_plan hf fl ⟨size, bs⟩ (ml := bs)
    (root := (Tree.shifted ⟨size, 0⟩).1) g _ _ sink 0 0 r rc hr stack [] hit hv
  rw [hpend, Nat.zero_add] at *
  subst hm
  exact ⟨c, hc, hch, hoff⟩

/-- fsm, claimed size `≤ 2^63`: if call number `k` is made then the plan has an item number `k`, the
decoder yields the `k` items in front of it (the condition `reached` of the driver operation
`decrt`), the call is made for that plan item, at the offset `offK` -/
theorem readR_reached_fsm (s : List UInt8) (q : Ranges) (sink : Sink H) (size bs : Nat)
    (ht : sink.ob.tree = ⟨size, bs⟩) (hs : size ≤ 2 ^ 63) {k : Nat} {rc : ReadCall}
    (h : (readCalls hf .fsm s q sink)[k]? = some rc) :
    k < (plan ⟨size, 0⟩ bs (Ranges.truncate q size)).length ∧
    k ≤ (decodeAll hf .fsm sink.ob.root sink.ob.tree q s).items.length ∧
    (∃ c, (plan ⟨size, 0⟩ bs (Ranges.truncate q size))[k]? = some c ∧ rc.chunk = c.withoutRanges) ∧
    rc.off = psize ((plan ⟨size, 0⟩ bs (Ranges.truncate q size)).take k) := by
  have hk := readR_fsm_item hf s q sink h
  have hmem := List.mem_of_getElem? h
  obtain ⟨c, hc, hch, hoff⟩ := readR_plan hf .fsm s q sink size bs ht hs hmem
  obtain ⟨hle, -⟩ := readR_off hf .fsm s q sink hmem
  rw [hk] at hc hoff hle
  exact ⟨(List.getElem?_eq_some_iff.1 hc).1, hle, ⟨c, hc, hch⟩, hoff⟩

end

/-! ## 3. C01 for the faulty run -/

section
variable [BEq H] [LawfulBEq H] {hf : HashFns H} {d : List UInt8}

/-- **`readR_sound_loc`** (conclusion and hypothesis of `C01.decodeRanges_sound_loc`): with an
outboard whose root is the true root hash – ANY stream, claimed geometry, query, flavour and read
fault – the final target is the initial target after positioned writes of true leaves, and the final
outboard is the initial one after successful `save`s of true pairs, under collision freedom
localised to the hash inputs of the honest hashing of `d` and of the decoder run on the stream `s`
(the faulty run evaluates a subset of the latter) -/
theorem readR_sound_loc (hd : d.length ≤ 2 ^ 64 * 1024) (fl : Flavour) (s : List UInt8)
    (ranges : Ranges) (sink : Sink H) (f : Option ReadFault) (hroot : sink.ob.root = Spec.root hf d)
    (cf : CollisionFreeOn hf (fun x => x ∈ trueEvals hf d ∨
      x ∈ runEvals hf fl sink.ob.root sink.ob.tree ranges s)) :
    ∃ (wl : List (Nat × List UInt8)) (pl : List (Nat × H × H)),
      (∀ w ∈ wl, TrueLeaf d w.1 w.2) ∧ (∀ p ∈ pl, TruePair hf d p.2.1 p.2.2) ∧
      (decodeRangesR hf fl s ranges sink f).sink.target = applyWrites sink.target wl ∧
      (decodeRangesR hf fl s ranges sink f).sink.ob = applySaves hf sink.ob pl := by
  rcases readR_cases hf fl s ranges sink f with h | ⟨fk, rc, -, -, hlt, h⟩
  · rw [h]; exact decodeRanges_sound_loc hd fl s ranges sink hroot cf
  · rw [h]
    refine decodeRangesAux_sound_loc hd fl _ rc.item _ sink [] [] (cf.mono ?_)
      (hroot ▸ StackOkL.new hf d _ ranges s)
    intro x hx
    exact hx.imp id (runEvalsAux_fuel hf fl rc.item _ _ (by omega) x)

/-- **`readR_sound`** (C01, conclusion of `C01.decodeRanges_sound`): the same under the global
hypothesis -/
theorem readR_sound (cf : CollisionFree hf) (hd : d.length ≤ 2 ^ 64 * 1024) (fl : Flavour)
    (s : List UInt8) (ranges : Ranges) (sink : Sink H) (f : Option ReadFault)
    (hroot : sink.ob.root = Spec.root hf d) :
    ∃ (wl : List (Nat × List UInt8)) (pl : List (Nat × H × H)),
      (∀ w ∈ wl, TrueLeaf d w.1 w.2) ∧ (∀ p ∈ pl, TruePair hf d p.2.1 p.2.2) ∧
      (decodeRangesR hf fl s ranges sink f).sink.target = applyWrites sink.target wl ∧
      (decodeRangesR hf fl s ranges sink f).sink.ob = applySaves hf sink.ob pl :=
  readR_sound_loc hd fl s ranges sink f hroot (cf.on _)

/-- corollary (conclusion and hypothesis of `C01.decodeRanges_target_loc`): a target of the blob's
length keeps that length, and every position holds its initial byte or the blob's byte -/
theorem readR_target_loc (hd : d.length ≤ 2 ^ 64 * 1024) (fl : Flavour) (s : List UInt8)
    (ranges : Ranges) (sink : Sink H) (f : Option ReadFault) (hroot : sink.ob.root = Spec.root hf d)
    (cf : CollisionFreeOn hf (fun x => x ∈ trueEvals hf d ∨
      x ∈ runEvals hf fl sink.ob.root sink.ob.tree ranges s))
    (hlen : sink.target.length = d.length) :
    (decodeRangesR hf fl s ranges sink f).sink.target.length = d.length ∧
    ∀ i : Nat, (decodeRangesR hf fl s ranges sink f).sink.target[i]? = sink.target[i]? ∨
      (decodeRangesR hf fl s ranges sink f).sink.target[i]? = d[i]? := by
  obtain ⟨wl, _, hw, _, ht, _⟩ := readR_sound_loc hd fl s ranges sink f hroot cf
  rw [ht]
  exact Mixed.applyWrites wl sink.target ⟨hlen, fun _ => .inl rfl⟩ hw

/-- the same under the global hypothesis (conclusion of `C01.decodeRanges_target`) -/
theorem readR_target (cf : CollisionFree hf) (hd : d.length ≤ 2 ^ 64 * 1024) (fl : Flavour)
    (s : List UInt8) (ranges : Ranges) (sink : Sink H) (f : Option ReadFault)
    (hroot : sink.ob.root = Spec.root hf d) (hlen : sink.target.length = d.length) :
    (decodeRangesR hf fl s ranges sink f).sink.target.length = d.length ∧
    ∀ i : Nat, (decodeRangesR hf fl s ranges sink f).sink.target[i]? = sink.target[i]? ∨
      (decodeRangesR hf fl s ranges sink f).sink.target[i]? = d[i]? :=
  readR_target_loc hd fl s ranges sink f hroot (cf.on _) hlen

end

section examples

/-- a toy hash with the 32-byte wire round trip (as in `Props/C09.lean`) -/
private def toy : HashFns UInt8 where
  chunkCv := fun c b r => b.foldl (· + ·) (UInt8.ofNat c + if r then 1 else 0)
  parentCv := fun l r f => l + 2 * r + if f then 1 else 0
  ofBytes := fun b => b.headD 0
  toBytes := fun h => List.replicate 32 h

/-- a blob of two chunks; its honest full stream: root pair, chunk 0, chunk 1 (64 + 1024 + 476 bytes) -/
private def blob : List UInt8 := List.replicate 1500 7
private def strm : List UInt8 := Spec.encode toy blob 0 [0]
private def sink0 : Sink UInt8 :=
  { ob := { kind := .preMem, root := Spec.root toy blob, tree := ⟨1500, 0⟩, data := List.replicate 64 0 },
    target := List.replicate 1500 0 }
/-- the empty blob: a single leaf of size 0 -/
private def sinkE : Sink UInt8 :=
  { ob := { kind := .preMem, root := Spec.root toy [], tree := ⟨0, 0⟩, data := [] }, target := [] }

private def eOther : IoErr := ⟨.other, true⟩
private def eEof : IoErr := ⟨.unexpectedEof, true⟩

/-- one evaluation for all runs on `strm` and on its first 100 bytes (they share the honest
stream): the read calls of both flavours, and the ends, writes and saves used below -/
private theorem toy_runs :
    (readCalls toy .fsm strm [0] sink0 =
      [⟨0, 0, .parent 0 true true true []⟩, ⟨1, 64, .leaf 0 1024 false []⟩,
       ⟨2, 1088, .leaf 1 476 false []⟩] ∧
     readCalls toy .sync strm [0] sink0 =
      [⟨0, 0, .parent 0 true true true []⟩, ⟨1, 64, .leaf 0 1024 false []⟩,
       ⟨2, 1088, .leaf 1 476 false []⟩]) ∧
    (readCalls toy .sync (strm.take 100) [0] sink0 =
      [⟨0, 0, .parent 0 true true true []⟩, ⟨1, 64, .leaf 0 1024 false []⟩,
       ⟨1, 64, .leaf 0 1024 false []⟩] ∧
     readCalls toy .fsm (strm.take 100) [0] sink0 =
      [⟨0, 0, .parent 0 true true true []⟩, ⟨1, 64, .leaf 0 1024 false []⟩]) ∧
    ((decodeRangesR toy .fsm strm [0] sink0 (some ⟨2, eEof⟩)).writes = [(0, 1024)] ∧
     (decodeRangesR toy .fsm strm [0] sink0 (some ⟨2, eEof⟩)).saves = [0] ∧
     (decodeRangesR toy .fsm strm [0] sink0 (some ⟨2, eEof⟩)).terminal = .err (.leafNotFound 1) ∧
     (decodeRanges toy .fsm strm [0] sink0).writes = [(0, 1024), (1024, 476)] ∧
     (decodeRanges toy .fsm strm [0] sink0).terminal = .done) ∧
    (decodeRanges toy .sync strm [0] sink0).terminal ≠ .panic ∧
    (decodeRanges toy .sync (strm.take 100) [0] sink0).terminal = .err (.leafNotFound 0) := by
  decide +kernel

/-- fsm and sync on the whole stream: one read call per item -/
private theorem calls_fsm : readCalls toy .fsm strm [0] sink0 =
    [⟨0, 0, .parent 0 true true true []⟩, ⟨1, 64, .leaf 0 1024 false []⟩,
     ⟨2, 1088, .leaf 1 476 false []⟩] := toy_runs.1.1
private theorem calls_sync : readCalls toy .sync strm [0] sink0 =
    [⟨0, 0, .parent 0 true true true []⟩, ⟨1, 64, .leaf 0 1024 false []⟩,
     ⟨2, 1088, .leaf 1 476 false []⟩] := toy_runs.1.2
/-- sync on a stream that ends inside chunk 0: `read_exact` calls twice for it; fsm calls once -/
private theorem calls_sync_short : readCalls toy .sync (strm.take 100) [0] sink0 =
    [⟨0, 0, .parent 0 true true true []⟩, ⟨1, 64, .leaf 0 1024 false []⟩,
     ⟨1, 64, .leaf 0 1024 false []⟩] := toy_runs.2.1.1
private theorem calls_fsm_short : readCalls toy .fsm (strm.take 100) [0] sink0 =
    [⟨0, 0, .parent 0 true true true []⟩, ⟨1, 64, .leaf 0 1024 false []⟩] := toy_runs.2.1.2
/-- the empty blob: fsm makes one call (of length 0), sync none -/
private theorem calls_fsm_empty : readCalls toy .fsm [] [0] sinkE = [⟨0, 0, .leaf 0 0 true []⟩] := by
  decide +kernel
private theorem calls_sync_empty : readCalls toy .sync [] [0] sinkE = [] := by decide +kernel

/-- `readR_stop`, leaf fault, fsm: call 1 is made for item 1 -/
example : decodeRangesR toy .fsm strm [0] sink0 (some ⟨1, eOther⟩) =
    { decodeRangesUpTo toy .fsm strm [0] sink0 1 with terminal := .err (.io eOther) } :=
  readR_stop toy .fsm strm [0] sink0 ⟨1, eOther⟩ (rc := ⟨1, 64, .leaf 0 1024 false []⟩)
    (by rw [calls_fsm]; rfl)

/-- `readR_stop`, the zero-length leaf of the empty blob (fsm): the call is made and fails -/
example : decodeRangesR toy .fsm [] [0] sinkE (some ⟨0, eEof⟩) =
    { decodeRangesUpTo toy .fsm [] [0] sinkE 0 with terminal := .err (.leafNotFound 0) } :=
  readR_stop toy .fsm [] [0] sinkE ⟨0, eEof⟩ (rc := ⟨0, 0, .leaf 0 0 true []⟩)
    (by rw [calls_fsm_empty]; rfl)

/-- `readR_first`: the zero-length leaf of the empty blob, fsm – the initial sink, nothing done -/
example : decodeRangesR toy .fsm [] [0] sinkE (some ⟨0, eOther⟩) = ⟨sinkE, .err (.io eOther), [], [], []⟩ :=
  readR_first toy .fsm [] [0] sinkE ⟨0, eOther⟩ (rc := ⟨0, 0, .leaf 0 0 true []⟩)
    (by rw [calls_fsm_empty]; rfl) rfl

example : 2 < (PlanPre.plan ⟨1500, 0⟩ 0 (Ranges.truncate [0] 1500)).length :=
  (readR_reached_fsm toy strm [0] sink0 1500 0 rfl (by decide) (k := 2)
    (rc := ⟨2, 1088, .leaf 1 476 false []⟩) (by rw [calls_fsm]; rfl)).1

/-- `readR_cut`, parent fault (fsm, `Other`): nothing written, terminal `Io(Other*)` -/
example : (decodeRangesR toy .fsm strm [0] sink0 (some ⟨0, eOther⟩)).sink
      = (decodeRanges toy .fsm (strm.take 0) [0] sink0).sink ∧
    (decodeRangesR toy .fsm strm [0] sink0 (some ⟨0, eOther⟩)).terminal = .err (.io eOther) ∧
    (decodeRanges toy .fsm (strm.take 0) [0] sink0).terminal = .err (.parentNotFound 0) := by
  obtain ⟨-, h1, -, -, h4, h5⟩ := readR_cut toy .fsm strm [0] sink0 ⟨0, eOther⟩
    (rc := ⟨0, 0, .parent 0 true true true []⟩) (by rw [calls_fsm]; rfl) (by decide)
  exact ⟨h1, h4, h5⟩

/-- `readR_cut`, leaf fault (sync, `UnexpectedEof`): the run on the stream cut at 1088 -/
example : (decodeRangesR toy .sync strm [0] sink0 (some ⟨2, eEof⟩)).writes
      = (decodeRanges toy .sync (strm.take 1088) [0] sink0).writes ∧
    (decodeRangesR toy .sync strm [0] sink0 (some ⟨2, eEof⟩)).terminal = .err (.leafNotFound 1) := by
  obtain ⟨-, -, h2, -, h4, -⟩ := readR_cut toy .sync strm [0] sink0 ⟨2, eEof⟩
    (rc := ⟨2, 1088, .leaf 1 476 false []⟩) (by rw [calls_sync]; rfl) (by decide)
  exact ⟨h2, h4⟩

/-- `readR_cut`, sync, the SECOND call of a `read_exact` on a short stream fails: `Io(Other*)`
instead of `LeafNotFound(0)` -/
example : (decodeRangesR toy .sync (strm.take 100) [0] sink0 (some ⟨2, eOther⟩)).terminal
      = .err (.io eOther) ∧
    (decodeRanges toy .sync (strm.take 100) [0] sink0).terminal = .err (.leafNotFound 0) := by
  obtain ⟨-, -, -, -, h4, -⟩ := readR_cut toy .sync (strm.take 100) [0] sink0 ⟨2, eOther⟩
    (rc := ⟨1, 64, .leaf 0 1024 false []⟩) (by rw [calls_sync_short]; rfl) (by decide)
  exact ⟨h4, toy_runs.2.2.2.2⟩

/-- … whereas the fsm run makes no third call: `readR_unreached` -/
example : decodeRangesR toy .fsm (strm.take 100) [0] sink0 (some ⟨2, eOther⟩)
    = decodeRanges toy .fsm (strm.take 100) [0] sink0 :=
  readR_unreached toy .fsm (strm.take 100) [0] sink0 ⟨2, eOther⟩ (by rw [calls_fsm_short]; decide)

/-- `readR_unreached`: a fourth call is never made -/
example : decodeRangesR toy .sync strm [0] sink0 (some ⟨3, eOther⟩) = decodeRanges toy .sync strm [0] sink0 :=
  readR_unreached toy .sync strm [0] sink0 ⟨3, eOther⟩ (by rw [calls_sync]; decide)

/-- `readR_unreached`: sync makes no read call at all for the empty blob -/
example : decodeRangesR toy .sync [] [0] sinkE (some ⟨0, eEof⟩) = decodeRanges toy .sync [] [0] sinkE :=
  readR_unreached toy .sync [] [0] sinkE ⟨0, eEof⟩ (by rw [calls_sync_empty]; decide)

example : (2 : Nat) ≤ (decodeAll toy .fsm sink0.ob.root sink0.ob.tree [0] strm).items.length ∧
    1088 = DecSim.itemsSize ((decodeAll toy .fsm sink0.ob.root sink0.ob.tree [0] strm).items.take 2) :=
  readR_off toy .fsm strm [0] sink0 (rc := ⟨2, 1088, .leaf 1 476 false []⟩)
    (by rw [calls_fsm]; decide)

example : (⟨2, 1088, .leaf 1 476 false []⟩ : ReadCall).item = 2 :=
  readR_fsm_item toy strm [0] sink0 (k := 2) (by rw [calls_fsm]; rfl)

example : ∃ c, (PlanPre.plan ⟨1500, 0⟩ 0 (Ranges.truncate [0] 1500))[2]? = some c ∧
    Chunk.leaf 1 476 false [] = c.withoutRanges ∧
    1088 = DecodeSpec.psize ((PlanPre.plan ⟨1500, 0⟩ 0 (Ranges.truncate [0] 1500)).take 2) :=
  readR_plan toy .sync strm [0] sink0 1500 0 rfl (by decide) (rc := ⟨2, 1088, .leaf 1 476 false []⟩)
    (by rw [calls_sync]; decide)

/-- the runs are not trivial: the faulty run has written chunk 0 and saved the root pair, the
fault-free run goes on to chunk 1 -/
example : (decodeRangesR toy .fsm strm [0] sink0 (some ⟨2, eEof⟩)).writes = [(0, 1024)] ∧
    (decodeRangesR toy .fsm strm [0] sink0 (some ⟨2, eEof⟩)).saves = [0] ∧
    (decodeRangesR toy .fsm strm [0] sink0 (some ⟨2, eEof⟩)).terminal = .err (.leafNotFound 1) ∧
    (decodeRanges toy .fsm strm [0] sink0).writes = [(0, 1024), (1024, 476)] ∧
    (decodeRanges toy .fsm strm [0] sink0).terminal = .done := toy_runs.2.2.1

example : (decodeRangesR toy .sync strm [0] sink0 (some ⟨1, eOther⟩)).terminal ≠ .panic :=
  readR_no_panic_of toy .sync strm [0] sink0 _ toy_runs.2.2.2.1

/-- `readR_no_panic`: an io-backed outboard, any stream and fault -/
example (s : List UInt8) (f : Option ReadFault) :
    (decodeRangesR toy .fsm s [0] { sink0 with ob := { sink0.ob with kind := .postIo } } f).terminal
      ≠ .panic :=
  readR_no_panic toy .fsm s [0] _ f (by decide) (by decide)

/-! C01 for the faulty run: the symbolic collision free hash, a 3-chunk blob, a tampered stream,
a wrong claimed geometry (as in `Props/C01.lean`) -/

private def blob3 : List UInt8 := List.replicate 2500 7
private def tampered : List UInt8 := List.replicate 64 1 ++ List.replicate 2500 8
private theorem blob3_len : blob3.length ≤ 2 ^ 64 * 1024 := by
  simp only [blob3, List.length_replicate]; omega
private def sinkT : Sink Term :=
  { ob := { kind := .preMem, root := Spec.root termHash blob3, tree := ⟨4000, 1⟩, data := [] },
    target := List.replicate 2500 0 }
private theorem sinkT_root : sinkT.ob.root = Spec.root termHash blob3 := by simp only [sinkT]

example (f : Option ReadFault) : ∃ (wl : List (Nat × List UInt8)) (pl : List (Nat × Term × Term)),
    (∀ w ∈ wl, TrueLeaf blob3 w.1 w.2) ∧ (∀ p ∈ pl, TruePair termHash blob3 p.2.1 p.2.2) ∧
    (decodeRangesR termHash .sync tampered [0] sinkT f).sink.target = applyWrites sinkT.target wl ∧
    (decodeRangesR termHash .sync tampered [0] sinkT f).sink.ob = applySaves termHash sinkT.ob pl :=
  readR_sound termHash_cf blob3_len .sync tampered [0] sinkT f sinkT_root

example : (decodeRangesR termHash .fsm tampered [0] sinkT (some ⟨1, eEof⟩)).sink.target.length
      = blob3.length ∧
    ∀ i : Nat, (decodeRangesR termHash .fsm tampered [0] sinkT (some ⟨1, eEof⟩)).sink.target[i]?
        = sinkT.target[i]? ∨
      (decodeRangesR termHash .fsm tampered [0] sinkT (some ⟨1, eEof⟩)).sink.target[i]? = blob3[i]? :=
  readR_target termHash_cf blob3_len .fsm tampered [0] sinkT _ sinkT_root (by
    simp only [sinkT, blob3, List.length_replicate])

example (f : Option ReadFault) : ∃ (wl : List (Nat × List UInt8)) (pl : List (Nat × Term × Term)),
    (∀ w ∈ wl, TrueLeaf blob3 w.1 w.2) ∧ (∀ p ∈ pl, TruePair termHash blob3 p.2.1 p.2.2) ∧
    (decodeRangesR termHash .fsm tampered [0] sinkT f).sink.target = applyWrites sinkT.target wl ∧
    (decodeRangesR termHash .fsm tampered [0] sinkT f).sink.ob = applySaves termHash sinkT.ob pl :=
  readR_sound_loc blob3_len .fsm tampered [0] sinkT f sinkT_root (collisionFree_on termHash_cf _)

example (f : Option ReadFault) :
    (decodeRangesR termHash .fsm tampered [0] sinkT f).sink.target.length = blob3.length :=
  (readR_target_loc blob3_len .fsm tampered [0] sinkT f sinkT_root (collisionFree_on termHash_cf _) (by
    simp only [sinkT, blob3, List.length_replicate])).1

end examples

/-
## Status (`decode_ranges` with one failing read of the stream)

All theorems depend on `propext`, `Classical.choice`, `Quot.sound` only (`readR_none`, `readR_off`,
`readR_fsm_item`: `propext`, `Quot.sound`; `fail_kind`: none).  Every statement is for every hash
instance, flavour, stream, claimed geometry, query, sink and fault unless a hypothesis says otherwise.

PROVED
  1. `readR_none`.
  2. `readR_stop`, `readR_first`, `readR_cut`, `readR_unreached`, `readR_off`, `readR_plan`, `readR_fsm_item`,
     `readR_reached_fsm`, `readR_cases`, `fail_kind`.
  3. `readR_sound`, `readR_target` (global `CollisionFree`); `readR_sound_loc`, `readR_target_loc` (collision freedom
     on `trueEvals hf d` ∪ `runEvals` of the run on the SAME stream `s`).
  4. `readR_prefix`, `readR_terminal`, `readR_no_panic_of`, `readR_no_panic`.
_partial: none.
OPEN
  -- OPEN: `readR_no_panic` for `.preMem` / `.postMem` with `data.length = outboardSize`, `bs ≤ 10`: needs "every
     node `decode_ranges` saves is a node of the claimed tree" (plan nodes are `InTree`), then `C12Store.no_panic`
     (`readR_no_panic_of` reduces it to the same statement about the plain `decodeRanges`).
  -- OPEN: converse of `readR_reached_fsm` (`k < plan.length ∧ k ≤ items.length` → call `k` is made): needs
     "no `save` fails before item `k`", i.e. the same store facts.

MODELLED
  * Read calls, not plan items, are counted: the async reader makes one call per item; std's `read_exact` (sync)
    makes none for a zero-length item and TWO when the stream ends inside an item (partial bytes, then `Ok(0)`),
    `readCallsOf … = 2`.  If the second of these is the failing call the run ends with the injected error, not with
    the not-found error of the plain run.  "The fault is reached" is therefore phrased with `readCalls`; for such a
    call `readR_cut` cuts at the offset of the item the stream ends in.  The driver operation `Ops.opDecrT` runs this
    model (`decodeRangesR`).
  * `ErrorKind::Interrupted` has no `IoKind`: `Ops.opDecrT` treats it as no fault for the sync flavour (std retries
    it) and as `Other` for the async one (reported like any other kind).
-/

end Bao.C01Read
