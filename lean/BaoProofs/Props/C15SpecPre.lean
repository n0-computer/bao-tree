import BaoProofs.Lemmas.SpecPreL
import BaoProofs.Props.C15

/-!
# The executable specification predicate of the pre-order plans never rejects the model

The correspondence driver judges the implementation's plan with `Bao.Ops.planPreWF`
(`BaoModel/Ops1.lean`), a predicate written independently of the model:

* `opPlan  size bs ml rs` computes the model plan `(⟨size, bs⟩ : Tree).prePartialChunks rs ml` and
  the verdict `planPreWF size bs ml rs p` — both from the RAW query `rs` (no truncation);
* `opRPlan size bs rs` computes `(⟨size, bs⟩ : Tree).responseChunks rs` and the verdict
  `planPreWF size 0 bs rs p` (block size 0, minimum level `bs`), again from the raw query.

`planPreWF_model` / `planPreWF_response`: on the model's own plan the predicate answers `none`
("well formed"), for every `size ≤ 2^63`, `bs ≤ 10`, every `ml` and every well-formed
(strictly increasing) query.  The driver only evaluates the predicate when
`Spec.nChunks size ≤ 4096`; the theorems do NOT need that restriction.

The predicate is a cascade of eight clauses (`planPreWF_eq`, by `rfl`).  There is one lemma
`clause_*` per clause: each says that the Boolean clause evaluates to `true` on the model plan.  They
go through `PlanOK` (`Lemmas/SpecPreL.lean`), the `Prop`-level content of the clauses; its fields are
filled from the C15 theorems (`stack_discipline`, `root_flag`, `leaves_increasing`,
`coverage_complete`, `coverage_sound`, `leaf_groups`) and from three facts C15 does not state,
proved in `Lemmas/SpecPreL.lean` and collected in `planOK_plan`: `leaf_pos` (a leaf is empty only in
the empty blob), `leaf_height` (alignment to `2^h`, `h ≤ max bs ml`, `h < 64`), `parent_meet_aux`
(flags = which halves the selection meets; C15's `flags` speaks about `split(ranges, node)` of the
attached ranges instead, which the response plan erases).
-/

namespace Bao.SpecPre
open Bao Bao.Ops Bao.Spec Bao.PlanPre

variable {size bs ml : Nat} {q : Ranges} {p : List Chunk}

/-- the partial plan of the model, non-empty well-formed query -/
theorem model_planOK (hs : size ≤ 2 ^ 63) (hbs : bs ≤ 10) (hwf : Ranges.WF q = true) (hq : q ≠ [])
    (hp : Tree.prePartialChunks ⟨size, bs⟩ q ml = some p) : PlanOK size bs ml q p where
  stack := (C15.stack_discipline hs hbs hq hp).1
  root := C15.root_flag hs hbs hq hp
  spans := (C15.leaves_increasing hs hbs hp).2.1
  inBlob := (C15.leaves_increasing hs hbs hp).2.2.2
  pos := fun _ _ _ _ hm => by
    rw [C15.eq_plan hs hbs hp] at hm; exact (planOK_plan hs hbs hwf hq).pos _ _ _ _ hm
  spanEnd := fun s z r x hm => by
    obtain ⟨_, e', _, _, h, _⟩ := C15.leaf_groups hs hbs hp hm
    omega
  complete := fun _ hc => C15.coverage_complete hs hbs hwf hp hc
  sound := fun _ _ _ _ hm => C15.coverage_sound hs hbs hwf hp hm
  unit := fun _ _ _ _ hm => by
    rw [C15.eq_plan hs hbs hp] at hm; exact (planOK_plan hs hbs hwf hq).unit _ _ _ _ hm
  parents := fun _ _ _ _ _ hm => by
    rw [C15.eq_plan hs hbs hp] at hm; exact (planOK_plan hs hbs hwf hq).parents _ _ _ _ _ hm

example : (20000 : Nat) ≤ 2 ^ 63 ∧ (1 : Nat) ≤ 10 ∧ Ranges.WF [1, 3] = true ∧
    ([1, 3] : Ranges) ≠ [] ∧ (Tree.prePartialChunks ⟨20000, 1⟩ [1, 3] 0).isSome = true :=
  ⟨by decide, by decide, by decide, by decide, (C15.pre_total (by decide) (by decide)).1⟩

/-- the response plan of the model, judged with block size 0 and minimum level `bs` -/
theorem response_planOK (hs : size ≤ 2 ^ 63) (hwf : Ranges.WF q = true) (hq : q ≠ [])
    (hp : Tree.responseChunks ⟨size, bs⟩ q = some p) : PlanOK size 0 bs q p := by
  rw [C15.eq_plan_response hs hp]
  exact (planOK_plan hs (Nat.zero_le _) hwf hq).withoutRanges

example : (20000 : Nat) ≤ 2 ^ 63 ∧ Ranges.WF [1, 3] = true ∧
    ([1, 3] : Ranges) ≠ [] ∧ (Tree.responseChunks ⟨20000, 1⟩ [1, 3]).isSome = true :=
  ⟨by decide, by decide, by decide, (C15.pre_total (ml := 0) (by decide) (by decide)).2⟩

/-- clause 0: an empty selection comes with an empty plan -/
theorem clause_empty (hs : size ≤ 2 ^ 63) (hbs : bs ≤ 10) (hwf : Ranges.WF q = true)
    (hp : Tree.prePartialChunks ⟨size, bs⟩ q ml = some p) (he : emptySelB size q = true) :
    p = [] := by
  have hq := (emptySelB_true_iff hwf).1 he
  subst hq
  rw [C15.pre_empty hs hbs] at hp
  exact (Option.some.inj hp).symm

example : (0 : Nat) ≤ 2 ^ 63 ∧ (0 : Nat) ≤ 10 ∧ Ranges.WF [] = true ∧
    Tree.prePartialChunks ⟨0, 0⟩ [] 0 = some [] ∧ emptySelB 0 [] = true := by decide

/-- a non-empty selection needs a non-empty query -/
theorem ne_nil_of_emptySelB_false (he : emptySelB size q = false) : q ≠ [] := by
  rintro rfl
  have : emptySelB size [] = true := emptySelB_iff.2 (Ranges.selected_nil size)
  rw [this] at he; cases he

example : emptySelB 3000 [1] = false := by decide

/-- clause 1: hash-stack discipline -/
theorem clause_stack (hs : size ≤ 2 ^ 63) (hbs : bs ≤ 10) (hq : q ≠ [])
    (hp : Tree.prePartialChunks ⟨size, bs⟩ q ml = some p) : stackEnd p = some 0 := by
  rw [stackEnd_eq]; exact (C15.stack_discipline hs hbs hq hp).1

/-- clause 2: root flag exactly on the first item -/
theorem clause_root (hs : size ≤ 2 ^ 63) (hbs : bs ≤ 10) (hq : q ≠ [])
    (hp : Tree.prePartialChunks ⟨size, bs⟩ q ml = some p) :
    rootFlags p = true :: List.replicate (p.length - 1) false :=
  rootFlags_ok (C15.root_flag hs hbs hq hp)

example : (20000 : Nat) ≤ 2 ^ 63 ∧ (1 : Nat) ≤ 10 ∧ ([1, 3] : Ranges) ≠ [] ∧
    (Tree.prePartialChunks ⟨20000, 1⟩ [1, 3] 0).isSome = true :=
  ⟨by decide, by decide, by decide, (C15.pre_total (by decide) (by decide)).1⟩

/-- clause 3: leaves increasing and disjoint, all but the last non-empty -/
theorem clause_incr (hs : size ≤ 2 ^ 63) (hbs : bs ≤ 10) (hwf : Ranges.WF q = true) (hq : q ≠ [])
    (hp : Tree.prePartialChunks ⟨size, bs⟩ q ml = some p) :
    planPreWF.incr (leavesOf p) = true := incr_ok (model_planOK hs hbs hwf hq hp)

/-- clause 3b: leaves inside the blob, empty only in the empty blob -/
theorem clause_inBlob (hs : size ≤ 2 ^ 63) (hbs : bs ≤ 10) (hwf : Ranges.WF q = true)
    (hq : q ≠ []) (hp : Tree.prePartialChunks ⟨size, bs⟩ q ml = some p) :
    inBlobB size (leavesOf p) = true := inBlob_ok (model_planOK hs hbs hwf hq hp)

/-- clause 4a: every selected chunk is covered by a leaf -/
theorem clause_cover (hs : size ≤ 2 ^ 63) (hbs : bs ≤ 10) (hwf : Ranges.WF q = true)
    (hq : q ≠ []) (hp : Tree.prePartialChunks ⟨size, bs⟩ q ml = some p) :
    coverB size q (leavesOf p) = true := cover_ok (model_planOK hs hbs hwf hq hp)

/-- clause 4b: every leaf holds a selected chunk, is an aligned unit of at most `2^max bs ml`
chunks, and is larger than a chunk group only if it is selected completely -/
theorem clause_leafOk (hs : size ≤ 2 ^ 63) (hbs : bs ≤ 10) (hwf : Ranges.WF q = true)
    (hq : q ≠ []) (hp : Tree.prePartialChunks ⟨size, bs⟩ q ml = some p) :
    leafOkB size bs ml q (leavesOf p) = true := leafOk_ok (model_planOK hs hbs hwf hq hp)

/-- clause 5: the flags of a parent say which halves of its chunk range the selection meets, and
its mid lies inside the blob -/
theorem clause_parents (hs : size ≤ 2 ^ 63) (hbs : bs ≤ 10) (hwf : Ranges.WF q = true)
    (hq : q ≠ []) (hp : Tree.prePartialChunks ⟨size, bs⟩ q ml = some p) :
    parentsOkB size q p = true := parentsOk_ok (model_planOK hs hbs hwf hq hp)

example : (20000 : Nat) ≤ 2 ^ 63 ∧ (1 : Nat) ≤ 10 ∧ Ranges.WF [1, 3] = true ∧
    ([1, 3] : Ranges) ≠ [] ∧ (Tree.prePartialChunks ⟨20000, 1⟩ [1, 3] 2).isSome = true :=
  ⟨by decide, by decide, by decide, by decide, (C15.pre_total (by decide) (by decide)).1⟩

theorem clause_empty_response (hs : size ≤ 2 ^ 63) (hwf : Ranges.WF q = true)
    (hp : Tree.responseChunks ⟨size, bs⟩ q = some p) (he : emptySelB size q = true) :
    p = [] := by
  have hq := (emptySelB_true_iff hwf).1 he
  subst hq
  rw [C15.eq_plan_response hs hp, plan_nil]; rfl

example : (0 : Nat) ≤ 2 ^ 63 ∧ Ranges.WF [] = true ∧
    Tree.responseChunks ⟨0, 0⟩ [] = some [] ∧ emptySelB 0 [] = true := by decide

theorem clause_stack_response (hs : size ≤ 2 ^ 63) (hq : q ≠ [])
    (hp : Tree.responseChunks ⟨size, bs⟩ q = some p) : stackEnd p = some 0 := by
  rw [stackEnd_eq]; exact (C15.stack_discipline_response hs hq hp).1

theorem clause_root_response (hs : size ≤ 2 ^ 63) (hq : q ≠ [])
    (hp : Tree.responseChunks ⟨size, bs⟩ q = some p) :
    rootFlags p = true :: List.replicate (p.length - 1) false :=
  rootFlags_ok (C15.root_flag_response hs hq hp)

theorem clause_incr_response (hs : size ≤ 2 ^ 63) (hwf : Ranges.WF q = true) (hq : q ≠ [])
    (hp : Tree.responseChunks ⟨size, bs⟩ q = some p) :
    planPreWF.incr (leavesOf p) = true := incr_ok (response_planOK hs hwf hq hp)

theorem clause_inBlob_response (hs : size ≤ 2 ^ 63) (hwf : Ranges.WF q = true) (hq : q ≠ [])
    (hp : Tree.responseChunks ⟨size, bs⟩ q = some p) :
    inBlobB size (leavesOf p) = true := inBlob_ok (response_planOK hs hwf hq hp)

theorem clause_cover_response (hs : size ≤ 2 ^ 63) (hwf : Ranges.WF q = true) (hq : q ≠ [])
    (hp : Tree.responseChunks ⟨size, bs⟩ q = some p) :
    coverB size q (leavesOf p) = true := cover_ok (response_planOK hs hwf hq hp)

/-- clause 4b for the response plan: a leaf is an aligned unit of at most `2^bs` chunks and is
larger than one chunk only if it is selected completely -/
theorem clause_leafOk_response (hs : size ≤ 2 ^ 63) (hwf : Ranges.WF q = true) (hq : q ≠ [])
    (hp : Tree.responseChunks ⟨size, bs⟩ q = some p) :
    leafOkB size 0 bs q (leavesOf p) = true := leafOk_ok (response_planOK hs hwf hq hp)

theorem clause_parents_response (hs : size ≤ 2 ^ 63) (hwf : Ranges.WF q = true) (hq : q ≠ [])
    (hp : Tree.responseChunks ⟨size, bs⟩ q = some p) :
    parentsOkB size q p = true := parentsOk_ok (response_planOK hs hwf hq hp)

example : (20000 : Nat) ≤ 2 ^ 63 ∧ Ranges.WF [1, 3] = true ∧ ([1, 3] : Ranges) ≠ [] ∧
    (Tree.responseChunks ⟨20000, 2⟩ [1, 3]).isSome = true :=
  ⟨by decide, by decide, by decide, (C15.pre_total (ml := 0) (by decide) (by decide)).2⟩

/-- **`opPlan` never raises a false alarm**: the predicate accepts the model's partial plan
(computed, like the verdict, from the raw query) — for every blob size up to `2^63`, every block
size up to 10, every minimum level and every well-formed query; no bound on the number of
chunks is needed -/
theorem planPreWF_model (hs : size ≤ 2 ^ 63) (hbs : bs ≤ 10) (hwf : Ranges.WF q = true)
    (hp : Tree.prePartialChunks ⟨size, bs⟩ q ml = some p) :
    planPreWF size bs ml q p = none :=
  planPreWF_none_of_ok (clause_empty hs hbs hwf hp)
    (fun he => model_planOK hs hbs hwf (ne_nil_of_emptySelB_false he) hp)

/-- the running example of C15 passes … -/
example : (20000 : Nat) ≤ 2 ^ 63 ∧ (1 : Nat) ≤ 10 ∧ Ranges.WF [1, 3] = true ∧
    Tree.prePartialChunks ⟨20000, 1⟩ [1, 3] 0 = some
      [.parent 15 true true false [1, 3], .parent 7 false true false [1, 3],
       .parent 3 false true false [1, 3], .parent 1 false true true [1, 3],
       .leaf 0 2048 false [1], .leaf 2 2048 false [1, 3]] :=
  ⟨by decide, by decide, by decide,
    by rw [C15.pre_refines (by decide) (by decide), plan_example]⟩

example : planPreWF 20000 1 0 [1, 3]
      [.parent 15 true true false [1, 3], .parent 7 false true false [1, 3],
       .parent 3 false true false [1, 3], .parent 1 false true true [1, 3],
       .leaf 0 2048 false [1], .leaf 2 2048 false [1, 3]] = none := by decide +kernel

/-- … and the predicate is not trivially `none`: it rejects the same plan with the last leaf
dropped (hash stack), with a wrong flag (parent flags), with a shifted leaf (coverage), and a
non-empty plan for an empty query -/
example : (planPreWF 20000 1 0 [1, 3]
      [.parent 15 true true false [1, 3], .parent 7 false true false [1, 3],
       .parent 3 false true false [1, 3], .parent 1 false true true [1, 3],
       .leaf 0 2048 false [1]]).isSome = true := by decide +kernel

example : (planPreWF 20000 1 0 [1, 3]
      [.parent 15 true true false [1, 3], .parent 7 false true false [1, 3],
       .parent 3 false false true [1, 3], .parent 1 false true true [1, 3],
       .leaf 0 2048 false [1], .leaf 2 2048 false [1, 3]]).isSome = true := by decide +kernel

example : (planPreWF 20000 1 0 [1, 3]
      [.parent 15 true true false [1, 3], .parent 7 false true false [1, 3],
       .parent 3 false true false [1, 3], .parent 1 false true true [1, 3],
       .leaf 0 2048 false [1], .leaf 4 2048 false [1, 3]]).isSome = true := by decide +kernel

example : (planPreWF 20000 1 0 [] [.leaf 0 2048 true []]).isSome = true := by decide +kernel

/-- **`opRPlan` never raises a false alarm**: the predicate, called with block size 0 and minimum
level `bs` as in `opRPlan`, accepts the model's response plan -/
theorem planPreWF_response (hs : size ≤ 2 ^ 63) (hwf : Ranges.WF q = true)
    (hp : Tree.responseChunks ⟨size, bs⟩ q = some p) :
    planPreWF size 0 bs q p = none :=
  planPreWF_none_of_ok (clause_empty_response hs hwf hp)
    (fun he => response_planOK hs hwf (ne_nil_of_emptySelB_false he) hp)

example : (20000 : Nat) ≤ 2 ^ 63 ∧ Ranges.WF [1, 3] = true ∧
    Tree.responseChunks ⟨20000, 1⟩ [1, 3] = some
      [.parent 15 true true false [], .parent 7 false true false [],
       .parent 3 false true false [], .parent 1 false true true [],
       .parent 0 false false true [], .leaf 1 1024 false [],
       .parent 2 false true false [], .leaf 2 1024 false []] :=
  ⟨by decide, by decide, by rw [C15.response_refines (by decide), plan_example_response]; rfl⟩

example : planPreWF 20000 0 1 [1, 3]
      [.parent 15 true true false [], .parent 7 false true false [],
       .parent 3 false true false [], .parent 1 false true true [],
       .parent 0 false false true [], .leaf 1 1024 false [],
       .parent 2 false true false [], .leaf 2 1024 false []] = none := by decide +kernel

/-- the response predicate rejects a group leaf that is not selected completely (the partial plan
of block size 1 is not a response plan) -/
example : (planPreWF 20000 0 1 [1, 3]
      [.parent 15 true true false [], .parent 7 false true false [],
       .parent 3 false true false [], .parent 1 false true true [],
       .leaf 0 2048 false [], .leaf 2 2048 false []]).isSome = true := by decide +kernel

/-- the `specFail` expression of `opPlan` on the model's own plan -/
theorem opPlan_verdict (hs : size ≤ 2 ^ 63) (hbs : bs ≤ 10) (hwf : Ranges.WF q = true)
    (hp : Tree.prePartialChunks ⟨size, bs⟩ q ml = some p) :
    (if Spec.nChunks size > 4096 then none else planPreWF size bs ml q p) = none := by
  split
  · rfl
  · exact planPreWF_model hs hbs hwf hp

/-- the `specFail` expression of `opRPlan` on the model's own plan -/
theorem opRPlan_verdict (hs : size ≤ 2 ^ 63) (hwf : Ranges.WF q = true)
    (hp : Tree.responseChunks ⟨size, bs⟩ q = some p) :
    (if Spec.nChunks size > 4096 then none else planPreWF size 0 bs q p) = none := by
  split
  · rfl
  · exact planPreWF_response hs hwf hp

example : (20000 : Nat) ≤ 2 ^ 63 ∧ (1 : Nat) ≤ 10 ∧ Ranges.WF [1, 3] = true ∧
    (Tree.prePartialChunks ⟨20000, 1⟩ [1, 3] 0).isSome = true ∧
    (Tree.responseChunks ⟨20000, 1⟩ [1, 3]).isSome = true :=
  ⟨by decide, by decide, by decide, C15.pre_total (by decide) (by decide)⟩

/-- the hypothesis `Ranges.WF q` cannot be dropped: for the unsorted boundary list `[3, 1]` on a
3000 byte blob the model yields a plan while `Spec.selected` selects nothing, and the predicate
answers "empty selection but non-empty plan" (no Rust `ChunkRanges` value has such a boundary
list) -/
example : Ranges.WF [3, 1] = false ∧
    (Tree.prePartialChunks ⟨3000, 0⟩ [3, 1] 0).isSome = true ∧
    ((Tree.prePartialChunks ⟨3000, 0⟩ [3, 1] 0).bind (planPreWF 3000 0 0 [3, 1])).isSome = true := by
  decide +kernel

/-
## Status (`Props/C15SpecPre.lean`, lemmas in `Lemmas/SpecPreL.lean`)

Axioms: `propext`, `Classical.choice`, `Quot.sound` only.

`opPlan` / `opRPlan` compute BOTH the model plan and the verdict from the raw (untruncated) query;
the theorems are stated for exactly that, for every `size ≤ 2^63`, `bs ≤ 10` (partial plan; no
bound for the response plan), every `ml`, every well-formed `q`, WITHOUT the driver's guard
`Spec.nChunks size ≤ 4096`.

Proved: planPreWF_model, planPreWF_response, opPlan_verdict, opRPlan_verdict, model_planOK,
response_planOK, ne_nil_of_emptySelB_false, and one lemma per clause of the predicate
(`clause_empty`, `_stack`, `_root`, `_incr`, `_inBlob`, `_cover`, `_leafOk`, `_parents`, each also as
`…_response`).
Partial: none.  OPEN: none.

Remarks.
* `Ranges.WF q` is necessary (counterexample above: `q = [3, 1]`, size 3000).
* `omega` runs into "maximum recursion depth" on goals of the shape `x * 1024 < 2 ^ 63`
  (Lean 4.33); `level_small` avoids it with `Nat.lt_of_le_of_lt`.
-/

end Bao.SpecPre
