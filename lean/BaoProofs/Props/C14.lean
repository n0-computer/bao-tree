import BaoProofs.Lemmas.RangeList

/-!
# C14 (first half): canonicalising a query against a blob size

`truncate q size` (`truncate_ranges` / `truncated_len`, `src/rec.rs`) keeps the set of
selected chunks (queried chunks inside the blob, plus the last chunk when the query reaches
it or past it), is idempotent, is a prefix of `q`, and is bounded by the last chunk.
Second part: `split` / `split_inner` (`src/lib.rs`) preserve membership on their side of the
cut and preserve well-formedness.
-/

namespace Bao.C14

open Bao.Ranges

/-- the canonical query is a well-formed range set -/
theorem truncate_wf {q : List Nat} (size : Nat) (h : WF q = true) :
    WF (truncate q size) = true :=
  WF_take h _

example : WF [1, 3, 5, 7] = true ∧ truncate [1, 3, 5, 7] 4000 = [1] := by decide

/-- canonicalising keeps the set of selected chunks -/
theorem truncate_selected {q : List Nat} (size : Nat) (h : WF q = true) :
    ∀ c, Spec.selected size (truncate q size) c = Spec.selected size q c :=
  selected_truncate h size

example : WF [0, 2, 5, 9] = true ∧ truncate [0, 2, 5, 9] 4000 = [0, 2, 5] ∧
    Spec.selected 4000 [0, 2, 5, 9] 3 = true ∧ Spec.selected 4000 [0, 2, 5, 9] 2 = false := by
  decide

/-- canonicalising is idempotent -/
theorem truncate_idempotent {q : List Nat} (size : Nat) (h : WF q = true) :
    truncate (truncate q size) size = truncate q size :=
  truncate_truncate q size

example : WF [0, 2, 3, 9] = true ∧ truncate [0, 2, 3, 9] 4000 = [0, 2, 3] := by decide

/-- the canonical query is a prefix of the boundary list -/
theorem truncate_prefix (q : List Nat) (size : Nat) :
    ∃ k, k ≤ q.length ∧ truncate q size = q.take k :=
  ⟨_, truncatedLen_le_length q size, rfl⟩

/-- every boundary of the canonical query except the last one lies strictly below the last
chunk `nChunks size - 1` … -/
theorem truncate_bounded (q : List Nat) (size : Nat) :
    ∀ b ∈ (truncate q size).dropLast, b < Spec.nChunks size - 1 :=
  truncate_bounded_init q size

/-- … and the last one is at most the last chunk when it is a closing boundary (even
length).  When the length is odd the last (opening) boundary can be anything:
`truncate [5] 4000 = [5]`, `truncate [5, 7] 4000 = [5]` with last chunk 3. -/
theorem truncate_bounded_closed {q : List Nat} (size : Nat) (h : WF q = true)
    (hev : (truncate q size).length % 2 = 0) :
    ∀ b ∈ truncate q size, b ≤ Spec.nChunks size - 1 :=
  truncate_bounded_even q size hev

example : WF [0, 2] = true ∧ (truncate [0, 2] 4000).length % 2 = 0 := by decide
example : truncate [5, 7] 4000 = [5] ∧ Spec.nChunks 4000 - 1 = 3 := by decide

/-- the canonical query is empty exactly when no chunk is selected -/
theorem truncate_empty_iff {q : List Nat} (size : Nat) (h : WF q = true) :
    truncate q size = [] ↔ ∀ c, Spec.selected size q c = false :=
  truncate_eq_nil_iff_selected h size

example : WF ([] : List Nat) = true ∧ truncate [] 4000 = [] := by decide
example : WF [4, 6] = true ∧ truncate [4, 6] 4000 ≠ [] ∧ Spec.selected 4000 [4, 6] 3 = true := by
  decide

/-- both halves of a split are well-formed -/
theorem split_wf {q : List Nat} (at_ : Nat) (h : WF q = true) :
    WF (split q at_).1 = true ∧ WF (split q at_).2 = true :=
  Ranges.split_wf h at_

/-- the left half agrees with `q` below the cut -/
theorem split_left_mem {q : List Nat} {at_ x : Nat} (h : WF q = true) (hx : x < at_) :
    contains (split q at_).1 x = contains q x :=
  split_left_contains h hx

/-- the right half agrees with `q` from the cut on -/
theorem split_right_mem {q : List Nat} {at_ x : Nat} (h : WF q = true) (hx : at_ ≤ x) :
    contains (split q at_).2 x = contains q x :=
  split_right_contains h hx

/-- every boundary of the left half lies below the cut (for any list), so the
`debug_assert!(a.boundaries().last() < Some(&mid))` in `split_inner` never fires -/
theorem split_left_bounded (q : List Nat) (at_ : Nat) : ∀ b ∈ (split q at_).1, b < at_ := by
  rw [split_fst]; exact lt_of_mem_take_countLt q at_

example : WF [1, 3, 5] = true ∧ split [1, 3, 5] 2 = ([1], [1, 3, 5]) ∧ (1 : Nat) < 2 ∧
    (2 : Nat) ≤ 4 := by decide

/-- both halves of `split_inner` are well-formed -/
theorem splitInner_wf {q : List Nat} (start mid : Nat) (h : WF q = true) :
    WF (splitInner q start mid).1 = true ∧ WF (splitInner q start mid).2 = true :=
  ⟨fixAll_wf (Ranges.split_wf h mid).1 start, fixAll_wf (Ranges.split_wf h mid).2 mid⟩

/-- the left half agrees with `q` on `[start, mid)` (no `start ≤ mid` needed) -/
theorem splitInner_left_mem {q : List Nat} {start mid x : Nat} (h : WF q = true)
    (hs : start ≤ x) (hx : x < mid) :
    contains (splitInner q start mid).1 x = contains q x :=
  (fixAll_contains _ hs).trans (split_left_contains h hx)

/-- the right half agrees with `q` on `[mid, ∞)` -/
theorem splitInner_right_mem {q : List Nat} {start mid x : Nat} (h : WF q = true)
    (hx : mid ≤ x) :
    contains (splitInner q start mid).2 x = contains q x :=
  (fixAll_contains _ hx).trans (split_right_contains h hx)

/-- if the left half is reported as "all" then `q` covers `[start, mid)` -/
theorem splitInner_left_all {q : List Nat} {start mid : Nat} (h : WF q = true)
    (hall : (splitInner q start mid).1 = [0]) :
    ∀ x, start ≤ x → x < mid → contains q x = true :=
  fun _ hs hx => (split_left_contains h hx).symm.trans (fixAll_eq_all hall hs)

/-- if the right half is reported as "all" then `q` covers `[mid, ∞)` -/
theorem splitInner_right_all {q : List Nat} {start mid : Nat} (h : WF q = true)
    (hall : (splitInner q start mid).2 = [0]) :
    ∀ x, mid ≤ x → contains q x = true :=
  fun _ hx => (split_right_contains h hx).symm.trans (fixAll_eq_all hall hx)

example : WF [1, 9] = true ∧ splitInner [1, 9] 2 4 = ([0], [1, 9]) ∧ (2 : Nat) ≤ 3 ∧
    (3 : Nat) < 4 := by decide
example : WF [3] = true ∧ splitInner [3] 4 8 = ([0], [0]) := by decide

/-
## Status

Proved (axioms ⊆ {propext, Classical.choice, Quot.sound}): every theorem of this file.
`truncate_bounded` and `split_left_bounded` need no `WF`; the `splitInner_*_mem` theorems do not
need `start ≤ mid`; `splitInner_left_all` / `_right_all` are the easy direction only.
Partial: none.
The converse of `splitInner_left_all` / `_right_all` (it needs "q is minimal for the node"):
`QInv.all_of_selected` in `Lemmas/QueryCanon.lean`.
-/

end Bao.C14
