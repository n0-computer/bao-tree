import BaoProofs.Lemmas.SpecPostL

/-!
# The executable specification predicate of the post-order plan never rejects the model

The correspondence driver judges the output of `BaoTree::post_order_chunks_iter` with
`Bao.Ops.planPostWF size bs plan : Option String` (`none` = well formed), written independently
of the model `(⟨size, bs⟩ : Tree).postOrderChunks`.  Here:

* `planPostWF_model` — "no false alarm": the predicate accepts the model plan
  (`size ≤ 2^63`, `bs ≤ 10`, the bounds of the C15Post theorems);
* one lemma per clause of the predicate (`clause_*`), each derived from a C15Post theorem;
* `planPostWF_none_iff'` / `planPostWF_sound_partial` — what a passing plan guarantees.

Clauses (`BaoProofs/Lemmas/SpecPostL.lean`): `LeavesTile`, `StackOk`, `RootLast`, `ParentsPersisted`,
`BothChildren`, `SpansOk` (the walk with a stack of chunk spans: every parent comes right after its
two subtrees).
-/

namespace Bao.SpecPost

open Bao Bao.NodeIterL Bao.Ops

/-- clause 1 (from `C15Post.leaves_tile` and `C12.blocks_spec`): the leaves of the model plan are
the list the predicate wants -/
theorem clause_leaves (size bs : Nat) (hs : size ≤ 2 ^ 63) (hbs : bs ≤ 10) :
    LeavesTile size bs (Tree.postOrderChunks ⟨size, bs⟩) := by
  unfold LeavesTile
  rw [wantLeaves_eq]
  exact C15Post.leaves_tile size bs hs hbs

example : LeavesTile 5000 1 (Tree.postOrderChunks ⟨5000, 1⟩) :=
  clause_leaves 5000 1 (by decide) (by decide)

/-- clause 2 (from `C15Post.stack_discipline`): the hash stack ends at 1 and never underflows -/
theorem clause_stack (size bs : Nat) (hs : size ≤ 2 ^ 63) (hbs : bs ≤ 10) :
    StackOk (Tree.postOrderChunks ⟨size, bs⟩) :=
  (C15Post.stack_discipline size bs hs hbs).1

example : StackOk (Tree.postOrderChunks ⟨5000, 1⟩) := clause_stack 5000 1 (by decide) (by decide)

/-- clause 3 (from `C15Post.root_flag`): the root flag is set on exactly the last item -/
theorem clause_root (size bs : Nat) (hs : size ≤ 2 ^ 63) (hbs : bs ≤ 10) :
    RootLast (Tree.postOrderChunks ⟨size, bs⟩) := by
  obtain ⟨init, last, h, hl, hi⟩ := C15Post.root_flag size bs hs hbs
  exact rootLast_of_split h hl hi

example : RootLast (Tree.postOrderChunks ⟨5000, 1⟩) := clause_root 5000 1 (by decide) (by decide)

/-- clause 4 (from `C15Post.parent_after_subtree`): the parents are the persisted nodes in
post-order -/
theorem clause_parents (size bs : Nat) (hs : size ≤ 2 ^ 63) (hbs : bs ≤ 10) :
    ParentsPersisted size bs (Tree.postOrderChunks ⟨size, bs⟩) :=
  (C15Post.parent_after_subtree size bs hs hbs).2.1

example : ParentsPersisted 5000 1 (Tree.postOrderChunks ⟨5000, 1⟩) :=
  clause_parents 5000 1 (by decide) (by decide)

/-- clause 5 (from the recursion `plan = left ++ right ++ [parent]` of
`C15Post.parent_after_subtree`): every parent flags both children -/
theorem clause_both (size bs : Nat) (hs : size ≤ 2 ^ 63) (hbs : bs ≤ 10) :
    BothChildren (Tree.postOrderChunks ⟨size, bs⟩) := by
  unfold BothChildren
  rw [(C15Post.parent_after_subtree size bs hs hbs).1]
  exact both_planRec _ _ _ _ _ _

example : BothChildren (Tree.postOrderChunks ⟨5000, 1⟩) := clause_both 5000 1 (by decide) (by decide)

/-- … in constructor form: a parent item of the model plan has `left = right = true` -/
theorem clause_both_parent (size bs : Nat) (hs : size ≤ 2 ^ 63) (hbs : bs ≤ 10)
    {node : Nat} {r l rr : Bool} {rs : Ranges}
    (h : Chunk.parent node r l rr rs ∈ Tree.postOrderChunks ⟨size, bs⟩) : l = true ∧ rr = true := by
  have := clause_both size bs hs hbs _ h
  simpa [bothFlags] using this

example : (true = true ∧ true = true) :=
  clause_both_parent 2048 0 (by decide) (by decide)
    (node := 0) (r := true) (l := true) (rr := true) (rs := []) (by
      rw [show Tree.postOrderChunks ⟨2048, 0⟩
        = [.leaf 0 1024 false [], .leaf 1 1024 false [], .parent 0 true true true []] by
          decide +kernel]
      simp)

/-- clause 6 (from the recursion `plan = left ++ right ++ [parent]` of
`C15Post.parent_after_subtree`: the span walk over the plan of a subtree pushes exactly the chunk
span of that subtree, clipped to the blob, and `Node.mid` of the parent is where the two halves
meet): the span walk over the model plan runs through, and ends with the single span
`[0, nChunks size)` -/
theorem clause_spans (size bs : Nat) (hs : size ≤ 2 ^ 63) (hbs : bs ≤ 10) :
    SpansOk (Tree.postOrderChunks ⟨size, bs⟩) ∧
    spanRun [] (Tree.postOrderChunks ⟨size, bs⟩) = some [(0, Spec.nChunks size)] :=
  ⟨⟨_, span_plan size bs hs hbs⟩, span_plan size bs hs hbs⟩

example : spanRun [] (Tree.postOrderChunks ⟨5000, 1⟩) = some [(0, 5)] :=
  (clause_spans 5000 1 (by decide) (by decide)).2

/-- the predicate never rejects the model plan -/
theorem planPostWF_model (size bs : Nat) (hs : size ≤ 2 ^ 63) (hbs : bs ≤ 10) :
    planPostWF size bs (Tree.postOrderChunks ⟨size, bs⟩) = none :=
  (planPostWF_none_iff size bs _).mpr
    ⟨clause_leaves size bs hs hbs, clause_stack size bs hs hbs, clause_root size bs hs hbs,
      clause_parents size bs hs hbs, clause_both size bs hs hbs, (clause_spans size bs hs hbs).1⟩

example : planPostWF 5000 0 (⟨5000, 0⟩ : Tree).postOrderChunks = none := by decide +kernel

example : planPostWF (2 ^ 63) 10 (⟨2 ^ 63, 10⟩ : Tree).postOrderChunks = none :=
  planPostWF_model _ _ (Nat.le_refl _) (Nat.le_refl _)

/-- the predicate is the conjunction of its six clauses (both directions; for every `size`, `bs`) -/
theorem planPostWF_none_iff' (size bs : Nat) (plan : List Chunk) :
    planPostWF size bs plan = none ↔
      LeavesTile size bs plan ∧ StackOk plan ∧ RootLast plan ∧ ParentsPersisted size bs plan ∧
      BothChildren plan ∧ SpansOk plan :=
  planPostWF_none_iff size bs plan

example : planPostWF 2048 0
    [.leaf 0 1024 false [], .leaf 1 1024 false [], .parent 0 true true true []] = none := by
  decide +kernel

/-- a plan the predicate accepts: its leaves tile `[0, size)` in group-sized pieces (leaf `i` starts
at chunk `i·2^bs` = byte `i·g`, `g = 2^bs·1024`, has at most `g` bytes, ends where leaf `i+1`
starts, the last leaf ends at `size`; there are `nBlocks` leaves); the hash stack never underflows
on a prefix and ends at height 1; the root flag is on exactly the last item; the parents are exactly
`Spec.persistedPost size bs`, in that order; every parent flags both children; the span walk runs
through (on every prefix), and every parent item finds, at its position, the spans of two subtrees
on top of the span stack — adjacent and meeting exactly at `Node.mid node`.
(`_partial`: this unfolds the predicate; that the plan IS the model plan up to the `ranges` fields
is not derived here — see the status block.) -/
theorem planPostWF_sound_partial (size bs : Nat) (plan : List Chunk)
    (h : planPostWF size bs plan = none) :
    ((leavesOf plan).length = Spec.nBlocks size bs ∧
      ∀ i, i < Spec.nBlocks size bs → ∃ z, (leavesOf plan)[i]? = some (i * 2 ^ bs, z) ∧
        z ≤ 2 ^ bs * 1024 ∧
        i * (2 ^ bs * 1024) + z
          = if i + 1 < Spec.nBlocks size bs then (i + 1) * (2 ^ bs * 1024) else size) ∧
    (stackRun 0 plan = some 1 ∧ ∀ a b, plan = a ++ b → ∃ s, stackRun 0 a = some s) ∧
    (∃ init last, plan = init ++ [last] ∧ rootFlag last = true ∧ ∀ c ∈ init, rootFlag c = false) ∧
    parentsOf plan = Spec.persistedPost size bs ∧
    (∀ node r l rr rs, Chunk.parent node r l rr rs ∈ plan → l = true ∧ rr = true) ∧
    ((∃ st, spanRun [] plan = some st) ∧ (∀ a b, plan = a ++ b → ∃ s, spanRun [] a = some s) ∧
      ∀ a node r l rr rs b, plan = a ++ Chunk.parent node r l rr rs :: b →
        ∃ ls re rest, spanRun [] a = some ((Node.mid node, re) :: (ls, Node.mid node) :: rest)) := by
  obtain ⟨h1, h2, h3, h4, h5, st, h6⟩ := (planPostWF_none_iff size bs plan).mp h
  refine ⟨⟨?_, ?_⟩, ⟨h2, fun _ _ hab => stack_prefix h2 hab⟩, split_of_rootLast h3, h4, ?_,
    ⟨st, h6⟩, fun _ _ hab => span_prefix h6 hab, fun _ _ _ _ _ _ _ hab => span_at_parent h6 hab⟩
  · rw [h1, wantLeaves_length]
  · intro i hi
    have hi' : i < (wantLeaves size bs).length := by rw [wantLeaves_length]; exact hi
    refine ⟨min (2 ^ bs * 1024) (size - i * (2 ^ bs * 1024)), ?_, wantLeaves_tile size bs i hi⟩
    rw [h1, List.getElem?_eq_getElem hi', wantLeaves_get]
  · intro node r l rr rs hm
    have := h5 _ hm
    simpa [bothFlags] using this

example : planPostWF 2048 0
    [.leaf 0 1024 false [], .leaf 1 1024 false [], .parent 0 true true true []] = none := by
  decide +kernel

/-- with the model theorems: a passing plan has the leaves and the parents of the model plan, each
in the model's order (`size ≤ 2^63`, `bs ≤ 10`) -/
theorem planPostWF_sound_views (size bs : Nat) (hs : size ≤ 2 ^ 63) (hbs : bs ≤ 10)
    (plan : List Chunk) (h : planPostWF size bs plan = none) :
    leavesOf plan = leavesOf (Tree.postOrderChunks ⟨size, bs⟩) ∧
    parentsOf plan = parentsOf (Tree.postOrderChunks ⟨size, bs⟩) ∧
    plan.length = (Tree.postOrderChunks ⟨size, bs⟩).length := by
  obtain ⟨h1, _, _, h4, _, _⟩ := (planPostWF_none_iff size bs plan).mp h
  have m1 := clause_leaves size bs hs hbs
  have m4 := clause_parents size bs hs hbs
  unfold LeavesTile at h1 m1
  unfold ParentsPersisted at h4 m4
  refine ⟨h1.trans m1.symm, h4.trans m4.symm, ?_⟩
  rw [length_views plan, length_views (Tree.postOrderChunks ⟨size, bs⟩), h1, m1, h4, m4]

example : planPostWF 5000 1 (Tree.postOrderChunks ⟨5000, 1⟩) = none := by decide +kernel

example : planPostWF 2048 0
    [.leaf 0 1024 false [], .leaf 1 1024 false [], .parent 0 false true true []]
      = some "root flag" := by
  decide +kernel

/-- the model plan of `(2048, 0)` with the last two items swapped: hash stack underflow -/
example : planPostWF 2048 0
    [.leaf 0 1024 false [], .parent 0 true true true [], .leaf 1 1024 false []] ≠ none := by
  decide +kernel

/-- root flag missing -/
example : planPostWF 2048 0
    [.leaf 0 1024 false [], .leaf 1 1024 false [], .parent 0 false true true []] ≠ none := by
  decide +kernel

/-- a parent that flags only one child -/
example : planPostWF 2048 0
    [.leaf 0 1024 false [], .leaf 1 1024 false [], .parent 0 true true false []] ≠ none := by
  decide +kernel

/-- the empty plan -/
example : planPostWF 5000 0 [] ≠ none := by decide +kernel

/-- a leaf that is short -/
example : planPostWF 2048 0
    [.leaf 0 1024 false [], .leaf 1 1000 false [], .parent 0 true true true []] ≠ none := by
  decide +kernel

/-! ## the interleaving is checked (clause 6)

Clauses 1–5 look at the leaves, the parents, the stack height and the flags separately.  For
`(4096, 0)` the plan `L0 L1 L2 L3 P0 P2 P1` (model plan: `L0 L1 P0 L2 L3 P2 P1`) meets all of them;
it is rejected by the span walk: `P0` finds the spans of `L3` and `L2` on top, which meet at chunk
3, not at `Node.mid 0 = 1`. -/
example :
    planPostWF 4096 0 [.leaf 0 1024 false [], .leaf 1 1024 false [], .leaf 2 1024 false [],
      .leaf 3 1024 false [], .parent 0 false true true [], .parent 2 false true true [],
      .parent 1 true true true []] = some "a parent does not come right after its two subtrees" := by
  decide +kernel

/-- … and it is clause 6 alone that rejects it -/
example :
    let plan : List Chunk := [.leaf 0 1024 false [], .leaf 1 1024 false [], .leaf 2 1024 false [],
      .leaf 3 1024 false [], .parent 0 false true true [], .parent 2 false true true [],
      .parent 1 true true true []]
    LeavesTile 4096 0 plan ∧ StackOk plan ∧ RootLast plan ∧ ParentsPersisted 4096 0 plan ∧
      spanRun [] plan = none := by
  intro plan
  unfold LeavesTile StackOk RootLast ParentsPersisted
  refine ⟨?_, ?_, ?_, ?_, ?_⟩ <;> decide +kernel

/-- the model plan of the same blob passes -/
example : planPostWF 4096 0 (⟨4096, 0⟩ : Tree).postOrderChunks = none := by decide +kernel

end Bao.SpecPost

/-
Status.
PROVED (no sorry; axioms: propext, Classical.choice, Quot.sound at most):
  * `planPostWF_model`        — for `size ≤ 2^63`, `bs ≤ 10`:
                                `planPostWF size bs (⟨size, bs⟩ : Tree).postOrderChunks = none`.
  * `clause_leaves` … `clause_spans` — the six clauses for the model plan, from `C15Post.*` and the
                                `planRec` recursion (clause 6: the span walk over the plan of a subtree
                                pushes exactly its chunk span clipped to the blob, `span_planD`).
  * `planPostWF_none_iff'`    — predicate = conjunction of the six clauses (iff, all `size`, `bs`).
  * `planPostWF_sound_views`  — a passing plan has the model's leaves, parents and length.
PARTIAL:
  * `planPostWF_sound_partial` — what a passing plan guarantees, clause by clause.
OPEN: none.  That a passing plan IS the model plan up to the `ranges` fields (which every clause
ignores) is `planPostWF_unique` in `Props/C15SpecPostU.lean`.
-/
