import BaoProofs.Lemmas.SpecSerdeL

/-!
# The executable specification verdict of `serde` (C19) never rejects the model

`Ops.opSerde [desc]` prints for a value descriptor the line
`pc=<digest of the postcard bytes> js=<digest of the JSON bytes> rt=<b1><b2>` (`Ops.serdeOut`), where
`b1`, `b2` say whether the MODEL codecs of `BaoModel/Serde.lean` read the value back from its own
serialisation (whole input consumed).  The verdict accepts an implementation line iff it ends in
`rt=11`.  So "the verdict never rejects the model's own output" is: within the bounds of the C19
theorems both model round trips succeed.  This file derives it from `Props/C19.lean`:

1. component level: `rt_u64`, `rt_parent`, `rt_leaf`, `rt_encerr`, `rt_content`, `rt_encitem` – both
   booleans are `true` for a well-formed value; `out_endsWith` – the line of a value ends in `rt=11`
   iff both booleans are `true`; `out_rt11` – it does for a well-formed value;
2. op level: `serde_model` (what the model prints), `serde_specFail` (every descriptor string that
   parses, `parseVal (desc.splitOn ":") = some v`, within the number bounds `v.Bound`),
   `serde_no_false_alarm` (every descriptor `d : Desc` as the generator renders it, `d.str`);
3. outside the bounds the verdict DOES reject the model's own output: `false_alarm_beyond_u64`.

Bounds (`Val.Bound` / `Desc.Bound`): node ids, chunk numbers, offsets, sizes `< 2^64`; the length of a
leaf's data and of an io error text (`kind ++ ":" ++ message`) `< 2^64`.  The 32 bytes of the two hashes
of a parent are NOT a hypothesis (`randBytes_length`); no UTF-8 hypothesis on io error texts is needed
(the JSON string codec of the model round-trips every byte string, `C19.roundtrip_json_string_suffix`).
-/

namespace Bao.SpecSerde
open Bao Bao.Ops Bao.Proto Bao.Serde Bao.SerdeL Bao.SpecIndex Bao.SpecOb

/-- `u64` (node ids, chunk numbers): both model round trips succeed -/
theorem rt_u64 (n : Nat) (h : n < 2 ^ 64) :
    rtOk n (readVarint (varint n)) = true ∧ rtOk n (jsReadNat (jsNat n)) = true := by
  rw [(C19.roundtrip_u64 n h).1, (C19.roundtrip_u64 n h).2]
  exact ⟨rtOk_some n (beq_self_eq_true n), rtOk_some n (beq_self_eq_true n)⟩

example : rtOk 300 (readVarint (varint 300)) = true ∧ rtOk 300 (jsReadNat (jsNat 300)) = true :=
  rt_u64 300 (by decide)

/-- `Parent` -/
theorem rt_parent (p : ParentV) (h : ParentWF p) :
    rtOk p (pcReadParent (pcParent p)) = true ∧ rtOk p (jsReadParent (jsParent p)) = true := by
  rw [C19.roundtrip_postcard_parent p h.1 h.2.1 h.2.2, C19.roundtrip_json_parent p h.1 h.2.1 h.2.2]
  exact ⟨rtOk_some p (beq_parent p), rtOk_some p (beq_parent p)⟩

example : rtOk C19.exParent (pcReadParent (pcParent C19.exParent)) = true ∧
    rtOk C19.exParent (jsReadParent (jsParent C19.exParent)) = true :=
  rt_parent C19.exParent ⟨by decide, by decide, by decide⟩

/-- `Leaf` -/
theorem rt_leaf (l : LeafV) (h : LeafWF l) (hl : LeafLen l) :
    rtOk l (pcReadLeaf (pcLeaf l)) = true ∧ rtOk l (jsReadLeaf (jsLeaf l)) = true := by
  rw [C19.roundtrip_postcard_leaf l h hl, C19.roundtrip_json_leaf l h]
  exact ⟨rtOk_some l (beq_leaf l), rtOk_some l (beq_leaf l)⟩

example : rtOk C19.exLeaf (pcReadLeaf (pcLeaf C19.exLeaf)) = true ∧
    rtOk C19.exLeaf (jsReadLeaf (jsLeaf C19.exLeaf)) = true :=
  rt_leaf C19.exLeaf (show (1024 : Nat) < 2 ^ 64 by decide) (show (3 : Nat) < 2 ^ 64 by decide)

/-- `EncodeError` -/
theorem rt_encerr (e : EncErrV) (h : EncErrWF e) (hl : EncErrLen e) :
    rtOk e (pcReadEncErr (pcEncErr e)) = true ∧ rtOk e (jsReadEncErr (jsEncErr e)) = true := by
  rw [C19.roundtrip_postcard_encerr e h hl, C19.roundtrip_json_encerr e h]
  exact ⟨rtOk_some e (beq_err e), rtOk_some e (beq_err e)⟩

example : rtOk (EncErrV.io [79, 34, 10]) (pcReadEncErr (pcEncErr (.io [79, 34, 10]))) = true ∧
    rtOk (EncErrV.io [79, 34, 10]) (jsReadEncErr (jsEncErr (.io [79, 34, 10]))) = true :=
  rt_encerr (.io [79, 34, 10]) trivial (show (3 : Nat) < 2 ^ 64 by decide)

/-- `BaoContentItem` -/
theorem rt_content (c : ContentV) (h : ContentWF c) (hl : ContentLen c) :
    rtOk c (pcReadContent (pcContent c)) = true ∧ rtOk c (jsReadContent (jsContent c)) = true := by
  rw [C19.roundtrip_postcard_content c h hl, C19.roundtrip_json_content c h]
  exact ⟨rtOk_some c (beq_content c), rtOk_some c (beq_content c)⟩

example : rtOk (ContentV.parent C19.exParent) (pcReadContent (pcContent (.parent C19.exParent))) = true ∧
    rtOk (ContentV.parent C19.exParent) (jsReadContent (jsContent (.parent C19.exParent))) = true :=
  rt_content (.parent C19.exParent) ⟨by decide, by decide, by decide⟩ trivial

/-- `EncodedItem` -/
theorem rt_encitem (i : EncItemV) (h : EncItemWF i) (hl : EncItemLen i) :
    rtOk i (pcReadEncItem (pcEncItem i)) = true ∧ rtOk i (jsReadEncItem (jsEncItem i)) = true := by
  rw [C19.roundtrip_postcard_encitem i h hl, C19.roundtrip_json_encitem i h]
  exact ⟨rtOk_some i (beq_item i), rtOk_some i (beq_item i)⟩

example : rtOk (EncItemV.size 4096) (pcReadEncItem (pcEncItem (.size 4096))) = true ∧
    rtOk (EncItemV.size 4096) (jsReadEncItem (jsEncItem (.size 4096))) = true :=
  rt_encitem (.size 4096) (show (4096 : Nat) < 2 ^ 64 by decide) trivial

/-- the two round-trip booleans of the line of a value -/
def Val.rt : Val → Bool × Bool
  | .u64 n => (rtOk n (readVarint (varint n)), rtOk n (jsReadNat (jsNat n)))
  | .parent p => (rtOk p (pcReadParent (pcParent p)), rtOk p (jsReadParent (jsParent p)))
  | .leaf l => (rtOk l (pcReadLeaf (pcLeaf l)), rtOk l (jsReadLeaf (jsLeaf l)))
  | .content c => (rtOk c (pcReadContent (pcContent c)), rtOk c (jsReadContent (jsContent c)))
  | .err e => (rtOk e (pcReadEncErr (pcEncErr e)), rtOk e (jsReadEncErr (jsEncErr e)))
  | .item i => (rtOk i (pcReadEncItem (pcEncItem i)), rtOk i (jsReadEncItem (jsEncItem i)))

/-- the model's line of a value ends in `rt=11` iff both model round trips succeed (no hypothesis):
this is all the verdict looks at -/
theorem out_endsWith (v : Val) : v.out.endsWith "rt=11" = (v.rt.1 && v.rt.2) := by
  cases v <;> simp only [Val.out, Val.rt, serdeOut_endsWith]

/-- well-formed values: both booleans are `true` -/
theorem rt_of_wf (v : Val) (h : v.WF) : v.rt = (true, true) := by
  cases v with
  | u64 n => simp only [Val.rt, rt_u64 n h]
  | parent p => simp only [Val.rt, rt_parent p h]
  | leaf l => simp only [Val.rt, rt_leaf l h.1 h.2]
  | content c => simp only [Val.rt, rt_content c h.1 h.2]
  | err e => simp only [Val.rt, rt_encerr e h.1 h.2]
  | item i => simp only [Val.rt, rt_encitem i h.1 h.2]

example : (Val.item (.error (.parentWrite 3))).rt = (true, true) :=
  rt_of_wf _ ⟨show (3 : Nat) < 2 ^ 64 by decide, trivial⟩

/-- the model's line of a well-formed value ends in `rt=11` -/
theorem out_rt11 (v : Val) (h : v.WF) : v.out.endsWith "rt=11" = true := by
  rw [out_endsWith, rt_of_wf v h]; rfl

example : (Val.leaf C19.exLeaf).out.endsWith "rt=11" = true :=
  out_rt11 _ ⟨show (1024 : Nat) < 2 ^ 64 by decide, show (3 : Nat) < 2 ^ 64 by decide⟩

/-- what `opSerde` does with a descriptor that parses: the model prints the line of the value, the
verdict asks for a line ending in `rt=11` -/
theorem serde_model (desc impl : String) (v : Val) (hp : parseVal (desc.splitOn ":") = some v) :
    (opSerde [desc] impl).model = v.out ∧
    (opSerde [desc] impl).specFail
      = if impl.endsWith "rt=11" then none
        else some "a value does not survive serialisation (postcard, json)" := by
  rw [opSerde_eq, serdeModel_eq, hp]
  exact ⟨rfl, rfl⟩

/-- a descriptor that does not parse is reported as `bad-op` (not judged) -/
theorem serde_bad (desc impl : String) (hp : parseVal (desc.splitOn ":") = none) :
    opSerde [desc] impl = bad "serde" := by
  rw [opSerde_eq, serdeModel_eq, hp]
  rfl

example : opSerde ["node:5:6"] "x" = bad "serde" := by
  have hs : "node:5:6".splitOn ":" = ["node", "5", "6"] := by
    rw [show "node:5:6" = ":".intercalate ["node", "5", "6"] by decide]
    exact splitOn_intercalate_sep (c0 := ':') rfl _ (by simp) (by decide)
  exact serde_bad _ _ (by rw [hs]; rfl)

/-- every descriptor that parses, the value within the number bounds: the verdict accepts the model's
own output -/
theorem serde_specFail (desc impl : String) (v : Val) (hp : parseVal (desc.splitOn ":") = some v)
    (hb : v.Bound) : (opSerde [desc] (opSerde [desc] impl).model).specFail = none := by
  rw [(serde_model desc impl v hp).1, (serde_model desc _ v hp).2,
    out_rt11 v (parseVal_wf _ v hp hb)]
  rfl

/-- a descriptor that is not a rendering of a `Desc`: `mkParentV` ignores further tokens -/
theorem parse_junk : parseVal ("parent:7:6:junk".splitOn ":") = some (.parent (mkP 7 6)) := by
  have hs : "parent:7:6:junk".splitOn ":" = ["parent", toString 7, toString 6, "junk"] := by
    rw [show "parent:7:6:junk" = ":".intercalate ["parent", toString 7, toString 6, "junk"] by decide]
    exact splitOn_intercalate_sep (c0 := ':') rfl _ (by simp) (by decide)
  rw [hs]
  simp only [parseVal, mkParentV, toNat?_toString, Option.bind_eq_bind, Option.bind_some,
    Option.pure_def, mkP, Option.map_some]

example : (opSerde ["parent:7:6:junk"] (opSerde ["parent:7:6:junk"] "").model).specFail = none :=
  serde_specFail _ "" _ parse_junk (show (7 : Nat) < 2 ^ 64 by decide)

/-- the same with the number bounds stated on the parsed value as a function of the descriptor: for
every descriptor, if it parses and the value is within the bounds -/
theorem serde_specFail_of_isSome (desc impl : String)
    (hb : ∀ v, parseVal (desc.splitOn ":") = some v → v.Bound)
    (hp : (parseVal (desc.splitOn ":")).isSome = true) :
    (opSerde [desc] (opSerde [desc] impl).model).specFail = none := by
  obtain ⟨v, hv⟩ := Option.isSome_iff_exists.1 hp
  exact serde_specFail desc impl v hv (hb v hv)

example : (opSerde ["parent:7:6:junk"] (opSerde ["parent:7:6:junk"] "").model).specFail = none :=
  serde_specFail_of_isSome _ ""
    (fun v hv => by rw [parse_junk] at hv; cases hv; exact (show (7 : Nat) < 2 ^ 64 by decide))
    (by rw [parse_junk]; rfl)

/-- the descriptors as the case generator renders them (`Desc.str`: tokens joined with `:`, numbers in
decimal, io messages in hex; all twelve forms of `opSerde` and all eight of `mkErrV`): the verdict
accepts the model's own output.  `hc`: the free-text tokens (io error kind, errno) contain no `:`;
`hb`: the number bounds -/
theorem serde_no_false_alarm (d : Desc) (impl : String) (hc : d.NoColon) (hb : d.Bound) :
    (opSerde [d.str] (opSerde [d.str] impl).model).specFail = none :=
  serde_specFail d.str impl d.val (by rw [split_str d hc]; exact parseVal_toks d) (descBound d hb)

/-- the same for a string `s` that is the rendering of `d` (for literals: `by decide`) -/
theorem serde_no_false_alarm_str (s : String) (d : Desc) (hs : d.str = s) (impl : String)
    (hc : d.NoColon) (hb : d.Bound) : (opSerde [s] (opSerde [s] impl).model).specFail = none :=
  hs ▸ serde_no_false_alarm d impl hc hb

/-- the rendered descriptor strings are the ones of the generator -/
example : (Desc.node 5).str = "node:5" ∧ (Desc.contentLeaf 1024 3 7).str = "content:leaf:1024:3:7" ∧
    (Desc.itemError (.ioo "5" "Uncategorized" [1, 2, 255])).str
      = "item:error:ioo:5:Uncategorized:0102ff" ∧
    (Desc.err (.io "Other" [])).str = "err:io:Other:-" ∧ Desc.itemDone.str = "item:done" := by
  decide +kernel

example : (opSerde ["node:18446744073709551615"]
    (opSerde ["node:18446744073709551615"] "").model).specFail = none :=
  serde_no_false_alarm_str _ (.node (2 ^ 64 - 1)) (by decide +kernel) "" trivial (by decide +kernel)

example : (opSerde ["chunk:0"] (opSerde ["chunk:0"] "x").model).specFail = none :=
  serde_no_false_alarm_str _ (.chunk 0) (by decide +kernel) "x" trivial (by decide +kernel)

example : (opSerde ["parent:7:3"] (opSerde ["parent:7:3"] "").model).specFail = none :=
  serde_no_false_alarm_str _ (.parent 7 3) (by decide +kernel) "" trivial (by decide +kernel)

example : (opSerde ["leaf:1024:300:9"] (opSerde ["leaf:1024:300:9"] "").model).specFail = none :=
  serde_no_false_alarm_str _ (.leaf 1024 300 9) (by decide +kernel) "" trivial (by decide +kernel)

example : (opSerde ["content:parent:7:3"] (opSerde ["content:parent:7:3"] "").model).specFail = none :=
  serde_no_false_alarm_str _ (.contentParent 7 3) (by decide +kernel) "" trivial (by decide +kernel)

example : (opSerde ["content:leaf:1024:3:7"] (opSerde ["content:leaf:1024:3:7"] "").model).specFail
    = none :=
  serde_no_false_alarm_str _ (.contentLeaf 1024 3 7) (by decide +kernel) "" trivial (by decide +kernel)

example : (opSerde ["err:lw:12"] (opSerde ["err:lw:12"] "").model).specFail = none :=
  serde_no_false_alarm_str _ (.err (.lw 12)) (by decide +kernel) "" trivial (by decide +kernel)

example : (opSerde ["err:sm"] (opSerde ["err:sm"] "").model).specFail = none :=
  serde_no_false_alarm_str _ (.err .sm) (by decide +kernel) "" trivial trivial

/-- `io` with the message `"a\n` (quote, control character) -/
example : (opSerde ["err:io:NotFound:61220a"] (opSerde ["err:io:NotFound:61220a"] "").model).specFail
    = none :=
  serde_no_false_alarm_str _ (.err (.io "NotFound" [0x61, 0x22, 0x0a])) (by decide +kernel) "" (by decide +kernel) (by decide +kernel)

example : (opSerde ["err:ios:Other:-"] (opSerde ["err:ios:Other:-"] "").model).specFail = none :=
  serde_no_false_alarm_str _ (.err (.ios "Other" [])) (by decide +kernel) "" (by decide +kernel) (by decide +kernel)

example : (opSerde ["item:error:ioo:5:Uncategorized:0102ff"]
    (opSerde ["item:error:ioo:5:Uncategorized:0102ff"] "").model).specFail = none :=
  serde_no_false_alarm_str _ (.itemError (.ioo "5" "Uncategorized" [1, 2, 255])) (by decide +kernel) "" (by decide +kernel) (by decide +kernel)

example : (opSerde ["item:size:4096"] (opSerde ["item:size:4096"] "").model).specFail = none :=
  serde_no_false_alarm_str _ (.itemSize 4096) (by decide +kernel) "" trivial (by decide +kernel)

example : (opSerde ["item:parent:7:3"] (opSerde ["item:parent:7:3"] "").model).specFail = none :=
  serde_no_false_alarm_str _ (.itemParent 7 3) (by decide +kernel) "" trivial (by decide +kernel)

example : (opSerde ["item:leaf:0:0:1"] (opSerde ["item:leaf:0:0:1"] "").model).specFail = none :=
  serde_no_false_alarm_str _ (.itemLeaf 0 0 1) (by decide +kernel) "" trivial (by decide +kernel)

example : (opSerde ["item:error:phm:3"] (opSerde ["item:error:phm:3"] "").model).specFail = none :=
  serde_no_false_alarm_str _ (.itemError (.phm 3)) (by decide +kernel) "" trivial (by decide +kernel)

example : (opSerde ["item:done"] (opSerde ["item:done"] "").model).specFail = none :=
  serde_no_false_alarm_str _ .itemDone (by decide +kernel) "" trivial trivial

/-- the verdict rejects a wrong output: a line whose JSON round trip failed -/
example : (opSerde ["item:done"] "pc=1:12638187200555641996 js=6:1 rt=10").specFail
    = some "a value does not survive serialisation (postcard, json)" := by
  rw [(serde_model "item:done" _ Desc.itemDone.val
    (by rw [show "item:done" = Desc.itemDone.str by decide +kernel, split_str Desc.itemDone trivial]; rfl)).2]
  rw [if_neg (by rw [endsWith_lit]; decide)]

/-- … and an empty output -/
example : (opSerde ["item:done"] "").specFail
    = some "a value does not survive serialisation (postcard, json)" := by
  rw [(serde_model "item:done" _ Desc.itemDone.val
    (by rw [show "item:done" = Desc.itemDone.str by decide +kernel, split_str Desc.itemDone trivial]; rfl)).2]
  rw [if_neg (by rw [endsWith_lit]; decide)]

/-- the bound is needed: `10^20` is not a `u64`; the model's JSON number writer stops after 20 digits,
the JSON round trip of the MODEL fails, the model prints `rt=10`, and the verdict rejects the model's
own output.  (The model's postcard varint has 10 groups, enough for `< 2^70`, and its JSON number
writer 20 digits, enough for `< 10^20`: for `2^64 ≤ n < 10^20` the model still prints `rt=11`.)
The generator only emits `u64` numbers, lengths `≤ 70000` and short messages. -/
theorem false_alarm_beyond_u64 (impl : String) :
    (Val.u64 (10 ^ 20)).rt = (true, false) ∧
    (opSerde [(Desc.node (10 ^ 20)).str] (opSerde [(Desc.node (10 ^ 20)).str] impl).model).specFail
      = some "a value does not survive serialisation (postcard, json)" := by
  have hrt : (Val.u64 (10 ^ 20)).rt = (true, false) := by decide
  have hp : parseVal ((Desc.node (10 ^ 20)).str.splitOn ":") = some (Val.u64 (10 ^ 20)) := by
    rw [split_str (Desc.node (10 ^ 20)) trivial]; exact parseVal_toks _
  refine ⟨hrt, ?_⟩
  rw [(serde_model _ impl _ hp).1, (serde_model _ _ _ hp).2, out_endsWith, hrt]
  rfl

example : (Desc.node (10 ^ 20)).str = "node:100000000000000000000" := by decide +kernel

end Bao.SpecSerde

/-
Status (no-false-alarm theorem for `serde`, property C19).

PROVED (axioms of every theorem: [propext, Classical.choice, Quot.sound]; what each claims is said at the
theorem):
  component level: `rt_u64`, `rt_parent`, `rt_leaf`, `rt_encerr`, `rt_content`, `rt_encitem`, `out_endsWith`,
    `rt_of_wf`, `out_rt11`;
  op level: `serde_model`, `serde_bad`, `serde_specFail`, `serde_specFail_of_isSome`, `serde_no_false_alarm`,
    `serde_no_false_alarm_str` (all twelve `match` arms of `opSerde`, all forms of `mkParentV` / `mkLeafV` / `mkErrV`);
  outside the bounds: `false_alarm_beyond_u64`.

Bounds needed: numbers (node id, chunk number, offset, size) `< 2^64`; `len` of a leaf `< 2^64`; length of an io
error text `kind.length + 1 + message.length < 2^64`.  NOT needed: 32-byte hash halves (proved), UTF-8 validity
of io error texts (the model's JSON string codec round-trips arbitrary bytes), any bound on seeds.

PARTIAL: none.   OPEN: none.

FINDING (false alarm of the machinery only for arguments no generator emits): the model codecs have fixed fuel
(varint 10 groups: `< 2^70`; JSON number 20 digits: `< 10^20`), so for a number `≥ 10^20` the MODEL's own round trip
fails, the model line ends in `rt=10` / `rt=00`, and the verdict (which only looks at the line it is given) would
reject the model's output.  For `2^64 ≤ n < 10^20` the model still prints `rt=11`, i.e. the theorem holds with the
weaker bound, but such a number is not a `u64` and the implementation cannot parse it.  `harness/src/gen3.rs`
("C19") emits `u64` numbers only (`Vec<u64>`, `r.next() >> k`), lengths `≤ 70000`, seeds `< 1000`, messages of
`≤ 300` bytes, kinds `{:?}` of `io::ErrorKind` (no `:`), errno in decimal: always within the bounds.
Note: the verdict judges the implementation line only by its suffix `rt=11`; the digests `pc=… js=…` are compared
by the driver's model-vs-implementation string comparison, not by the verdict.
-/
