import BaoProofs.Lemmas.RangeSet

/-!
# C17: range rounding helpers are the tightest covers and never overflow

`round_up_to_chunks`, `round_up_to_chunks_groups`, `full_chunk_groups`
(`src/io/mod.rs`) on range sets modelled as strictly increasing boundary lists
(`BaoModel/Ranges.lean`).  The universe of byte offsets / chunk numbers is `[0, 2^64)`;
an open last range `[a, ∞)` denotes `[a, 2^64)`.  Chunk numbers of bytes are `< 2^54`.

Hypotheses are the weakest that the proofs need: the two chunk-group roundings are stated
for every `bs` (`round_up_to_chunks_groups`) resp. `bs ≤ 64` (`full_chunk_groups`, where a
chunk group must not straddle `2^64`); both cover the property's `bs ≤ 10`.
-/

namespace Bao.C17

open Bao.Ranges

/-- semantic membership of `x` in the range set with boundary list `R` -/
def Mem (R : List Nat) (x : Nat) : Prop := Ranges.contains R x = true

instance (R : List Nat) (x : Nat) : Decidable (Mem R x) :=
  inferInstanceAs (Decidable (Ranges.contains R x = true))

/-- every boundary is a `u64` -/
def Bounded (R : List Nat) : Prop := ∀ b ∈ R, b < 2 ^ 64

instance (R : List Nat) : Decidable (Bounded R) :=
  inferInstanceAs (Decidable (∀ b ∈ R, b < 2 ^ 64))

/-- `S` is a union of whole chunk groups of `2^bs` chunks (inside the u64 universe) -/
def Aligned (bs : Nat) (S : Nat → Prop) : Prop :=
  ∀ c c', c < 2 ^ 64 → c' < 2 ^ 64 → c / 2 ^ bs = c' / 2 ^ bs → S c → S c'

theorem mem_nil (x : Nat) : ¬ Mem [] x := by
  simp [Mem, contains_nil]

theorem mem_single (a x : Nat) : Mem [a] x ↔ a ≤ x := by
  simp [Mem, contains_singleton]

theorem mem_cons_cons {a b : Nat} {rest : List Nat} (h : WF (a :: b :: rest) = true) (x : Nat) :
    Mem (a :: b :: rest) x ↔ (a ≤ x ∧ x < b) ∨ Mem rest x := by
  simp [Mem, contains_cons_cons h]

example : Mem [3, 18, 40] 17 ↔ (3 ≤ 17 ∧ 17 < 18) ∨ Mem [40] 17 :=
  mem_cons_cons (a := 3) (b := 18) (rest := [40]) (by decide) 17

theorem union_wf {A B : List Nat} (hA : WF A = true) (hB : WF B = true) :
    WF (union A B) = true :=
  Ranges.union_wf hA hB

theorem union_mem {A B : List Nat} (hA : WF A = true) (hB : WF B = true) (x : Nat) :
    Mem (union A B) x ↔ Mem A x ∨ Mem B x :=
  Ranges.union_mem hA hB x

example : WF (union [0, 4, 10] [2, 12]) = true :=
  union_wf (A := [0, 4, 10]) (B := [2, 12]) (by decide) (by decide)

example : Mem (union [0, 4, 10] [2, 12]) 11 ↔ Mem [0, 4, 10] 11 ∨ Mem [2, 12] 11 :=
  union_mem (A := [0, 4, 10]) (B := [2, 12]) (by decide) (by decide) 11

/-! ## `round_up_to_chunks` -/

/-- the result is a well-formed set with boundaries `≤ 2^54` (no overflow) -/
theorem chunks_wf {R : List Nat} (h : WF R = true) (hN : Bounded R) :
    WF (roundUpToChunks R) = true ∧ ∀ b ∈ roundUpToChunks R, b ≤ 2 ^ 54 :=
  (roundUpToChunks_sem h hN).1

/-- chunk `c` is selected iff one of its bytes is (all `c`, bytes as naturals) -/
theorem chunks {R : List Nat} (h : WF R = true) (hN : Bounded R) (c : Nat) :
    Mem (roundUpToChunks R) c ↔ ∃ x, 1024 * c ≤ x ∧ x < 1024 * c + 1024 ∧ Mem R x :=
  (roundUpToChunks_sem h hN).2 c

/-- the same inside the u64 universe: chunks `< 2^54`, bytes `< 2^64` -/
theorem chunks_u64 {R : List Nat} (h : WF R = true) (hN : Bounded R) (c : Nat) (hc : c < 2 ^ 54) :
    Mem (roundUpToChunks R) c ↔
      ∃ x, x < 2 ^ 64 ∧ 1024 * c ≤ x ∧ x < 1024 * c + 1024 ∧ Mem R x := by
  rw [chunks h hN]
  exact exists_congr fun x => (and_iff_right_of_imp fun hb => by omega).symm

/-- cover: the chunk of every selected byte is selected -/
theorem chunks_superset {R : List Nat} (h : WF R = true) (hN : Bounded R) (x : Nat)
    (hx : Mem R x) : Mem (roundUpToChunks R) (x / 1024) :=
  (chunks h hN _).2 ⟨x, by omega, by omega, hx⟩

/-- tightest: every chunk set covering the bytes of `R` contains the result -/
theorem chunks_minimal {R : List Nat} (h : WF R = true) (hN : Bounded R) (S : Nat → Prop)
    (hS : ∀ x, x < 2 ^ 64 → Mem R x → S (x / 1024)) (c : Nat) (hc : c < 2 ^ 54)
    (hm : Mem (roundUpToChunks R) c) : S c := by
  obtain ⟨x, hx, h1, h2, h3⟩ := (chunks_u64 h hN c hc).1 hm
  have : x / 1024 = c := by omega
  exact this ▸ hS x hx h3

theorem chunks_mono {R R' : List Nat} (h : WF R = true) (hN : Bounded R) (h' : WF R' = true)
    (hN' : Bounded R') (hsub : ∀ x, x < 2 ^ 64 → Mem R x → Mem R' x) (c : Nat) (hc : c < 2 ^ 54)
    (hm : Mem (roundUpToChunks R) c) : Mem (roundUpToChunks R') c :=
  chunks_minimal h hN (Mem (roundUpToChunks R'))
    (fun x hx hx' => chunks_superset h' hN' x (hsub x hx hx')) c hc hm

/-- idempotent: rounding the bytes of the selected chunks selects the same chunks -/
theorem chunks_idem {R R' : List Nat} (h' : WF R' = true) (hN' : Bounded R')
    (hR' : ∀ x, x < 2 ^ 64 → (Mem R' x ↔ Mem (roundUpToChunks R) (x / 1024)))
    (c : Nat) (hc : c < 2 ^ 54) :
    Mem (roundUpToChunks R') c ↔ Mem (roundUpToChunks R) c := by
  constructor
  · intro hm
    exact chunks_minimal h' hN' (Mem (roundUpToChunks R)) (fun x hx hx' => (hR' x hx).1 hx') c hc hm
  · intro hm
    have : (1024 * c) / 1024 = c := by omega
    exact this ▸ chunks_superset h' hN' (1024 * c) ((hR' _ (by omega)).2 (this.symm ▸ hm))

example : roundUpToChunks [3, 1024, 1025, 5000, 2 ^ 64 - 1] = [0, 5, 2 ^ 54 - 1] := by decide

example : WF (roundUpToChunks [3, 18, 40]) = true ∧ ∀ b ∈ roundUpToChunks [3, 18, 40], b ≤ 2 ^ 54 :=
  chunks_wf (R := [3, 18, 40]) (by decide) (by decide)

example : Mem (roundUpToChunks [3, 18, 2000]) 1 ↔
    ∃ x, 1024 * 1 ≤ x ∧ x < 1024 * 1 + 1024 ∧ Mem [3, 18, 2000] x :=
  chunks (R := [3, 18, 2000]) (by decide) (by decide) 1

example : Mem (roundUpToChunks [2 ^ 64 - 2, 2 ^ 64 - 1]) (2 ^ 54 - 1) ↔
    ∃ x, x < 2 ^ 64 ∧ 1024 * (2 ^ 54 - 1) ≤ x ∧ x < 1024 * (2 ^ 54 - 1) + 1024 ∧
      Mem [2 ^ 64 - 2, 2 ^ 64 - 1] x :=
  chunks_u64 (R := [2 ^ 64 - 2, 2 ^ 64 - 1]) (by decide) (by decide) _ (by decide)

example : Mem (roundUpToChunks [3, 18, 4000]) (5000 / 1024) :=
  chunks_superset (R := [3, 18, 4000]) (by decide) (by decide) 5000 (by decide)

example : Mem (roundUpToChunks [0]) 0 :=
  chunks_minimal (R := [3, 18, 40]) (by decide) (by decide) (Mem (roundUpToChunks [0]))
    (fun x hx _ => chunks_superset (R := [0]) (by decide) (by decide) x (by simp [Mem, contains_singleton]))
    0 (by decide) (by decide)

example : Mem (roundUpToChunks [3, 18, 40]) 9 :=
  chunks_mono (R := [3, 18, 9000]) (R' := [3, 18, 40]) (by decide) (by decide) (by decide)
    (by decide)
    (fun x _ hx => by
      rw [mem_cons_cons (by decide)] at *
      rw [mem_single] at *
      omega)
    9 (by decide) (by decide)

example : Mem (roundUpToChunks [0, 1024, 2048]) 2 ↔ Mem (roundUpToChunks [3, 18, 2500]) 2 :=
  chunks_idem (R := [3, 18, 2500]) (R' := [0, 1024, 2048]) (by decide) (by decide)
    (fun x _ => by
      have e : roundUpToChunks [3, 18, 2500] = [0, 1, 2] := by decide
      rw [e, mem_cons_cons (by decide), mem_cons_cons (by decide), mem_single, mem_single]
      omega)
    2 (by decide)

/-! ## `round_up_to_chunks_groups` -/

/-- the result is a well-formed set of u64 boundaries (no overflow) -/
theorem groups_wf {R : List Nat} (bs : Nat) (h : WF R = true) (hN : Bounded R) :
    WF (roundUpToChunkGroups R bs) = true ∧ Bounded (roundUpToChunkGroups R bs) := by
  have := (roundUpToChunkGroups_sem bs h hN).1
  exact ⟨this.1, fun b hb => by have := this.2 b hb; omega⟩

/-- chunk `c` is selected iff some chunk of its chunk group is -/
theorem groups {R : List Nat} (bs : Nat) (h : WF R = true) (hN : Bounded R) (c : Nat)
    (hc : c < 2 ^ 64) :
    Mem (roundUpToChunkGroups R bs) c ↔
      ∃ x, x < 2 ^ 64 ∧ x / 2 ^ bs = c / 2 ^ bs ∧ Mem R x :=
  (roundUpToChunkGroups_sem bs h hN).2 c hc

theorem groups_superset {R : List Nat} (bs : Nat) (h : WF R = true) (hN : Bounded R) (c : Nat)
    (hc : c < 2 ^ 64) (hm : Mem R c) : Mem (roundUpToChunkGroups R bs) c :=
  (groups bs h hN c hc).2 ⟨c, hc, rfl, hm⟩

theorem groups_aligned {R : List Nat} (bs : Nat) (h : WF R = true) (hN : Bounded R) :
    Aligned bs (Mem (roundUpToChunkGroups R bs)) := by
  intro c c' hc hc' e hm
  rw [groups bs h hN c' hc', ← e]
  exact (groups bs h hN c hc).1 hm

/-- smallest group-aligned superset -/
theorem groups_minimal {R : List Nat} (bs : Nat) (h : WF R = true) (hN : Bounded R)
    (S : Nat → Prop) (hal : Aligned bs S) (hS : ∀ x, x < 2 ^ 64 → Mem R x → S x)
    (c : Nat) (hc : c < 2 ^ 64) (hm : Mem (roundUpToChunkGroups R bs) c) : S c := by
  obtain ⟨x, hx, e, hx'⟩ := (groups bs h hN c hc).1 hm
  exact hal x c hx hc e (hS x hx hx')

theorem groups_mono {R R' : List Nat} (bs : Nat) (h : WF R = true) (hN : Bounded R)
    (h' : WF R' = true) (hN' : Bounded R') (hsub : ∀ x, x < 2 ^ 64 → Mem R x → Mem R' x)
    (c : Nat) (hc : c < 2 ^ 64) (hm : Mem (roundUpToChunkGroups R bs) c) :
    Mem (roundUpToChunkGroups R' bs) c :=
  groups_minimal bs h hN _ (groups_aligned bs h' hN')
    (fun x hx hx' => groups_superset bs h' hN' x hx (hsub x hx hx')) c hc hm

theorem groups_idem {R : List Nat} (bs : Nat) (h : WF R = true) (hN : Bounded R) (c : Nat)
    (hc : c < 2 ^ 64) :
    Mem (roundUpToChunkGroups (roundUpToChunkGroups R bs) bs) c ↔
      Mem (roundUpToChunkGroups R bs) c := by
  have hw := groups_wf bs h hN
  constructor
  · exact groups_minimal bs hw.1 hw.2 _ (groups_aligned bs h hN) (fun _ _ hx => hx) c hc
  · exact groups_superset bs hw.1 hw.2 c hc

example : roundUpToChunkGroups [3, 18, 40] 2 = [0, 20, 40] := by decide
example : roundUpToChunkGroups [2 ^ 64 - 2, 2 ^ 64 - 1] 2 = [2 ^ 64 - 4] := by decide
example : roundUpToChunkGroups [0, 1, 2 ^ 64 - 1] 10 = [0, 1024, 2 ^ 64 - 1024] := by decide
example : roundUpToChunkGroups [1, 3, 5, 7, 9, 10] 2 = [0, 12] := by decide

example : WF (roundUpToChunkGroups [3, 18, 40] 2) = true ∧
    Bounded (roundUpToChunkGroups [3, 18, 40] 2) :=
  groups_wf (R := [3, 18, 40]) 2 (by decide) (by decide)

example : Mem (roundUpToChunkGroups [3, 18, 40] 2) 19 ↔
    ∃ x, x < 2 ^ 64 ∧ x / 2 ^ 2 = 19 / 2 ^ 2 ∧ Mem [3, 18, 40] x :=
  groups (R := [3, 18, 40]) 2 (by decide) (by decide) 19 (by decide)

example : Mem (roundUpToChunkGroups [3, 18, 40] 2) 17 :=
  groups_superset (R := [3, 18, 40]) 2 (by decide) (by decide) 17 (by decide) (by decide)

example : Aligned 2 (Mem (roundUpToChunkGroups [3, 18, 40] 2)) :=
  groups_aligned (R := [3, 18, 40]) 2 (by decide) (by decide)

example : Mem (roundUpToChunkGroups [0] 2) 19 :=
  groups_minimal (R := [3, 18, 40]) 2 (by decide) (by decide) _
    (groups_aligned (R := [0]) 2 (by decide) (by decide))
    (fun x hx _ => groups_superset (R := [0]) 2 (by decide) (by decide) x hx
      ((mem_single 0 x).2 (Nat.zero_le x)))
    19 (by decide) (by decide)

example : Mem (roundUpToChunkGroups [3, 18, 40] 2) 2 :=
  groups_mono (R := [3, 18]) (R' := [3, 18, 40]) 2 (by decide) (by decide) (by decide) (by decide)
    (fun x _ hx => by
      rw [mem_cons_cons (by decide)] at *
      exact hx.imp id (fun h => absurd h (mem_nil x)))
    2 (by decide) (by decide)

example : Mem (roundUpToChunkGroups (roundUpToChunkGroups [3, 18, 40] 2) 2) 19 ↔
    Mem (roundUpToChunkGroups [3, 18, 40] 2) 19 :=
  groups_idem (R := [3, 18, 40]) 2 (by decide) (by decide) 19 (by decide)

/-! ## `full_chunk_groups` -/

/-- the result is a well-formed set of u64 boundaries (no overflow) -/
theorem full_wf {R : List Nat} (bs : Nat) (hbs : bs ≤ 64) (h : WF R = true) (hN : Bounded R) :
    WF (fullChunkGroups R bs) = true ∧ Bounded (fullChunkGroups R bs) := by
  have := (fullChunkGroups_sem bs hbs h hN).1
  exact ⟨this.1, fun b hb => by have := this.2 b hb; omega⟩

/-- chunk `c` is selected iff every chunk of its chunk group is -/
theorem full {R : List Nat} (bs : Nat) (hbs : bs ≤ 64) (h : WF R = true) (hN : Bounded R)
    (c : Nat) (hc : c < 2 ^ 64) :
    Mem (fullChunkGroups R bs) c ↔
      ∀ x, x < 2 ^ 64 → x / 2 ^ bs = c / 2 ^ bs → Mem R x :=
  (fullChunkGroups_sem bs hbs h hN).2 c hc

theorem full_subset {R : List Nat} (bs : Nat) (hbs : bs ≤ 64) (h : WF R = true) (hN : Bounded R)
    (c : Nat) (hc : c < 2 ^ 64) (hm : Mem (fullChunkGroups R bs) c) : Mem R c :=
  (full bs hbs h hN c hc).1 hm c hc rfl

theorem full_aligned {R : List Nat} (bs : Nat) (hbs : bs ≤ 64) (h : WF R = true)
    (hN : Bounded R) : Aligned bs (Mem (fullChunkGroups R bs)) := by
  intro c c' hc hc' e hm
  rw [full bs hbs h hN c' hc', ← e]
  exact (full bs hbs h hN c hc).1 hm

/-- largest group-aligned subset -/
theorem full_maximal {R : List Nat} (bs : Nat) (hbs : bs ≤ 64) (h : WF R = true)
    (hN : Bounded R) (S : Nat → Prop) (hal : Aligned bs S)
    (hS : ∀ x, x < 2 ^ 64 → S x → Mem R x) (c : Nat) (hc : c < 2 ^ 64) (hm : S c) :
    Mem (fullChunkGroups R bs) c :=
  (full bs hbs h hN c hc).2 (fun x hx e => hS x hx (hal c x hc hx e.symm hm))

theorem full_mono {R R' : List Nat} (bs : Nat) (hbs : bs ≤ 64) (h : WF R = true)
    (hN : Bounded R) (h' : WF R' = true) (hN' : Bounded R')
    (hsub : ∀ x, x < 2 ^ 64 → Mem R x → Mem R' x) (c : Nat) (hc : c < 2 ^ 64)
    (hm : Mem (fullChunkGroups R bs) c) : Mem (fullChunkGroups R' bs) c :=
  full_maximal bs hbs h' hN' _ (full_aligned bs hbs h hN)
    (fun x hx hx' => hsub x hx (full_subset bs hbs h hN x hx hx')) c hc hm

theorem full_idem {R : List Nat} (bs : Nat) (hbs : bs ≤ 64) (h : WF R = true) (hN : Bounded R)
    (c : Nat) (hc : c < 2 ^ 64) :
    Mem (fullChunkGroups (fullChunkGroups R bs) bs) c ↔ Mem (fullChunkGroups R bs) c := by
  have hw := full_wf bs hbs h hN
  constructor
  · exact full_subset bs hbs hw.1 hw.2 c hc
  · exact full_maximal bs hbs hw.1 hw.2 _ (full_aligned bs hbs h hN) (fun _ _ hx => hx) c hc

/-- the two group roundings bracket the set: `full R ⊆ R ⊆ groups R`, and they agree on
group-aligned sets -/
theorem full_groups {R : List Nat} (bs : Nat) (hbs : bs ≤ 64) (h : WF R = true) (hN : Bounded R)
    (c : Nat) (hc : c < 2 ^ 64) :
    Mem (fullChunkGroups (roundUpToChunkGroups R bs) bs) c ↔ Mem (roundUpToChunkGroups R bs) c := by
  have hw := groups_wf bs h hN
  constructor
  · exact full_subset bs hbs hw.1 hw.2 c hc
  · exact full_maximal bs hbs hw.1 hw.2 _ (groups_aligned bs h hN) (fun _ _ hx => hx) c hc

example : fullChunkGroups [3, 18, 40] 2 = [4, 16, 40] := by decide
example : fullChunkGroups [2 ^ 64 - 3] 2 = [] := by decide
example : fullChunkGroups [2 ^ 64 - 4] 2 = [2 ^ 64 - 4] := by decide
example : fullChunkGroups [2 ^ 64 - 8, 2 ^ 64 - 1] 2 = [2 ^ 64 - 8, 2 ^ 64 - 4] := by decide
example : fullChunkGroups [0, 3, 4, 8, 9, 17] 2 = [4, 8, 12, 16] := by decide

example : WF (fullChunkGroups [3, 18, 40] 2) = true ∧ Bounded (fullChunkGroups [3, 18, 40] 2) :=
  full_wf (R := [3, 18, 40]) 2 (by decide) (by decide) (by decide)

example : Mem (fullChunkGroups [3, 18, 40] 2) 5 ↔
    ∀ x, x < 2 ^ 64 → x / 2 ^ 2 = 5 / 2 ^ 2 → Mem [3, 18, 40] x :=
  full (R := [3, 18, 40]) 2 (by decide) (by decide) (by decide) 5 (by decide)

example : Mem [3, 18, 40] 5 :=
  full_subset (R := [3, 18, 40]) 2 (by decide) (by decide) (by decide) 5 (by decide) (by decide)

example : Aligned 2 (Mem (fullChunkGroups [3, 18, 40] 2)) :=
  full_aligned (R := [3, 18, 40]) 2 (by decide) (by decide) (by decide)

example : Mem (fullChunkGroups [3, 18, 40] 2) 5 :=
  full_maximal (R := [3, 18, 40]) 2 (by decide) (by decide) (by decide) _
    (full_aligned (R := [4, 8]) 2 (by decide) (by decide) (by decide))
    (fun x hx hx' => by
      have := full_subset (R := [4, 8]) 2 (by decide) (by decide) (by decide) x hx hx'
      rw [mem_cons_cons (by decide)] at *
      rcases this with h | h
      · omega
      · exact absurd h (mem_nil x))
    5 (by decide) (by decide)

example : Mem (fullChunkGroups [3, 18, 40] 2) 5 :=
  full_mono (R := [4, 8]) (R' := [3, 18, 40]) 2 (by decide) (by decide) (by decide) (by decide)
    (by decide)
    (fun x _ hx => by
      rw [mem_cons_cons (by decide)] at *
      rcases hx with h | h
      · omega
      · exact absurd h (mem_nil x))
    5 (by decide) (by decide)

example : Mem (fullChunkGroups (fullChunkGroups [3, 18, 40] 2) 2) 5 ↔
    Mem (fullChunkGroups [3, 18, 40] 2) 5 :=
  full_idem (R := [3, 18, 40]) 2 (by decide) (by decide) (by decide) 5 (by decide)

example : Mem (fullChunkGroups (roundUpToChunkGroups [3, 18, 40] 2) 2) 19 ↔
    Mem (roundUpToChunkGroups [3, 18, 40] 2) 19 :=
  full_groups (R := [3, 18, 40]) 2 (by decide) (by decide) (by decide) 19 (by decide)

/-! ## the model's overflow tests are the Rust ones

`round_up_to_chunks_groups` in the fixed `src/io/mod.rs` calls `ceil` for the range end; the
model spells it `chunkGroupEnd?`.  Same function, and `none` exactly when `checked_add` fails. -/

theorem chunkGroupEnd_is_ceil (e bs : Nat) : chunkGroupEnd? e bs = ceilGroup? e bs :=
  chunkGroupEnd?_eq_ceilGroup? e bs

theorem ceil_checked {v bs : Nat} (hbs : bs ≤ 64) :
    (ceilGroup? v bs).isSome = true ↔ v + (2 ^ bs - 1) < 2 ^ 64 :=
  ceilGroup?_isSome_iff hbs

example : (ceilGroup? (2 ^ 64 - 3) 2).isSome = true ↔ 2 ^ 64 - 3 + (2 ^ 2 - 1) < 2 ^ 64 :=
  ceil_checked (v := 2 ^ 64 - 3) (bs := 2) (by decide)

end Bao.C17

/-
## Status

Proved (axioms ⊆ {propext, Classical.choice, Quot.sound}): every theorem of this file;
`round_up_to_chunks_groups` for every `bs`, `full_chunk_groups` for `bs ≤ 64`.
`chunks_idem` states idempotence semantically (any byte set `R'` whose members are exactly the bytes
of the selected chunks rounds to the same chunks): the model has no chunk→byte conversion on range sets.
Partial: none.   Open: none.

Scope notes:
* all membership statements about the two group roundings are for chunks `c < 2^64` (the u64
  universe); an open last range of the result is read as `[a, 2^64)`.
* `chunks` holds for every natural `c`; for `c ≥ 2^54` the chunk has no u64 byte, and the
  result of an open-ended `R` still contains such `c` (as in Rust: `ChunkRanges::from(a..)`).
  Minimality / monotonicity / idempotence are therefore stated for `c < 2^54`.
-/
