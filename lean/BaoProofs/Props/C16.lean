import BaoProofs.Lemmas.SizeProofLoc

/-!
# C16 — decoding the last chunk authenticates the claimed size

"A decode whose query selects the last chunk under the claimed size can complete without error only
if the claimed size is the blob's true size; no claimed size up to 2^63 makes a decoder panic."

The root hash is the true root `Spec.root hf d` of a blob `d`; the decoder is run with a CLAIMED
geometry `⟨size', bs⟩`, any query that selects the last chunk `nChunks size' - 1` of the claimed
geometry, and ANY stream `s`.

Method (`Lemmas/SizeProof.lean`, `Lemmas/SizeProofLoc.lean`).  A *spine hash* is the chaining value
of a right-spine interval `[a, N)` of the true blob.  The root is one.  On the claimed tree's path
from the root to its last chunk every parent has its right flag set; a parent that verifies against
a spine hash hands a spine hash to its right child (shape of the tree hash + `CollisionFree`); the
plan of its left child consumes exactly its own hash (`planPre_frame`); the last leaf is compared
with a spine hash under its claimed start chunk and its claimed length `size' - start·1024`, and
`cv_inj` makes both true, hence `size' = d.length`.

Only `CollisionFree hf` is assumed of the hash (no wire-format hypotheses: the stream is arbitrary),
so the statement is not vacuous (`termHash_cf`).
-/

namespace Bao.C16
open Bao Bao.Spec Bao.DecodeSpec

variable {H : Type} {hf : HashFns H} [BEq H] [LawfulBEq H]

/-- **the size proof**: if the query selects the last chunk of the claimed geometry and the decode
of SOME stream against the true root ends `done`, the claimed size is the true size -/
theorem size_proof (cf : CollisionFree hf) (fl : Flavour) (d : List UInt8) (hd : d.length ≤ 2 ^ 63)
    (size' bs : Nat) (hs : size' ≤ 2 ^ 63) (q : Ranges) (hwf : Ranges.WF q = true)
    (hsel : Spec.selected size' q (nChunks size' - 1) = true) (s : List UInt8)
    (hdone : (decodeAll hf fl (Spec.root hf d) ⟨size', bs⟩ q s).terminal = .done) :
    size' = d.length :=
  decode_size_proof_loc fl d hd size' bs hs q hwf hsel s (cf.on _) hdone

/-- contrapositive: with a wrong claimed size every stream is rejected (error, never `done`) -/
theorem wrong_size_rejected (cf : CollisionFree hf) (fl : Flavour) (d : List UInt8)
    (hd : d.length ≤ 2 ^ 63) (size' bs : Nat) (hs : size' ≤ 2 ^ 63) (hne : size' ≠ d.length)
    (q : Ranges) (hwf : Ranges.WF q = true)
    (hsel : Spec.selected size' q (nChunks size' - 1) = true) (s : List UInt8) :
    ∃ e, (decodeAll hf fl (Spec.root hf d) ⟨size', bs⟩ q s).terminal = .err e :=
  decode_wrong_size_loc fl d hd size' bs hs hne q hwf hsel s (cf.on _)

omit [LawfulBEq H] in
/-- **no claimed size up to `2^63` makes a decoder panic** (any root, block size, query, stream) -/
theorem no_panic (fl : Flavour) (root : H) (size' bs : Nat) (q : Ranges) (s : List UInt8)
    (hs : size' ≤ 2 ^ 63) : (decodeAll hf fl root ⟨size', bs⟩ q s).terminal ≠ .panic :=
  decode_no_panic hf fl root size' bs q s hs

/-! ## non-vacuity: the collision free term hash, a 3-byte blob -/

private def blob : List UInt8 := [1, 2, 3]

/-- the hypotheses can be met: the honest decode of the one-chunk blob completes -/
example : (3 : Nat) = blob.length :=
  size_proof termHash_cf .sync blob (by decide) 3 0 (by decide) [0] (by decide) (by decide)
    [1, 2, 3] (by decide)

/-- a claimed size of 5000 bytes is rejected whatever the stream -/
example (s : List UInt8) :
    ∃ e, (decodeAll termHash .fsm (Spec.root termHash blob) ⟨5000, 1⟩ [4] s).terminal = .err e :=
  wrong_size_rejected termHash_cf .fsm blob (by decide) 5000 1 (by decide) (by decide) [4]
    (by decide) (by decide) s

example : (decodeAll termHash .sync (Spec.root termHash blob) ⟨2 ^ 63, 10⟩ [0] []).terminal ≠ .panic :=
  no_panic .sync _ (2 ^ 63) 10 [0] [] (Nat.le_refl _)

/-
## Status (C16)

All theorems depend on the axioms `propext`, `Classical.choice`, `Quot.sound` only.

Proved (full strength: every claimed size `≤ 2^63`, every block size, every well-formed query that
selects the last claimed chunk, every stream, both flavours):
  size_proof, wrong_size_rejected, no_panic.
Partial: none.   OPEN: none.

Remarks.
* Hypotheses on the hash: `CollisionFree hf` and a lawful `==` only.
* `Spec.selected size' q (nChunks size' - 1)` holds in particular for every query that reaches the
  last claimed chunk or beyond (`Spec.selected` adds the last chunk in that case), e.g. `[x]` for any `x`.
* The true size need not be recoverable from the items alone when the last chunk is NOT selected:
  then a decode under a wrong claimed size can complete (C01 states what is still guaranteed).
* Model: nothing suspicious.
-/

end Bao.C16
