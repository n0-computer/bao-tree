import BaoProofs.Lemmas.HistValidL
import BaoProofs.Props.C06

/-!
# C07, second half: labelled saves, ancestors before leaves, convergence, the validator

`Props/C07.lean` proves, for every history of fault-injected `decode_ranges` calls with ARBITRARY
streams into one sink whose outboard carries the true root: the target is the initial one after
writes of true leaves, every saved pair is the true pair of SOME node.  Here the claimed geometry is
the TRUE one, `sink.ob.tree = ⟨d.length, bs⟩` (with a wrong claimed size the node labels of the
claimed tree are meaningless, DESIGN.md C01), and the node labels are followed through the run.

Vocabulary (`Lemmas/HistLabelL.lean`, `HistLogL.lean`, `HistSlotL.lean`, `HistValidL.lean`,
namespace `Bao.C07L`; `Ev`, `applyEvs`, `writes`, `saves` are those of C10, `Lemmas/FaultL.lean`):
* `Ev.save node l r` / `Ev.write off data` – one COMPLETED call on the outboard / on the target;
  `applyEvs hf sink es` – the sink after the calls `es`; `EvsOk hf sink es` – every save of `es`
  succeeds when `es` is applied in order; `SavesOk hf ob pl` – the same for a list of saves;
* `(c / 2^(L+1), L)` is the ancestor of chunk `c` at level `L`; it exists iff
  `midOf (c / 2^(L+1)) L < nChunks d.length`, and is persisted iff moreover `bs ≤ L`;
* `LabelledLog hf d bs ops sink es` – `es` is a log of the history: the final sink is the initial
  one after the completed calls `es`, all successful, every save of `es` writes the true pair of an
  existing node of level `≥ bs` under that node's own label, and every write of `es` writes a true
  leaf all of whose existing ancestors of level `≥ bs` have been saved EARLIER in `es`
  (`Trace (EG hf d bs) [] es`; spelled out by `log_order`).  `history_log`: every history has one.
  The delivered list of C07 is `FaultL.writes es`; all `log_*` theorems speak about the same `es`;
* `Holds hf d ob x` – the slot of node `x` in `ob` exists, lies inside the backing, and its 64 bytes
  are `Spec.pairBytes hf d x`;
* `Cov wl i` – byte position `i` lies in a write of `wl` (the delivered positions, as in C07);
* `RtTrue hf d bs` – the stored bytes of the true pair of every existing node of level `≥ bs` parse
  back to that pair (the round trip on the finitely many hashes of the true tree only).

Hypotheses: `CollisionFree hf`, `d.length ≤ 2^63`; for everything about stored bytes `bs ≤ 10` and
`hlen : ∀ h, (hf.toBytes h).length = 32`; for the validator `RtTrue hf d bs`.  `CollisionFree hf`,
`hlen` and `RtTrue` are jointly satisfiable (`rtHash`), whereas together with the GLOBAL round trip
`∀ h, ofBytes (toBytes h) = h` they are not (`Lemmas/CFUnsat.lean`); no theorem here assumes the
global round trip.
-/

set_option maxRecDepth 8192

namespace Bao.C07

open Bao Bao.Spec Bao.C01 Bao.C07L
open Bao.FaultL (Ev applyEvs)

variable {H : Type} [BEq H] [LawfulBEq H] {hf : HashFns H} {d : List UInt8} {bs : Nat}

/-- `es` is a labelled log of the history `ops` from `sink`: see the header -/
def LabelledLog (hf : HashFns H) (d : List UInt8) (bs : Nat) (ops : List Op) (sink : Sink H)
    (es : List (Ev H)) : Prop :=
  run hf ops sink = applyEvs hf sink es ∧ EvsOk hf sink es ∧ Trace (EG hf d bs) [] es

/-- **Every history has a labelled log.**  (Arbitrary streams, arbitrary faults; true root, true
geometry.) -/
theorem history_log (cf : CollisionFree hf) (hd : d.length ≤ 2 ^ 63) (ops : List Op)
    (sink : Sink H) (hroot : sink.ob.root = Spec.root hf d)
    (htree : sink.ob.tree = ⟨d.length, bs⟩) : ∃ es, LabelledLog hf d bs ops sink es :=
  run_log cf hd ops sink hroot htree

omit [LawfulBEq H] in
/-- what a labelled log says, position by position: every save writes the true pair of an existing
node of level `≥ bs` under its own label; every write is the write of a true leaf `[c, e)` such
that for every chunk `x` of the leaf every existing ancestor of `x` of level `≥ bs` has been saved
EARLIER in the log -/
theorem log_order {ops : List Op} {sink : Sink H} {es : List (Ev H)}
    (h : LabelledLog hf d bs ops sink es) :
    (∀ a node l r b, es = a ++ Ev.save node l r :: b →
      ∃ k L, bs ≤ L ∧ midOf k L < nChunks d.length ∧ node = nodeOf k L ∧
        (l, r) = Spec.pair hf d k L) ∧
    (∀ a off data b, es = a ++ Ev.write off data :: b →
      ∃ c e, Sub d c e ∧ off = c * 1024 ∧ data = slice d c e ∧
        ∀ x, c ≤ x → x < e → ∀ L, bs ≤ L → midOf (x / 2 ^ (L + 1)) L < nChunks d.length →
          Ev.save (nodeOf (x / 2 ^ (L + 1)) L) (Spec.pair hf d (x / 2 ^ (L + 1)) L).1
            (Spec.pair hf d (x / 2 ^ (L + 1)) L).2 ∈ a) := by
  obtain ⟨-, -, h3⟩ := h
  refine ⟨?_, ?_⟩
  · rintro a node l r b rfl
    obtain ⟨k, L, -, hb, hm, hn, hp⟩ :=
      trace_save h3 (List.mem_append_right _ List.mem_cons_self)
    exact ⟨k, L, hb, hm, hn, hp⟩
  · rintro a off data b rfl
    obtain ⟨c, e, g1, -, g3, g4, g5⟩ := trace_write_split h3
    exact ⟨c, e, g1, g3, g4, g5⟩

omit [LawfulBEq H] in
/-- the writes of a labelled log are a delivered list in the sense of `C07.inv`: writes of true
leaves, and the target is the initial target after them -/
theorem log_target {ops : List Op} {sink : Sink H} {es : List (Ev H)}
    (h : LabelledLog hf d bs ops sink es) :
    (∀ w ∈ FaultL.writes es, TrueLeaf d w.1 w.2) ∧
    (run hf ops sink).target = applyWrites sink.target (FaultL.writes es) :=
  ⟨trace_trueLeaf h.2.2, by rw [h.1, FaultL.applyEvs_target]; rfl⟩

omit [LawfulBEq H] in
/-- the saves of a labelled log: all successful, each the true pair of an existing node of level
`≥ bs` under its own label; the outboard is the initial one after them -/
theorem log_saves {ops : List Op} {sink : Sink H} {es : List (Ev H)}
    (h : LabelledLog hf d bs ops sink es) :
    (∀ p ∈ FaultL.saves es, ∃ k L, bs ≤ L ∧ midOf k L < nChunks d.length ∧ p.1 = nodeOf k L ∧
      (p.2.1, p.2.2) = Spec.pair hf d k L) ∧
    SavesOk hf sink.ob (FaultL.saves es) ∧
    (run hf ops sink).ob = applySaves hf sink.ob (FaultL.saves es) := by
  obtain ⟨h1, h2, h3⟩ := h
  refine ⟨?_, EvsOk.saves es sink h2, by rw [h1, FaultL.applyEvs_ob]; rfl⟩
  intro p hp
  obtain ⟨k, L, -, hb, hm, hn, hp⟩ := trace_save h3 (mem_saves.1 hp)
  exact ⟨k, L, hb, hm, hn, hp⟩

/-- **Stage A: labelled saves.**  After any history into a sink with the true root and the true
geometry the outboard is the initial one after a list of SUCCESSFUL saves `(node, l, r)`, each of
which writes the true pair of an existing node of level `≥ bs` of the true tree under that node's
own label. -/
theorem saved_pairs_labelled (cf : CollisionFree hf) (hd : d.length ≤ 2 ^ 63) (ops : List Op)
    (sink : Sink H) (hroot : sink.ob.root = Spec.root hf d)
    (htree : sink.ob.tree = ⟨d.length, bs⟩) :
    ∃ pl : List (Nat × H × H),
      (∀ p ∈ pl, ∃ k L, bs ≤ L ∧ midOf k L < nChunks d.length ∧ p.1 = nodeOf k L ∧
        (p.2.1, p.2.2) = Spec.pair hf d k L) ∧
      SavesOk hf sink.ob pl ∧
      (run hf ops sink).ob = applySaves hf sink.ob pl := by
  obtain ⟨es, h⟩ := history_log (bs := bs) cf hd ops sink hroot htree
  exact ⟨_, log_saves h⟩

/-- **Stage B: ancestors before leaves, within one call.**  One fault-injected `decode_ranges` call
(arbitrary stream, arbitrary faults) is the application of a list `es` of completed calls, all
successful, in which every save writes the true pair of an existing node of level `≥ bs` under its
own label, and every write is the write of a true leaf `[c, e)` such that for every chunk `x` of the
leaf every existing ancestor of `x` of level `≥ bs` has been saved EARLIER IN THE SAME CALL. -/
theorem ancestors_saved_before_leaf (cf : CollisionFree hf) (hd : d.length ≤ 2 ^ 63)
    (fl : Flavour) (s : List UInt8) (q : Ranges) (sink : Sink H) (fw fs : Option Nat)
    (hroot : sink.ob.root = Spec.root hf d) (htree : sink.ob.tree = ⟨d.length, bs⟩) :
    ∃ es : List (Ev H),
      (decodeRangesF hf fl s q sink fw fs).1 = applyEvs hf sink es ∧ EvsOk hf sink es ∧
      (∀ a node l r b, es = a ++ Ev.save node l r :: b →
        ∃ k L, bs ≤ L ∧ midOf k L < nChunks d.length ∧ node = nodeOf k L ∧
          (l, r) = Spec.pair hf d k L) ∧
      (∀ a off data b, es = a ++ Ev.write off data :: b →
        ∃ c e, Sub d c e ∧ off = c * 1024 ∧ data = slice d c e ∧
          ∀ x, c ≤ x → x < e → ∀ L, bs ≤ L → midOf (x / 2 ^ (L + 1)) L < nChunks d.length →
            Ev.save (nodeOf (x / 2 ^ (L + 1)) L) (Spec.pair hf d (x / 2 ^ (L + 1)) L).1
              (Spec.pair hf d (x / 2 ^ (L + 1)) L).2 ∈ a) := by
  obtain ⟨es, h⟩ := history_log (bs := bs) cf hd [⟨fl, s, q, fw, fs⟩] sink hroot htree
  exact ⟨es, h.1, h.2.1, log_order h⟩

omit [LawfulBEq H] in
/-- **Stage B, consequence: the slots of the ancestors of delivered chunks hold true pairs.**
Io-backed or in-memory outboard with ANY backing: for every delivered byte position `i`, with
`c = i / 1024` its chunk, the slot of every existing ancestor of `c` of level `≥ bs` holds the true
pair of that ancestor at the end of the history (later saves to the same slot wrote the same
bytes). -/
theorem log_ancestors_hold (hlen : ∀ h, (hf.toBytes h).length = 32) (hd : d.length ≤ 2 ^ 63)
    (hbs : bs ≤ 10) {ops : List Op} {sink : Sink H} {es : List (Ev H)}
    (h : LabelledLog hf d bs ops sink es) (htree : sink.ob.tree = ⟨d.length, bs⟩)
    (hk : sink.ob.kind ≠ .empty) :
    ∀ i, Cov (FaultL.writes es) i → ∀ L, bs ≤ L →
      midOf (i / 1024 / 2 ^ (L + 1)) L < nChunks d.length →
      Holds hf d (run hf ops sink).ob (nodeOf (i / 1024 / 2 ^ (L + 1)) L) := by
  obtain ⟨P, T, -, -, h4, -⟩ := log_master hlen hd hbs ops sink htree hk h.1 h.2.1 h.2.2
  intro i hc L hb hm
  exact h4 _ L (DecodeSpec.level_lt_of_mid_lt hd hm) hb hm (cov_chunk h.2.2 hc L hb hm)

/-- the same with the delivered list existentially quantified, as in `C07.inv` -/
theorem ancestors_hold (cf : CollisionFree hf) (hlen : ∀ h, (hf.toBytes h).length = 32)
    (hd : d.length ≤ 2 ^ 63) (hbs : bs ≤ 10) (ops : List Op) (sink : Sink H)
    (hroot : sink.ob.root = Spec.root hf d) (htree : sink.ob.tree = ⟨d.length, bs⟩)
    (hk : sink.ob.kind ≠ .empty) :
    ∃ wl : List (Nat × List UInt8),
      (∀ w ∈ wl, TrueLeaf d w.1 w.2) ∧
      (run hf ops sink).target = applyWrites sink.target wl ∧
      ∀ i, Cov wl i → ∀ L, bs ≤ L → midOf (i / 1024 / 2 ^ (L + 1)) L < nChunks d.length →
        Holds hf d (run hf ops sink).ob (nodeOf (i / 1024 / 2 ^ (L + 1)) L) := by
  obtain ⟨es, h⟩ := history_log (bs := bs) cf hd ops sink hroot htree
  exact ⟨_, (log_target h).1, (log_target h).2, log_ancestors_hold hlen hd hbs h htree hk⟩

omit [LawfulBEq H] in
/-- **Stage C: convergence of the outboard.**  Io-backed or in-memory outboard whose backing is not longer
than the outboard size (e.g. pre-sized; an in-memory outboard must be exactly pre-sized for its
saves to succeed).  Once every byte position of the blob has been delivered, the outboard's backing
is exactly the outboard computed directly from the blob — `Spec.preOutboard hf d bs` for the
pre-order kinds, `Spec.postOutboard hf d bs` for the post-order kinds — and (pre-sized target) the
target is the blob. -/
theorem log_converges (hlen : ∀ h, (hf.toBytes h).length = 32) (hd : d.length ≤ 2 ^ 63)
    (hbs : bs ≤ 10) {ops : List Op} {sink : Sink H} {es : List (Ev H)}
    (h : LabelledLog hf d bs ops sink es) (htree : sink.ob.tree = ⟨d.length, bs⟩)
    (hk : sink.ob.kind ≠ .empty) (hsz : sink.ob.data.length ≤ sink.ob.tree.outboardSize)
    (hall : ∀ i, i < d.length → Cov (FaultL.writes es) i) :
    ((sink.ob.kind = .preIo ∨ sink.ob.kind = .preMem) →
      (run hf ops sink).ob.data = Spec.preOutboard hf d bs) ∧
    ((sink.ob.kind = .postIo ∨ sink.ob.kind = .postMem) →
      (run hf ops sink).ob.data = Spec.postOutboard hf d bs) ∧
    (sink.target.length = d.length → (run hf ops sink).target = d) := by
  obtain ⟨P, T, hp1, hp2, h4, h5⟩ := log_master hlen hd hbs ops sink htree hk h.1 h.2.1 h.2.2
  have h3 := h.2.2
  obtain ⟨-, r2, r3⟩ := run_root hf ops sink
  have hdata : (run hf ops sink).ob.data = P.flatMap (Spec.pairBytes hf d) := by
    refine data_eq_of_holds hlen T r3 (r2.trans htree) ?_ ?_
    · have : sink.ob.tree.outboardSize = P.length * 64 := by rw [htree, T.len]; rfl
      omega
    · intro x hx
      obtain ⟨k, L, rfl, hL, hb, hm⟩ := T.coords x hx
      have hsm := Bits.startOf_lt_midOf k L
      have hme := Bits.midOf_lt_endOf k L
      have hpos : startOf k L * 1024 < d.length :=
        Nat.lt_of_le_of_lt (Nat.mul_le_mul_right _ (Nat.le_of_lt hsm))
          ((Offsets.lt_nChunks_iff d.length (midOf k L) (by omega)).1 hm)
      have hdiv : startOf k L * 1024 / 1024 / 2 ^ (L + 1) = k := by
        rw [Nat.mul_div_cancel _ (by decide)]
        exact div_of_mem_range (Nat.le_refl _) (by omega)
      have := cov_chunk h3 (hall _ hpos) L hb (by rw [hdiv]; exact hm)
      rw [hdiv] at this
      exact h4 k L hL hb hm this
  refine ⟨fun hk1 => ?_, fun hk2 => ?_, fun htl => ?_⟩
  · rw [hdata, hp1 hk1]; rfl
  · rw [hdata, hp2 hk2]; rfl
  · rw [(log_target h).2]
    exact applyWrites_full _ sink.target htl (log_target h).1 hall

/-- the same with the delivered list existentially quantified, as in `C07.converges` -/
theorem converges_outboard (cf : CollisionFree hf) (hlen : ∀ h, (hf.toBytes h).length = 32)
    (hd : d.length ≤ 2 ^ 63) (hbs : bs ≤ 10) (ops : List Op) (sink : Sink H)
    (hroot : sink.ob.root = Spec.root hf d) (htree : sink.ob.tree = ⟨d.length, bs⟩)
    (hk : sink.ob.kind ≠ .empty) (hsz : sink.ob.data.length ≤ sink.ob.tree.outboardSize) :
    ∃ wl : List (Nat × List UInt8),
      (∀ w ∈ wl, TrueLeaf d w.1 w.2) ∧
      (run hf ops sink).target = applyWrites sink.target wl ∧
      ((∀ i, i < d.length → Cov wl i) →
        ((sink.ob.kind = .preIo ∨ sink.ob.kind = .preMem) →
          (run hf ops sink).ob.data = Spec.preOutboard hf d bs) ∧
        ((sink.ob.kind = .postIo ∨ sink.ob.kind = .postMem) →
          (run hf ops sink).ob.data = Spec.postOutboard hf d bs) ∧
        (sink.target.length = d.length → (run hf ops sink).target = d)) := by
  obtain ⟨es, h⟩ := history_log (bs := bs) cf hd ops sink hroot htree
  exact ⟨_, (log_target h).1, (log_target h).2, log_converges hlen hd hbs h htree hk hsz⟩

/-- the `j`-th chunk group of the blob is completely delivered: every byte position of the blob
inside the group lies in a write of `wl` -/
def GroupDelivered (d : List UInt8) (bs : Nat) (wl : List (Nat × List UInt8)) (j : Nat) : Prop :=
  ∀ i, toBytes (ValidL.groupRange ⟨d.length, bs⟩ j).1 ≤ i →
    i < toBytes (ValidL.groupRange ⟨d.length, bs⟩ j).2 → i < d.length → Cov wl i

/-- **(i) delivered groups are verifiable and reported.**  Io-backed or in-memory outboard (any
backing), target pre-sized to the blob, `RtTrue hf d bs`.  Every chunk group all of whose byte
positions are delivered is `Verifiable` in the final store over the final target (its stored
ancestors hold their true pairs, its bytes are the blob's); hence `validRanges` reports it for
every well-formed query that touches it, provided the validator run does not end in an io error
(see `log_validator_ok`). -/
theorem log_validator_reports (hlen : ∀ h, (hf.toBytes h).length = 32)
    (hrt : RtTrue hf d bs) (hd : d.length ≤ 2 ^ 63) (hbs : bs ≤ 10) {ops : List Op}
    {sink : Sink H} {es : List (Ev H)} (h : LabelledLog hf d bs ops sink es)
    (hroot : sink.ob.root = Spec.root hf d) (htree : sink.ob.tree = ⟨d.length, bs⟩)
    (hk : sink.ob.kind ≠ .empty) (htl : sink.target.length = d.length) (fl : Flavour) (j : Nat)
    (hj : j < Tree.blocks ⟨d.length, bs⟩) (hdel : GroupDelivered d bs (FaultL.writes es) j) :
    ValidL.Verifiable hf fl (run hf ops sink).ob (run hf ops sink).target true
      (ValidL.groupRange ⟨d.length, bs⟩ j) ∧
    ∀ q, Ranges.WF q = true →
      (Tree.blocks ⟨d.length, bs⟩ = 1 ∨
        ValidL.Touched d.length q (ValidL.groupRange ⟨d.length, bs⟩ j)) →
      (validRanges hf fl (run hf ops sink).ob (run hf ops sink).target q).terminal = .ok →
      ValidL.groupRange ⟨d.length, bs⟩ j ∈
        (validRanges hf fl (run hf ops sink).ob (run hf ops sink).target q).yields := by
  obtain ⟨P, T, -, -, h4, -⟩ := log_master hlen hd hbs ops sink htree hk h.1 h.2.1 h.2.2
  obtain ⟨r1, r2, r3⟩ := run_root hf ops sink
  obtain ⟨hl, hg⟩ := evs_target_spec h.2.2 h.1 htl
  exact group_verifiable hrt hd hbs h.2.2 (by rw [r3]; exact hk) (r2.trans htree) (r1.trans hroot)
    h4 hl (fun i hc => (hg i).1 hc) fl j hj hdel

/-- **(iii) no io error after a history into a pre-sized outboard.**  If the initial backing has at
least the outboard size, no validator run on the final sink ends in an io error (so
`log_validator_reports` is unconditional). -/
theorem log_validator_ok (hd : d.length ≤ 2 ^ 63) (hbs : bs ≤ 10) {ops : List Op}
    {sink : Sink H} {es : List (Ev H)} (h : LabelledLog hf d bs ops sink es)
    (htree : sink.ob.tree = ⟨d.length, bs⟩) (hk : sink.ob.kind ≠ .empty)
    (htl : sink.target.length = d.length)
    (hfull : sink.ob.tree.outboardSize ≤ sink.ob.data.length) (fl : Flavour) (q : Ranges) :
    (validRanges hf fl (run hf ops sink).ob (run hf ops sink).target q).terminal = .ok := by
  obtain ⟨-, r2, r3⟩ := run_root hf ops sink
  obtain ⟨hl, -⟩ := evs_target_spec h.2.2 h.1 htl
  have hge := evs_len_ge (hf := hf) es sink hk
  rw [← h.1] at hge
  rw [htree] at hfull
  exact ok_of_full hd hbs fl (by rw [r3]; exact hk) (r2.trans htree) (Nat.le_trans hfull hge)
    (Nat.le_of_eq hl.symm) q

/-- **(ii) every reported group holds the blob's bytes** (any query, any state of the outboard):
`C06.reported_true_bytes` on the final sink. -/
theorem log_validator_sound (cf : CollisionFree hf) (hd : d.length ≤ 2 ^ 63) (hbs : bs ≤ 10)
    {ops : List Op} {sink : Sink H} {es : List (Ev H)} (h : LabelledLog hf d bs ops sink es)
    (hroot : sink.ob.root = Spec.root hf d) (htree : sink.ob.tree = ⟨d.length, bs⟩)
    (htl : sink.target.length = d.length) (fl : Flavour) (q : Ranges) (g : Nat × Nat)
    (hgm : g ∈ (validRanges hf fl (run hf ops sink).ob (run hf ops sink).target q).yields) :
    ((run hf ops sink).target.drop (g.1 * 1024)).take (min (g.2 * 1024) d.length - g.1 * 1024) =
      (d.drop (g.1 * 1024)).take (min (g.2 * 1024) d.length - g.1 * 1024) ∧
    g.1 * 1024 + (min (g.2 * 1024) d.length - g.1 * 1024) ≤ d.length := by
  obtain ⟨r1, r2, -⟩ := run_root hf ops sink
  have htree' := r2.trans htree
  obtain ⟨hl, -⟩ := evs_target_spec h.2.2 h.1 htl
  have := C06.reported_true_bytes hf cf fl (run hf ops sink).ob (run hf ops sink).target d
    (by rw [htree']; exact hd) (by rw [htree']; exact hbs) (by omega) (r1.trans hroot)
    (by rw [htree', hl]; exact Nat.le_refl _) q g hgm
  rw [htree'] at this
  exact this

/-- **Exact converse, chunk by chunk.**  The literal converse "reported ⇒ all its chunks were
delivered" is false when an undelivered part of the initial target coincides with the blob
(DESIGN.md O3).  It holds under the minimal extra hypothesis that the INITIAL target differs from
the blob in at least one byte of the chunk: if `validRanges` reports `g` after a history and the
initial target differs from the blob at some position `i₀` of chunk `c ∈ g`, then every byte
position of chunk `c` has been delivered.  (No hypothesis on the outboard is needed; for the empty
chunk of the empty blob the hypothesis cannot hold.) -/
theorem log_reported_delivered (cf : CollisionFree hf) (hd : d.length ≤ 2 ^ 63)
    (hbs : bs ≤ 10) {ops : List Op} {sink : Sink H} {es : List (Ev H)}
    (h : LabelledLog hf d bs ops sink es) (hroot : sink.ob.root = Spec.root hf d)
    (htree : sink.ob.tree = ⟨d.length, bs⟩) (htl : sink.target.length = d.length) (fl : Flavour)
    (q : Ranges) (g : Nat × Nat)
    (hgm : g ∈ (validRanges hf fl (run hf ops sink).ob (run hf ops sink).target q).yields)
    (c : Nat) (hc1 : g.1 ≤ c) (hc2 : c < g.2)
    (hdiff : ∃ i₀, c * 1024 ≤ i₀ ∧ i₀ < (c + 1) * 1024 ∧ i₀ < d.length ∧
      sink.target[i₀]? ≠ d[i₀]?) :
    ∀ i, c * 1024 ≤ i → i < (c + 1) * 1024 → i < d.length → Cov (FaultL.writes es) i :=
  chunk_delivered h.2.2 h.1 htl (log_validator_sound cf hd hbs h hroot htree htl fl q g hgm).1 hc1 hc2
    hdiff

/-- **The validator reports exactly the delivered groups** (pre-sized outboard and target,
well-formed query, and — the O3 side condition — the initial target differs from the blob in at
least one byte of every chunk of the group): group `j` is reported iff the query touches it and all
its byte positions have been delivered. -/
theorem log_validator_exact (cf : CollisionFree hf) (hlen : ∀ h, (hf.toBytes h).length = 32)
    (hrt : RtTrue hf d bs) (hd : d.length ≤ 2 ^ 63) (hbs : bs ≤ 10) {ops : List Op}
    {sink : Sink H} {es : List (Ev H)} (h : LabelledLog hf d bs ops sink es)
    (hroot : sink.ob.root = Spec.root hf d) (htree : sink.ob.tree = ⟨d.length, bs⟩)
    (hk : sink.ob.kind ≠ .empty) (htl : sink.target.length = d.length)
    (hfull : sink.ob.tree.outboardSize ≤ sink.ob.data.length) (fl : Flavour) (q : Ranges)
    (hq : Ranges.WF q = true) (j : Nat) (hj : j < Tree.blocks ⟨d.length, bs⟩)
    (hdiff : ∀ c, (ValidL.groupRange ⟨d.length, bs⟩ j).1 ≤ c →
      c < (ValidL.groupRange ⟨d.length, bs⟩ j).2 →
      ∃ i₀, c * 1024 ≤ i₀ ∧ i₀ < (c + 1) * 1024 ∧ i₀ < d.length ∧ sink.target[i₀]? ≠ d[i₀]?) :
    ValidL.groupRange ⟨d.length, bs⟩ j ∈
        (validRanges hf fl (run hf ops sink).ob (run hf ops sink).target q).yields ↔
      (Tree.blocks ⟨d.length, bs⟩ = 1 ∨
        ValidL.Touched d.length q (ValidL.groupRange ⟨d.length, bs⟩ j)) ∧
      GroupDelivered d bs (FaultL.writes es) j := by
  obtain ⟨-, r2, -⟩ := run_root hf ops sink
  have htree' := r2.trans htree
  constructor
  · intro hgm
    refine ⟨?_, ?_⟩
    · have := (C06.reported_sound hf fl (run hf ops sink).ob (run hf ops sink).target
        (by rw [htree']; exact hd) (by rw [htree']; exact hbs) q hq _ hgm).2
      rw [htree'] at this
      exact this
    · exact group_delivered h.2.2 h.1 htl
        (log_validator_sound cf hd hbs h hroot htree htl fl q _ hgm).1 hdiff
  · rintro ⟨ht, hdel⟩
    exact (log_validator_reports hlen hrt hd hbs h hroot htree hk htl fl j hj hdel).2 q hq ht
      (log_validator_ok hd hbs h htree hk htl hfull fl q)

/-- the same with the delivered list existentially quantified.  `_partial`: relative to the literal
sentence of C07 ("reports exactly the chunk groups all of whose chunks have been delivered") this
needs the O3 side condition `hdiff` on the initial target (without it the sentence is false), a
pre-sized outboard, a well-formed query, and `RtTrue`. -/
theorem validator_exact_partial (cf : CollisionFree hf) (hlen : ∀ h, (hf.toBytes h).length = 32)
    (hrt : RtTrue hf d bs) (hd : d.length ≤ 2 ^ 63) (hbs : bs ≤ 10) (ops : List Op) (sink : Sink H)
    (hroot : sink.ob.root = Spec.root hf d) (htree : sink.ob.tree = ⟨d.length, bs⟩)
    (hk : sink.ob.kind ≠ .empty) (htl : sink.target.length = d.length)
    (hfull : sink.ob.tree.outboardSize ≤ sink.ob.data.length) (fl : Flavour) (q : Ranges)
    (hq : Ranges.WF q = true) :
    ∃ wl : List (Nat × List UInt8),
      (∀ w ∈ wl, TrueLeaf d w.1 w.2) ∧
      (run hf ops sink).target = applyWrites sink.target wl ∧
      ∀ j, j < Tree.blocks ⟨d.length, bs⟩ →
        (∀ c, (ValidL.groupRange ⟨d.length, bs⟩ j).1 ≤ c →
          c < (ValidL.groupRange ⟨d.length, bs⟩ j).2 →
          ∃ i₀, c * 1024 ≤ i₀ ∧ i₀ < (c + 1) * 1024 ∧ i₀ < d.length ∧
            sink.target[i₀]? ≠ d[i₀]?) →
        (ValidL.groupRange ⟨d.length, bs⟩ j ∈
            (validRanges hf fl (run hf ops sink).ob (run hf ops sink).target q).yields ↔
          (Tree.blocks ⟨d.length, bs⟩ = 1 ∨
            ValidL.Touched d.length q (ValidL.groupRange ⟨d.length, bs⟩ j)) ∧
          GroupDelivered d bs wl j) := by
  obtain ⟨es, h⟩ := history_log (bs := bs) cf hd ops sink hroot htree
  exact ⟨_, (log_target h).1, (log_target h).2, fun j hj hdiff =>
    log_validator_exact cf hlen hrt hd hbs h hroot htree hk htl hfull fl q hq j hj hdiff⟩

/-- **Stage D: the validator after any history**, with the delivered list existentially quantified
as in `C07.inv`.  True root, true geometry, io-backed or in-memory outboard (any backing), target
pre-sized to the blob, `RtTrue hf d bs`.  With `fin = run hf ops sink`:
(i) every chunk group all of whose byte positions are delivered is `Verifiable` in `fin`, and
    `validRanges` reports it for every well-formed query that touches it unless the validator run
    ends in an io error;
(ii) every group `validRanges` reports holds the blob's bytes and lies inside the blob; if moreover
    the initial target differs from the blob in some byte of a chunk of a reported group, every byte
    position of that chunk has been delivered;
(iii) if the outboard was pre-sized, no validator run on `fin` ends in an io error. -/
theorem validator_after_history (cf : CollisionFree hf) (hlen : ∀ h, (hf.toBytes h).length = 32)
    (hrt : RtTrue hf d bs) (hd : d.length ≤ 2 ^ 63) (hbs : bs ≤ 10) (ops : List Op) (sink : Sink H)
    (hroot : sink.ob.root = Spec.root hf d) (htree : sink.ob.tree = ⟨d.length, bs⟩)
    (hk : sink.ob.kind ≠ .empty) (htl : sink.target.length = d.length) (fl : Flavour) :
    ∃ wl : List (Nat × List UInt8),
      (∀ w ∈ wl, TrueLeaf d w.1 w.2) ∧
      (run hf ops sink).target = applyWrites sink.target wl ∧
      (∀ j, j < Tree.blocks ⟨d.length, bs⟩ → GroupDelivered d bs wl j →
        ValidL.Verifiable hf fl (run hf ops sink).ob (run hf ops sink).target true
          (ValidL.groupRange ⟨d.length, bs⟩ j) ∧
        ∀ q, Ranges.WF q = true →
          (Tree.blocks ⟨d.length, bs⟩ = 1 ∨
            ValidL.Touched d.length q (ValidL.groupRange ⟨d.length, bs⟩ j)) →
          (validRanges hf fl (run hf ops sink).ob (run hf ops sink).target q).terminal = .ok →
          ValidL.groupRange ⟨d.length, bs⟩ j ∈
            (validRanges hf fl (run hf ops sink).ob (run hf ops sink).target q).yields) ∧
      (∀ q g, g ∈ (validRanges hf fl (run hf ops sink).ob (run hf ops sink).target q).yields →
        (((run hf ops sink).target.drop (g.1 * 1024)).take
            (min (g.2 * 1024) d.length - g.1 * 1024) =
          (d.drop (g.1 * 1024)).take (min (g.2 * 1024) d.length - g.1 * 1024) ∧
        g.1 * 1024 + (min (g.2 * 1024) d.length - g.1 * 1024) ≤ d.length) ∧
        ∀ c, g.1 ≤ c → c < g.2 →
          (∃ i₀, c * 1024 ≤ i₀ ∧ i₀ < (c + 1) * 1024 ∧ i₀ < d.length ∧
            sink.target[i₀]? ≠ d[i₀]?) →
          ∀ i, c * 1024 ≤ i → i < (c + 1) * 1024 → i < d.length → Cov wl i) ∧
      (sink.ob.tree.outboardSize ≤ sink.ob.data.length → ∀ q,
        (validRanges hf fl (run hf ops sink).ob (run hf ops sink).target q).terminal = .ok) := by
  obtain ⟨es, h⟩ := history_log (bs := bs) cf hd ops sink hroot htree
  exact ⟨_, (log_target h).1, (log_target h).2,
    fun j hj hdel => log_validator_reports hlen hrt hd hbs h hroot htree hk htl fl j hj hdel,
    fun q g hgm => ⟨log_validator_sound cf hd hbs h hroot htree htl fl q g hgm,
      fun c c1 c2 hdf => log_reported_delivered cf hd hbs h hroot htree htl fl q g hgm c c1 c2
        hdf⟩,
    fun hfull q => log_validator_ok hd hbs h htree hk htl hfull fl q⟩

section examples

/-- a collision free hash with a 32-byte representation (`CollisionFree` and `hlen` together) -/
def h32 : HashFns Term := { termHash with toBytes := fun _ => List.replicate 32 0 }

theorem h32_cf : CollisionFree h32 := by
  intro x y h
  cases x <;> cases y <;> simp only [HashFns.eval, h32, termHash] at h <;> first
    | (injection h with h1 h2 h3; subst h1 h2 h3; rfl)
    | (injection h)

theorem h32_len : ∀ h, (h32.toBytes h).length = 32 := fun _ => List.length_replicate ..

/-- 2500 bytes: three chunks; at `bs = 1` two chunk groups and one persisted node -/
def blob3 : List UInt8 := List.replicate 2500 7
def tampered3 : List UInt8 := List.replicate 64 1 ++ List.replicate 2500 8

theorem blob3_le : blob3.length ≤ 2 ^ 63 := by
  simp only [blob3, List.length_replicate]; omega

/-- pre-sized target, pre-sized post-order memory outboard, true root, true geometry -/
def sink3 : Sink Term :=
  { ob := { kind := .postMem, root := Spec.root h32 blob3, tree := ⟨2500, 1⟩,
            data := List.replicate 64 0 },
    target := List.replicate 2500 0 }

theorem sink3_tree : sink3.ob.tree = ⟨blob3.length, 1⟩ := by
  simp only [sink3, blob3, List.length_replicate]

theorem sink3_root : sink3.ob.root = Spec.root h32 blob3 := by simp only [sink3]

theorem sink3_len : sink3.target.length = blob3.length := by
  simp only [sink3, blob3, List.length_replicate]

/-- a tampered stream with the first write failing, a truncated stream, an overlapping query on
the other flavour with the first save failing -/
def hist3 : List Op :=
  [⟨.sync, tampered3, [0], some 0, none⟩, ⟨.fsm, [], [1, 2], none, none⟩,
   ⟨.fsm, tampered3, [0, 2], none, some 0⟩]

example := saved_pairs_labelled (d := blob3) (bs := 1) h32_cf blob3_le hist3 sink3 sink3_root sink3_tree

example := ancestors_saved_before_leaf (d := blob3) (bs := 1) h32_cf blob3_le .sync tampered3 [0]
  sink3 (some 1) none sink3_root sink3_tree

example := ancestors_hold (d := blob3) (bs := 1) h32_cf h32_len blob3_le (by decide) hist3 sink3
  sink3_root sink3_tree (by decide)

example := converges_outboard (d := blob3) (bs := 1) h32_cf h32_len blob3_le (by decide) hist3
  sink3 sink3_root sink3_tree (by decide) (by decide)

/-- a collision free hash with a 32-byte representation whose `ofBytes` / `toBytes` round-trip on
the two hashes of the true pair of the two-chunk blob `blob2` -/
def rtHash : HashFns Term where
  chunkCv := Term.chunk
  parentCv := Term.parent
  ofBytes := fun b =>
    if b = List.replicate 32 1 then Term.chunk 0 (List.replicate 1024 7) false
    else if b = List.replicate 32 2 then Term.chunk 1 [7] false
    else Term.raw b
  toBytes := fun h =>
    match h with
    | .chunk 0 _ false => List.replicate 32 1
    | .chunk 1 _ false => List.replicate 32 2
    | _ => List.replicate 32 0

theorem rtHash_cf : CollisionFree rtHash := by
  intro x y h
  cases x <;> cases y <;> simp only [HashFns.eval, rtHash] at h <;> first
    | (injection h with h1 h2 h3; subst h1 h2 h3; rfl)
    | (injection h)

theorem rtHash_len : ∀ h, (rtHash.toBytes h).length = 32 := by
  intro h
  simp only [rtHash]
  split <;> exact List.length_replicate ..

/-- 1025 bytes: two chunks; at `bs = 0` two chunk groups and one persisted node -/
def blob2 : List UInt8 := List.replicate 1025 7

theorem blob2_le : blob2.length ≤ 2 ^ 63 := by
  simp only [blob2, List.length_replicate]; omega

theorem rtHash_rt : RtTrue rtHash blob2 0 := by
  intro k L _ h
  rw [show nChunks blob2.length = 2 by decide] at h
  obtain ⟨rfl, rfl⟩ := node_of_two_chunks h
  decide +kernel

def sink2 : Sink Term :=
  { ob := { kind := .preIo, root := Spec.root rtHash blob2, tree := ⟨1025, 0⟩,
            data := List.replicate 64 0 },
    target := List.replicate 1025 0 }

theorem sink2_tree : sink2.ob.tree = ⟨blob2.length, 0⟩ := by
  simp only [sink2, blob2, List.length_replicate]

theorem sink2_root : sink2.ob.root = Spec.root rtHash blob2 := by simp only [sink2]

theorem sink2_len : sink2.target.length = blob2.length := by
  simp only [sink2, blob2, List.length_replicate]

example := validator_after_history (d := blob2) (bs := 0) rtHash_cf rtHash_len rtHash_rt blob2_le
  (by decide) [⟨.sync, tampered3, [0], some 0, none⟩, ⟨.fsm, [], [1, 2], none, none⟩] sink2 sink2_root
  sink2_tree (by decide) sink2_len .sync

example := validator_exact_partial (d := blob2) (bs := 0) rtHash_cf rtHash_len rtHash_rt blob2_le
  (by decide) [⟨.sync, tampered3, [0], some 0, none⟩, ⟨.fsm, [], [1, 2], none, none⟩] sink2 sink2_root
  sink2_tree (by decide) sink2_len (by decide) .sync [0] (by decide)

/-- an honest, uninterrupted, complete download of `blob2` -/
def honest2 : List Op := [⟨.sync, Spec.encode rtHash blob2 0 [0], [0], none, none⟩]

theorem honest2_target : (run rtHash honest2 sink2).target = blob2 := by decide +kernel

theorem blob2_diff (i : Nat) (hi : i < blob2.length) : sink2.target[i]? ≠ blob2[i]? := by
  simp only [blob2, List.length_replicate] at hi
  show (List.replicate 1025 (0 : UInt8))[i]? ≠ (List.replicate 1025 (7 : UInt8))[i]?
  rw [List.getElem?_replicate, List.getElem?_replicate]
  simp only [hi, if_true]
  decide

/-- … delivers every byte position (the initial target is all zeros, the blob all sevens) -/
theorem honest2_all {es : List (Ev Term)} (h : LabelledLog rtHash blob2 0 honest2 sink2 es) :
    ∀ i, i < blob2.length → Cov (FaultL.writes es) i := by
  intro i hi
  apply Classical.byContradiction
  intro hn
  obtain ⟨-, hg⟩ := evs_target_spec h.2.2 h.1 sink2_len
  rw [honest2_target] at hg
  exact blob2_diff i hi ((hg i).2 hn).symm

/-- after the complete download the validator reports both chunk groups (`log_validator_exact`,
right to left: its hypotheses, and those of `log_validator_reports` / `log_validator_ok`, are
jointly satisfiable) -/
theorem honest2_reported {es : List (Ev Term)} (h : LabelledLog rtHash blob2 0 honest2 sink2 es)
    (j : Nat) (hj : j < 2) :
    ValidL.groupRange ⟨blob2.length, 0⟩ j = (j, j + 1) ∧
    ValidL.groupRange ⟨blob2.length, 0⟩ j ∈
      (validRanges rtHash .sync (run rtHash honest2 sink2).ob (run rtHash honest2 sink2).target
        [0]).yields := by
  have hall := honest2_all h
  have hlen : blob2.length = 1025 := by simp only [blob2, List.length_replicate]
  have hj' : j = 0 ∨ j = 1 := by omega
  have hg : ValidL.groupRange ⟨blob2.length, 0⟩ j = (j, j + 1) := by
    rw [hlen]
    rcases hj' with rfl | rfl <;> decide
  refine ⟨hg, (log_validator_exact rtHash_cf rtHash_len rtHash_rt blob2_le (by decide) h sink2_root
    sink2_tree (by decide) sink2_len (by decide) .sync [0] (by decide) j
    (by rw [hlen]; have : Tree.blocks ⟨1025, 0⟩ = 2 := by decide
        omega) ?_).2 ⟨.inr ⟨j, ?_, ?_, ?_⟩, fun i _ _ hi => hall i hi⟩⟩
  · intro c hc1 hc2
    rw [hg] at hc1 hc2
    simp only at hc1 hc2
    exact ⟨c * 1024, Nat.le_refl _, by omega, by omega, blob2_diff _ (by omega)⟩
  · rw [hg]; exact Nat.le_refl _
  · rw [hg]; exact Nat.lt_succ_self _
  · rw [hlen]
    rcases hj' with rfl | rfl <;> decide

/-- `log_converges`, `log_validator_exact` (hence `log_validator_reports`, `log_validator_ok`):
after the complete honest download the outboard IS the pre-order outboard of the blob, the target
is the blob, and the validator reports both chunk groups -/
example : ∃ es, LabelledLog rtHash blob2 0 honest2 sink2 es ∧
    (∀ i, i < blob2.length → Cov (FaultL.writes es) i) ∧
    (run rtHash honest2 sink2).ob.data = Spec.preOutboard rtHash blob2 0 ∧
    (run rtHash honest2 sink2).target = blob2 ∧
    ∀ j, j < 2 → ValidL.groupRange ⟨blob2.length, 0⟩ j ∈
      (validRanges rtHash .sync (run rtHash honest2 sink2).ob (run rtHash honest2 sink2).target
        [0]).yields := by
  obtain ⟨es, h⟩ := history_log (bs := 0) rtHash_cf blob2_le honest2 sink2 sink2_root sink2_tree
  have hall := honest2_all h
  have hconv := log_converges rtHash_len blob2_le (by decide) h sink2_tree (by decide)
    (by decide) hall
  exact ⟨es, h, hall, hconv.1 (.inl rfl), hconv.2.2 sink2_len,
    fun j hj => (honest2_reported h j hj).2⟩

/-- `log_validator_sound`, `log_reported_delivered`, `log_validator_exact` (left to right) on
the reported second group of the complete download -/
example : ∃ es, LabelledLog rtHash blob2 0 honest2 sink2 es ∧
    (∀ i, 1 * 1024 ≤ i → i < (1 + 1) * 1024 → i < blob2.length → Cov (FaultL.writes es) i) := by
  obtain ⟨es, h⟩ := history_log (bs := 0) rtHash_cf blob2_le honest2 sink2 sink2_root sink2_tree
  obtain ⟨hg, hrep⟩ := honest2_reported h 1 (by decide)
  have hlen : blob2.length = 1025 := by simp only [blob2, List.length_replicate]
  have _hs := log_validator_sound rtHash_cf blob2_le (by decide) h sink2_root sink2_tree sink2_len
    .sync [0] _ hrep
  exact ⟨es, h, log_reported_delivered rtHash_cf blob2_le (by decide) h sink2_root sink2_tree
    sink2_len .sync [0] _ hrep 1 (by rw [hg]; exact Nat.le_refl _) (by rw [hg]; decide)
    ⟨1024, by decide, by decide, by rw [hlen]; decide, blob2_diff _ (by rw [hlen]; decide)⟩⟩

/-- `log_order`, `log_target`, `log_saves`, `log_ancestors_hold` on a log of the faulty history -/
example : True := by
  obtain ⟨es, h⟩ := history_log (bs := 1) h32_cf blob3_le hist3 sink3 sink3_root sink3_tree
  have _h1 := log_order h
  have _h2 := log_target h
  have _h3 := log_saves h
  have _h4 := log_ancestors_hold h32_len blob3_le (by decide) h sink3_tree (by decide)
  trivial

end examples

/-
## Status (C07, second half)

All theorems: axioms ⊆ {propext, Classical.choice, Quot.sound}.  Standing hypotheses:
`CollisionFree hf`, `sink.ob.root = Spec.root hf d`, `sink.ob.tree = ⟨d.length, bs⟩` (true geometry),
`d.length ≤ 2^63`; histories are arbitrary lists of fault-injected `decodeRangesF` calls with ARBITRARY
streams; "after every step" is the instance at each prefix of `ops`.

PROVED: `history_log` (with `log_order`, `log_target`, `log_saves`), `saved_pairs_labelled` (Stage A),
`ancestors_saved_before_leaf`, `log_ancestors_hold` / `ancestors_hold` (Stage B), `log_converges` /
`converges_outboard` (Stage C), `log_validator_reports`, `log_validator_ok`, `log_validator_sound`,
`log_reported_delivered`, `log_validator_exact`, packaged as `validator_after_history` (Stage D).

PARTIAL: `validator_exact_partial` – "the validator reports exactly the delivered groups" is proved as
an IFF, but only under the O3 side condition (`hdiff`: the initial target differs from the blob in at
least one byte of every chunk of the group) — without it the literal sentence is false: a
zero-initialised target already "holds" an all-zero chunk, and `validRanges` reports its group as soon
as the ancestors are stored — plus pre-sized outboard, well-formed query, `RtTrue`.

OPEN: nothing of the C07 sentence, for stores of the four non-empty kinds.  Not treated: the
`EmptyOutboard` (nothing is stored, `Holds`/convergence are meaningless there; `history_log`,
Stage A and Stage B's order statement DO cover it).

Remarks
* `RtTrue hf d bs` instead of the global round trip `∀ h, ofBytes (toBytes h) = h`: the global one is
  inconsistent with `CollisionFree hf` + 32-byte hashes (`Lemmas/CFUnsat.lean`), which would make
  Stage D vacuous; the round trip on the hashes of the true tree is what the validator needs and is
  satisfiable together with the other two (`rtHash`, `rtHash_rt`).
* `Store.save` of the io kinds silently ignores a node without
  slot (`.ok s`); under the true geometry every relevant existing node has a slot, so this branch is
  not reached by the labelled saves.  The sync flavour skips the write of an empty leaf; an empty
  leaf covers no byte position, so `Cov` is not affected.
-/

end Bao.C07
