import BaoProofs.Lemmas.C13BytesL
import BaoProofs.Props.C03

/-!
# C13, byte level — post-order outboards only grow at the end

"… stable nodes keep their post-order slot and their stored pair when the blob is extended by
appending, and they occupy a prefix of the outboard with all unstable nodes after them.  So the
post-order outboard of a blob, cut after its stable pairs, is a byte prefix of the post-order
outboard of every extension of that blob."

`Props/C13.lean` has the slot statements (`stable_iff`, `stable_independent`, `stable_prefix`).
Here: the stored pair of a stable node is unchanged by appending, the first `S` persisted nodes
(`S = stableCount` = number of stable persisted nodes) are the same in every extension, hence the
first `64 · S` bytes of `Spec.postOutboard` — and of what the sequential writer
`outboardPostOrder` emits — are shared with every extension; all unstable pairs lie behind them.
Everything holds for EVERY `hf : HashFns H` (no collision freedom needed).
-/

namespace Bao.C13

open Bao Bao.Offsets
open Bao.Spec (nodeOf endOf indexOf levelOf)

/-- `S`: the number of stable persisted nodes of `(size, bs)` (the `S` of `C13.stable_prefix`) -/
abbrev stableCount (size bs : Nat) : Nat :=
  (Spec.persistedPost size bs).countP (isStable ⟨size, bs⟩)

/-- a blob of 5 chunks and 3 more chunks to append (for the non-vacuity examples); at `bs = 0` the
blob has 4 persisted nodes `[0, 2, 1, 3]`, the first three of them stable -/
def blob5 : List UInt8 := List.replicate 5000 7
def ext3 : List UInt8 := List.replicate 3000 9
theorem blob5_length : blob5.length = 5000 := by simp only [blob5, List.length_replicate]
theorem blob5_ext3_size : (blob5 ++ ext3).length ≤ 2 ^ 63 := by
  simp only [blob5, ext3, List.length_append, List.length_replicate]; decide

example : Spec.persistedPost 5000 0 = [0, 2, 1, 3] ∧ stableCount 5000 0 = 3 := by decide

/-! ## 1. the stored pair of a stable node does not see appended bytes -/

/-- node `(k, L)` whose untruncated chunk interval ends inside `d` (by `stable_iff`: a stable node):
its two child chaining values are the same in `d` and in every extension `d ++ e` -/
theorem stable_pair_unchanged {H : Type} (hf : HashFns H) (d e : List UInt8) (k L : Nat)
    (h : endOf k L * 1024 ≤ d.length) :
    Spec.pair hf (d ++ e) k L = Spec.pair hf d k L :=
  C13L.pair_append hf d e k L h

example : Spec.pair C03.toyHash (blob5 ++ ext3) 0 1 = Spec.pair C03.toyHash blob5 0 1 :=
  stable_pair_unchanged C03.toyHash blob5 ext3 0 1 (by rw [blob5_length]; decide)

/-- … hence the 64 stored bytes of the node id are unchanged -/
theorem stable_pairBytes_unchanged {H : Type} (hf : HashFns H) (d e : List UInt8) (x : Nat)
    (h : endOf (indexOf x) (levelOf x) * 1024 ≤ d.length) :
    Spec.pairBytes hf (d ++ e) x = Spec.pairBytes hf d x :=
  C13L.pairBytes_append hf d e x h

example : Spec.pairBytes C03.toyHash (blob5 ++ ext3) 1 = Spec.pairBytes C03.toyHash blob5 1 :=
  stable_pairBytes_unchanged C03.toyHash blob5 ext3 1 (by rw [blob5_length]; decide)

/-- every stable persisted node satisfies the hypothesis of `stable_pairBytes_unchanged` -/
theorem stable_persisted_end (size bs x : Nat) (hs : size ≤ 2 ^ 63) (_hbs : bs ≤ 10)
    (hx : x ∈ Spec.persistedPost size bs) (hst : isStable ⟨size, bs⟩ x = true) :
    endOf (indexOf x) (levelOf x) * 1024 ≤ size :=
  C13L.stable_end hs hx hst

example : endOf (indexOf 1) (levelOf 1) * 1024 ≤ 5000 :=
  stable_persisted_end 5000 0 1 (by decide) (by decide) (by decide) (by decide)

/-! ## 2. the stable nodes are the same, in the same order, in every extension -/

/-- the first `S` persisted nodes (post-order) of a blob of `size` bytes are exactly the first `S`
persisted nodes of every larger blob (same nodes, same order); a persisted node stays persisted; and
the number of stable nodes does not shrink -/
theorem stable_nodes_prefix (size size' bs : Nat) (hle : size ≤ size') (hs' : size' ≤ 2 ^ 63)
    (hbs : bs ≤ 10) :
    (Spec.persistedPost size bs).take (stableCount size bs)
      = (Spec.persistedPost size' bs).take (stableCount size bs) ∧
    stableCount size bs ≤ (Spec.persistedPost size bs).length ∧
    stableCount size bs ≤ stableCount size' bs ∧
    stableCount size' bs ≤ (Spec.persistedPost size' bs).length ∧
    (∀ x ∈ Spec.persistedPost size bs, x ∈ Spec.persistedPost size' bs) :=
  ⟨C13L.take_stable_eq hle hs' hbs, C13L.stable_count_le size bs,
    C13L.stable_count_mono hle hs' hbs, C13L.stable_count_le size' bs,
    fun _ hx => C13L.persistedPost_mono hle hs' hx⟩

example : (Spec.persistedPost 5000 0).take (stableCount 5000 0)
    = (Spec.persistedPost 8000 0).take (stableCount 5000 0) :=
  (stable_nodes_prefix 5000 8000 0 (by decide) (by decide) (by decide)).1

/-! ## 3. the byte statement for the specification outboard -/

/-- the post-order outboard of `d`, cut after its `S` stable pairs, equals the post-order outboard
of every extension `d ++ e` cut at the same place, and both outboards are at least that long: the
outboard of `d` cut after its stable pairs is a byte prefix of the outboard of every extension -/
theorem outboard_stable_prefix {H : Type} (hf : HashFns H)
    (hlen : ∀ h, (hf.toBytes h).length = 32) (d e : List UInt8) (bs : Nat)
    (hs : (d ++ e).length ≤ 2 ^ 63) (hbs : bs ≤ 10) :
    (Spec.postOutboard hf d bs).take (64 * stableCount d.length bs)
      = (Spec.postOutboard hf (d ++ e) bs).take (64 * stableCount d.length bs) ∧
    (Spec.postOutboard hf d bs).take (64 * stableCount d.length bs)
      <+: Spec.postOutboard hf (d ++ e) bs ∧
    64 * stableCount d.length bs ≤ (Spec.postOutboard hf d bs).length ∧
    64 * stableCount d.length bs ≤ (Spec.postOutboard hf (d ++ e) bs).length := by
  have hle : d.length ≤ (d ++ e).length := by rw [List.length_append]; exact Nat.le_add_right _ _
  have hs0 : d.length ≤ 2 ^ 63 := Nat.le_trans hle hs
  have heq := C13L.postOutboard_stable_take hf hlen d e bs hs hbs
  have h1 := C13L.stable_count_le d.length bs
  have h2 := C13L.stable_count_le' hle hs hbs
  refine ⟨heq, ?_, ?_, ?_⟩
  · rw [heq]; exact List.take_prefix _ _
  · rw [OutboardL.postOutboard_length hf d bs (OutboardL.pairBytes_length hf hlen d) hs0 hbs,
      ← (C12.post d.length bs hs0 hbs).1]
    exact Nat.le_trans (Nat.mul_le_mul_left 64 h1) (Nat.le_of_eq (Nat.mul_comm _ _))
  · rw [OutboardL.postOutboard_length hf (d ++ e) bs (OutboardL.pairBytes_length hf hlen _) hs hbs,
      ← (C12.post (d ++ e).length bs hs hbs).1]
    exact Nat.le_trans (Nat.mul_le_mul_left 64 h2) (Nat.le_of_eq (Nat.mul_comm _ _))

example : (Spec.postOutboard C03.toyHash blob5 0).take (64 * stableCount blob5.length 0)
    <+: Spec.postOutboard C03.toyHash (blob5 ++ ext3) 0 :=
  (outboard_stable_prefix C03.toyHash C03.toy_len blob5 ext3 0 blob5_ext3_size (by decide)).2.1

/-! ## 4. the same for the bytes the sequential writer emits -/

/-- `outboard_post_order` run on `d`: its output cut after the stable pairs is a prefix of its
output on every extension `d ++ e` (and it is not shorter than the cut) -/
theorem writer_stable_prefix {H : Type} (hf : HashFns H)
    (hlen : ∀ h, (hf.toBytes h).length = 32) (d e : List UInt8) (bs : Nat)
    (hs : (d ++ e).length ≤ 2 ^ 63) (hbs : bs ≤ 10) :
    (outboardPostOrder hf d ⟨d.length, bs⟩).sink.take (64 * stableCount d.length bs)
      <+: (outboardPostOrder hf (d ++ e) ⟨(d ++ e).length, bs⟩).sink ∧
    64 * stableCount d.length bs ≤ (outboardPostOrder hf d ⟨d.length, bs⟩).sink.length := by
  have hle : d.length ≤ (d ++ e).length := by rw [List.length_append]; exact Nat.le_add_right _ _
  rw [C03.post_order_writer hf d bs (Nat.le_trans hle hs) hbs,
    C03.post_order_writer hf (d ++ e) bs hs hbs]
  obtain ⟨_, h2, h3, _⟩ := outboard_stable_prefix hf hlen d e bs hs hbs
  exact ⟨h2, h3⟩

example : (outboardPostOrder C03.toyHash blob5 ⟨blob5.length, 0⟩).sink.take
      (64 * stableCount blob5.length 0)
    <+: (outboardPostOrder C03.toyHash (blob5 ++ ext3) ⟨(blob5 ++ ext3).length, 0⟩).sink :=
  (writer_stable_prefix C03.toyHash C03.toy_len blob5 ext3 0 blob5_ext3_size (by decide)).1

/-! ## 5. where the pairs are: stable ones inside the cut, unstable ones behind it -/

/-- the 64 bytes of a persisted node with post-order slot `v` (stable or unstable) are the bytes
`64·v … 64·v+63` of the post-order outboard -/
theorem node_bytes_at {H : Type} (hf : HashFns H) (hlen : ∀ h, (hf.toBytes h).length = 32)
    (d : List UInt8) (bs : Nat) (hs : d.length ≤ 2 ^ 63) (hbs : bs ≤ 10) (x v : Nat)
    (hx : x ∈ Spec.persistedPost d.length bs)
    (hv : (Tree.postOrderOffset ⟨d.length, bs⟩ x).map Tree.PostOffset.value = some v) :
    ((Spec.postOutboard hf d bs).drop (64 * v)).take 64 = Spec.pairBytes hf d x ∧
    64 * v + 64 ≤ (Spec.postOutboard hf d bs).length := by
  obtain ⟨i, hi, rfl⟩ := List.getElem_of_mem hx
  have := (C12.post d.length bs hs hbs).2 i hi
  rw [this] at hv
  obtain rfl := Option.some.inj hv
  refine ⟨C13L.postOutboard_block hf hlen d bs i hi, ?_⟩
  rw [OutboardL.postOutboard_length hf d bs (OutboardL.pairBytes_length hf hlen d) hs hbs,
    ← (C12.post d.length bs hs hbs).1, Nat.mul_comm 64 i]
  exact WriteAtL.slot_add_le hi (Nat.le_refl _)

example : ((Spec.postOutboard C03.toyHash blob5 0).drop (64 * 2)).take 64
    = Spec.pairBytes C03.toyHash blob5 1 :=
  (node_bytes_at C03.toyHash C03.toy_len blob5 0 (by rw [blob5_length]; decide) (by decide) 1 2
    (by rw [blob5_length]; decide) (by rw [blob5_length]; decide)).1

/-- a stable persisted node's 64 bytes lie completely inside the cut `64 · S`, an unstable persisted
node's 64 bytes start at or after the cut -/
theorem unstable_after (size bs : Nat) (hs : size ≤ 2 ^ 63) (hbs : bs ≤ 10) :
    ∀ x ∈ Spec.persistedPost size bs, ∀ v,
      (Tree.postOrderOffset ⟨size, bs⟩ x = some (.stable v) → 64 * v + 64 ≤ 64 * stableCount size bs) ∧
      (Tree.postOrderOffset ⟨size, bs⟩ x = some (.unstable v) → 64 * stableCount size bs ≤ 64 * v) := by
  intro x hx v
  have := stable_prefix size bs hs hbs x hx v
  simp only [stableCount]
  exact ⟨fun h => Nat.mul_le_mul_left 64 (this.1 h), fun h => Nat.mul_le_mul_left 64 (this.2 h)⟩

example : 64 * stableCount 5000 0 ≤ 64 * 3 :=
  ((unstable_after 5000 0 (by decide) (by decide)) 3 (by decide) 3).2 (by decide)

end Bao.C13

/-
Status.
PROVED (full strength; every `hf : HashFns H`, no collision freedom): `stable_pair_unchanged`,
`stable_pairBytes_unchanged`, `stable_persisted_end`, `stable_nodes_prefix`, `unstable_after` (no hypothesis on
the byte representation); `outboard_stable_prefix`, `writer_stable_prefix`, `node_bytes_at` (`hlen`).
PARTIAL: none.   OPEN: none.
-/
