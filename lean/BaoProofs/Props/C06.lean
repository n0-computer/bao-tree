import BaoProofs.Lemmas.C06LocL
import BaoProofs.Props.C03

/-!
# C06 — `valid_ranges` reports exactly what is verifiably stored

"For any state of a store (intact, bytes altered anywhere, partially filled), every chunk group
the data validator reports has stored bytes that hash to its leaf value and a chain of stored hash
pairs linking it to the root - so it holds true blob bytes - and every such group that the query
touches is reported.  The outboard-only validator does the same with the data check left out; an
intact store is reported completely, and the sync and async validators agree."
(the last clause is `C08.validRanges_eq`.)

The notions (definitions in `BaoProofs/Lemmas/ValidL.lean`, all by recursion on the level of the
shifted node, following left child / right descendant; none of `Group`, `Linked`, `Verifiable`
mentions the query, `Reach` does not mention the store contents):

* `Group t x g`, `Linked hf fl ob data withData owed x isRoot g`, `Reach t ranges x g` – `GroupC`,
  `LinkedC`, `ReachC` of the header of `Lemmas/ValidL.lean` at the coordinates of the shifted id `x`;
  the groups below the shifted root are exactly `groupRange t i`, `i < blocks` (`groups`).
* `Verifiable hf fl ob data withData g` – `Linked` to `ob.root` from the shifted root (for a tree
  with one chunk group: `g` is that group and its bytes hash to the root).
* `Touched size q g`       – the query selects a chunk of `g` (`Spec.selected`).
* `NoIo hf fl ob data withData` – no load of a node the validator loads can fail, and (with data)
  the data file is as long as the blob.

`size ≤ 2^63`, `bs ≤ 10` throughout (`tree = ob.tree`).
-/

set_option maxRecDepth 100000   -- the `decide`s of the examples walk lists of 1025 bytes

namespace Bao.C06

open Bao Bao.Spec Bao.ValidL

variable {H : Type}

/-! ## toy instances for the non-vacuity examples -/

/-- a collision free hash (the free term algebra) whose `ofBytes` decodes two 32-byte tags, so that
a 64-byte outboard can hold the true pair of the two-group blob `toyData` -/
def toyHash : HashFns Term where
  chunkCv := Term.chunk
  parentCv := Term.parent
  ofBytes := fun b =>
    if b = List.replicate 32 1 then Term.chunk 0 (List.replicate 1024 7) false
    else if b = List.replicate 32 2 then Term.chunk 1 [7] false
    else Term.raw b
  toBytes := fun _ => []

theorem toyHash_cf : CollisionFree toyHash := by
  intro x y h
  cases x <;> cases y <;> simp only [HashFns.eval, toyHash] at h <;> first
    | (injection h with h1 h2 h3; subst h1 h2 h3; rfl)
    | (injection h)

/-- 1025 bytes: two chunks, two chunk groups at `bs = 0` -/
def toyData : List UInt8 := List.replicate 1025 7

/-- the intact pre-order memory store of `toyData` (its root computed by the model) -/
def toyStore : Store Term :=
  ⟨.preMem, hashSubtree toyHash 0 toyData true, ⟨1025, 0⟩, List.replicate 32 1 ++ List.replicate 32 2⟩

/-- the same with the second hash of the stored pair altered -/
def badStore : Store Term := { toyStore with data := List.replicate 32 1 ++ List.replicate 32 3 }

/-- an `EmptyOutboard` over three chunk groups -/
def emptyStore : Store Term := ⟨.empty, .raw [], ⟨3000, 0⟩, []⟩

theorem toy_root : toyStore.root = Spec.root toyHash toyData := by
  rw [Spec.root, Spec.cv, C01.slice_full, toyStore]

/-- one evaluation of `toyStore`: its one persisted node `(0, 0)` holds the true pair (the loads of
a memory store do not look at the flavour), and the validator reports group `(0, 1)` -/
private theorem toy_eval :
    toyStore.load toyHash .sync (nodeOf 0 0) = .ok (some (Spec.pair toyHash toyData 0 0)) ∧
    toyStore.load toyHash .fsm (nodeOf 0 0) = .ok (some (Spec.pair toyHash toyData 0 0)) ∧
    (0, 1) ∈ (validRanges toyHash .sync toyStore toyData [0]).yields := by decide +kernel

theorem toy_load (fl : Flavour) : ∀ k M, toyStore.tree.bs ≤ M → midOf k M < nChunks toyData.length →
    toyStore.load toyHash fl (nodeOf k M) = .ok (some (Spec.pair toyHash toyData k M)) := by
  intro k M _ h
  have hn : nChunks toyData.length = 2 := by rw [toyData, List.length_replicate]; decide
  rw [hn] at h
  have e : midOf k M = k * 2 ^ (M + 1) + 2 ^ M := rfl
  have hp := Nat.two_pow_pos M
  have hM : M = 0 := by
    cases M with
    | zero => rfl
    | succ M => rw [e, Nat.pow_succ 2 M] at h; omega
  subst hM
  have hk : k = 0 := by rw [e] at h; omega
  subst hk
  cases fl
  · exact toy_eval.1
  · exact toy_eval.2.1

theorem toy_verifiable : Verifiable toyHash .sync toyStore toyData true (0, 1) :=
  intact_of_load_top (ob := toyStore) (by rw [toyData, List.length_replicate]; decide) (by decide)
    (by rw [toyData, List.length_replicate]; decide) toy_root true (toy_load .sync) 0 (by decide)

/-! ## 1. `Linked` and `Reach` follow the tree: left child / right descendant -/

/-- an inner shifted node: its stored pair must give the hash owed from above; the walk continues
with (left hash, left child) if the group starts in front of the node's mid, else with
(right hash, right descendant) -/
theorem linked_inner (hf : HashFns H) (fl : Flavour) (ob : Store H) (data : List UInt8)
    (withData : Bool) (hs : ob.tree.size ≤ 2 ^ 63) (hbs : ob.tree.bs ≤ 10) {x : Nat}
    (hx : x < ob.tree.shifted.2) (hleaf : Node.isLeaf x = false) (owed : H) (isRoot : Bool)
    (g : Nat × Nat) :
    Linked hf fl ob data withData owed x isRoot g ↔
      ∃ lh rh lc rd, ob.load hf fl (Node.subBs x ob.tree.bs) = .ok (some (lh, rh)) ∧
        hf.parentCv lh rh isRoot = owed ∧ Node.leftChild x = some lc ∧
        Node.rightDescendant x ob.tree.shifted.2 = some rd ∧
        if g.1 < Node.mid (Node.subBs x ob.tree.bs) then
          Linked hf fl ob data withData lh lc false g
        else Linked hf fl ob data withData rh rd false g :=
  Linked_inner hf fl ob data withData hs hbs hx hleaf owed isRoot g

example : emptyStore.tree.size ≤ 2 ^ 63 ∧ emptyStore.tree.bs ≤ 10 ∧
    (1 : Nat) < emptyStore.tree.shifted.2 ∧ Node.isLeaf 1 = false := by decide

/-- a shifted leaf, with `(l, m, r) = leaf_byte_ranges3(node)`: a persisted node must hold a pair
that gives the owed hash, and the group is `[l, m)` checked against the left hash or `[m, r)`
checked against the right hash; the half leaf is not persisted and its only group `[l, r)` is
checked against the owed hash itself (`LeafOk … c s e h root` is
`withData → hashSubtree hf c data[s, e) root = h`) -/
theorem linked_leaf (hf : HashFns H) (fl : Flavour) (ob : Store H) (data : List UInt8)
    (withData : Bool) (hs : ob.tree.size ≤ 2 ^ 63) (hbs : ob.tree.bs ≤ 10) {x : Nat}
    (hx : x < ob.tree.shifted.2) (hleaf : Node.isLeaf x = true) (owed : H) (isRoot : Bool)
    (g : Nat × Nat) :
    Linked hf fl ob data withData owed x isRoot g ↔
      let node := Node.subBs x ob.tree.bs
      let lmr := ob.tree.leafByteRanges3 node
      if ob.tree.isRelevant node then
        ∃ lh rh, ob.load hf fl node = .ok (some (lh, rh)) ∧ hf.parentCv lh rh isRoot = owed ∧
          if g.1 < Node.mid node then
            g = (fullChunksOf lmr.1, chunksOf lmr.2.1) ∧
              LeafOk hf data withData (fullChunksOf lmr.1) lmr.1 lmr.2.1 lh false
          else
            g = (fullChunksOf lmr.2.1, chunksOf lmr.2.2) ∧
              LeafOk hf data withData (fullChunksOf lmr.2.1) lmr.2.1 lmr.2.2 rh false
      else
        g = (fullChunksOf lmr.1, chunksOf lmr.2.2) ∧
          LeafOk hf data withData (fullChunksOf lmr.1) lmr.1 lmr.2.2 owed isRoot :=
  Linked_leaf hf fl ob data withData hs hbs hx hleaf owed isRoot g

example : emptyStore.tree.size ≤ 2 ^ 63 ∧ emptyStore.tree.bs ≤ 10 ∧
    (2 : Nat) < emptyStore.tree.shifted.2 ∧ Node.isLeaf 2 = true := by decide

/-- the query side of an inner node: non-empty, then `split(ranges, node)`, the left half going to
the left child and the right half to the right descendant -/
theorem reach_inner (t : Tree) (hs : t.size ≤ 2 ^ 63) (hbs : t.bs ≤ 10) {x : Nat}
    (hx : x < t.shifted.2) (hleaf : Node.isLeaf x = false) (ranges : Ranges) (g : Nat × Nat) :
    Reach t ranges x g ↔
      ranges ≠ [] ∧ ∃ lc rd, Node.leftChild x = some lc ∧
        Node.rightDescendant x t.shifted.2 = some rd ∧
        if g.1 < Node.mid (Node.subBs x t.bs) then
          Reach t (Ranges.splitNode ranges (Node.subBs x t.bs)).1 lc g
        else Reach t (Ranges.splitNode ranges (Node.subBs x t.bs)).2 rd g :=
  Reach_inner t hs hbs hx hleaf ranges g

/-- the query side of a shifted leaf -/
theorem reach_leaf (t : Tree) (hs : t.size ≤ 2 ^ 63) (hbs : t.bs ≤ 10) {x : Nat}
    (hx : x < t.shifted.2) (hleaf : Node.isLeaf x = true) (ranges : Ranges) (g : Nat × Nat) :
    Reach t ranges x g ↔
      ranges ≠ [] ∧ (t.isRelevant (Node.subBs x t.bs) = true →
        if g.1 < Node.mid (Node.subBs x t.bs) then
          (Ranges.splitNode ranges (Node.subBs x t.bs)).1 ≠ []
        else (Ranges.splitNode ranges (Node.subBs x t.bs)).2 ≠ []) :=
  Reach_leaf t hs hbs hx hleaf ranges g

example : (⟨3000, 0⟩ : Tree).size ≤ 2 ^ 63 ∧ (⟨3000, 0⟩ : Tree).bs ≤ 10 ∧
    (1 : Nat) < (Tree.shifted ⟨3000, 0⟩).2 ∧ Node.isLeaf 1 = false ∧
    (0 : Nat) < (Tree.shifted ⟨3000, 0⟩).2 ∧ Node.isLeaf 0 = true := by decide

/-! ## 2. `validate_rec` -/

section
variable [BEq H] [LawfulBEq H]

/-- ANY state of the store and of the data file (altered bytes, short backing, io errors): started
at an existing shifted node with enough fuel, `validate_rec` reports only groups that are linked
to the hash owed to the node and reached by the query; if it ends without error it reports all of
them; the reports are strictly increasing, pairwise disjoint, free of duplicates -/
theorem sound_rec (hf : HashFns H) (fl : Flavour) (withData : Bool) (ob : Store H)
    (data : List UInt8) (hs : ob.tree.size ≤ 2 ^ 63) (hbs : ob.tree.bs ≤ 10) {shifted : Nat}
    (hx : shifted < ob.tree.shifted.2) {fuel : Nat} (hfuel : Node.level shifted < fuel) (owed : H)
    (isRoot : Bool) (ranges : Ranges) :
    let r := validateRec hf fl withData ob data ob.tree.shifted.2 fuel owed shifted isRoot ranges
    (∀ g ∈ r.yields,
      Linked hf fl ob data withData owed shifted isRoot g ∧ Reach ob.tree ranges shifted g) ∧
    (r.terminal = .ok → ∀ g, Linked hf fl ob data withData owed shifted isRoot g →
      Reach ob.tree ranges shifted g → g ∈ r.yields) ∧
    r.yields.Pairwise (fun a b => a.2 ≤ b.1 ∧ a.1 < b.1) ∧ r.yields.Nodup := by
  have h := rec_exact hf fl ob data withData hs hbs hx fuel hfuel owed isRoot ranges
  exact ⟨h.sound, fun he g h1 h2 => h.complete he g ⟨h1, h2⟩, h.sorted, h.nodup⟩

example : emptyStore.tree.size ≤ 2 ^ 63 ∧ emptyStore.tree.bs ≤ 10 ∧
    (1 : Nat) < emptyStore.tree.shifted.2 ∧ Node.level 1 < 65 := by decide

/-- when no io error is possible the run is `⟨ys, .ok⟩` and `g ∈ ys ↔ Linked ∧ Reach` -/
theorem exact_rec (hf : HashFns H) (fl : Flavour) (withData : Bool) (ob : Store H)
    (data : List UInt8) (hs : ob.tree.size ≤ 2 ^ 63) (hbs : ob.tree.bs ≤ 10)
    (hno : NoIo hf fl ob data withData) {shifted : Nat}
    (hx : shifted < ob.tree.shifted.2) {fuel : Nat} (hfuel : Node.level shifted < fuel) (owed : H)
    (isRoot : Bool) (ranges : Ranges) :
    ∃ ys, validateRec hf fl withData ob data ob.tree.shifted.2 fuel owed shifted isRoot ranges
        = ⟨ys, .ok⟩ ∧
      (∀ g, g ∈ ys ↔
        Linked hf fl ob data withData owed shifted isRoot g ∧ Reach ob.tree ranges shifted g) ∧
      ys.Pairwise (fun a b => a.2 ≤ b.1 ∧ a.1 < b.1) ∧ ys.Nodup :=
  (rec_exact hf fl ob data withData hs hbs hx fuel hfuel owed isRoot ranges).iff hno

example : NoIo toyHash .sync emptyStore [] false ∧ emptyStore.tree.size ≤ 2 ^ 63 ∧
    emptyStore.tree.bs ≤ 10 ∧ (1 : Nat) < emptyStore.tree.shifted.2 ∧ Node.level 1 < 65 :=
  ⟨noIo_empty _ _ _ _ _ rfl (fun h => by cases h), by decide⟩

/-! ## 3. the public validators -/

/-- `valid_ranges`, ANY state of store and data: every reported group is verifiable (and reached
by the canonical query, unless the tree has a single group, where the query is ignored); a run
that ends without error reports every such group -/
theorem sound (hf : HashFns H) (fl : Flavour) (ob : Store H) (data : List UInt8)
    (hs : ob.tree.size ≤ 2 ^ 63) (hbs : ob.tree.bs ≤ 10) (q : Ranges) :
    let r := validRanges hf fl ob data q
    let V := fun g => Verifiable hf fl ob data true g ∧
      (ob.tree.blocks = 1 ∨ Reach ob.tree (Ranges.truncate q ob.tree.size) ob.tree.shifted.1 g)
    (∀ g ∈ r.yields, V g) ∧ (r.terminal = .ok → ∀ g, V g → g ∈ r.yields) ∧
    r.yields.Pairwise (fun a b => a.2 ≤ b.1 ∧ a.1 < b.1) ∧ r.yields.Nodup := by
  have h := validRanges_exact hf fl ob data hs hbs q
  exact ⟨h.sound, h.complete, h.sorted, h.nodup⟩

example : badStore.tree.size ≤ 2 ^ 63 ∧ badStore.tree.bs ≤ 10 := by decide

/-- `valid_ranges` when no io error is possible: exactly the verifiable (and reached) groups -/
theorem exact (hf : HashFns H) (fl : Flavour) (ob : Store H) (data : List UInt8)
    (hs : ob.tree.size ≤ 2 ^ 63) (hbs : ob.tree.bs ≤ 10) (hno : NoIo hf fl ob data true)
    (q : Ranges) :
    ∃ ys, validRanges hf fl ob data q = ⟨ys, .ok⟩ ∧
      (∀ g, g ∈ ys ↔ Verifiable hf fl ob data true g ∧
        (ob.tree.blocks = 1 ∨
          Reach ob.tree (Ranges.truncate q ob.tree.size) ob.tree.shifted.1 g)) ∧
      ys.Pairwise (fun a b => a.2 ≤ b.1 ∧ a.1 < b.1) ∧ ys.Nodup :=
  (validRanges_exact hf fl ob data hs hbs q).iff hno

example : NoIo toyHash .sync emptyStore (List.replicate 3000 0) true ∧
    emptyStore.tree.size ≤ 2 ^ 63 ∧ emptyStore.tree.bs ≤ 10 :=
  ⟨noIo_empty _ _ _ _ _ rfl (fun _ => by rw [List.length_replicate]; decide), by decide⟩

/-- `valid_outboard_ranges`, ANY state of the store: the same with the data check left out -/
theorem sound_outboard (hf : HashFns H) (fl : Flavour) (ob : Store H)
    (hs : ob.tree.size ≤ 2 ^ 63) (hbs : ob.tree.bs ≤ 10) (q : Ranges) :
    let r := validOutboardRanges hf fl ob q
    let V := fun g => Verifiable hf fl ob [] false g ∧
      (ob.tree.blocks = 1 ∨ Reach ob.tree (Ranges.truncate q ob.tree.size) ob.tree.shifted.1 g)
    (∀ g ∈ r.yields, V g) ∧ (r.terminal = .ok → ∀ g, V g → g ∈ r.yields) ∧
    r.yields.Pairwise (fun a b => a.2 ≤ b.1 ∧ a.1 < b.1) ∧ r.yields.Nodup := by
  have h := validOutboardRanges_exact hf fl ob hs hbs q
  exact ⟨h.sound, h.complete, h.sorted, h.nodup⟩

example : badStore.tree.size ≤ 2 ^ 63 ∧ badStore.tree.bs ≤ 10 := by decide

theorem exact_outboard (hf : HashFns H) (fl : Flavour) (ob : Store H)
    (hs : ob.tree.size ≤ 2 ^ 63) (hbs : ob.tree.bs ≤ 10) (hno : NoIo hf fl ob [] false)
    (q : Ranges) :
    ∃ ys, validOutboardRanges hf fl ob q = ⟨ys, .ok⟩ ∧
      (∀ g, g ∈ ys ↔ Verifiable hf fl ob [] false g ∧
        (ob.tree.blocks = 1 ∨
          Reach ob.tree (Ranges.truncate q ob.tree.size) ob.tree.shifted.1 g)) ∧
      ys.Pairwise (fun a b => a.2 ≤ b.1 ∧ a.1 < b.1) ∧ ys.Nodup :=
  (validOutboardRanges_exact hf fl ob hs hbs q).iff hno

example : NoIo toyHash .fsm { emptyStore with kind := .preIo } [] false ∧
    emptyStore.tree.size ≤ 2 ^ 63 ∧ emptyStore.tree.bs ≤ 10 :=
  ⟨noIo_fsm _ _ _ _ (.inl rfl) (fun h => by cases h), by decide⟩

omit [LawfulBEq H] in
/-- the special case of a single chunk group (`blocks = 1`, in particular the empty blob): the
query is ignored; the data validator reports `(0, chunks)` iff the first `size` bytes of the data
hash to the root, the outboard validator always reports it -/
theorem single_group (hf : HashFns H) (fl : Flavour) (ob : Store H) (data : List UInt8)
    (hb : ob.tree.blocks = 1) (hlen : ob.tree.size ≤ data.length) (q : Ranges) :
    validRanges hf fl ob data q =
      ⟨if hashSubtree hf 0 (data.take ob.tree.size) true == ob.root then [(0, ob.tree.chunks)]
        else [], .ok⟩ ∧
    validOutboardRanges hf fl ob q = ⟨[(0, ob.tree.chunks)], .ok⟩ := by
  refine ⟨?_, validOutboardRanges_one hf fl ob hb q⟩
  unfold validRanges
  have h1 : (ob.tree.blocks == 1) = true := by simpa using hb
  have h2 := readExactAt_of_le (s := 0) hlen
  rw [Nat.sub_zero] at h2
  simp only [h1, if_true, h2, bytesAt, List.drop_zero, Nat.sub_zero]
  split <;> rfl

example : ({ emptyStore with tree := ⟨700, 0⟩ } : Store Term).tree.blocks = 1 ∧
    ({ emptyStore with tree := ⟨700, 0⟩ } : Store Term).tree.size
      ≤ (List.replicate 700 (0 : UInt8)).length := by
  refine ⟨by decide, ?_⟩
  rw [List.length_replicate]; decide

end

/-! ## 4. reached by the canonical query = touched by the query -/

/-- the groups below the shifted root are exactly the chunk ranges of the chunk groups:
`groupRange t i = (i·2^bs, min ((i+1)·2^bs) chunks)`, `i < blocks` -/
theorem groups (t : Tree) (hs : t.size ≤ 2 ^ 63) (hbs : t.bs ≤ 10) (g : Nat × Nat) :
    Group t t.shifted.1 g ↔ ∃ i, i < t.blocks ∧ g = groupRange t i :=
  group_iff_top t hs hbs g

example : (⟨3000, 0⟩ : Tree).size ≤ 2 ^ 63 ∧ (⟨3000, 0⟩ : Tree).bs ≤ 10 := by decide

/-- for a group of the tree and a well-formed query: the chain of `split`s of the canonical
(truncated) query stays non-empty down to the group iff the query selects a chunk of the group -/
theorem reach_iff_touched (t : Tree) (hs : t.size ≤ 2 ^ 63) (hbs : t.bs ≤ 10)
    (hb : t.blocks ≠ 1) (q : Ranges) (hq : Ranges.WF q = true) (g : Nat × Nat)
    (hg : Group t t.shifted.1 g) :
    Reach t (Ranges.truncate q t.size) t.shifted.1 g ↔ Touched t.size q g :=
  reach_iff_touched_top t hs hbs hb q hq g hg

example : (⟨3000, 0⟩ : Tree).size ≤ 2 ^ 63 ∧ (⟨3000, 0⟩ : Tree).bs ≤ 10 ∧
    (⟨3000, 0⟩ : Tree).blocks ≠ 1 ∧ Ranges.WF [1, 2] = true ∧
    Group ⟨3000, 0⟩ (Tree.shifted ⟨3000, 0⟩).1 (groupRange ⟨3000, 0⟩ 1) :=
  ⟨by decide, by decide, by decide, by decide,
    (groups ⟨3000, 0⟩ (by decide) (by decide) _).2 ⟨1, by decide, rfl⟩⟩

section
variable [BEq H] [LawfulBEq H]

/-- ANY state of store and data, well-formed query: a reported group is verifiable and the query
touches it (a tree with a single group ignores the query) -/
theorem reported_sound (hf : HashFns H) (fl : Flavour) (ob : Store H) (data : List UInt8)
    (hs : ob.tree.size ≤ 2 ^ 63) (hbs : ob.tree.bs ≤ 10) (q : Ranges)
    (hq : Ranges.WF q = true) (g : Nat × Nat) (hg : g ∈ (validRanges hf fl ob data q).yields) :
    Verifiable hf fl ob data true g ∧ (ob.tree.blocks = 1 ∨ Touched ob.tree.size q g) :=
  (validRanges_touched hf fl ob data hs hbs q hq).sound g hg

example : badStore.tree.size ≤ 2 ^ 63 ∧ badStore.tree.bs ≤ 10 ∧ Ranges.WF [0] = true ∧
    (0, 1) ∈ (validRanges toyHash .sync toyStore toyData [0]).yields :=
  ⟨by decide, by decide, by decide, toy_eval.2.2⟩

/-- no io error possible, well-formed query: the reported groups are exactly the verifiable groups
the query touches -/
theorem reported_iff (hf : HashFns H) (fl : Flavour) (ob : Store H) (data : List UInt8)
    (hs : ob.tree.size ≤ 2 ^ 63) (hbs : ob.tree.bs ≤ 10) (hno : NoIo hf fl ob data true)
    (q : Ranges) (hq : Ranges.WF q = true) (g : Nat × Nat) :
    (validRanges hf fl ob data q).terminal = .ok ∧
    (g ∈ (validRanges hf fl ob data q).yields ↔
      Verifiable hf fl ob data true g ∧ (ob.tree.blocks = 1 ∨ Touched ob.tree.size q g)) :=
  have h := validRanges_touched hf fl ob data hs hbs q hq
  ⟨h.ok hno, h.sound g, h.complete (h.ok hno) g⟩

example : NoIo toyHash .sync emptyStore (List.replicate 3000 0) true ∧
    emptyStore.tree.size ≤ 2 ^ 63 ∧ emptyStore.tree.bs ≤ 10 ∧ Ranges.WF [1, 2] = true :=
  ⟨noIo_empty _ _ _ _ _ rfl (fun _ => by rw [List.length_replicate]; decide), by decide⟩

/-- the outboard-only validator: the same with the data check left out -/
theorem reported_iff_outboard (hf : HashFns H) (fl : Flavour) (ob : Store H)
    (hs : ob.tree.size ≤ 2 ^ 63) (hbs : ob.tree.bs ≤ 10) (q : Ranges)
    (hq : Ranges.WF q = true) (g : Nat × Nat) :
    (g ∈ (validOutboardRanges hf fl ob q).yields →
      Verifiable hf fl ob [] false g ∧ (ob.tree.blocks = 1 ∨ Touched ob.tree.size q g)) ∧
    (NoIo hf fl ob [] false →
      (validOutboardRanges hf fl ob q).terminal = .ok ∧
      (g ∈ (validOutboardRanges hf fl ob q).yields ↔
        Verifiable hf fl ob [] false g ∧ (ob.tree.blocks = 1 ∨ Touched ob.tree.size q g))) :=
  have h := validOutboardRanges_touched hf fl ob hs hbs q hq
  ⟨h.sound g, fun hno => ⟨h.ok hno, h.sound g, h.complete (h.ok hno) g⟩⟩

example : NoIo toyHash .sync emptyStore [] false ∧
    emptyStore.tree.size ≤ 2 ^ 63 ∧ emptyStore.tree.bs ≤ 10 ∧ Ranges.WF [1, 2] = true :=
  ⟨noIo_empty _ _ _ _ _ rfl (fun h => by cases h), by decide⟩

end

/-! ## 5. a verifiable group holds true blob bytes -/

/-- needs only: chaining values do not collide (`CollisionFree hf`), the root of the store is the
BLAKE3 root of `d`, the blob fits BLAKE3 (`d.length ≤ 2^64·1024`), and the data file is at least as
long as the claimed size.  (Neither `ofBytes (toBytes h) = h` nor `tree.size = d.length` is
needed.)  The stored bytes `[g.1·1024, min (g.2·1024) size)` of a verifiable group are the bytes of
`d` at the same place, and lie inside `d`. -/
theorem true_bytes (hf : HashFns H) (cf : CollisionFree hf) (fl : Flavour) (ob : Store H)
    (data d : List UInt8) (hd : d.length ≤ 2 ^ 64 * 1024) (hroot : ob.root = Spec.root hf d)
    (hlen : ob.tree.size ≤ data.length) (g : Nat × Nat)
    (hv : Verifiable hf fl ob data true g) :
    (data.drop (g.1 * 1024)).take (min (g.2 * 1024) ob.tree.size - g.1 * 1024) =
      (d.drop (g.1 * 1024)).take (min (g.2 * 1024) ob.tree.size - g.1 * 1024) ∧
    g.1 * 1024 + (min (g.2 * 1024) ob.tree.size - g.1 * 1024) ≤ d.length :=
  C06Loc.true_bytes_on (cf.on fun _ => True) (fun _ _ => trivial) (fun _ _ => trivial) hd hroot hlen
    hv

example : CollisionFree toyHash ∧ toyData.length ≤ 2 ^ 64 * 1024 ∧
    toyStore.root = Spec.root toyHash toyData ∧ toyStore.tree.size ≤ toyData.length ∧
    Verifiable toyHash .sync toyStore toyData true (0, 1) :=
  ⟨toyHash_cf, by rw [toyData, List.length_replicate]; decide, toy_root,
    by rw [toyData, List.length_replicate]; decide, by simp only [toy_verifiable]⟩

/-- the headline: whatever the state of the store and of the data file, every group the data
validator reports holds true blob bytes -/
theorem reported_true_bytes [BEq H] [LawfulBEq H] (hf : HashFns H) (cf : CollisionFree hf)
    (fl : Flavour) (ob : Store H) (data d : List UInt8) (hs : ob.tree.size ≤ 2 ^ 63)
    (hbs : ob.tree.bs ≤ 10) (hd : d.length ≤ 2 ^ 64 * 1024) (hroot : ob.root = Spec.root hf d)
    (hlen : ob.tree.size ≤ data.length) (q : Ranges) (g : Nat × Nat)
    (hg : g ∈ (validRanges hf fl ob data q).yields) :
    (data.drop (g.1 * 1024)).take (min (g.2 * 1024) ob.tree.size - g.1 * 1024) =
      (d.drop (g.1 * 1024)).take (min (g.2 * 1024) ob.tree.size - g.1 * 1024) ∧
    g.1 * 1024 + (min (g.2 * 1024) ob.tree.size - g.1 * 1024) ≤ d.length :=
  true_bytes hf cf fl ob data d hd hroot hlen g
    ((validRanges_exact hf fl ob data hs hbs q).sound g hg).1

example : CollisionFree toyHash ∧ toyStore.tree.size ≤ 2 ^ 63 ∧ toyStore.tree.bs ≤ 10 ∧
    toyData.length ≤ 2 ^ 64 * 1024 ∧ toyStore.root = Spec.root toyHash toyData ∧
    toyStore.tree.size ≤ toyData.length ∧
    (0, 1) ∈ (validRanges toyHash .sync toyStore toyData [0]).yields :=
  ⟨toyHash_cf, by decide, by decide, by rw [toyData, List.length_replicate]; decide, toy_root,
    by rw [toyData, List.length_replicate]; decide, toy_eval.2.2⟩

/-! ## 6. the intact store is reported completely -/

/-- a store whose loads of the existing nodes of level `≥ bs` return the true pairs
(`Spec.pair`), with the true root, over the true data: every chunk group is verifiable -/
theorem intact_of_load (hf : HashFns H) (fl : Flavour) (ob : Store H) (d : List UInt8)
    (hs : d.length ≤ 2 ^ 63) (hbs : ob.tree.bs ≤ 10) (hsz : ob.tree.size = d.length)
    (hroot : ob.root = Spec.root hf d) (withData : Bool)
    (hld : ∀ k M, ob.tree.bs ≤ M → midOf k M < nChunks d.length →
      ob.load hf fl (nodeOf k M) = .ok (some (Spec.pair hf d k M)))
    (i : Nat) (hi : i < ob.tree.blocks) :
    Verifiable hf fl ob d withData (groupRange ob.tree i) :=
  intact_of_load_top hs hbs hsz hroot withData hld i hi

example : toyData.length ≤ 2 ^ 63 ∧ toyStore.tree.bs ≤ 10 ∧ toyStore.tree.size = toyData.length ∧
    toyStore.root = Spec.root toyHash toyData ∧ (1 : Nat) < toyStore.tree.blocks ∧
    Verifiable toyHash .sync toyStore toyData true (groupRange toyStore.tree 1) :=
  ⟨by rw [toyData, List.length_replicate]; decide, by decide,
    by rw [toyData, List.length_replicate]; decide, toy_root, by decide,
    intact_of_load toyHash .sync toyStore toyData (by rw [toyData, List.length_replicate]; decide)
      (by decide) (by rw [toyData, List.length_replicate]; decide) toy_root true (toy_load .sync) 1
      (by decide)⟩

/-- the intact store: the outboard of its kind (as every way of creating an outboard leaves it,
`C03`), the true root, the true data.  Every chunk group is verifiable … -/
theorem intact (hf : HashFns H) (hlen : ∀ h, (hf.toBytes h).length = 32)
    (hrt : ∀ h, hf.ofBytes (hf.toBytes h) = h) (d : List UInt8) (bs : Nat)
    (hs : d.length ≤ 2 ^ 63) (hbs : bs ≤ 10) (fl : Flavour) (ob : Store H)
    (htree : ob.tree = ⟨d.length, bs⟩) (hroot : ob.root = Spec.root hf d)
    (hk : ((ob.kind = .preIo ∨ ob.kind = .preMem) ∧ ob.data = Spec.preOutboard hf d bs) ∨
          ((ob.kind = .postIo ∨ ob.kind = .postMem) ∧ ob.data = Spec.postOutboard hf d bs))
    (withData : Bool) (i : Nat) (hi : i < ob.tree.blocks) :
    Verifiable hf fl ob d withData (groupRange ob.tree i) := by
  refine intact_of_load hf fl ob d hs (by rw [htree]; exact hbs) (by rw [htree]) hroot withData
    (fun k M hM hm => ?_) i hi
  rw [htree] at hM
  have hM64 := Nat.le_of_lt (level_lt_64 hs hm)
  have := C03.load_spec hf hlen hrt d bs hs hbs fl ob htree hk (nodeOf k M)
    (mem_persistedPre d.length bs k M hs hM hm)
  rwa [Bits.levelOf_nodeOf hM64, Bits.indexOf_nodeOf hM64] at this

/-- … and (whatever the flavour and the kind) no io error is possible, so with a well-formed query
the validators report exactly the chunk groups the query touches: an intact store is reported
completely -/
theorem intact_reported [BEq H] [LawfulBEq H] (hf : HashFns H)
    (hlen : ∀ h, (hf.toBytes h).length = 32)
    (hrt : ∀ h, hf.ofBytes (hf.toBytes h) = h) (d : List UInt8) (bs : Nat)
    (hs : d.length ≤ 2 ^ 63) (hbs : bs ≤ 10) (fl : Flavour) (ob : Store H)
    (htree : ob.tree = ⟨d.length, bs⟩) (hroot : ob.root = Spec.root hf d)
    (hk : ((ob.kind = .preIo ∨ ob.kind = .preMem) ∧ ob.data = Spec.preOutboard hf d bs) ∨
          ((ob.kind = .postIo ∨ ob.kind = .postMem) ∧ ob.data = Spec.postOutboard hf d bs))
    (q : Ranges) (hq : Ranges.WF q = true) :
    (validRanges hf fl ob d q).terminal = .ok ∧
    (validOutboardRanges hf fl ob q).terminal = .ok ∧
    ∀ i, i < ob.tree.blocks → (ob.tree.blocks = 1 ∨ Touched d.length q (groupRange ob.tree i)) →
      groupRange ob.tree i ∈ (validRanges hf fl ob d q).yields ∧
      groupRange ob.tree i ∈ (validOutboardRanges hf fl ob q).yields := by
  have hs' : ob.tree.size ≤ 2 ^ 63 := by rw [htree]; exact hs
  have hbs' : ob.tree.bs ≤ 10 := by rw [htree]; exact hbs
  have hsz : ob.tree.size = d.length := by rw [htree]
  have hld : ∀ k M, ob.tree.bs ≤ M → midOf k M < nChunks ob.tree.size →
      ∃ p, ob.load hf fl (nodeOf k M) = .ok p := by
    intro k M hM hm
    rw [htree] at hM hm
    simp only at hM hm
    exact ⟨_, C03.load_spec hf hlen hrt d bs hs hbs fl ob htree hk (nodeOf k M)
      (mem_persistedPre d.length bs k M hs hM hm)⟩
  have hno1 : NoIo hf fl ob d true :=
    noIo_of_load hs' hbs' hld (fun _ => by rw [hsz]; exact Nat.le_refl _)
  have hno2 : NoIo hf fl ob [] false := noIo_of_load hs' hbs' hld (fun h => by cases h)
  refine ⟨(reported_iff hf fl ob d hs' hbs' hno1 q hq (0, 0)).1,
    ((reported_iff_outboard hf fl ob hs' hbs' q hq (0, 0)).2 hno2).1, fun i hi ht => ?_⟩
  rw [← hsz] at ht
  exact ⟨(reported_iff hf fl ob d hs' hbs' hno1 q hq _).2.2
      ⟨intact hf hlen hrt d bs hs hbs fl ob htree hroot hk true i hi, ht⟩,
    ((reported_iff_outboard hf fl ob hs' hbs' q hq _).2 hno2).2.2
      ⟨(Verifiable_false_data hf fl ob d [] _).1
        (intact hf hlen hrt d bs hs hbs fl ob htree hroot hk false i hi), ht⟩⟩

/-- the intact io-backed pre-order store of the 3000-byte blob of `C03` at `bs = 1` -/
def intactStore : Store UInt8 :=
  ⟨.preIo, Spec.root C03.toyHash C03.toyBlob, ⟨C03.toyBlob.length, 1⟩,
    Spec.preOutboard C03.toyHash C03.toyBlob 1⟩

example : ∀ i, i < intactStore.tree.blocks →
    Verifiable C03.toyHash .sync intactStore C03.toyBlob true (groupRange intactStore.tree i) :=
  intact C03.toyHash C03.toy_len C03.toy_rt C03.toyBlob 1 C03.toy_size (by decide) .sync
    intactStore rfl (by rw [intactStore]) (.inl ⟨.inl rfl, by rw [intactStore]⟩) true

example : (validRanges C03.toyHash .fsm intactStore C03.toyBlob [1, 2]).terminal = .ok :=
  (intact_reported C03.toyHash C03.toy_len C03.toy_rt C03.toyBlob 1 C03.toy_size (by decide) .fsm
    intactStore rfl (by rw [intactStore]) (.inl ⟨.inl rfl, by rw [intactStore]⟩) [1, 2] (by decide)).1

end Bao.C06

/-
## Status of C06

PROVED (full strength; every `hf : HashFns H`; `tree.size ≤ 2^63`, `bs ≤ 10`; axioms ⊆
{propext, Classical.choice, Quot.sound}):
  1. `linked_inner`, `linked_leaf`, `reach_inner`, `reach_leaf` — `Linked` / `Reach` unfold along left
     child / right descendant / `split(ranges, node)` exactly like `validate_rec`.
  2. `sound_rec`, `exact_rec` — `validate_rec` at any existing shifted node, any store / data state.
  3. `sound`, `exact`, `sound_outboard`, `exact_outboard`, `single_group` — the public validators.
  4. `groups`, `reach_iff_touched` (both directions; the hard one uses `PlanPre.Tight` /
     `PlanPre.Bounded`, the minimality invariant of `split_inner`), `reported_sound`, `reported_iff`,
     `reported_iff_outboard` — reported ⇔ verifiable ∧ touched.
  5. `true_bytes`, `reported_true_bytes` — NOT needed: `LawfulBEq`, `ofBytes (toBytes h) = h`,
     `tree.size = d.length`.
  6. `intact_of_load`, `intact` (through `C03.load_spec` and `ValidL.mem_persistedPre`),
     `intact_reported`.
  sync / async agreement: `C08.validRanges_eq`, `C08.validOutboardRanges_eq`.
PARTIAL: none.   OPEN: none.

`NoIo` (hypothesis of the "exact" halves): every `load` of an existing node that is relevant for
the outboard returns `.ok _`, and (data validator) `tree.size ≤ data.length`.  It holds for the
`EmptyOutboard` (`noIo_empty`), for the io-backed kinds in the fsm flavour whatever the backing
length (`noIo_fsm`), for every store whose loads of existing nodes succeed (`noIo_of_load`), in
particular the intact stores.  Without it only soundness is claimed — and it is claimed for every
store state.

Remarks on the model / the code (no statement is affected):
  * a tree with a single chunk group ignores the query: `valid_ranges` with the EMPTY query still
    reports `0..chunks` there, while a tree with several groups reports nothing for an empty query
    (hence the `blocks = 1 ∨ …` in the statements).
  * for the empty blob (`size = 0`) the reported range is the empty range `0..0`.
  * `load` returning `.ok none` for a relevant node (the slot functions never do that for a node of
    the tree) would silently end that branch with no report and no error; `Linked` is false there,
    so exactness is not affected.
-/
