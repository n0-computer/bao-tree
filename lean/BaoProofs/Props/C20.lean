import BaoProofs.Lemmas.DecSim

/-!
# C20: a decoder keeps reporting the blob it was created for

"At every step of every decode - before the first item, between items, after the last item and
after an error - the decoder reports the root hash and the tree geometry it was constructed with,
without panicking.  When it finishes, or is asked to stop early, it hands back the reader
positioned exactly after the bytes it consumed."

The accessors are `Dec.tree` (`DecodeResponseIter::tree`, `ResponseDecoder::tree`: rebuilt from the
plan iterator as `⟨iter.tree.size, iter.minFullLevel⟩`) and the field `Dec.hash`
(`ResponseDecoder::hash`).  Both are total functions of the model state: there is no `Option`, no
fuel and no `panic` outcome in their definitions, so "without panicking" holds by construction;
what has to be proved is that their value never changes.  The reader is the field `Dec.encoded`
(`ResponseDecoder::finish`, and the `Done(reader)` case of `next`).

Vocabulary (defined in `BaoProofs/Lemmas/DecSim.lean`):
* `Steps hf fl d is d'` – from `d`, successive calls of `next` returned the items `is`, leaving `d'`;
* `Reach hf fl d d'` – any number of calls of `next` that hand back a decoder, including calls that
  returned an error or `done` (the model lets a client go on after an error; so does the sync Rust
  iterator);
* `itemSize` – wire size of an item: 64 for a parent, `data.length` for a leaf; `itemsSize` its sum;
* `app d x` – the decoder `d` reading from the stream `d.encoded ++ x`.
All statements hold for both flavours `fl`.
-/

namespace Bao.C20

open Bao Bao.DecSim

variable {H : Type}

/-- a toy hash instance for the non-vacuity examples -/
def toy : HashFns Nat :=
  ⟨fun c d r => c + d.length + r.toNat, fun l r root => 3 * l + 5 * r + root.toNat,
   fun b => b.length, fun _ => []⟩

/-- a decoder for a 5-byte blob (root hash `0 + 5 + 1` under `toy`) on the stream `7 7 7 7 7 9` -/
def d0 : Dec Nat := Dec.new 6 ⟨5, 0⟩ [0] [7, 7, 7, 7, 7, 9]

/-! ## before the first item -/

/-- the geometry reported by a fresh decoder is the one it was given, for every tree
(any block size): `Response.tree (Response.new t q) = t` -/
theorem tree_new (root : H) (tree : Tree) (ranges : Ranges) (s : List UInt8) :
    (Dec.new root tree ranges s).tree = tree := by
  simp [Dec.tree, Dec.new, Response.tree, Response.new, PrePartial.new]

theorem hash_new (root : H) (tree : Tree) (ranges : Ranges) (s : List UInt8) :
    (Dec.new root tree ranges s).hash = root := rfl

/-! ## one step -/

/-- the plan iterator never changes its fields `tree` and `minFullLevel` -/
theorem plan_iter_geometry {it it' : PrePartial} {c : Chunk} (h : it.next = .item c it') :
    it'.tree = it.tree ∧ it'.minFullLevel = it.minFullLevel :=
  prePartial_next_tree h

example : ∃ c it', (PrePartial.new ⟨5, 0⟩ [0] 0).next = .item c it' := ⟨_, _, rfl⟩

/-- whatever a call of `next` hands back (item, error, done), the geometry is unchanged -/
theorem tree_step (hf : HashFns H) [BEq H] (fl : Flavour) (d d' : Dec H)
    (h : (∃ i, d.next hf fl = .item i d') ∨ (∃ e, d.next hf fl = .err e d') ∨
      d.next hf fl = .done d') :
    d'.tree = d.tree :=
  (succ_inv (hf := hf) (fl := fl) h).1

/-- … and so is the root hash `ResponseDecoder::hash` reports -/
theorem hash_step (hf : HashFns H) [BEq H] (fl : Flavour) (d d' : Dec H)
    (h : (∃ i, d.next hf fl = .item i d') ∨ (∃ e, d.next hf fl = .err e d') ∨
      d.next hf fl = .done d') :
    d'.hash = d.hash :=
  (succ_inv (hf := hf) (fl := fl) h).2.1

/-- an item step, … -/
example : ∃ i d', d0.next toy .fsm = .item i d' := ⟨_, _, rfl⟩
/-- … an error step (wrong root hash 8), … -/
example : ∃ e d', (Dec.new 8 ⟨5, 0⟩ [0] [7, 7, 7, 7, 7]).next toy .sync = .err e d' := ⟨_, _, rfl⟩
/-- … and a done step (empty query) -/
example : ∃ d', (Dec.new 6 ⟨5, 0⟩ [] [7, 7, 7, 7, 7]).next toy .fsm = .done d' := ⟨_, rfl⟩

/-! ## every step of every decode -/

/-- after any number of calls of `next` – items, the final `done`, an error, and calls made after
those – the decoder reports the tree and the root hash it was constructed with -/
theorem accessors (hf : HashFns H) [BEq H] (fl : Flavour) (root : H) (tree : Tree) (ranges : Ranges)
    (s : List UInt8) (d : Dec H) (h : Reach hf fl (Dec.new root tree ranges s) d) :
    d.tree = tree ∧ d.hash = root := by
  obtain ⟨h1, h2, _⟩ := reach_inv h
  exact ⟨h1.trans (tree_new root tree ranges s), h2⟩

/-- two steps from `d0`: the leaf item, then `done` -/
example : ∃ d, Reach toy .fsm d0 d ∧ d.encoded = [9] :=
  ⟨_, .step (.step (.refl _) (.inl ⟨_, rfl⟩)) (.inr (.inr rfl)), rfl⟩

/-! ## reader position -/

/-- Stopping early: after the items `is` have been returned, the reader handed back by `finish`
(`d.encoded`) is the original stream minus exactly the bytes of those items. -/
theorem reader_position (hf : HashFns H) [BEq H] (fl : Flavour) (root : H) (tree : Tree)
    (ranges : Ranges) (s : List UInt8) (is : List (Item H)) (d : Dec H)
    (h : Steps hf fl (Dec.new root tree ranges s) is d) :
    ∃ consumed, s = consumed ++ d.encoded ∧ consumed.length = itemsSize is := by
  induction h with
  | refl => exact ⟨[], rfl, rfl⟩
  | item _ hn ih =>
    obtain ⟨c, h1, h2⟩ := ih
    obtain ⟨_, _, ⟨b, k1, k2⟩, _⟩ := next_item hf hn
    exact ⟨c ++ b, by rw [h1, k1]; simp, by simp [itemsSize, h2, k2]⟩

example : ∃ d, Steps toy .sync d0 ([] ++ [.leaf 0 [7, 7, 7, 7, 7]]) d :=
  ⟨_, .item (.refl _) rfl⟩

/-- At any point, also after an error, the reader is a suffix of the original stream.
(After a hash mismatch the offending parent / leaf has been read but no item was returned for it,
so only "suffix" holds there, not the exact count.) -/
theorem reader_suffix (hf : HashFns H) [BEq H] (fl : Flavour) (root : H) (tree : Tree)
    (ranges : Ranges) (s : List UInt8) (d : Dec H)
    (h : Reach hf fl (Dec.new root tree ranges s) d) :
    ∃ consumed, s = consumed ++ d.encoded :=
  (reach_inv h).2.2

example : ∃ d, Reach toy .sync (Dec.new 8 ⟨5, 0⟩ [0] [7, 7, 7, 7, 7, 9]) d ∧ d.encoded = [9] :=
  ⟨_, .step (.refl _) (.inr (.inl ⟨_, rfl⟩)), rfl⟩

/-- Finishing: a decode that ends `done` hands back the stream minus exactly the bytes of the
items it returned. -/
theorem reader_position_done (hf : HashFns H) [BEq H] (fl : Flavour) (root : H) (tree : Tree)
    (ranges : Ranges) (s : List UInt8)
    (h : (decodeAll hf fl root tree ranges s).terminal = .done) :
    ∃ consumed, s = consumed ++ (decodeAll hf fl root tree ranges s).rest ∧
      consumed.length = itemsSize (decodeAll hf fl root tree ranges s).items :=
  (runAux_done hf fl _ _ h).1

example : (decodeAll toy .fsm 6 ⟨5, 0⟩ [0] [7, 7, 7, 7, 7, 9]).terminal = .done ∧
    (decodeAll toy .fsm 6 ⟨5, 0⟩ [0] [7, 7, 7, 7, 7, 9]).rest = [9] := by decide +kernel

/-- the same for a run from any decoder state -/
theorem reader_position_run (hf : HashFns H) [BEq H] (fl : Flavour) (d : Dec H)
    (h : (Dec.run hf fl d).terminal = .done) :
    ∃ consumed, d.encoded = consumed ++ (Dec.run hf fl d).rest ∧
      consumed.length = itemsSize (Dec.run hf fl d).items :=
  (runAux_done hf fl _ _ h).1

example : (Dec.run toy .sync d0).terminal = .done := by decide +kernel

/-- Bytes after the encoding are left untouched: if decoding `e` ends `done`, decoding `e ++ x`
returns the same items, ends `done`, and hands back the old rest followed by `x`. -/
theorem decode_trailing_rest (hf : HashFns H) [BEq H] (fl : Flavour) (root : H) (tree : Tree)
    (ranges : Ranges) (e x : List UInt8)
    (h : (decodeAll hf fl root tree ranges e).terminal = .done) :
    decodeAll hf fl root tree ranges (e ++ x)
      = ⟨(decodeAll hf fl root tree ranges e).items, .done,
         (decodeAll hf fl root tree ranges e).rest ++ x⟩ :=
  (runAux_done hf fl _ (Dec.new root tree ranges e) h).2 x

example : (decodeAll toy .sync 6 ⟨5, 0⟩ [0] [7, 7, 7, 7, 7, 9]).terminal = .done := by decide +kernel

/-- in particular, when `e` is consumed entirely, the reader is handed back positioned at `x` -/
theorem decode_trailing (hf : HashFns H) [BEq H] (fl : Flavour) (root : H) (tree : Tree)
    (ranges : Ranges) (e x : List UInt8)
    (h : (decodeAll hf fl root tree ranges e).terminal = .done)
    (hr : (decodeAll hf fl root tree ranges e).rest = []) :
    (decodeAll hf fl root tree ranges (e ++ x)).items = (decodeAll hf fl root tree ranges e).items ∧
    (decodeAll hf fl root tree ranges (e ++ x)).terminal = .done ∧
    (decodeAll hf fl root tree ranges (e ++ x)).rest = x := by
  rw [decode_trailing_rest hf fl root tree ranges e x h, hr]
  exact ⟨rfl, rfl, rfl⟩

example : (decodeAll toy .fsm 6 ⟨5, 0⟩ [0] [7, 7, 7, 7, 7]).terminal = .done ∧
    (decodeAll toy .fsm 6 ⟨5, 0⟩ [0] [7, 7, 7, 7, 7]).rest = [] := by decide +kernel

/-
Summary C20.
PROVED: tree_new, hash_new, plan_iter_geometry, tree_step, hash_step, accessors, reader_position,
  reader_suffix, reader_position_done, reader_position_run, decode_trailing_rest, decode_trailing.
PARTIAL: none.  OPEN: none.
NOTES:
* `Dec.tree` / `Dec.hash` are total in the model, so "without panicking" is true by construction and
  is not a theorem.
* The exact byte count (`reader_position`) is stated for item steps.  After an error only
  `reader_suffix` holds: on a hash mismatch the model has consumed the bad parent / leaf
  (`encoded := rest`) without returning an item; on a short read the model leaves `encoded`
  untouched, whereas a real `read_exact` may have consumed the partial bytes – the model documents
  `rest` as meaningful for `done` only.
-/

end Bao.C20
