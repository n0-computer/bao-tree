import BaoProofs.Lemmas.DecSim

/-!
# C08: sync, async (fsm) and item-stream code paths, and all encoders, agree

"Given the same blob, block size and query, the synchronous and asynchronous implementations
produce byte-identical outboards and encodings, the same sequence of decoded items, and for a
tampered stream or a store with altered bytes the same error variant at the same node or chunk.
… the item-stream traversal flattens to the same bytes, framed by a size item first and a done
or error item last."

What is proved here, for every hash instance `hf : HashFns H` and every `BEq H` (no lawfulness
needed):

* decoders: one step (`step_eq`), a run from ANY decoder state (`decode_eq`), the full decode of
  ANY stream (`decodeAll_eq`) and `decode_ranges` (`decodeRanges_eq`) are *equal* as records:
  items, terminal (`done` / the error variant with its node or chunk / `panic`) and unread rest.
* encoders: the two flavours differ only in `Store.load` (a short io backing is an
  `UnexpectedEof` in sync and a zero pair in fsm).  `load_flavour_eq_mem`, `load_flavour_eq_slot`,
  `load_flavour_eq_persisted` say when `load` agrees; `encode_validated_eq`, `encode_plain_eq` need
  the agreement only on the parent nodes of the plan of the query.
* item stream: `mixed_flatten`, `mixed_panic`.
* `plain_eq_validated_of_ok`: the non-validating encoder writes the bytes of the validating one.

Outboard creation (`outboard`, `outboardPostOrder`) has a single definition in the model for
both flavours (no `Flavour` parameter), so there is nothing to prove for it here.

`load` of the two flavours agrees on the persisted nodes of an io store whose backing holds the
whole outboard (`load_flavour_eq_persisted`), and the encoder theorems ask for agreement only on the
parent nodes of their plan.  On ALL node ids it does not agree for io stores, even when
`outboardSize ≤ data.length`: `Tree.preOrderOffset` also answers for nodes outside the tree (node 5
of a 3-chunk blob has offset 3, node `2^40+1` has offset `2^40-1`), see `load_flavour_counterexample`.
-/

namespace Bao.C08

open Bao Bao.DecSim

variable {H : Type}

/-- One call of `next`: both machines return the same item with the same successor state, or the
same error (variant, node / chunk) with successor states that differ at most in the hash stack,
or both are done, or both panic. -/
theorem step_eq (hf : HashFns H) [BEq H] (d : Dec H) :
    match d.next hf .sync, d.next hf .fsm with
    | .item i d₁, .item j d₂ => i = j ∧ d₁ = d₂
    | .err e d₁, .err f d₂ => e = f ∧ d₁.iter = d₂.iter ∧ d₁.encoded = d₂.encoded ∧ d₁.hash = d₂.hash
    | .done d₁, .done d₂ => d₁ = d₂
    | .panic, .panic => True
    | _, _ => False := by
  obtain ⟨s₁, h₁⟩ := next_eq hf .sync d
  obtain ⟨s₂, h₂⟩ := next_eq hf .fsm d
  rw [h₁, h₂]
  cases Response.next d.iter with
  | done => rfl
  | panic => trivial
  | item c it =>
    simp only
    cases DecodeSpec.stepC hf c d.stack d.encoded with
    | item i st' s' => exact ⟨rfl, rfl⟩
    | err e s' => exact ⟨rfl, rfl, rfl, rfl⟩
    | panic s' => trivial

/-- Driving a decoder from any state (any plan iterator state, any stack, any stream) until its
first non-item gives the same items, the same terminal and the same unread rest. -/
theorem decode_eq (hf : HashFns H) [BEq H] (d : Dec H) :
    Dec.run hf .sync d = Dec.run hf .fsm d :=
  runAux_eq hf _ d

/-- The full decode of any stream `s` (well-formed, truncated or tampered). -/
theorem decodeAll_eq (hf : HashFns H) [BEq H] (root : H) (tree : Tree) (ranges : Ranges)
    (s : List UInt8) :
    decodeAll hf .sync root tree ranges s = decodeAll hf .fsm root tree ranges s :=
  decode_eq hf _

/-- the three observables of `decodeAll_eq`, spelled out -/
theorem decodeAll_eq_fields (hf : HashFns H) [BEq H] (root : H) (tree : Tree) (ranges : Ranges)
    (s : List UInt8) :
    (decodeAll hf .sync root tree ranges s).items = (decodeAll hf .fsm root tree ranges s).items ∧
    (decodeAll hf .sync root tree ranges s).terminal = (decodeAll hf .fsm root tree ranges s).terminal ∧
    (decodeAll hf .sync root tree ranges s).rest = (decodeAll hf .fsm root tree ranges s).rest := by
  rw [decodeAll_eq]; exact ⟨rfl, rfl, rfl⟩

/-- `decode_ranges`: same terminal, same target, same outboard, same writes and saves
(the whole result record is equal). -/
theorem decodeRanges_eq (hf : HashFns H) [BEq H] (s : List UInt8) (ranges : Ranges) (sink : Sink H) :
    decodeRanges hf .sync s ranges sink = decodeRanges hf .fsm s ranges sink :=
  decodeRangesAux_eq hf _ _ _ _ _ _

theorem decodeRanges_eq_fields (hf : HashFns H) [BEq H] (s : List UInt8) (ranges : Ranges)
    (sink : Sink H) :
    (decodeRanges hf .sync s ranges sink).terminal = (decodeRanges hf .fsm s ranges sink).terminal ∧
    (decodeRanges hf .sync s ranges sink).sink.target = (decodeRanges hf .fsm s ranges sink).sink.target ∧
    (decodeRanges hf .sync s ranges sink).sink.ob.data = (decodeRanges hf .fsm s ranges sink).sink.ob.data ∧
    (decodeRanges hf .sync s ranges sink).writes = (decodeRanges hf .fsm s ranges sink).writes ∧
    (decodeRanges hf .sync s ranges sink).saves = (decodeRanges hf .fsm s ranges sink).saves := by
  rw [decodeRanges_eq]; exact ⟨rfl, rfl, rfl, rfl, rfl⟩

/-- a toy hash instance for the non-vacuity examples -/
def toy : HashFns Nat :=
  ⟨fun c d r => c + d.length + r.toNat, fun l r root => 3 * l + 5 * r + root.toNat,
   fun b => b.length, fun _ => []⟩

/-- a 3-chunk blob, block size 0, pre-order io store holding exactly its 2 pairs -/
def stIo : Store Nat := ⟨.preIo, 0, ⟨3000, 0⟩, List.replicate 128 0⟩

/-- the in-memory stores and the empty outboard never depend on the flavour -/
theorem load_flavour_eq_mem (hf : HashFns H) (st : Store H) (node : Nat)
    (h : st.kind = .preMem ∨ st.kind = .postMem ∨ st.kind = .empty) :
    st.load hf .sync node = st.load hf .fsm node := by
  unfold Store.load
  rcases h with h | h | h <;> simp only [h]

example : (⟨.postMem, 0, ⟨5000, 0⟩, []⟩ : Store Nat).kind = .preMem ∨
    (⟨.postMem, 0, ⟨5000, 0⟩, []⟩ : Store Nat).kind = .postMem ∨
    (⟨.postMem, 0, ⟨5000, 0⟩, []⟩ : Store Nat).kind = .empty := by decide

/-- any store: a node whose slot (if it has one) lies inside the backing -/
theorem load_flavour_eq_slot (hf : HashFns H) (st : Store H) (node : Nat)
    (h : ∀ k, st.slot node = some k → k * 64 + 64 ≤ st.data.length) :
    st.load hf .sync node = st.load hf .fsm node := by
  unfold Store.load
  cases hs : st.slot node with
  | none => cases st.kind <;> rfl
  | some k =>
    have hk := h k hs
    cases st.kind <;> simp only [hk, if_true]

set_option maxRecDepth 8000 in
example : ∀ k, stIo.slot 1 = some k → k * 64 + 64 ≤ stIo.data.length := by decide +kernel

/-- io-backed stores whose backing holds the whole outboard (`outboardSize ≤ data.length`):
every persisted node loads the same pair in both flavours -/
theorem load_flavour_eq_persisted (hf : HashFns H) (st : Store H) (hs : st.tree.size ≤ 2 ^ 63)
    (hlen : st.tree.outboardSize ≤ st.data.length) (node : Nat)
    (hpre : st.kind = .preIo → node ∈ Spec.persistedPre st.tree.size st.tree.bs)
    (hpost : st.kind = .postIo → node ∈ Spec.persistedPost st.tree.size st.tree.bs) :
    st.load hf .sync node = st.load hf .fsm node := by
  -- a slot below the number of pairs lies inside the backing
  have hio : (∃ k, st.slot node = some k ∧ k < st.tree.outboardPairs) →
      st.load hf .sync node = st.load hf .fsm node := by
    rintro ⟨k, h1, h2⟩
    refine load_flavour_eq_slot hf st node fun k' hk' => ?_
    cases h1.symm.trans hk'
    unfold Tree.outboardSize at hlen
    omega
  cases hk : st.kind with
  | preMem => exact load_flavour_eq_mem hf st node (.inl hk)
  | postMem => exact load_flavour_eq_mem hf st node (.inr (.inl hk))
  | empty => exact load_flavour_eq_mem hf st node (.inr (.inr hk))
  | preIo => exact hio (slot_lt_pre st (.inl hk) hs node (hpre hk))
  | postIo => exact hio (slot_lt_post st (.inl hk) hs node (hpost hk))

set_option maxRecDepth 8000 in
example : stIo.tree.size ≤ 2 ^ 63 ∧ stIo.tree.outboardSize ≤ stIo.data.length ∧
    (stIo.kind = .preIo → 0 ∈ Spec.persistedPre stIo.tree.size stIo.tree.bs) ∧
    (stIo.kind = .postIo → 0 ∈ Spec.persistedPost stIo.tree.size stIo.tree.bs) := by decide +kernel

set_option maxRecDepth 8000 in
/-- the restriction to persisted nodes is needed: node 5 is outside the 3-chunk tree (nodes 0, 1, 2),
its pre-order "offset" is 3, beyond the 2 pairs of the outboard -/
theorem load_flavour_counterexample :
    stIo.tree.outboardSize ≤ stIo.data.length ∧
    stIo.load toy .sync 5 = .err ⟨.unexpectedEof, false⟩ ∧
    stIo.load toy .fsm 5 = .ok (some (32, 32)) := by decide +kernel

/-- `encode_ranges_validated`: if `load` agrees on the parent nodes of the plan of the query,
the two flavours return the same bytes and the same terminal (`ok`, the same error variant at the
same node / chunk, or `panic`).  Holds for the empty query as well. -/
theorem encode_validated_eq (hf : HashFns H) [BEq H] (data : List UInt8) (st : Store H)
    (ranges : Ranges)
    (h : ∀ plan, st.tree.prePartialChunks (Ranges.truncate ranges st.tree.size) 0 = some plan →
      ∀ node ∈ planParents plan, st.load hf .sync node = st.load hf .fsm node) :
    encodeRangesValidated hf .sync data st ranges = encodeRangesValidated hf .fsm data st ranges := by
  cases ranges with
  | nil => rw [encodeRangesValidated_nil, encodeRangesValidated_nil]
  | cons a q =>
    simp only [encodeRangesValidated, Ranges.isEmpty, List.isEmpty_cons, Bool.and_false,
      Bool.false_eq_true, if_false]
    cases hp : st.tree.prePartialChunks (Ranges.truncate (a :: q) st.tree.size) 0 with
    | none => rfl
    | some plan => exact encodeValidatedLoop_flavour hf data st plan _ _ (h plan hp)

set_option maxRecDepth 8000 in
/-- the plan of the full query on `stIo` loads the nodes 1 and 0, and `load` agrees on them -/
example : ∀ plan, stIo.tree.prePartialChunks (Ranges.truncate [0] stIo.tree.size) 0 = some plan →
    ∀ node ∈ planParents plan, stIo.load toy .sync node = stIo.load toy .fsm node := by
  intro plan hp
  have h : stIo.tree.prePartialChunks (Ranges.truncate [0] stIo.tree.size) 0 = some
      [.parent 1 true true true [0], .parent 0 false true true [0],
       .leaf 0 1024 false [0], .leaf 1 1024 false [0], .leaf 2 952 false [0]] := by decide +kernel
  rw [h] at hp
  cases hp
  decide +kernel

/-- the hypothesis in the form "`load` agrees on all nodes" -/
theorem encode_validated_eq_of_load (hf : HashFns H) [BEq H] (data : List UInt8) (st : Store H)
    (ranges : Ranges) (h : ∀ node, st.load hf .sync node = st.load hf .fsm node) :
    encodeRangesValidated hf .sync data st ranges = encodeRangesValidated hf .fsm data st ranges :=
  encode_validated_eq hf data st ranges fun _ _ node _ => h node

example : ∀ node, (⟨.postMem, 0, ⟨5000, 0⟩, []⟩ : Store Nat).load toy .sync node
    = (⟨.postMem, 0, ⟨5000, 0⟩, []⟩ : Store Nat).load toy .fsm node :=
  fun node => load_flavour_eq_mem toy _ node (.inr (.inl rfl))

/-- in-memory stores and the empty outboard: unconditional -/
theorem encode_validated_eq_mem (hf : HashFns H) [BEq H] (data : List UInt8) (st : Store H)
    (ranges : Ranges) (hk : st.kind = .preMem ∨ st.kind = .postMem ∨ st.kind = .empty) :
    encodeRangesValidated hf .sync data st ranges = encodeRangesValidated hf .fsm data st ranges :=
  encode_validated_eq_of_load hf data st ranges fun node => load_flavour_eq_mem hf st node hk

example : (⟨.empty, 0, ⟨5000, 0⟩, []⟩ : Store Nat).kind = .preMem ∨
    (⟨.empty, 0, ⟨5000, 0⟩, []⟩ : Store Nat).kind = .postMem ∨
    (⟨.empty, 0, ⟨5000, 0⟩, []⟩ : Store Nat).kind = .empty := by decide

/-- the empty query: the sync encoder returns at once, the fsm encoder walks the empty plan
(`prePartialChunks_nil`); both write nothing and succeed -/
theorem encode_validated_empty (hf : HashFns H) [BEq H] (fl : Flavour) (data : List UInt8)
    (st : Store H) : encodeRangesValidated hf fl data st [] = ⟨[], .ok⟩ :=
  encodeRangesValidated_nil hf fl data st

/-- the plan of the empty query is empty -/
theorem plan_empty (t : Tree) (ml : Nat) : Tree.prePartialChunks t [] ml = some [] :=
  prePartialChunks_nil t ml

/-- `encode_ranges` (no validation): same statement -/
theorem encode_plain_eq (hf : HashFns H) (data : List UInt8) (st : Store H) (ranges : Ranges)
    (h : ∀ plan, st.tree.prePartialChunks (Ranges.truncate ranges st.tree.size) 0 = some plan →
      ∀ node ∈ planParents plan, st.load hf .sync node = st.load hf .fsm node) :
    encodeRanges hf .sync data st ranges = encodeRanges hf .fsm data st ranges := by
  simp only [encodeRanges]
  cases hp : st.tree.prePartialChunks (Ranges.truncate ranges st.tree.size) 0 with
  | none => rfl
  | some plan => exact encodePlainLoop_flavour hf data st plan _ (h plan hp)

example : ∀ plan, (⟨.preMem, 0, ⟨5000, 0⟩, []⟩ : Store Nat).tree.prePartialChunks
      (Ranges.truncate [1, 2] 5000) 0 = some plan →
    ∀ node ∈ planParents plan, (⟨.preMem, 0, ⟨5000, 0⟩, []⟩ : Store Nat).load toy .sync node
      = (⟨.preMem, 0, ⟨5000, 0⟩, []⟩ : Store Nat).load toy .fsm node :=
  fun _ _ node _ => load_flavour_eq_mem toy _ node (.inl rfl)

theorem encode_plain_eq_mem (hf : HashFns H) (data : List UInt8) (st : Store H)
    (ranges : Ranges) (hk : st.kind = .preMem ∨ st.kind = .postMem ∨ st.kind = .empty) :
    encodeRanges hf .sync data st ranges = encodeRanges hf .fsm data st ranges :=
  encode_plain_eq hf data st ranges fun _ _ node _ => load_flavour_eq_mem hf st node hk

example : (⟨.preMem, 0, ⟨5000, 0⟩, []⟩ : Store Nat).kind = .preMem ∨
    (⟨.preMem, 0, ⟨5000, 0⟩, []⟩ : Store Nat).kind = .postMem ∨
    (⟨.preMem, 0, ⟨5000, 0⟩, []⟩ : Store Nat).kind = .empty := by decide

/-- when every check of the validating encoder passes, the plain encoder writes the same bytes
(and succeeds); any query, any flavour -/
theorem plain_eq_validated_of_ok (hf : HashFns H) [BEq H] (fl : Flavour) (data : List UInt8)
    (st : Store H) (ranges : Ranges)
    (h : (encodeRangesValidated hf fl data st ranges).terminal = .ok) :
    encodeRanges hf fl data st ranges = encodeRangesValidated hf fl data st ranges := by
  cases ranges with
  | nil => rw [encodeRangesValidated_nil, encodeRanges_nil]
  | cons a q =>
    simp only [encodeRangesValidated, Ranges.isEmpty, List.isEmpty_cons, Bool.and_false,
      Bool.false_eq_true, if_false, encodeRanges] at h ⊢
    cases hp : st.tree.prePartialChunks (Ranges.truncate (a :: q) st.tree.size) 0 with
    | none => rfl
    | some plan =>
      simp only [hp] at h
      exact plainLoop_eq_of_ok hf fl data st plan _ _ h

/-- a one-chunk blob: the plan is the root leaf, whose hash under `toy` is `0 + 5 + 1` -/
example : (encodeRangesValidated toy .fsm [7, 7, 7, 7, 7]
    ⟨.preMem, 6, ⟨5, 0⟩, []⟩ [0]).terminal = .ok := by decide +kernel

/-- If the traversal does not panic, its items are: the size first; then parent / leaf items whose
flattening is exactly the output of the (sync) validating byte encoder; then one last item, `done`
when the byte encoder ends `ok`, `error e` when it ends with the error `e`. -/
theorem mixed_flatten (hf : HashFns H) [BEq H] (data : List UInt8) (st : Store H) (ranges : Ranges)
    (items : List (EncodedItem H)) (h : traverseRangesValidated hf data st ranges = some items) :
    ∃ (mid : List (Item H)) (last : EncodedItem H),
      items = .size st.tree.size :: (mid.map Item.toEncoded ++ [last]) ∧
      items.head? = some (.size st.tree.size) ∧
      items.getLast? = some last ∧
      ((last = .done ∧ (encodeRangesValidated hf .sync data st ranges).terminal = .ok) ∨
        ∃ e, last = .error e ∧ (encodeRangesValidated hf .sync data st ranges).terminal = .err e) ∧
      items.flatMap (EncodedItem.flatten hf) = (encodeRangesValidated hf .sync data st ranges).out := by
  have hs := traverseRangesValidated_spec hf data st ranges
  rw [h] at hs
  obtain ⟨mid, last, h1, h2, h3⟩ := hs
  refine ⟨mid, last, h1, by rw [h1]; rfl, by rw [h1, ← List.cons_append, List.getLast?_concat], h3, ?_⟩
  rw [h1, h2]
  exact flatMap_flatten_frame hf _ mid last
    (h3.elim (fun a => .inl a.1) (fun ⟨e, a, _⟩ => .inr ⟨e, a⟩))

example : traverseRangesValidated toy [7, 7, 7, 7, 7] ⟨.preMem, 6, ⟨5, 0⟩, []⟩ [0]
    = some [.size 5, .leaf 0 [7, 7, 7, 7, 7], .done] := by decide +kernel

/-- the traversal panics exactly when the byte encoder panics -/
theorem mixed_panic (hf : HashFns H) [BEq H] (data : List UInt8) (st : Store H) (ranges : Ranges) :
    traverseRangesValidated hf data st ranges = none ↔
      (encodeRangesValidated hf .sync data st ranges).terminal = .panic := by
  have hs := traverseRangesValidated_spec hf data st ranges
  cases ht : traverseRangesValidated hf data st ranges with
  | none => rw [ht] at hs; simp [hs]
  | some items =>
    rw [ht] at hs
    obtain ⟨_, _, _, _, h3⟩ := hs
    rcases h3 with ⟨_, h⟩ | ⟨e, _, h⟩ <;> simp [h]

/-- `valid_ranges`: the two flavours yield the same chunk ranges and the same terminal whenever
`load` agrees (the recursion touches `load` only) -/
theorem validRanges_eq (hf : HashFns H) [BEq H] (ob : Store H) (data : List UInt8) (ranges : Ranges)
    (h : ∀ node, ob.load hf .sync node = ob.load hf .fsm node) :
    validRanges hf .sync ob data ranges = validRanges hf .fsm ob data ranges := by
  simp only [validRanges, validateRec_flavour hf true ob data _ h]

example : ∀ node, (⟨.preMem, 0, ⟨3000, 0⟩, []⟩ : Store Nat).load toy .sync node
    = (⟨.preMem, 0, ⟨3000, 0⟩, []⟩ : Store Nat).load toy .fsm node :=
  fun node => load_flavour_eq_mem toy _ node (.inl rfl)

/-- `valid_outboard_ranges`: the same, for the walk over the outboard alone -/
theorem validOutboardRanges_eq (hf : HashFns H) [BEq H] (ob : Store H) (ranges : Ranges)
    (h : ∀ node, ob.load hf .sync node = ob.load hf .fsm node) :
    validOutboardRanges hf .sync ob ranges = validOutboardRanges hf .fsm ob ranges := by
  simp only [validOutboardRanges, validateRec_flavour hf false ob [] _ h]

example : ∀ node, (⟨.empty, 0, ⟨3000, 0⟩, []⟩ : Store Nat).load toy .sync node
    = (⟨.empty, 0, ⟨3000, 0⟩, []⟩ : Store Nat).load toy .fsm node :=
  fun node => load_flavour_eq_mem toy _ node (.inr (.inr rfl))

/-
Summary C08.
PROVED: step_eq, decode_eq, decodeAll_eq (+_fields), decodeRanges_eq (+_fields),
  load_flavour_eq_mem, load_flavour_eq_slot, load_flavour_eq_persisted, load_flavour_counterexample,
  encode_validated_eq (+_of_load, _mem, _empty), plan_empty, encode_plain_eq (+_mem),
  plain_eq_validated_of_ok, mixed_flatten, mixed_panic, validRanges_eq, validOutboardRanges_eq.
PARTIAL: none (but see OPEN: for the io-backed kinds the encoder / validator theorems carry the
  hypothesis that `load` agrees on the nodes they read).
OPEN (not stated as theorems):
  -- OPEN: theorem encode_validated_eq_io : st.tree.size ≤ 2^63 → st.tree.outboardSize ≤ st.data.length →
  --   encodeRangesValidated hf .sync data st ranges = encodeRangesValidated hf .fsm data st ranges
  --   missing: every parent node of `prePartialChunks (truncate ranges size) 0` is a persisted node
  --   (`∈ Spec.persistedPre/Post`); with that fact it follows from `encode_validated_eq` and
  --   `load_flavour_eq_persisted`.  It is a property of the plan iterator (PlanPre), not of the codec.
  -- validRanges_eq / validOutboardRanges_eq ask for agreement of `load` on ALL nodes, which holds for
  --   the memory kinds and `empty` but never for a finite `preIo` backing (`load_flavour_counterexample`);
  --   the version restricted to the nodes the recursion visits needs the same missing fact.
NOTE: agreement of the two decoders holds up to and including the first error.  A client that keeps
  calling `next` after an error sees different stacks (sync popped without pushing the children,
  fsm pushed them), so later steps may differ; `step_eq` states exactly what is shared.
  Concrete (`toy` hash): `Dec.new 999 ⟨3000,0⟩ [0] (List.replicate 3200 1)`: first call
  `err (parentHashMismatch 1)` in both; second call: sync `panic` (`stack.pop().unwrap()` on the
  empty stack), fsm `err (parentHashMismatch 0)`.
-/

end Bao.C08
