import BaoProofs.Lemmas.StoreAlgL

/-!
# Store algebra — "idempotent positional writes of pairs", "node → offset maps shared by every writer"

The four persisting outboard kinds (`PreOrderOutboard`, `PostOrderOutboard` over an io backing,
`PreOrderMemOutboard`, `PostOrderMemOutboard`) are arrays of 64-byte records indexed by the C12
bijection `persisted node ↦ position in the traversal`; `save` overwrites one record, `load` reads
one record.  For every hash instance whose hashes are 32 bytes (`hlen`) and survive the hash round
trip `hrt` (`ofBytes (toBytes h) = h`), every flavour, every store whose backing has exactly the
outboard size, every tree of size `≤ 2^63` and block size `≤ 10`:

1. `save_load_same`      – what was saved is loaded; kind, tree, root and length are kept;
2. `save_load_other`     – every other persisted node is untouched (in fact every node with another
                           slot: `save_load_other_slot`);
3. `save_bytes`          – the backing changes exactly in `[64 i, 64 i + 64)`, `i` = the index of the
                           node in `Spec.persistedPre` / `Spec.persistedPost`;
4. `save_idempotent`, `save_commute`;
5. `save_not_persisted`, `load_not_persisted`, `slot_none_iff`;
6. `empty_store`;
7. `no_panic`.

`persisted s` is `Spec.persistedPre` for the pre-order kinds, `Spec.persistedPost` for the
post-order kinds (`persisted_pre`, `persisted_post` in `StoreAlgL`); `InTree t x` says that `x` is a
node of the tree: below the block level, or visited by the model of `BaoTree::pre_order_nodes_iter`.
-/

set_option maxRecDepth 8192

namespace Bao.C12Store
open Bao Bao.Spec Bao.Offsets Bao.NodeIterL Bao.WriteAtL Bao.OutboardL

variable {H : Type}

/-! ## non-vacuity data: a toy hash and small concrete stores -/

/-- a toy hash with a 32-byte representation and the hash round trip `hrt` -/
def toyHash : HashFns UInt8 where
  chunkCv := fun c b r => b.foldl (· + ·) (UInt8.ofNat c + if r then 1 else 0)
  parentCv := fun l r f => l + 2 * r + if f then 1 else 0
  ofBytes := fun b => b.headD 0
  toBytes := fun h => List.replicate 32 h

theorem toy_len : ∀ h, (toyHash.toBytes h).length = 32 := fun _ => List.length_replicate ..
theorem toy_rt : ∀ h, toyHash.ofBytes (toyHash.toBytes h) = h := fun _ => rfl

/-- 5000 bytes, block size 0: 5 chunks, persisted nodes `[3, 1, 0, 2]` (pre-order) /
`[0, 2, 1, 3]` (post-order), half leaf `4`; 256 bytes of outboard -/
def toyStore (kind : StoreKind) : Store UInt8 := ⟨kind, 0, ⟨5000, 0⟩, List.replicate 256 9⟩

theorem toy_dl (kind : StoreKind) :
    (toyStore kind).data.length = (toyStore kind).tree.outboardSize := by
  cases kind <;> decide

theorem toy_size (kind : StoreKind) : (toyStore kind).tree.size ≤ 2 ^ 63 := by
  cases kind <;> decide
theorem toy_bs (kind : StoreKind) : (toyStore kind).tree.bs ≤ 10 := by
  cases kind <;> decide

theorem toy_pre : persisted (toyStore .preMem) = [3, 1, 0, 2] := by decide
theorem toy_post : persisted (toyStore .postIo) = [0, 2, 1, 3] := by decide

/-! ## 1. what was saved is loaded -/

/-- a node with slot `k` inside the outboard (`k < blocks - 1`): `save` succeeds, the saved pair is
loaded back, and kind, tree, root and the length of the backing are kept -/
theorem save_load_same (hf : HashFns H) (hlen : ∀ h, (hf.toBytes h).length = 32)
    (hrt : ∀ h, hf.ofBytes (hf.toBytes h) = h) (fl : Flavour) (s : Store H)
    (hk : s.kind ≠ .empty) (hdl : s.data.length = s.tree.outboardSize) (n k : Nat) (p : H × H)
    (hsl : s.slot n = some k) (hkb : k < s.tree.blocks - 1) :
    ∃ s', s.save hf n p = .ok s' ∧ s'.load hf fl n = .ok (some p) ∧ s'.kind = s.kind ∧
      s'.tree = s.tree ∧ s'.root = s.root ∧ s'.data.length = s.data.length :=
  ⟨_, save_some hf hk hsl (slot_inside hdl hkb) p, load_writeAt hf hlen hrt fl s hk hsl p, rfl, rfl,
    rfl, by
      rw [length_writeAt, pair_bytes_length hf hlen p]
      exact Nat.max_eq_left (slot_inside hdl hkb)⟩

example : ∃ s', (toyStore .preMem).save toyHash 1 (5, 6) = .ok s' ∧
    s'.load toyHash .sync 1 = .ok (some (5, 6)) ∧ s'.kind = .preMem ∧
    s'.tree = ⟨5000, 0⟩ ∧ s'.root = 0 ∧ s'.data.length = 256 :=
  save_load_same toyHash toy_len toy_rt .sync (toyStore .preMem) (by decide) (toy_dl _) 1 1 (5, 6)
    (by decide) (by decide)

/-- the same for a node of the persisted list of the store's order (C12 gives slot and bound) -/
theorem save_load_same_mem (hf : HashFns H) (hlen : ∀ h, (hf.toBytes h).length = 32)
    (hrt : ∀ h, hf.ofBytes (hf.toBytes h) = h) (fl : Flavour) (s : Store H)
    (hdl : s.data.length = s.tree.outboardSize) (hs : s.tree.size ≤ 2 ^ 63) (hbs : s.tree.bs ≤ 10)
    (n : Nat) (p : H × H) (hn : n ∈ persisted s) :
    ∃ s', s.save hf n p = .ok s' ∧ s'.load hf fl n = .ok (some p) ∧ s'.kind = s.kind ∧
      s'.tree = s.tree ∧ s'.root = s.root ∧ s'.data.length = s.data.length := by
  obtain ⟨i, hi, -, hsl, hib⟩ := slot_of_mem s hs hbs hn
  exact save_load_same hf hlen hrt fl s (ne_empty_of_mem hn) hdl n i p hsl hib

example : ∃ s', (toyStore .postIo).save toyHash 3 (5, 6) = .ok s' ∧
    s'.load toyHash .fsm 3 = .ok (some (5, 6)) ∧ s'.kind = .postIo ∧
    s'.tree = ⟨5000, 0⟩ ∧ s'.root = 0 ∧ s'.data.length = 256 :=
  save_load_same_mem toyHash toy_len toy_rt .fsm (toyStore .postIo) (toy_dl _) (toy_size _)
    (toy_bs _) 3 (5, 6) (by rw [toy_post]; decide)

/-- the io kinds need no hypothesis on the backing: a short backing is zero-extended by the write
(`WriteAt for Vec<u8>`), any node with a slot (even an id outside the tree) can be saved and is
loaded back; the backing grows to `max length (64 k + 64)` -/
theorem save_load_same_io (hf : HashFns H) (hlen : ∀ h, (hf.toBytes h).length = 32)
    (hrt : ∀ h, hf.ofBytes (hf.toBytes h) = h) (fl : Flavour) (s : Store H)
    (hk : s.kind = .preIo ∨ s.kind = .postIo) (n k : Nat) (p : H × H) (hsl : s.slot n = some k) :
    ∃ s', s.save hf n p = .ok s' ∧ s'.load hf fl n = .ok (some p) ∧ s'.kind = s.kind ∧
      s'.tree = s.tree ∧ s'.root = s.root ∧
      s'.data.length = max s.data.length (k * 64 + 64) :=
  ⟨_, save_io hf hk hsl p,
    load_writeAt hf hlen hrt fl s (ne_empty_of_or hk) hsl p, rfl, rfl, rfl, by
      rw [length_writeAt, pair_bytes_length hf hlen p]⟩

example : ∃ s', (⟨.preIo, 0, ⟨5000, 0⟩, []⟩ : Store UInt8).save toyHash 2 (5, 6) = .ok s' ∧
    s'.load toyHash .sync 2 = .ok (some (5, 6)) ∧ s'.kind = .preIo ∧
    s'.tree = ⟨5000, 0⟩ ∧ s'.root = 0 ∧ s'.data.length = max 0 (3 * 64 + 64) :=
  save_load_same_io toyHash toy_len toy_rt .sync ⟨.preIo, 0, ⟨5000, 0⟩, []⟩ (.inl rfl) 2 3 (5, 6)
    (by decide)

/-! ## 2. every other node is untouched -/

/-- a successful save into slot `k` does not change what `load` returns for any node whose slot is
not `k` (persisted or not, even ids outside the tree) -/
theorem save_load_other_slot (hf : HashFns H) (hlen : ∀ h, (hf.toBytes h).length = 32)
    (fl : Flavour) (s s' : Store H) (hk : s.kind ≠ .empty)
    (hdl : s.data.length = s.tree.outboardSize) (n m k : Nat) (p : H × H)
    (hsl : s.slot n = some k) (hkb : k < s.tree.blocks - 1) (hm : s.slot m ≠ some k)
    (hsv : s.save hf n p = .ok s') : s'.load hf fl m = s.load hf fl m := by
  have hin := slot_inside hdl hkb
  have hb := pair_bytes_length hf hlen p
  rw [save_some hf hk hsl hin p] at hsv
  cases hsv
  apply load_congr hf fl (s := s)
    (s' := { s with data := writeAt s.data (k * 64) (hf.toBytes p.1 ++ hf.toBytes p.2) }) m rfl rfl
  · intro j _
    simp only [length_writeAt, hb, Nat.max_eq_left hin]
  · intro j hj hjin
    exact blockAt_writeAt_ne _ _ _ _ hb (fun h => hm (by rw [hj, h])) hjin

example : ∀ s', (toyStore .preMem).save toyHash 1 (5, 6) = .ok s' →
    s'.load toyHash .sync 4 = (toyStore .preMem).load toyHash .sync 4 :=
  fun s' h => save_load_other_slot toyHash toy_len .sync (toyStore .preMem) s' (by decide)
    (toy_dl _) 1 4 1 (5, 6) (by decide) (by decide) (by decide) h

/-- two DIFFERENT persisted nodes: saving one leaves the other (C12 injectivity) -/
theorem save_load_other (hf : HashFns H) (hlen : ∀ h, (hf.toBytes h).length = 32)
    (fl : Flavour) (s s' : Store H) (hdl : s.data.length = s.tree.outboardSize)
    (hs : s.tree.size ≤ 2 ^ 63) (hbs : s.tree.bs ≤ 10) (n m : Nat) (p : H × H)
    (hn : n ∈ persisted s) (hm : m ∈ persisted s) (hne : n ≠ m)
    (hsv : s.save hf n p = .ok s') : s'.load hf fl m = s.load hf fl m := by
  obtain ⟨i, hi, -, hsl, hib⟩ := slot_of_mem s hs hbs hn
  have hne' := slot_ne_of_mem s hs hbs hn hm hne
  rw [hsl] at hne'
  exact save_load_other_slot hf hlen fl s s' (ne_empty_of_mem hn) hdl n m i p hsl hib hne' hsv

example : ∀ s', (toyStore .preMem).save toyHash 1 (5, 6) = .ok s' →
    s'.load toyHash .sync 2 = (toyStore .preMem).load toyHash .sync 2 :=
  fun s' h => save_load_other toyHash toy_len .sync (toyStore .preMem) s' (toy_dl _) (toy_size _)
    (toy_bs _) 1 2 (5, 6) (by rw [toy_pre]; decide) (by rw [toy_pre]; decide) (by decide) h

/-- the hypothesis on the length of the backing is needed for the io kinds: on an EMPTY backing a
save at slot 3 zero-extends the file, and slot 1, which `read_exact_at` could not read before, now
reads as zeros -/
example : ∃ s', (⟨.preIo, 0, ⟨5000, 0⟩, []⟩ : Store UInt8).save toyHash 2 (5, 6) = .ok s' ∧
    (⟨.preIo, 0, ⟨5000, 0⟩, []⟩ : Store UInt8).load toyHash .sync 1
      = .err ⟨.unexpectedEof, false⟩ ∧
    s'.load toyHash .sync 1 = .ok (some (0, 0)) := ⟨_, rfl, by decide, by decide⟩

/-- "persisted" is needed: id `7` is not a node of the 5-chunk tree, but the offset function maps it
to slot `0`, the slot of the root `3` — a save at id 7 overwrites the record of the root -/
example : (toyStore .preIo).slot 7 = some 0 ∧ (toyStore .preIo).slot 3 = some 0 ∧
    (toyStore .postIo).slot 5 = some 2 ∧ (toyStore .postIo).slot 1 = some 2 := by decide

/-! ## 3. the bytes -/

/-- saving the `i`-th node of the persisted list of the store's order replaces exactly the bytes
`[64 i, 64 i + 64)` of the backing by `toBytes p.1 ++ toBytes p.2` (no offset function in the
statement: the index in the recursive traversal IS the record number) -/
theorem save_bytes (hf : HashFns H) (hlen : ∀ h, (hf.toBytes h).length = 32)
    (s s' : Store H) (hdl : s.data.length = s.tree.outboardSize)
    (hs : s.tree.size ≤ 2 ^ 63) (hbs : s.tree.bs ≤ 10) (i : Nat) (hi : i < (persisted s).length)
    (p : H × H) (hsv : s.save hf (persisted s)[i] p = .ok s') :
    s'.data = s.data.take (64 * i) ++ (hf.toBytes p.1 ++ hf.toBytes p.2) ++ s.data.drop (64 * i + 64)
      ∧ s'.kind = s.kind ∧ s'.tree = s.tree ∧ s'.root = s.root := by
  obtain ⟨hin, rfl⟩ := save_persisted hf hdl hs hbs hi hsv
  refine ⟨?_, rfl, rfl, rfl⟩
  rw [Nat.mul_comm 64 i]
  exact writeAt_slot _ _ _ (pair_bytes_length hf hlen p) hin

example : ∀ s', (toyStore .preMem).save toyHash 1 (5, 6) = .ok s' →
    s'.data = (toyStore .preMem).data.take (64 * 1) ++
      (toyHash.toBytes 5 ++ toyHash.toBytes 6) ++ (toyStore .preMem).data.drop (64 * 1 + 64) ∧
    s'.kind = .preMem ∧ s'.tree = ⟨5000, 0⟩ ∧ s'.root = 0 :=
  fun s' h => save_bytes toyHash toy_len (toyStore .preMem) s' (toy_dl _) (toy_size _) (toy_bs _)
    1 (by rw [toy_pre]; decide) (5, 6) (by simpa only [toy_pre, List.getElem_cons_succ, List.getElem_cons_zero] using h)

/-- the same, byte by byte: inside the record the written bytes, outside the old ones -/
theorem save_bytes_get (hf : HashFns H) (hlen : ∀ h, (hf.toBytes h).length = 32)
    (s s' : Store H) (hdl : s.data.length = s.tree.outboardSize)
    (hs : s.tree.size ≤ 2 ^ 63) (hbs : s.tree.bs ≤ 10) (i : Nat) (hi : i < (persisted s).length)
    (p : H × H) (hsv : s.save hf (persisted s)[i] p = .ok s') (j : Nat) :
    s'.data[j]? = if 64 * i ≤ j ∧ j < 64 * i + 64
      then (hf.toBytes p.1 ++ hf.toBytes p.2)[j - 64 * i]? else s.data[j]? := by
  obtain ⟨hin, rfl⟩ := save_persisted hf hdl hs hbs hi hsv
  have hb := pair_bytes_length hf hlen p
  rw [Nat.mul_comm 64 i, ← hb]
  exact getElem?_writeAt_of_le (hb ▸ hin) j

example : ∀ s', (toyStore .postIo).save toyHash 1 (5, 6) = .ok s' →
    s'.data[130]? = some 5 :=
  fun s' h => by
    have := save_bytes_get toyHash toy_len (toyStore .postIo) s' (toy_dl _) (toy_size _) (toy_bs _)
      2 (by rw [toy_post]; decide) (5, 6) (by simpa only [toy_post, List.getElem_cons_succ, List.getElem_cons_zero] using h) 130
    rw [this]; decide

/-- item 3 spelled out for the pre-order kinds, without `persisted` -/
theorem save_bytes_pre (hf : HashFns H) (hlen : ∀ h, (hf.toBytes h).length = 32)
    (s s' : Store H) (hkind : s.kind = .preIo ∨ s.kind = .preMem)
    (hdl : s.data.length = s.tree.outboardSize)
    (hs : s.tree.size ≤ 2 ^ 63) (hbs : s.tree.bs ≤ 10) (i : Nat)
    (hi : i < (Spec.persistedPre s.tree.size s.tree.bs).length)
    (p : H × H) (hsv : s.save hf (Spec.persistedPre s.tree.size s.tree.bs)[i] p = .ok s') :
    s'.data
      = s.data.take (64 * i) ++ (hf.toBytes p.1 ++ hf.toBytes p.2) ++ s.data.drop (64 * i + 64) := by
  have e := persisted_pre hkind
  have hi' : i < (persisted s).length := by rw [e]; exact hi
  have hsv' : s.save hf (persisted s)[i] p = .ok s' := by simpa only [e] using hsv
  exact (save_bytes hf hlen s s' hdl hs hbs i hi' p hsv').1

example : ∀ s', (toyStore .preIo).save toyHash (Spec.persistedPre 5000 0)[2] (5, 6) = .ok s' →
    s'.data = (toyStore .preIo).data.take (64 * 2) ++
      (toyHash.toBytes 5 ++ toyHash.toBytes 6) ++ (toyStore .preIo).data.drop (64 * 2 + 64) :=
  fun s' h => save_bytes_pre toyHash toy_len (toyStore .preIo) s' (.inl rfl) (toy_dl _)
    (toy_size _) (toy_bs _) 2 (by decide) (5, 6) h

/-- item 3 spelled out for the post-order kinds, without `persisted` -/
theorem save_bytes_post (hf : HashFns H) (hlen : ∀ h, (hf.toBytes h).length = 32)
    (s s' : Store H) (hkind : s.kind = .postIo ∨ s.kind = .postMem)
    (hdl : s.data.length = s.tree.outboardSize)
    (hs : s.tree.size ≤ 2 ^ 63) (hbs : s.tree.bs ≤ 10) (i : Nat)
    (hi : i < (Spec.persistedPost s.tree.size s.tree.bs).length)
    (p : H × H) (hsv : s.save hf (Spec.persistedPost s.tree.size s.tree.bs)[i] p = .ok s') :
    s'.data
      = s.data.take (64 * i) ++ (hf.toBytes p.1 ++ hf.toBytes p.2) ++ s.data.drop (64 * i + 64) := by
  have e := persisted_post hkind
  have hi' : i < (persisted s).length := by rw [e]; exact hi
  have hsv' : s.save hf (persisted s)[i] p = .ok s' := by simpa only [e] using hsv
  exact (save_bytes hf hlen s s' hdl hs hbs i hi' p hsv').1

example : ∀ s', (toyStore .postMem).save toyHash (Spec.persistedPost 5000 0)[2] (5, 6) = .ok s' →
    s'.data = (toyStore .postMem).data.take (64 * 2) ++
      (toyHash.toBytes 5 ++ toyHash.toBytes 6) ++ (toyStore .postMem).data.drop (64 * 2 + 64) :=
  fun s' h => save_bytes_post toyHash toy_len (toyStore .postMem) s' (.inr rfl) (toy_dl _)
    (toy_size _) (toy_bs _) 2 (by decide) (5, 6) h

/-! ## 4. idempotent, commuting -/

/-- saving the same pair at the same node a second time changes nothing — for EVERY store (all
five kinds, any backing, any node id): no hypothesis is needed -/
theorem save_idempotent (hf : HashFns H) (s s' : Store H) (n : Nat) (p : H × H)
    (hsv : s.save hf n p = .ok s') : s'.save hf n p = .ok s' :=
  save_idem hf s s' n p hsv

example : ∀ s', (toyStore .preMem).save toyHash 1 (5, 6) = .ok s' →
    s'.save toyHash 1 (5, 6) = .ok s' :=
  fun s' h => save_idempotent toyHash _ s' 1 (5, 6) h

example : ∃ s', (toyStore .preMem).save toyHash 1 (5, 6) = .ok s' := ⟨_, rfl⟩

/-- saves into two different slots inside the outboard commute -/
theorem save_commute_slot (hf : HashFns H) (hlen : ∀ h, (hf.toBytes h).length = 32)
    (s : Store H) (hk : s.kind ≠ .empty) (hdl : s.data.length = s.tree.outboardSize)
    (n m i j : Nat) (p q : H × H) (hsi : s.slot n = some i) (hsj : s.slot m = some j)
    (hib : i < s.tree.blocks - 1) (hjb : j < s.tree.blocks - 1) (hij : j ≠ i) :
    ∃ s₁ s₂ s₁₂, s.save hf n p = .ok s₁ ∧ s.save hf m q = .ok s₂ ∧
      s₁.save hf m q = .ok s₁₂ ∧ s₂.save hf n p = .ok s₁₂ := by
  have hini := slot_inside hdl hib
  have hinj := slot_inside hdl hjb
  have hbp := pair_bytes_length hf hlen p
  have hbq := pair_bytes_length hf hlen q
  refine ⟨_, _, _, save_some hf hk hsi hini p, save_some hf hk hsj hinj q,
    save_some hf
      (s := { s with data := writeAt s.data (i * 64) (hf.toBytes p.1 ++ hf.toBytes p.2) })
      hk hsj (by rw [length_writeAt]; exact Nat.le_trans hinj (Nat.le_max_left _ _)) q, ?_⟩
  rw [save_some hf
    (s := { s with data := writeAt s.data (j * 64) (hf.toBytes q.1 ++ hf.toBytes q.2) })
    hk hsi (by rw [length_writeAt]; exact Nat.le_trans hini (Nat.le_max_left _ _)) p]
  simp only [writeAt_comm s.data j i _ _ hbp hbq hij]

example : ∃ s₁ s₂ s₁₂, (toyStore .preIo).save toyHash 1 (5, 6) = .ok s₁ ∧
    (toyStore .preIo).save toyHash 3 (7, 8) = .ok s₂ ∧
    s₁.save toyHash 3 (7, 8) = .ok s₁₂ ∧ s₂.save toyHash 1 (5, 6) = .ok s₁₂ :=
  save_commute_slot toyHash toy_len (toyStore .preIo) (by decide) (toy_dl _) 1 3 1 0 (5, 6) (7, 8)
    (by decide) (by decide) (by decide) (by decide) (by decide)

/-- saves to two different persisted nodes commute: both orders succeed and end in the SAME store
(same kind, root, tree and backing) -/
theorem save_commute (hf : HashFns H) (hlen : ∀ h, (hf.toBytes h).length = 32)
    (s : Store H) (hdl : s.data.length = s.tree.outboardSize)
    (hs : s.tree.size ≤ 2 ^ 63) (hbs : s.tree.bs ≤ 10) (n m : Nat) (p q : H × H)
    (hn : n ∈ persisted s) (hm : m ∈ persisted s) (hne : n ≠ m) :
    ∃ s₁ s₂ s₁₂, s.save hf n p = .ok s₁ ∧ s.save hf m q = .ok s₂ ∧
      s₁.save hf m q = .ok s₁₂ ∧ s₂.save hf n p = .ok s₁₂ := by
  obtain ⟨i, -, -, hsi, hib⟩ := slot_of_mem s hs hbs hn
  obtain ⟨j, -, -, hsj, hjb⟩ := slot_of_mem s hs hbs hm
  have hij : j ≠ i := by
    have := slot_ne_of_mem s hs hbs hn hm hne
    rw [hsi, hsj] at this
    exact fun h => this (by rw [h])
  exact save_commute_slot hf hlen s (ne_empty_of_mem hn) hdl n m i j p q hsi hsj hib hjb hij

example : ∃ s₁ s₂ s₁₂, (toyStore .postMem).save toyHash 1 (5, 6) = .ok s₁ ∧
    (toyStore .postMem).save toyHash 3 (7, 8) = .ok s₂ ∧
    s₁.save toyHash 3 (7, 8) = .ok s₁₂ ∧ s₂.save toyHash 1 (5, 6) = .ok s₁₂ :=
  save_commute toyHash toy_len (toyStore .postMem) (toy_dl _) (toy_size _) (toy_bs _) 1 3 (5, 6)
    (7, 8) (by decide) (by decide) (by decide)

/-- `save_commute` in the "given the four results" form -/
theorem save_commute_eq (hf : HashFns H) (hlen : ∀ h, (hf.toBytes h).length = 32)
    (s s₁ s₂ s₁₂ s₂₁ : Store H) (hdl : s.data.length = s.tree.outboardSize)
    (hs : s.tree.size ≤ 2 ^ 63) (hbs : s.tree.bs ≤ 10) (n m : Nat) (p q : H × H)
    (hn : n ∈ persisted s) (hm : m ∈ persisted s) (hne : n ≠ m)
    (h1 : s.save hf n p = .ok s₁) (h12 : s₁.save hf m q = .ok s₁₂)
    (h2 : s.save hf m q = .ok s₂) (h21 : s₂.save hf n p = .ok s₂₁) : s₁₂ = s₂₁ := by
  obtain ⟨t₁, t₂, t₁₂, g1, g2, g12, g21⟩ := save_commute hf hlen s hdl hs hbs n m p q hn hm hne
  rw [h1] at g1; injection g1 with g1; subst g1
  rw [h2] at g2; injection g2 with g2; subst g2
  rw [h12] at g12; injection g12 with g12
  rw [h21] at g21; injection g21 with g21
  rw [g12, g21]

example : ∀ s₁ s₂ s₁₂ s₂₁, (toyStore .preMem).save toyHash 1 (5, 6) = .ok s₁ →
    s₁.save toyHash 2 (7, 8) = .ok s₁₂ → (toyStore .preMem).save toyHash 2 (7, 8) = .ok s₂ →
    s₂.save toyHash 1 (5, 6) = .ok s₂₁ → s₁₂ = s₂₁ :=
  fun s₁ s₂ s₁₂ s₂₁ => save_commute_eq toyHash toy_len (toyStore .preMem) s₁ s₂ s₁₂ s₂₁ (toy_dl _)
    (toy_size _) (toy_bs _) 1 2 (5, 6) (7, 8) (by decide) (by decide) (by decide)

/-- the io kinds: saves into two different slots commute on ANY backing (also a short one that
both writes zero-extend) and for any ids -/
theorem save_commute_io (hf : HashFns H) (hlen : ∀ h, (hf.toBytes h).length = 32)
    (s : Store H) (hk : s.kind = .preIo ∨ s.kind = .postIo)
    (n m i j : Nat) (p q : H × H) (hsi : s.slot n = some i) (hsj : s.slot m = some j)
    (hij : j ≠ i) :
    ∃ s₁ s₂ s₁₂, s.save hf n p = .ok s₁ ∧ s.save hf m q = .ok s₂ ∧
      s₁.save hf m q = .ok s₁₂ ∧ s₂.save hf n p = .ok s₁₂ := by
  have hbp := pair_bytes_length hf hlen p
  have hbq := pair_bytes_length hf hlen q
  refine ⟨_, _, _, save_io hf hk hsi p, save_io hf hk hsj q,
    save_io hf
      (ob := { s with data := writeAt s.data (i * 64) (hf.toBytes p.1 ++ hf.toBytes p.2) })
      hk hsj q, ?_⟩
  rw [save_io hf
    (ob := { s with data := writeAt s.data (j * 64) (hf.toBytes q.1 ++ hf.toBytes q.2) })
    hk hsi p]
  simp only [writeAt_comm s.data j i _ _ hbp hbq hij]

example : ∃ s₁ s₂ s₁₂,
    (⟨.postIo, 0, ⟨5000, 0⟩, []⟩ : Store UInt8).save toyHash 1 (5, 6) = .ok s₁ ∧
    (⟨.postIo, 0, ⟨5000, 0⟩, []⟩ : Store UInt8).save toyHash 0 (7, 8) = .ok s₂ ∧
    s₁.save toyHash 0 (7, 8) = .ok s₁₂ ∧ s₂.save toyHash 1 (5, 6) = .ok s₁₂ :=
  save_commute_io toyHash toy_len ⟨.postIo, 0, ⟨5000, 0⟩, []⟩ (.inr rfl) 1 0 2 0 (5, 6) (7, 8)
    (by decide) (by decide) (by decide)

/-! ## 5. nodes that are not persisted -/

/-- a node without slot: the io kinds ignore the save, the memory kinds refuse it -/
theorem save_not_persisted (hf : HashFns H) (s : Store H) (n : Nat) (p : H × H)
    (hsl : s.slot n = none) :
    ((s.kind = .preIo ∨ s.kind = .postIo) → s.save hf n p = .ok s) ∧
    ((s.kind = .preMem ∨ s.kind = .postMem) → s.save hf n p = .err ⟨.invalidInput, false⟩) :=
  ⟨fun hk => save_io_none hf hk hsl p, fun hk => save_mem_none hf hk hsl p⟩

example : (toyStore .preIo).save toyHash 4 (5, 6) = .ok (toyStore .preIo) :=
  (save_not_persisted toyHash (toyStore .preIo) 4 (5, 6) (by decide)).1 (.inl rfl)

example : (toyStore .postMem).save toyHash 4 (5, 6) = .err ⟨.invalidInput, false⟩ :=
  (save_not_persisted toyHash (toyStore .postMem) 4 (5, 6) (by decide)).2 (.inr rfl)

/-- a node without slot loads as "not stored" -/
theorem load_not_persisted (hf : HashFns H) (fl : Flavour) (s : Store H) (n : Nat)
    (hsl : s.slot n = none) : s.load hf fl n = .ok none := by
  by_cases hk : s.kind = .empty
  · rw [slot_empty hk] at hsl
    rw [load_empty hf fl hk]
    split at hsl
    · cases hsl
    · rename_i h
      rw [if_neg h]
  · exact load_none hf fl s hk n hsl

example : (toyStore .preIo).load toyHash .fsm 4 = .ok none :=
  load_not_persisted toyHash .fsm (toyStore .preIo) 4 (by decide)

/-- the nodes of the tree: below the block level, persisted, or the half leaf -/
theorem inTree_iff (t : Tree) (hs : t.size ≤ 2 ^ 63) (hbs : t.bs ≤ 10) (x : Nat) :
    InTree t x ↔ Node.level x < t.bs ∨ x ∈ Spec.persistedPre t.size t.bs ∨
      (t.blocks % 2 = 1 ∧ x = Node.subBs (t.blocks - 1) t.bs) := by
  unfold InTree
  rw [mem_iter_iff t hs hbs x]
  rfl

example : InTree ⟨5000, 0⟩ 4 ↔ Node.level 4 < 0 ∨ 4 ∈ Spec.persistedPre 5000 0 ∨
    (Tree.blocks ⟨5000, 0⟩ % 2 = 1 ∧ 4 = Node.subBs (Tree.blocks ⟨5000, 0⟩ - 1) 0) :=
  inTree_iff ⟨5000, 0⟩ (by decide) (by decide) 4

/-- for the nodes OF THE TREE (all five kinds): the slot is `none` exactly for the nodes below the
block level and for the half-filled last leaf of an odd number of chunk groups -/
theorem slot_none_iff (s : Store H) (hs : s.tree.size ≤ 2 ^ 63) (hbs : s.tree.bs ≤ 10) (x : Nat)
    (hx : InTree s.tree x) :
    s.slot x = none ↔
      Node.level x < s.tree.bs ∨
        (s.tree.blocks % 2 = 1 ∧ x = Node.subBs (s.tree.blocks - 1) s.tree.bs) := by
  refine ⟨fun hsl => ?_, slot_none_of s hs hbs x⟩
  rcases hx with hx | hx
  · exact .inl hx
  · rcases (mem_iter_iff s.tree hs hbs x).1 hx with hp | hh
    · obtain ⟨k, hk⟩ := slot_some_of_persisted s hs hbs x hp
      rw [hk] at hsl; cases hsl
    · exact .inr hh

example : (toyStore .preMem).slot 4 = none ↔
    Node.level 4 < (toyStore .preMem).tree.bs ∨
      ((toyStore .preMem).tree.blocks % 2 = 1 ∧
        4 = Node.subBs ((toyStore .preMem).tree.blocks - 1) (toyStore .preMem).tree.bs) :=
  slot_none_iff (toyStore .preMem) (toy_size _) (toy_bs _) 4 (.inr (by decide))

/-! ## 6. the `EmptyOutboard` -/

/-- kind `.empty`: a relevant node loads as the zero pair and its save is accepted and dropped; a
non relevant node loads as "not stored" and its save is refused; a successful save never changes
the store -/
theorem empty_store (hf : HashFns H) (fl : Flavour) (s : Store H) (hk : s.kind = .empty) (n : Nat)
    (p : H × H) :
    (s.tree.isRelevant n = true →
      s.load hf fl n = .ok (some (hf.ofBytes zeros32, hf.ofBytes zeros32)) ∧
      s.save hf n p = .ok s) ∧
    (s.tree.isRelevant n = false →
      s.load hf fl n = .ok none ∧ s.save hf n p = .err ⟨.invalidInput, false⟩) ∧
    (∀ s', s.save hf n p = .ok s' → s' = s) := by
  exact ⟨fun h => ⟨by rw [load_empty hf fl hk, if_pos h], save_empty hf hk h p⟩,
    fun h => ⟨by rw [load_empty hf fl hk, h]; rfl, save_empty_of_not_relevant hf hk h p⟩,
    fun s' hsv => save_empty_eq hf hk hsv⟩

example : (toyStore .empty).load toyHash .sync 1
      = .ok (some (toyHash.ofBytes zeros32, toyHash.ofBytes zeros32)) ∧
    (toyStore .empty).save toyHash 1 (5, 6) = .ok (toyStore .empty) :=
  (empty_store toyHash .sync (toyStore .empty) rfl 1 (5, 6)).1 (by decide)

example : (toyStore .empty).load toyHash .sync 4 = .ok none ∧
    (toyStore .empty).save toyHash 4 (5, 6) = .err ⟨.invalidInput, false⟩ :=
  (empty_store toyHash .sync (toyStore .empty) rfl 4 (5, 6)).2.1 (by decide)

/-! ## 7. no panic -/

/-- the slot of a node of the tree, if it has one, lies inside the outboard -/
theorem slot_lt_of_inTree (s : Store H) (hk : s.kind ≠ .empty) (hs : s.tree.size ≤ 2 ^ 63)
    (hbs : s.tree.bs ≤ 10) (x k : Nat) (hx : InTree s.tree x) (hsl : s.slot x = some k) :
    k < s.tree.blocks - 1 := by
  have hiff := slot_none_iff s hs hbs x hx
  rcases hx with hx | hx
  · rw [hiff.2 (.inl hx)] at hsl; cases hsl
  · rcases (mem_iter_iff s.tree hs hbs x).1 hx with hp | hh
    · obtain ⟨i, -, -, hsi, hib⟩ := slot_of_mem s hs hbs ((mem_persisted_iff s hk hs x).2 hp)
      rw [hsi] at hsl
      cases hsl
      exact hib
    · rw [hiff.2 (.inr hh)] at hsl; cases hsl

example : 3 < (toyStore .postMem).tree.blocks - 1 :=
  slot_lt_of_inTree (toyStore .postMem) (by decide) (toy_size _) (toy_bs _) 3 3 (.inr (by decide))
    (by decide)

/-- backing of the outboard size, node of the tree: neither `load` nor `save` panics (any kind) -/
theorem no_panic (hf : HashFns H) (fl : Flavour) (s : Store H)
    (hdl : s.data.length = s.tree.outboardSize) (hs : s.tree.size ≤ 2 ^ 63) (hbs : s.tree.bs ≤ 10)
    (x : Nat) (hx : InTree s.tree x) (p : H × H) :
    s.load hf fl x ≠ .panic ∧ s.save hf x p ≠ .panic := by
  by_cases hio : s.kind ≠ .preMem ∧ s.kind ≠ .postMem
  · exact not_panic_io hf fl s hio x p
  · have hmem : s.kind = .preMem ∨ s.kind = .postMem := by
      cases hkd : s.kind <;> simp [hkd] at hio ⊢
    have hk := ne_empty_of_or hmem
    cases hsl : s.slot x with
    | none =>
      rw [load_not_persisted hf fl s x hsl, save_mem_none hf hmem hsl p]
      exact ⟨nofun, nofun⟩
    | some k =>
      have hin := slot_inside hdl (slot_lt_of_inTree s hk hs hbs x k hx hsl)
      rw [load_some hf fl hk hsl hin, save_some hf hk hsl hin p]
      exact ⟨nofun, nofun⟩

example : (toyStore .preMem).load toyHash .sync 4 ≠ .panic ∧
    (toyStore .preMem).save toyHash 4 (5, 6) ≠ .panic :=
  no_panic toyHash .sync (toyStore .preMem) (toy_dl _) (toy_size _) (toy_bs _) 4
    (.inr (by decide)) (5, 6)

/-- the io kinds and the `EmptyOutboard` never panic: any backing, any id -/
theorem no_panic_io (hf : HashFns H) (fl : Flavour) (s : Store H)
    (hk : s.kind ≠ .preMem ∧ s.kind ≠ .postMem) (x : Nat) (p : H × H) :
    s.load hf fl x ≠ .panic ∧ s.save hf x p ≠ .panic :=
  not_panic_io hf fl s hk x p

example : (toyStore .preIo).load toyHash .sync 9 ≠ .panic ∧
    (toyStore .preIo).save toyHash 9 (5, 6) ≠ .panic :=
  no_panic_io toyHash .sync (toyStore .preIo) (by decide) 9 (5, 6)

/-- WITHOUT "node of the tree" the statement is false for the memory kinds: id `9` is not a node of
the 5-chunk tree, the offset function still answers `some 7`, and the slice index is out of range -/
example : (toyStore .preMem).slot 9 = some 7 ∧
    (toyStore .preMem).load toyHash .sync 9 = .panic ∧
    (toyStore .preMem).save toyHash 9 (5, 6) = .panic := ⟨by decide, by decide, rfl⟩

end Bao.C12Store

/-
Status.  Hypotheses throughout: `hlen` (hashes are 32 bytes), `hrt` (hash round trip; only where a pair is
read back), `hdl : s.data.length = s.tree.outboardSize`, `hs : s.tree.size ≤ 2^63`, `hbs : s.tree.bs ≤ 10`
(only where C12 is used), every flavour.

PROVED (full strength): 1. `save_load_same`, `save_load_same_mem`, `save_load_same_io`; 2. `save_load_other_slot`,
`save_load_other`; 3. `save_bytes`, `save_bytes_get`, `save_bytes_pre`, `save_bytes_post`; 4. `save_idempotent`
(no hypothesis at all), `save_commute`, `save_commute_eq`, `save_commute_slot`, `save_commute_io`;
5. `save_not_persisted`, `load_not_persisted`, `inTree_iff`, `slot_none_iff`; 6. `empty_store`; 7. `no_panic`,
`no_panic_io`, `slot_lt_of_inTree`.
PARTIAL: none.   OPEN: none.

Axioms (`#print axioms`): `save_not_persisted`, `load_not_persisted`, `empty_store`, `no_panic_io`,
`save_load_same`, `save_load_same_io`, `save_idempotent`: [propext]; `save_load_other_slot`: [propext,
Quot.sound]; all the others: [propext, Classical.choice, Quot.sound].

Where the hypotheses are needed (the `example`s above):
  * item 2 without `hdl` is FALSE for the io kinds: on an empty backing, tree ⟨5000,0⟩, `preIo`, a save
    of node 2 (slot 3) zero-extends the file and `load .sync 1` changes from `.err unexpectedEof` to
    `.ok (some (0,0))`.
  * item 2 without "persisted" is FALSE: ids outside the tree alias persisted slots
    (⟨5000,0⟩: pre-order id 7 ↦ slot 0 = slot of the root 3; post-order id 5 ↦ slot 2 = slot of node 1).
  * item 7 without "node of the tree" is FALSE for the memory kinds: ⟨5000,0⟩ `preMem`, id 9 ↦ slot 7 ≥ 4,
    `load` and `save` are `.panic` (slice index out of range in the code).
-/
