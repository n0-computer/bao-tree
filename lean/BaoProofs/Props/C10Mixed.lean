import BaoProofs.Lemmas.MixedFaultL
import BaoProofs.Props.C04

/-!
# C10 (item-stream traversal `mixed::traverse_ranges_validated`): io and sender failures

"If the k-th operation on any underlying reader, writer, data source or outboard fails, the public
operation using it reports that failure [...] - never a panic, success or hash mismatch, and it
performs no further operation on the failed object.  Whatever was emitted or stored before the
failure is a prefix of what the fault-free run emits or stores."

For `traverse_ranges_validated(data, outboard, ranges, send)` "reports" means: a failing
`read_bytes_at` / `load` is turned into the LAST item `Error(io error)` (the function itself returns
`Ok(())`); a failing `send` makes the function return `Err(send error)` at once, nothing more is sent.

The fault-aware model function is `traverseRangesValidatedF hf data ob q fault`
(`BaoModel/FaultMixed.lean`): `fault = some ⟨obj, k, kind⟩`: the `k`-th call (0-based) on
`obj : MObj` (`.data`: `read_bytes_at`, `.ob`: `load`, `.s`: `send`) fails (data / outboard: with the io
error `⟨kind, true⟩`).  It returns the log of the io calls made (`List (MEv H)`: `.readAt off size`,
`.load node`, `.send item`; a failing call is logged) and the terminal `MixEnd` (`ok`: `Done` was
sent; `errItem e`: `Error(e)` was sent; `sendErr`: a `send` failed; `panic`).

Vocabulary (`BaoProofs/Lemmas/MixedFaultL.lean`, `BaoModel/FaultMixed.lean`):
* `MEv.obj e : MObj` – the object call `e` is made on; `MEv.sends log` – the items of the `send`
  calls of a log; `deliveredOf run` – the items the receiver gets (the sends of the log, minus the
  last one when the run ends `sendErr`);
* `cutRun obj kind pre e` – the run cut after the calls `pre ++ [e]` (`e` the failing call):
  `obj = .s`: `(pre ++ [e], sendErr)`; otherwise
  `(pre ++ [e, send (Error (io ⟨kind, true⟩))], errItem (io ⟨kind, true⟩))`;
* `replay fault log nd no ns`, `finish r t0` – replay of a log against a fault (counters = calls made
  so far on data / outboard / sender) and what the function makes of it (`mixedF_counters`).

All statements are for every hash instance `hf`, data, store, query and fault.

The runs of the examples (`triv`, `exData`, `exOb`) are evaluated once, in `MixedFaultL.mixed_runs`, on
`CallSplit.zeroHash`, `ones`, `zeroOb`: the same instance, spelt here with this file's own definitions.
-/

namespace Bao.C10Mixed

open Bao Bao.MixedFaultL

variable {H : Type}

/-! ## examples: a 1500-byte blob (two chunks, one parent) under a hash that accepts everything -/

/-- a hash instance under which every outboard is valid (all hashes are 0) -/
def triv : HashFns Nat := ⟨fun _ _ _ => 0, fun _ _ _ => 0, fun _ => 0, fun _ => List.replicate 32 7⟩

def exData : List UInt8 := List.replicate 1500 1

/-- a zero-filled in-memory pre-order outboard for a 1500-byte blob at block size 0 -/
def exOb : Store Nat := ⟨.preMem, 0, ⟨1500, 0⟩, List.replicate 64 0⟩

/-- the log (io calls) of the fault-free run -/
def mixedLog (hf : HashFns H) [BEq H] (data : List UInt8) (ob : Store H) (q : Ranges) :
    List (MEv H) :=
  (traverseRangesValidatedF hf data ob q none).1

/-- the fault-free run of the example: Size, load / send the root pair, read / send each chunk, Done -/
example : traverseRangesValidatedF triv exData exOb [0] none =
    ([.send (.size 1500), .load 0, .send (.parent 0 0 0), .readAt 0 1024,
      .send (.leaf 0 (List.replicate 1024 1)), .readAt 1024 476,
      .send (.leaf 1024 (List.replicate 476 1)), .send .done], .ok) :=
  (mixed_runs _ _ _ rfl rfl rfl).1

/-- the decomposition of a log at the `k`-th call on `obj` (as in `mixedF_cut`) is unique -/
theorem mixedF_cut_unique (obj : MObj) (k : Nat) (log pre pre' post post' : List (MEv H))
    (e e' : MEv H)
    (h : log = pre ++ e :: post) (he : e.obj = obj) (hc : (pre.map MEv.obj).count obj = k)
    (h' : log = pre' ++ e' :: post') (he' : e'.obj = obj)
    (hc' : (pre'.map MEv.obj).count obj = k) :
    pre = pre' ∧ e = e' ∧ post = post' :=
  decomp_unique obj k log pre pre' post post' e e' h he ((ncalls_eq_count obj pre).trans hc)
    h' he' ((ncalls_eq_count obj pre').trans hc')

example : ([MEv.send (.size 3), .load 1, .send .done] : List (MEv Nat)) =
      [.send (.size 3), .load 1] ++ .send .done :: [] ∧
    (MEv.send .done : MEv Nat).obj = .s ∧
    (([MEv.send (.size 3), .load 1] : List (MEv Nat)).map MEv.obj).count .s = 1 := by decide

/-- with no fault the twin is the fault-free model `traverseRangesValidated`: the items sent are its
items, the run ends `ok` when the last item is `Done` and `errItem e` when it is `Error(e)`; it
panics exactly when the fault-free model does.  No `send` fails: all items are delivered. -/
theorem mixedF_none (hf : HashFns H) [BEq H] (data : List UInt8) (ob : Store H) (q : Ranges) :
    match traverseRangesValidated hf data ob q with
    | some items =>
      MEv.sends (traverseRangesValidatedF hf data ob q none).1 = items ∧
      deliveredOf (traverseRangesValidatedF hf data ob q none) = items ∧
      (((traverseRangesValidatedF hf data ob q none).2 = .ok ∧ items.getLast? = some .done) ∨
        ∃ e, (traverseRangesValidatedF hf data ob q none).2 = .errItem e ∧
          items.getLast? = some (.error e))
    | none => (traverseRangesValidatedF hf data ob q none).2 = .panic := by
  have h := top_none hf data ob q
  cases ht : traverseRangesValidated hf data ob q with
  | none => rw [ht] at h; exact h
  | some items =>
    rw [ht] at h
    obtain ⟨h1, h2⟩ := h
    refine ⟨h1, ?_, h2⟩
    rcases h2 with ⟨h2, -⟩ | ⟨e, h2, -⟩ <;> simp only [deliveredOf, h2, h1]

/-- … hence the items sent flatten to the bytes the (sync) validating byte encoder writes -/
theorem mixedF_none_bytes (hf : HashFns H) [BEq H] (data : List UInt8) (ob : Store H) (q : Ranges)
    (h : (traverseRangesValidatedF hf data ob q none).2 ≠ .panic) :
    (MEv.sends (mixedLog hf data ob q)).flatMap (EncodedItem.flatten hf) =
      (encodeRangesValidated hf .sync data ob q).out := by
  have h0 := mixedF_none hf data ob q
  cases ht : traverseRangesValidated hf data ob q with
  | none => rw [ht] at h0; exact absurd h0 h
  | some items =>
    rw [ht] at h0
    obtain ⟨-, -, -, -, -, -, hfl⟩ := C08.mixed_flatten hf data ob q items ht
    unfold mixedLog
    rw [h0.1, hfl]

example : (traverseRangesValidatedF triv exData exOb [0] none).2 ≠ .panic := by
  rw [(mixed_runs (traverseRangesValidatedF triv exData exOb [0] none) _ _ rfl rfl rfl).1]
  decide

/-- every run - faulty or not - is the replay of the fault-free log against the fault, counters
(calls made so far on data / outboard / sender) starting at 0: the first call whose counter is hit
fails; a `send`: the run ends there with `sendErr`; a `read_bytes_at` / `load`: one more call
`send(Error(io e))` follows and the run ends `errItem (io e)`; no call hit: the fault-free run -/
theorem mixedF_counters (hf : HashFns H) [BEq H] (data : List UInt8) (ob : Store H) (q : Ranges)
    (fault : Option MFault) :
    traverseRangesValidatedF hf data ob q fault =
      finish (replay fault (mixedLog hf data ob q) 0 0 0)
        (traverseRangesValidatedF hf data ob q none).2 :=
  top_replay ..

/-- the fault is reached (the fault-free log has a `(k+1)`-th call on `obj`): the fault-free log
splits as `pre ++ e :: post`, `e` the `k`-th call on `obj`, and the faulty run is the fault-free run
cut right after `e`: sender fault: exactly the calls `pre ++ [e]`, terminal `sendErr`; data / outboard
fault: exactly the calls `pre ++ [e]` and then the final `send(Error(io ⟨kind, true⟩))`, terminal
`errItem (io ⟨kind, true⟩)` -/
theorem mixedF_cut (hf : HashFns H) [BEq H] (data : List UInt8) (ob : Store H) (q : Ranges)
    (obj : MObj) (k : Nat) (kind : IoKind)
    (hk : k < ((mixedLog hf data ob q).map MEv.obj).count obj) :
    ∃ pre e post, mixedLog hf data ob q = pre ++ e :: post ∧ e.obj = obj ∧
      (pre.map MEv.obj).count obj = k ∧
      traverseRangesValidatedF hf data ob q (some ⟨obj, k, kind⟩) =
        match obj with
        | .s => (pre ++ [e], .sendErr)
        | _ => (pre ++ [e, .send (.error (.io ⟨kind, true⟩))], .errItem (.io ⟨kind, true⟩)) := by
  obtain ⟨pre, e, post, h1, h2, h3, h4⟩ :=
    gen_cut _ (top_replay hf data ob q) obj k kind (by rw [ncalls_eq_count]; exact hk)
  refine ⟨pre, e, post, h1, h2, by rw [← ncalls_eq_count]; exact h3, ?_⟩
  rw [h4]
  cases obj <;> rfl

example : (1 : Nat) < ((mixedLog triv exData exOb [0]).map MEv.obj).count .data ∧
    (2 : Nat) < ((mixedLog triv exData exOb [0]).map MEv.obj).count .s := by
  rw [mixedLog, (mixed_runs (traverseRangesValidatedF triv exData exOb [0] none) _ _ rfl rfl rfl).1]
  decide

/-- the example: the second read fails: Size, P0, L0 were sent, then the error item -/
example : traverseRangesValidatedF triv exData exOb [0] (some ⟨.data, 1, .other⟩) =
    ([.send (.size 1500), .load 0, .send (.parent 0 0 0), .readAt 0 1024,
      .send (.leaf 0 (List.replicate 1024 1)), .readAt 1024 476,
      .send (.error (.io ⟨.other, true⟩))], .errItem (.io ⟨.other, true⟩)) :=
  (mixed_runs _ _ _ rfl rfl rfl).2.1

/-- the example: the third send (the first leaf) fails: nothing more is called -/
example : traverseRangesValidatedF triv exData exOb [0] (some ⟨.s, 2, .other⟩) =
    ([.send (.size 1500), .load 0, .send (.parent 0 0 0), .readAt 0 1024,
      .send (.leaf 0 (List.replicate 1024 1))], .sendErr) :=
  (mixed_runs _ _ _ rfl rfl rfl).2.2

/-- the fault is not reached (the fault-free log has at most `k` calls on `obj`): same run -/
theorem mixedF_unreached (hf : HashFns H) [BEq H] (data : List UInt8) (ob : Store H) (q : Ranges)
    (obj : MObj) (k : Nat) (kind : IoKind)
    (hk : ((mixedLog hf data ob q).map MEv.obj).count obj ≤ k) :
    traverseRangesValidatedF hf data ob q (some ⟨obj, k, kind⟩) =
      traverseRangesValidatedF hf data ob q none :=
  gen_unreached _ (top_replay hf data ob q) obj k kind (by rw [ncalls_eq_count]; exact hk)

example : ((mixedLog triv exData exOb [0]).map MEv.obj).count .ob ≤ 1 ∧
    ((mixedLog triv exData exOb [0]).map MEv.obj).count .s ≤ 5 := by
  rw [mixedLog, (mixed_runs (traverseRangesValidatedF triv exData exOb [0] none) _ _ rfl rfl rfl).1]
  decide

/-- a reached fault is reported: a data / outboard fault as the last item `Error(io injected-error)`,
a sender fault as `Err(send error)` -/
theorem mixedF_terminal (hf : HashFns H) [BEq H] (data : List UInt8) (ob : Store H) (q : Ranges)
    (obj : MObj) (k : Nat) (kind : IoKind)
    (hk : k < ((mixedLog hf data ob q).map MEv.obj).count obj) :
    (traverseRangesValidatedF hf data ob q (some ⟨obj, k, kind⟩)).2 =
      match obj with
      | .s => .sendErr
      | _ => .errItem (.io ⟨kind, true⟩) := by
  obtain ⟨pre, e, post, -, -, -, h⟩ := mixedF_cut hf data ob q obj k kind hk
  rw [h]
  cases obj <;> rfl

/-- a reached fault never ends `ok`, never panics, and is never reported as a hash mismatch -/
theorem mixedF_never_ok (hf : HashFns H) [BEq H] (data : List UInt8) (ob : Store H) (q : Ranges)
    (obj : MObj) (k : Nat) (kind : IoKind)
    (hk : k < ((mixedLog hf data ob q).map MEv.obj).count obj) :
    (traverseRangesValidatedF hf data ob q (some ⟨obj, k, kind⟩)).2 ≠ .ok ∧
    (traverseRangesValidatedF hf data ob q (some ⟨obj, k, kind⟩)).2 ≠ .panic ∧
    ∀ n, (traverseRangesValidatedF hf data ob q (some ⟨obj, k, kind⟩)).2 ≠
        .errItem (.parentHashMismatch n) ∧
      (traverseRangesValidatedF hf data ob q (some ⟨obj, k, kind⟩)).2 ≠
        .errItem (.leafHashMismatch n) := by
  rw [mixedF_terminal hf data ob q obj k kind hk]
  cases obj <;> simp

/-- a reached fault: the failing call is the last call on the failed object (`k + 1` calls on it in
all); the only later call is - data / outboard fault - the final `send` -/
theorem mixedF_no_further_call (hf : HashFns H) [BEq H] (data : List UInt8) (ob : Store H)
    (q : Ranges) (obj : MObj) (k : Nat) (kind : IoKind)
    (hk : k < ((mixedLog hf data ob q).map MEv.obj).count obj) :
    (((traverseRangesValidatedF hf data ob q (some ⟨obj, k, kind⟩)).1).map MEv.obj).count obj =
      k + 1 := by
  obtain ⟨pre, e, post, -, h2, h3, h4⟩ := mixedF_cut hf data ob q obj k kind hk
  rw [h4]
  have hs : ∀ it : EncodedItem H, (MEv.send it).obj = .s := fun _ => rfl
  cases obj <;> simp [List.count_append, h3, h2, hs]

/-- for every fault: the calls made are a prefix of the fault-free calls, followed - when a data /
outboard fault was reached - by the call `send(Error(io injected-error))`; the items delivered are a
prefix of the fault-free items, followed - in the same case - by the item `Error(io injected-error)` -/
theorem mixedF_prefix (hf : HashFns H) [BEq H] (data : List UInt8) (ob : Store H) (q : Ranges)
    (fault : Option MFault) :
    (∃ pre, pre <+: mixedLog hf data ob q ∧
      ((traverseRangesValidatedF hf data ob q fault).1 = pre ∨
        ∃ kind, (traverseRangesValidatedF hf data ob q fault).1 =
          pre ++ [.send (.error (.io ⟨kind, true⟩))])) ∧
    ∃ pre, pre <+: deliveredOf (traverseRangesValidatedF hf data ob q none) ∧
      (deliveredOf (traverseRangesValidatedF hf data ob q fault) = pre ∨
        ∃ kind, deliveredOf (traverseRangesValidatedF hf data ob q fault) =
          pre ++ [.error (.io ⟨kind, true⟩)]) := by
  rcases gen_dichotomy _ (top_replay hf data ob q) fault with
    ⟨obj, k, kind, pre, e, post, -, h1, h2, -, h4⟩ | h
  · have hd : MEv.sends pre <+: deliveredOf (traverseRangesValidatedF hf data ob q none) := by
      have hs : MEv.sends pre <+: MEv.sends (traverseRangesValidatedF hf data ob q none).1 := by
        rw [h1, sends_append]; exact List.prefix_append _ _
      have hs' : MEv.sends pre <+:
          MEv.sends (traverseRangesValidatedF hf data ob q none).1.dropLast := by
        rw [h1, List.dropLast_append_cons, sends_append]; exact List.prefix_append _ _
      unfold deliveredOf
      cases (traverseRangesValidatedF hf data ob q none).2 <;> first | exact hs | exact hs'
    have hp : pre ++ [e] <+: mixedLog hf data ob q := ⟨post, by unfold mixedLog; rw [h1]; simp⟩
    constructor
    · refine ⟨pre ++ [e], hp, ?_⟩
      rw [h4]
      cases obj with
      | s => exact Or.inl rfl
      | data | ob => exact Or.inr ⟨kind, by simp [cutRun]⟩
    · refine ⟨MEv.sends pre, hd, ?_⟩
      rw [h4, delivered_cutRun obj kind pre e h2]
      cases obj with
      | s => exact Or.inl rfl
      | data | ob => exact Or.inr ⟨kind, rfl⟩
  · rw [h]
    exact ⟨⟨_, List.prefix_refl _, Or.inl rfl⟩, _, List.prefix_refl _, Or.inl rfl⟩

/-- … hence the bytes delivered (parents and leaves, flattened) are a prefix of the fault-free ones -/
theorem mixedF_prefix_bytes (hf : HashFns H) [BEq H] (data : List UInt8) (ob : Store H) (q : Ranges)
    (fault : Option MFault) :
    (deliveredOf (traverseRangesValidatedF hf data ob q fault)).flatMap (EncodedItem.flatten hf) <+:
      (deliveredOf (traverseRangesValidatedF hf data ob q none)).flatMap (EncodedItem.flatten hf) := by
  obtain ⟨-, pre, ⟨rest, hp⟩, h | ⟨kind, h⟩⟩ := mixedF_prefix hf data ob q fault
  · rw [h, ← hp, List.flatMap_append]; exact List.prefix_append _ _
  · rw [h, ← hp, List.flatMap_append, List.flatMap_append]
    simp [EncodedItem.flatten]

/-- no fault turns into a panic -/
theorem mixedF_no_panic_of (hf : HashFns H) [BEq H] (data : List UInt8) (ob : Store H) (q : Ranges)
    (fault : Option MFault) (h : (traverseRangesValidatedF hf data ob q none).2 ≠ .panic) :
    (traverseRangesValidatedF hf data ob q fault).2 ≠ .panic := by
  rcases gen_dichotomy _ (top_replay hf data ob q) fault with
    ⟨obj, k, kind, pre, e, post, -, -, -, -, h4⟩ | h'
  · rw [h4, cutRun_terminal]
    cases obj <;> simp
  · rw [h']; exact h

example : (traverseRangesValidatedF triv exData exOb [0] none).2 ≠ .panic := by
  rw [(mixed_runs (traverseRangesValidatedF triv exData exOb [0] none) _ _ rfl rfl rfl).1]
  decide

section intact
variable {hf : HashFns H} [BEq H] [LawfulBEq H] {d : List UInt8} {bs : Nat} {st : Store H}

/-- on the intact store of a blob of at most `2^63` bytes at block size `bs ≤ 10` (memory or io
backed, pre- or post-order) the fault-free run ends `ok` … -/
theorem mixedF_intact_ok (hlen : ∀ h, (hf.toBytes h).length = 32)
    (hrt : ∀ h, hf.ofBytes (hf.toBytes h) = h) (hs : d.length ≤ 2 ^ 63) (hbs : bs ≤ 10)
    (htree : st.tree = ⟨d.length, bs⟩) (hroot : st.root = Spec.root hf d)
    (hdata : ((st.kind = .preIo ∨ st.kind = .preMem) ∧ st.data = Spec.preOutboard hf d bs) ∨
             ((st.kind = .postIo ∨ st.kind = .postMem) ∧ st.data = Spec.postOutboard hf d bs))
    {q : Ranges} (hwf : Ranges.WF q = true) :
    (traverseRangesValidatedF hf d st q none).2 = .ok := by
  obtain ⟨items, h1, -, h3⟩ := C04.mixed_is_spec hlen hrt hs hbs htree hroot hdata hwf
  have h := mixedF_none hf d st q
  rw [h1] at h
  obtain ⟨-, -, ⟨h, -⟩ | ⟨e, -, h⟩⟩ := h
  · exact h
  · rw [h3] at h; cases h

/-- … and no fault makes it panic: it ends `ok`, `sendErr` or with the item `Error(io injected)` -/
theorem mixedF_no_panic (hlen : ∀ h, (hf.toBytes h).length = 32)
    (hrt : ∀ h, hf.ofBytes (hf.toBytes h) = h) (hs : d.length ≤ 2 ^ 63) (hbs : bs ≤ 10)
    (htree : st.tree = ⟨d.length, bs⟩) (hroot : st.root = Spec.root hf d)
    (hdata : ((st.kind = .preIo ∨ st.kind = .preMem) ∧ st.data = Spec.preOutboard hf d bs) ∨
             ((st.kind = .postIo ∨ st.kind = .postMem) ∧ st.data = Spec.postOutboard hf d bs))
    {q : Ranges} (hwf : Ranges.WF q = true) (fault : Option MFault) :
    (traverseRangesValidatedF hf d st q fault).2 ≠ .panic ∧
    ((traverseRangesValidatedF hf d st q fault).2 = .ok ∨
      (traverseRangesValidatedF hf d st q fault).2 = .sendErr ∨
      ∃ kind, (traverseRangesValidatedF hf d st q fault).2 = .errItem (.io ⟨kind, true⟩)) := by
  have h0 := mixedF_intact_ok hlen hrt hs hbs htree hroot hdata hwf
  refine ⟨mixedF_no_panic_of hf d st q fault (by rw [h0]; simp), ?_⟩
  rcases gen_dichotomy _ (top_replay hf d st q) fault with
    ⟨obj, k, kind, pre, e, post, -, -, -, -, h4⟩ | h'
  · rw [h4, cutRun_terminal]
    cases obj
    · exact Or.inr (Or.inr ⟨kind, rfl⟩)
    · exact Or.inr (Or.inr ⟨kind, rfl⟩)
    · exact Or.inr (Or.inl rfl)
  · rw [h', h0]; exact Or.inl rfl

example : (traverseRangesValidatedF C03.toyHash C03.toyBlob C04.toyStore [1, 2] none).2 = .ok :=
  mixedF_intact_ok C03.toy_len C03.toy_rt C03.toy_size (by decide) C04.toyStore_tree
    C04.toyStore_root C04.toyStore_data (by decide)

example : (traverseRangesValidatedF C03.toyHash C03.toyBlob C04.toyStore [1, 2]
    (some ⟨.ob, 0, .other⟩)).2 ≠ .panic :=
  (mixedF_no_panic C03.toy_len C03.toy_rt C03.toy_size (by decide) C04.toyStore_tree
    C04.toyStore_root C04.toyStore_data (by decide) _).1

end intact

/-!
## Status (C10: `mixed::traverse_ranges_validated`)

Axioms (`#print axioms`): `propext`, `Quot.sound` for `mixedF_none`, `mixedF_none_bytes`;
`propext`, `Classical.choice`, `Quot.sound` for all the others.

PROVED, for every `hf`, data, store, query and fault: `mixedF_cut_unique`, `mixedF_none`,
`mixedF_none_bytes`, `mixedF_counters`, `mixedF_cut`, `mixedF_unreached`, `mixedF_terminal`,
`mixedF_never_ok`, `mixedF_no_further_call`, `mixedF_prefix`, `mixedF_prefix_bytes`,
`mixedF_no_panic_of`; on the intact store (`d.length ≤ 2^63`, `bs ≤ 10`, 32-byte round-tripping
hashes, `LawfulBEq`, well-formed query; memory or io backed, pre- or post-order): `mixedF_intact_ok`,
`mixedF_no_panic`.

PARTIAL: none.   OPEN: none.

model remarks (`BaoModel/FaultMixed.lean`):
* `FObj` has no sender, so the objects are `MObj` (`data | ob | s`) and the fault is `MFault` (same fields
  as `Fault`); the `kind` of a sender fault is not observable (`Sender::Error` is opaque: `sendErr`).
* granularity: one call per `read_bytes_at`, `load`, `send`; a zero-length `read_bytes_at` (the single
  leaf of the empty blob) is a call (the harness ticks on it as well).  A leaf whose range set is not
  "all" makes one `send` per item of `traverse_selected_rec`, each of which can fail.
* the final `send(Error(..))` after a data / outboard fault is checked against the fault like every
  other send; with a single fault it cannot be hit (the fault is on another object).
* a call that fails by itself (`load` on a short io backing, a read past the end of the data) or is
  followed by a hash mismatch / a panic (`unwrap` on `None`, empty stack) is logged as a call; a fault
  pointing at it reports the injected error instead (`mixedF_cut`).  A leaf with an empty stack
  panics before any io (`stack.pop().unwrap()` comes first in the Rust code): nothing is logged.
-/

end Bao.C10Mixed
