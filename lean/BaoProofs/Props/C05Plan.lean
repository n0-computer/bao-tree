import BaoProofs.Lemmas.EncPlanL

/-!
# C05, error kinds on real trees

`C05.validated_error_kind` (`Props/C05.lean`) lists three possible causes of a panic of the
validating encoder.  For trees with `size ≤ 2^63` and `bs ≤ 10` (the range covered by the C15 plan
lemmas `Lemmas/PlanPre*.lean`) two of them are impossible — the plan iterator does not panic and
the pending-hash stack never underflows — and the plan's leaves lie inside the first `tree.size`
bytes, so a data file of at least that length is never read past its end.
-/

namespace Bao.C05

variable {H : Type} [BEq H]

/-- **Error kind on a real tree.**  Memory-like store (no io error from `load`), data file at least
`tree.size` long: the validating encoder ends `.ok`, with `ParentHashMismatch` at a parent node of
the plan, with `LeafHashMismatch` at a leaf of the plan, or panics — and it panics ONLY if `load`
returns `None` or panics for a parent node of the plan. -/
theorem validated_error_kind_tree (hf : HashFns H) (fl : Flavour) (data : List UInt8)
    (ob : Store H) (q : Ranges) (hs : ob.tree.size ≤ 2 ^ 63) (hbs : ob.tree.bs ≤ 10)
    (hio : ∀ node e, ob.load hf fl node ≠ .err e) (hlen : ob.tree.size ≤ data.length) :
    ∃ plan, planOf ob q = some plan ∧
      ((encodeRangesValidated hf fl data ob q).terminal = .ok ∨
       (∃ node ir lf rf rs, Chunk.parent node ir lf rf rs ∈ plan ∧
         (encodeRangesValidated hf fl data ob q).terminal = .err (.parentHashMismatch node)) ∨
       (∃ start size ir rs, Chunk.leaf start size ir rs ∈ plan ∧
         (encodeRangesValidated hf fl data ob q).terminal = .err (.leafHashMismatch start)) ∨
       ((encodeRangesValidated hf fl data ob q).terminal = .panic ∧
         ∃ node ir lf rf rs, Chunk.parent node ir lf rf rs ∈ plan ∧
           (ob.load hf fl node = .panic ∨ ob.load hf fl node = .ok none))) :=
  validated_kind_tree hf fl data ob q hs hbs hio hlen

/-- the memory stores and the empty outboard meet `hio` -/
theorem validated_error_kind_mem (hf : HashFns H) (fl : Flavour) (data : List UInt8)
    (ob : Store H) (q : Ranges) (hs : ob.tree.size ≤ 2 ^ 63) (hbs : ob.tree.bs ≤ 10)
    (hk : ob.kind = .preMem ∨ ob.kind = .postMem ∨ ob.kind = .empty)
    (hlen : ob.tree.size ≤ data.length) :
    ∃ plan, planOf ob q = some plan ∧
      ((encodeRangesValidated hf fl data ob q).terminal = .ok ∨
       (∃ node ir lf rf rs, Chunk.parent node ir lf rf rs ∈ plan ∧
         (encodeRangesValidated hf fl data ob q).terminal = .err (.parentHashMismatch node)) ∨
       (∃ start size ir rs, Chunk.leaf start size ir rs ∈ plan ∧
         (encodeRangesValidated hf fl data ob q).terminal = .err (.leafHashMismatch start)) ∨
       ((encodeRangesValidated hf fl data ob q).terminal = .panic ∧
         ∃ node ir lf rf rs, Chunk.parent node ir lf rf rs ∈ plan ∧
           (ob.load hf fl node = .panic ∨ ob.load hf fl node = .ok none))) :=
  validated_kind_tree hf fl data ob q hs hbs (fun node e => load_mem_ne_err hf fl ob node hk e) hlen

section
private def ob3 : Store Term := ⟨.postMem, .raw [], ⟨5000, 1⟩, List.replicate 64 0⟩
private def data3 : List UInt8 := List.replicate 5000 3

example : ∃ plan, planOf ob3 [2] = some plan ∧
    ((encodeRangesValidated exHash .sync data3 ob3 [2]).terminal = .ok ∨
     (∃ node ir lf rf rs, Chunk.parent node ir lf rf rs ∈ plan ∧
       (encodeRangesValidated exHash .sync data3 ob3 [2]).terminal = .err (.parentHashMismatch node)) ∨
     (∃ start size ir rs, Chunk.leaf start size ir rs ∈ plan ∧
       (encodeRangesValidated exHash .sync data3 ob3 [2]).terminal = .err (.leafHashMismatch start)) ∨
     ((encodeRangesValidated exHash .sync data3 ob3 [2]).terminal = .panic ∧
       ∃ node ir lf rf rs, Chunk.parent node ir lf rf rs ∈ plan ∧
         (ob3.load exHash .sync node = .panic ∨ ob3.load exHash .sync node = .ok none))) :=
  validated_error_kind_tree exHash .sync data3 ob3 [2] (by simp [ob3]) (by simp [ob3])
    (fun node e => load_mem_ne_err exHash .sync ob3 node (.inr (.inl rfl)) e)
    (by simp only [ob3, data3, List.length_replicate]; exact Nat.le_refl _)

example : ∃ plan, planOf ob3 [2] = some plan ∧
    ((encodeRangesValidated exHash .fsm data3 ob3 [2]).terminal = .ok ∨
     (∃ node ir lf rf rs, Chunk.parent node ir lf rf rs ∈ plan ∧
       (encodeRangesValidated exHash .fsm data3 ob3 [2]).terminal = .err (.parentHashMismatch node)) ∨
     (∃ start size ir rs, Chunk.leaf start size ir rs ∈ plan ∧
       (encodeRangesValidated exHash .fsm data3 ob3 [2]).terminal = .err (.leafHashMismatch start)) ∨
     ((encodeRangesValidated exHash .fsm data3 ob3 [2]).terminal = .panic ∧
       ∃ node ir lf rf rs, Chunk.parent node ir lf rf rs ∈ plan ∧
         (ob3.load exHash .fsm node = .panic ∨ ob3.load exHash .fsm node = .ok none))) :=
  validated_error_kind_mem exHash .fsm data3 ob3 [2] (by simp [ob3]) (by simp [ob3])
    (.inr (.inl rfl)) (by simp only [ob3, data3, List.length_replicate]; exact Nat.le_refl _)

end

/-
## Status

Proved (axioms: propext, Classical.choice, Quot.sound):
* `validated_error_kind_tree` – `size ≤ 2^63`, `bs ≤ 10`, no io error from `load`,
  `tree.size ≤ data.length`: terminal ∈ {`.ok`, `ParentHashMismatch` at a plan parent,
  `LeafHashMismatch` at a plan leaf, `.panic` caused by `load = None / panic` at a plan parent}
* `validated_error_kind_mem`  – the instance for `preMem` / `postMem` / `empty`

The restriction `bs ≤ 10` is inherited from `PlanPre.shifted_geo` (`Offsets.blocks_mul_le`).

-- Not stated here: `validated_never_panics` (… ∧ `ob.tree.outboardSize ≤ ob.data.length` for pre/post
--   stores ⇒ the terminal is never `.panic`).  The ingredients are `PlanPre.item_node` (every plan item
--   belongs to an existing node), `ValidL.mem_persistedPre` (such nodes of level `≥ bs` are persisted)
--   and `DecSim.slot_lt_pre/post` (a slot inside the backing).
-/

end Bao.C05
