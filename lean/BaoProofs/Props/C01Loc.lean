import BaoProofs.Lemmas.C01InvLoc

/-!
# C01 with LOCALISED collision freedom

`Props/C01.lean` proves decoder soundness under the global `CollisionFree hf` – injectivity of the
two hash primitives on ALL inputs, which no function into 32 bytes has and which is inconsistent
with the 32-byte wire round trip (`Lemmas/CFUnsat.lean`).  Here the same statements are proved
under

  `CollisionFreeOn hf (fun x => x ∈ trueEvals hf d ∨ x ∈ runEvals hf fl root tree q stream)`

i.e. no collision among the FINITELY many inputs that
* the honest hashing of the blob evaluates (`trueEvals hf d`, the evaluation list of
  `Spec.root hf d` = `hashSubtree hf 0 d true`), and
* the decoder run evaluates (`runEvals`, a computable twin of `Dec.run`: for every parent item
  read, `.parent l r isRoot` with `(l, r)` parsed from the stream; for every leaf read, the
  evaluation list of `hashSubtree hf start buf isRoot`; the failing last step included).

`collision_extraction` is the contrapositive without any hash hypothesis: a run that yields a
wrong item exhibits a collision inside that finite list, and `collision_search` finds it.

Vocabulary: `Lemmas/HashCFLoc.lean` (`CollisionFreeOn`, `evalsOf`, `hashEvals`, `cv_inj_on`,
`findCollision`, the instance `toy32`), `Lemmas/C01InvLoc.lean` (`trueEvals`, `runEvals`,
`Dec.stepEvals`, `TrueCvL`, `trueEvals_sub`), `Lemmas/C01Inv.lean` (`Sub`, `TrueLeaf`, `TruePair`,
`ItemOk`, `applyWrites`, `applySaves`).
-/

namespace Bao.C01

open Bao.Spec

variable {H : Type} {hf : HashFns H} {d : List UInt8}

/-- the global hypothesis implies every local one -/
theorem collisionFree_on (cf : CollisionFree hf) (S : HashIn H → Prop) : CollisionFreeOn hf S :=
  cf.on S

/-- **Local injectivity of the tree hash** (`cv_inj` with the local hypothesis): equal
`hashSubtree` values mean equal start chunk, data and root flag, provided `hf` has no collision
among the inputs evaluated by the two computations. -/
theorem cv_inj_loc {c₁ c₂ : Nat} {b₁ b₂ : List UInt8} {r₁ r₂ : Bool}
    (cf : CollisionFreeOn hf (fun x => x ∈ hashEvals hf c₁ b₁ r₁ ∨ x ∈ hashEvals hf c₂ b₂ r₂))
    (h : hashSubtree hf c₁ b₁ r₁ = hashSubtree hf c₂ b₂ r₂) : c₁ = c₂ ∧ b₁ = b₂ ∧ r₁ = r₂ :=
  cv_inj_on cf h

/-- **Every subtree interval of the true tree is evaluated by the honest hashing**: for a subtree
chunk interval `[c, e)` of the blob, the evaluation list of `Spec.cv hf d c e f` with the honest
root flag (`true` exactly for the root interval `[0, n)`) is contained in `trueEvals hf d`. -/
theorem trueEvals_contains (hd : d.length ≤ 2 ^ 64 * 1024) {c e : Nat} (hs : Sub d c e) :
    ∀ x ∈ hashEvals hf c (slice d c e) (decide (c = 0 ∧ e = nChunks d.length)),
      x ∈ trueEvals hf d :=
  trueEvals_sub hd hs

variable [BEq H] [LawfulBEq H]

/-- **Step invariant, local form**, both flavours, any iterator state, any stream: if all pending
hashes are hashes of the true tree (with the honest root flag) and `hf` has no collision among
`trueEvals hf d` and the inputs THIS step evaluates, a yielded item is true and the pending hashes
stay true. -/
theorem step_sound_loc (hd : d.length ≤ 2 ^ 64 * 1024) (fl : Flavour) (dec : Dec H)
    (cf : CollisionFreeOn hf (fun x => x ∈ trueEvals hf d ∨ x ∈ dec.stepEvals hf fl))
    (hs : ∀ h ∈ dec.stack, TrueCvL hf d h) {i : Item H} {dec' : Dec H}
    (h : dec.next hf fl = .item i dec') : ItemOk hf d i ∧ ∀ h ∈ dec'.stack, TrueCvL hf d h :=
  next_sound_loc cf (fun _ hx => .inl hx) hd fl dec (fun _ hx => .inr hx) hs h

/-- **C01 (iterator client), local form.**  Every item yielded by a decoder set up with the true
root hash, for any claimed geometry `tree`, any query `ranges`, any stream `s`, is true – provided
`hf` has no collision among the inputs evaluated by the honest hashing of `d` and by this run. -/
theorem decode_sound_loc (hd : d.length ≤ 2 ^ 64 * 1024) (fl : Flavour) (tree : Tree)
    (ranges : Ranges) (s : List UInt8)
    (cf : CollisionFreeOn hf (fun x => x ∈ trueEvals hf d ∨
      x ∈ runEvals hf fl (Spec.root hf d) tree ranges s)) :
    ∀ i ∈ (decodeAll hf fl (Spec.root hf d) tree ranges s).items, ItemOk hf d i :=
  runAux_sound_loc hd fl _ _ cf (StackOkL.new hf d tree ranges s)

/-- local C01 for data items, spelled out -/
theorem decode_sound_leaf_loc (hd : d.length ≤ 2 ^ 64 * 1024) (fl : Flavour) (tree : Tree)
    (ranges : Ranges) (s : List UInt8)
    (cf : CollisionFreeOn hf (fun x => x ∈ trueEvals hf d ∨
      x ∈ runEvals hf fl (Spec.root hf d) tree ranges s))
    {off : Nat} {bytes : List UInt8}
    (h : Item.leaf off bytes ∈ (decodeAll hf fl (Spec.root hf d) tree ranges s).items) :
    off % 1024 = 0 ∧ off + bytes.length ≤ d.length ∧ bytes = (d.drop off).take bytes.length :=
  TrueLeaf.spec (decode_sound_loc hd fl tree ranges s cf _ h)

/-- local C01 for hash pairs, spelled out -/
theorem decode_sound_parent_loc (hd : d.length ≤ 2 ^ 64 * 1024) (fl : Flavour) (tree : Tree)
    (ranges : Ranges) (s : List UInt8)
    (cf : CollisionFreeOn hf (fun x => x ∈ trueEvals hf d ∨
      x ∈ runEvals hf fl (Spec.root hf d) tree ranges s))
    {node : Nat} {l r : H}
    (h : Item.parent node l r ∈ (decodeAll hf fl (Spec.root hf d) tree ranges s).items) :
    ∃ k L, L < 64 ∧ midOf k L < nChunks d.length ∧ (l, r) = Spec.pair hf d k L ∧
      ∀ f, hf.parentCv l r f =
        Spec.cv hf d (startOf k L) (min (endOf k L) (nChunks d.length)) f :=
  decode_sound_loc hd fl tree ranges s cf _ h

/-- **C01 (`decode_ranges`), local form.**  With an outboard whose root is the true root hash
(claimed tree arbitrary), the final target is the initial target after a list of positioned writes
of true leaves, and the final outboard is the initial one after a list of successful `save`s of
true pairs – provided `hf` has no collision among the inputs evaluated by the honest hashing of
`d` and by the decoder run on `s`. -/
theorem decodeRanges_sound_loc (hd : d.length ≤ 2 ^ 64 * 1024) (fl : Flavour) (s : List UInt8)
    (ranges : Ranges) (sink : Sink H) (hroot : sink.ob.root = Spec.root hf d)
    (cf : CollisionFreeOn hf (fun x => x ∈ trueEvals hf d ∨
      x ∈ runEvals hf fl sink.ob.root sink.ob.tree ranges s)) :
    ∃ (wl : List (Nat × List UInt8)) (pl : List (Nat × H × H)),
      (∀ w ∈ wl, TrueLeaf d w.1 w.2) ∧ (∀ p ∈ pl, TruePair hf d p.2.1 p.2.2) ∧
      (decodeRanges hf fl s ranges sink).sink.target = applyWrites sink.target wl ∧
      (decodeRanges hf fl s ranges sink).sink.ob = applySaves hf sink.ob pl :=
  decodeRangesAux_sound_loc hd fl _ _ _ sink [] [] cf (hroot ▸ StackOkL.new hf d _ ranges s)

/-- corollary: a target of the blob's length keeps that length, and afterwards every position
holds its initial byte or the true blob's byte -/
theorem decodeRanges_target_loc (hd : d.length ≤ 2 ^ 64 * 1024) (fl : Flavour) (s : List UInt8)
    (ranges : Ranges) (sink : Sink H) (hroot : sink.ob.root = Spec.root hf d)
    (cf : CollisionFreeOn hf (fun x => x ∈ trueEvals hf d ∨
      x ∈ runEvals hf fl sink.ob.root sink.ob.tree ranges s))
    (hlen : sink.target.length = d.length) :
    (decodeRanges hf fl s ranges sink).sink.target.length = d.length ∧
    ∀ i : Nat, (decodeRanges hf fl s ranges sink).sink.target[i]? = sink.target[i]? ∨
      (decodeRanges hf fl s ranges sink).sink.target[i]? = d[i]? := by
  obtain ⟨wl, _, hw, _, ht, _⟩ := decodeRanges_sound_loc hd fl s ranges sink hroot cf
  rw [ht]
  exact Mixed.applyWrites wl sink.target ⟨hlen, fun _ => .inl rfl⟩ hw

/-- **Collision extraction** (no hash hypothesis at all): if a decoder set up with the true root
yields an item that is NOT true, then the finite, computable list
`trueEvals hf d ++ runEvals hf fl root tree ranges s` contains two different inputs with the same
hash. -/
theorem collision_extraction (hd : d.length ≤ 2 ^ 64 * 1024) (fl : Flavour) (tree : Tree)
    (ranges : Ranges) (s : List UInt8) {i : Item H}
    (hi : i ∈ (decodeAll hf fl (Spec.root hf d) tree ranges s).items) (hbad : ¬ ItemOk hf d i) :
    ∃ x y, x ∈ trueEvals hf d ++ runEvals hf fl (Spec.root hf d) tree ranges s ∧
      y ∈ trueEvals hf d ++ runEvals hf fl (Spec.root hf d) tree ranges s ∧
      x ≠ y ∧ hf.eval x = hf.eval y :=
  collision_of_not_cf fun cf => hbad (decode_sound_loc hd fl tree ranges s cf i hi)

/-- collision extraction for `decode_ranges`: if the final target / outboard is NOT the result of
writes of true leaves and saves of true pairs, the finite list contains a collision -/
theorem collision_extraction_ranges (hd : d.length ≤ 2 ^ 64 * 1024) (fl : Flavour)
    (s : List UInt8) (ranges : Ranges) (sink : Sink H) (hroot : sink.ob.root = Spec.root hf d)
    (hbad : ¬ ∃ (wl : List (Nat × List UInt8)) (pl : List (Nat × H × H)),
      (∀ w ∈ wl, TrueLeaf d w.1 w.2) ∧ (∀ p ∈ pl, TruePair hf d p.2.1 p.2.2) ∧
      (decodeRanges hf fl s ranges sink).sink.target = applyWrites sink.target wl ∧
      (decodeRanges hf fl s ranges sink).sink.ob = applySaves hf sink.ob pl) :
    ∃ x y, x ∈ trueEvals hf d ++ runEvals hf fl sink.ob.root sink.ob.tree ranges s ∧
      y ∈ trueEvals hf d ++ runEvals hf fl sink.ob.root sink.ob.tree ranges s ∧
      x ≠ y ∧ hf.eval x = hf.eval y :=
  collision_of_not_cf fun cf => hbad (decodeRanges_sound_loc hd fl s ranges sink hroot cf)

/-- **The collision is found by search**: under the hypotheses of `collision_extraction` the
quadratic search `findCollision` over the finite list returns a pair, and that pair is a collision
(two different inputs of the list with equal hash). -/
theorem collision_search [DecidableEq H] (hd : d.length ≤ 2 ^ 64 * 1024) (fl : Flavour)
    (tree : Tree) (ranges : Ranges) (s : List UInt8) {i : Item H}
    (hi : i ∈ (decodeAll hf fl (Spec.root hf d) tree ranges s).items) (hbad : ¬ ItemOk hf d i) :
    ∃ x y, findCollision hf (trueEvals hf d ++ runEvals hf fl (Spec.root hf d) tree ranges s) =
        some (x, y) ∧
      x ∈ trueEvals hf d ++ runEvals hf fl (Spec.root hf d) tree ranges s ∧
      y ∈ trueEvals hf d ++ runEvals hf fl (Spec.root hf d) tree ranges s ∧
      x ≠ y ∧ hf.eval x = hf.eval y :=
  findCollision_of_not_cf fun cf => hbad (decode_sound_loc hd fl tree ranges s cf i hi)

section
/-! ### (a) the symbolic hash: globally, hence locally, collision free -/

private def blob : List UInt8 := List.replicate 2500 7
private def tampered : List UInt8 := List.replicate 64 1 ++ List.replicate 2500 8

private theorem blob_len : blob.length ≤ 2 ^ 64 * 1024 := by
  simp only [blob, List.length_replicate]; omega

private theorem blob_n : nChunks blob.length = 3 := by
  simp only [blob, List.length_replicate]; decide

example : CollisionFreeOn termHash (fun x => x ∈ trueEvals termHash blob ∨
    x ∈ runEvals termHash .fsm (Spec.root termHash blob) ⟨2500, 0⟩ [0] tampered) :=
  collisionFree_on termHash_cf _

example : ∀ i ∈ (decodeAll termHash .fsm (Spec.root termHash blob) ⟨2500, 0⟩ [0] tampered).items,
    ItemOk termHash blob i :=
  decode_sound_loc blob_len .fsm ⟨2500, 0⟩ [0] tampered (collisionFree_on termHash_cf _)

example {c₁ c₂ : Nat} {b₁ b₂ : List UInt8} {r₁ r₂ : Bool}
    (h : hashSubtree termHash c₁ b₁ r₁ = hashSubtree termHash c₂ b₂ r₂) :
    c₁ = c₂ ∧ b₁ = b₂ ∧ r₁ = r₂ :=
  cv_inj_loc (collisionFree_on termHash_cf _) h

example : ∀ x ∈ hashEvals termHash 2 (slice blob 2 3) (decide (2 = 0 ∧ 3 = nChunks blob.length)),
    x ∈ trueEvals termHash blob :=
  trueEvals_contains blob_len ⟨0, by decide, by rw [blob_n]; decide, by rw [blob_n]; decide⟩

example (dec : Dec Term) (hs : dec.stack = [Spec.root termHash blob]) {i : Item Term}
    {dec' : Dec Term} (h : dec.next termHash .sync = .item i dec') : ItemOk termHash blob i :=
  (step_sound_loc blob_len .sync dec (collisionFree_on termHash_cf _) (by
    intro x hx; rw [hs, List.mem_singleton] at hx; rw [hx]; exact TrueCvL.root _ _) h).1

/-! ### (b) a hash WITH the 32-byte wire round trip (`toy32`, not globally collision free)

A blob of three chunks; the honest encoding of the full query with one byte of chunk 1 flipped.
The decoder accepts the root pair, the left pair and chunk 0, then reports a leaf hash mismatch.
`hf` evaluates 5 inputs for the blob and 4 in the run; collision freedom on them is decided. -/

private def blob3 : List UInt8 := (List.range 2049).map UInt8.ofNat
private def honest3 : List UInt8 := Spec.encode toy32 blob3 0 [0]
private def tampered3 : List UInt8 := honest3.take 1500 ++ [99] ++ honest3.drop 1501

private theorem blob3_len : blob3.length ≤ 2 ^ 64 * 1024 := by
  simp only [blob3, List.length_map, List.length_range]; omega

/-- the wire round trip holds for `toy32` and the global hypothesis fails -/
example : (∀ h, toy32.ofBytes (toy32.toBytes h) = h) ∧ (∀ h, (toy32.toBytes h).length = 32) ∧
    ¬ CollisionFree toy32 :=
  ⟨toy32_rt, toy32_len, toy32_not_cf⟩

/-- one evaluation of the sync run: no collision among the inputs of the blob and of the run
(equal inputs recognised by their keys), and the run's length, end and number of inputs -/
private theorem toy_run :
    (trueEvals toy32 blob3 ++
        runEvals toy32 .sync (Spec.root toy32 blob3) ⟨2049, 0⟩ [0] tampered3).Pairwise
      (fun x y => toy32.eval x = toy32.eval y → key32 x = key32 y) ∧
    (decodeAll toy32 .sync (Spec.root toy32 blob3) ⟨2049, 0⟩ [0] tampered3).items.length = 3 ∧
    (decodeAll toy32 .sync (Spec.root toy32 blob3) ⟨2049, 0⟩ [0] tampered3).terminal =
      .err (.leafHashMismatch 1) ∧
    (runEvals toy32 .sync (Spec.root toy32 blob3) ⟨2049, 0⟩ [0] tampered3).length = 4 ∧
    (trueEvals toy32 blob3).length = 5 := by decide +kernel

private theorem toy_cf_sync : CollisionFreeOn toy32 (fun x => x ∈ trueEvals toy32 blob3 ∨
    x ∈ runEvals toy32 .sync (Spec.root toy32 blob3) ⟨2049, 0⟩ [0] tampered3) :=
  (collisionFreeOn_keys key32 key32_inj toy_run.1).mono fun _ => List.mem_append.2

/-- the fsm run evaluates no input the sync run does not -/
private theorem toy_cf_fsm : CollisionFreeOn toy32 (fun x => x ∈ trueEvals toy32 blob3 ∨
    x ∈ runEvals toy32 .fsm (Spec.root toy32 blob3) ⟨2049, 0⟩ [0] tampered3) :=
  toy_cf_sync.mono fun x hx => hx.imp id (runEvals_fsm_sub _ _ _ _ x)

/-- the run is not trivial: three items are yielded before the mismatch, four inputs evaluated -/
example : (decodeAll toy32 .sync (Spec.root toy32 blob3) ⟨2049, 0⟩ [0] tampered3).items.length = 3 ∧
    (decodeAll toy32 .sync (Spec.root toy32 blob3) ⟨2049, 0⟩ [0] tampered3).terminal =
      .err (.leafHashMismatch 1) ∧
    (runEvals toy32 .sync (Spec.root toy32 blob3) ⟨2049, 0⟩ [0] tampered3).length = 4 ∧
    (trueEvals toy32 blob3).length = 5 := toy_run.2

example : ∀ i ∈ (decodeAll toy32 .sync (Spec.root toy32 blob3) ⟨2049, 0⟩ [0] tampered3).items,
    ItemOk toy32 blob3 i :=
  decode_sound_loc blob3_len .sync ⟨2049, 0⟩ [0] tampered3 toy_cf_sync

example {off : Nat} {bytes : List UInt8}
    (h : Item.leaf off bytes ∈
      (decodeAll toy32 .fsm (Spec.root toy32 blob3) ⟨2049, 0⟩ [0] tampered3).items) :
    off % 1024 = 0 ∧ off + bytes.length ≤ blob3.length ∧
      bytes = (blob3.drop off).take bytes.length :=
  decode_sound_leaf_loc blob3_len .fsm ⟨2049, 0⟩ [0] tampered3 toy_cf_fsm h

example {node : Nat} {l r : H32}
    (h : Item.parent node l r ∈
      (decodeAll toy32 .sync (Spec.root toy32 blob3) ⟨2049, 0⟩ [0] tampered3).items) :
    ∃ k L, L < 64 ∧ midOf k L < nChunks blob3.length ∧ (l, r) = Spec.pair toy32 blob3 k L ∧
      ∀ f, toy32.parentCv l r f =
        Spec.cv toy32 blob3 (startOf k L) (min (endOf k L) (nChunks blob3.length)) f :=
  decode_sound_parent_loc blob3_len .sync ⟨2049, 0⟩ [0] tampered3 toy_cf_sync h

/-- a sink whose outboard carries the true root and the true geometry -/
private def sink3 : Sink H32 :=
  { ob := { kind := .preMem, root := Spec.root toy32 blob3, tree := ⟨2049, 0⟩, data := [] },
    target := List.replicate 2049 0 }

private theorem sink3_root : sink3.ob.root = Spec.root toy32 blob3 := by simp only [sink3]

example : ∃ (wl : List (Nat × List UInt8)) (pl : List (Nat × H32 × H32)),
    (∀ w ∈ wl, TrueLeaf blob3 w.1 w.2) ∧ (∀ p ∈ pl, TruePair toy32 blob3 p.2.1 p.2.2) ∧
    (decodeRanges toy32 .sync tampered3 [0] sink3).sink.target = applyWrites sink3.target wl ∧
    (decodeRanges toy32 .sync tampered3 [0] sink3).sink.ob = applySaves toy32 sink3.ob pl :=
  decodeRanges_sound_loc blob3_len .sync tampered3 [0] sink3 sink3_root
    (by simp only [sink3]; exact toy_cf_sync)

example : (decodeRanges toy32 .fsm tampered3 [0] sink3).sink.target.length = blob3.length ∧
    ∀ i : Nat, (decodeRanges toy32 .fsm tampered3 [0] sink3).sink.target[i]? = sink3.target[i]? ∨
      (decodeRanges toy32 .fsm tampered3 [0] sink3).sink.target[i]? = blob3[i]? :=
  decodeRanges_target_loc blob3_len .fsm tampered3 [0] sink3 sink3_root
    (by simp only [sink3]; exact toy_cf_fsm) (by
    simp only [sink3, blob3, List.length_replicate, List.length_map, List.length_range])

/-! ### (c) collision extraction: a hash with collisions, a run that yields a wrong byte -/

/-- the constant hash -/
private def unitHash : HashFns Unit where
  chunkCv _ _ _ := ()
  parentCv _ _ _ := ()
  ofBytes _ := ()
  toBytes _ := List.replicate 32 0

private theorem bad_item : ¬ ItemOk unitHash [1] (Item.leaf 0 [2]) := by
  intro h
  have := (TrueLeaf.spec h).2.2
  exact absurd this (by decide)

private theorem bad_mem : Item.leaf 0 [2] ∈
    (decodeAll unitHash .sync (Spec.root unitHash [1]) ⟨1, 0⟩ [0] [2]).items := by
  have : (decodeAll unitHash .sync (Spec.root unitHash [1]) ⟨1, 0⟩ [0] [2]).items =
      [Item.leaf 0 [2]] := by decide +kernel
  rw [this]
  exact List.mem_singleton_self _

example : ∃ x y, x ∈ trueEvals unitHash [1] ++ runEvals unitHash .sync (Spec.root unitHash [1]) ⟨1, 0⟩ [0] [2] ∧
    y ∈ trueEvals unitHash [1] ++ runEvals unitHash .sync (Spec.root unitHash [1]) ⟨1, 0⟩ [0] [2] ∧
    x ≠ y ∧ unitHash.eval x = unitHash.eval y :=
  collision_extraction (by decide) .sync ⟨1, 0⟩ [0] [2] bad_mem bad_item

example : ∃ x y, findCollision unitHash
      (trueEvals unitHash [1] ++ runEvals unitHash .sync (Spec.root unitHash [1]) ⟨1, 0⟩ [0] [2]) =
        some (x, y) ∧
    x ∈ trueEvals unitHash [1] ++ runEvals unitHash .sync (Spec.root unitHash [1]) ⟨1, 0⟩ [0] [2] ∧
    y ∈ trueEvals unitHash [1] ++ runEvals unitHash .sync (Spec.root unitHash [1]) ⟨1, 0⟩ [0] [2] ∧
    x ≠ y ∧ unitHash.eval x = unitHash.eval y :=
  collision_search (by decide) .sync ⟨1, 0⟩ [0] [2] bad_mem bad_item

/-- … and the search indeed computes the collision: the true chunk against the forged one -/
example : findCollision unitHash
    (trueEvals unitHash [1] ++ runEvals unitHash .sync (Spec.root unitHash [1]) ⟨1, 0⟩ [0] [2]) =
    some (.chunk 0 [1] true, .chunk 0 [2] true) := by decide +kernel

/-- a sink (target of the blob's length) that receives the forged byte -/
private def sinkU : Sink Unit :=
  { ob := { kind := .preMem, root := Spec.root unitHash [1], tree := ⟨1, 0⟩, data := [] },
    target := [0] }

private theorem bad_ranges : ¬ ∃ (wl : List (Nat × List UInt8)) (pl : List (Nat × Unit × Unit)),
    (∀ w ∈ wl, TrueLeaf [1] w.1 w.2) ∧ (∀ p ∈ pl, TruePair unitHash [1] p.2.1 p.2.2) ∧
    (decodeRanges unitHash .sync [2] [0] sinkU).sink.target = applyWrites sinkU.target wl ∧
    (decodeRanges unitHash .sync [2] [0] sinkU).sink.ob = applySaves unitHash sinkU.ob pl := by
  rintro ⟨wl, _, hw, _, ht, _⟩
  have hm := Mixed.applyWrites (d := [1]) (t₀ := [0]) wl sinkU.target ⟨rfl, fun _ => .inl rfl⟩ hw
  rw [← ht] at hm
  have h0 := hm.2 0
  have : (decodeRanges unitHash .sync [2] [0] sinkU).sink.target = [2] := by decide +kernel
  rw [this] at h0
  revert h0
  decide

example : ∃ x y, x ∈ trueEvals unitHash [1] ++ runEvals unitHash .sync sinkU.ob.root sinkU.ob.tree [0] [2] ∧
    y ∈ trueEvals unitHash [1] ++ runEvals unitHash .sync sinkU.ob.root sinkU.ob.tree [0] [2] ∧
    x ≠ y ∧ unitHash.eval x = unitHash.eval y :=
  collision_extraction_ranges (by decide) .sync [2] [0] sinkU rfl bad_ranges

end

/-
## Status (C01, local collision freedom)

All theorems depend on the axioms `propext`, `Classical.choice`, `Quot.sound` only.

PROVED (full strength: all streams, all claimed geometries, all queries, both flavours;
`d.length ≤ 2^64 · 1024` as in `Props/C01.lean`): `collisionFree_on`, `cv_inj_loc`,
`trueEvals_contains`, `step_sound_loc`, `decode_sound_loc`, `decode_sound_leaf_loc`,
`decode_sound_parent_loc`, `decodeRanges_sound_loc`, `decodeRanges_target_loc`,
`collision_extraction`, `collision_extraction_ranges` (no hash hypothesis), `collision_search`.

PARTIAL: none.   OPEN: none.

Non-vacuity: (a) `termHash`; (b) `toy32`, which has the 32-byte wire round trip and is not globally
collision free – the local hypothesis is satisfiable together with the round trip, the global one is
not (`Lemmas/CFUnsat.lean`); (c) the constant hash, with the extracted collision computed.

Remarks
* The invariant is sharper than in `Props/C01.lean`: `TrueCv` (C01Inv) allows ANY root flag for a
  subtree interval, but the honest hashing evaluates the root interval `[0, n)` with `true` and all
  others with `false` only.  `TrueCvL` fixes the flag to `decide (c = 0 ∧ e = n)`; the decoder preserves it
  because children of a verified parent are never the root interval.
* `runEvals` includes the inputs of the last, failing step (it is what the run evaluates); the
  proofs use only the inputs of item-yielding steps, so the theorems also hold for that smaller
  list (not stated separately).
* `Dec.stepEvals` is flavour dependent only where the model is: `nextSync` hashes a leaf before
  popping, `nextFsm` pops first (differs only when the stack is empty, i.e. on a panic).
* `evalsOf` coincides with `DecodeSpec.hashInputs` (`DecodeSpec.evalsOf_eq_hashInputs`), which
  the statement of C09 uses.
* Model: nothing suspicious.
-/

end Bao.C01
