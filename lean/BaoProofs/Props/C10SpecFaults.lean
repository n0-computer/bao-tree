import BaoProofs.Lemmas.SpecFaultsR

/-!
# The executable specification verdict of `faults` (C10) never rejects the model

`Ops.opFaults` (`faults <name>/<blob>/<bs>/<store kind>/<ranges> <stride>`) prints the MODEL's fault
report: the call skeleton `opTrace` of the operation and, for every object `o`, every `stride`-th event
`e` = `k`-th call on `o` and every injected error kind, one token `<Kind>=<terminal>/a0/p1` whose
terminal comes from the fault-aware twins (`encodeRangesF`, `outboardF`, `outboardPostOrderF`, `copyF`,
`validRangesF`, `validOutboardRangesF`, `traverseRangesValidatedF`) or, for `decode_ranges` and the
backing file `obio`, from the skeleton rule `expectFault`.  Its verdict `sf` walks the
IMPLEMENTATION's report token by token.  This file proves that the verdict accepts the model's own
report.  (`SpecFaultsL.lean`: the `let`s of `opFaults` as named definitions, related to the operation
by `opFaults_eq` (`rfl`); `SpecFaultsStr.lean`: `String.splitOn " # "`, `String.replace`;
`SpecFaultsR.lean`: skeleton against twin log; `SpecFaultsCx.lean`: the false alarm on `EmptyOutboard`.)
-/

set_option maxRecDepth 100000

namespace Bao.SpecFaults
open Bao Bao.Ops Bao.Proto Bao.SpecIndex Bao.SpecOb Bao.SpecSerde

/-- the token verdict accepts a token `<kd0>=<res>/a0/p1` whose result is good (`GoodRes`: no `=`, `/`,
space, `#`; not `Ok`, no panic, no hash mismatch; one of the accepted shapes for the object) -/
theorem token_component (part o rest kd0 res : String) (hpart : part = o ++ "@" ++ rest)
    (ho : NoCh '@' o) (hkd : kd0 ∈ allKinds) (hg : GoodRes o kd0 res) :
    tokVerdict part (kd0 ++ "=" ++ res ++ "/a0/p1") = none := by
  refine tokVerdict_none part kd0 res (allKinds_plain kd0 hkd '=' rfl) hg.noEq hg.noSl hg.notOk hg.notPanic
    hg.notMM ?_
  rw [hpart, split_at_head o rest ho]
  exact hg.acc

example : tokVerdict "w@3[write_64] x" "ConnectionReset=ParentWrite(7)/a0/p1" = none := by
  rw [show "ConnectionReset=ParentWrite(7)/a0/p1"
      = "ConnectionReset" ++ "=" ++ numRes "ParentWrite" 7 ++ "/a0/p1" from by decide +kernel]
  exact token_component _ "w" "3[write_64] x" "ConnectionReset" _ (by decide +kernel)
    (noCh_lit _ _ (by decide)) (by decide) (good_pw 7)

/-- the shapes: what the model prints for the printed kind `kd0` (special kinds `Eof`: evaluated as
`UnexpectedEof`, the `*` removed; `Interrupted`: evaluated as `Other` and renamed) is good whenever the
raw terminal for the evaluated kind is the io error of that kind, a write-failed error for
`ConnectionReset` on `w`, a not-found error for `UnexpectedEof` on `r`, or `SendErr` on `s` -/
theorem shape_component (o kd0 raw : String) (hk : kd0 ∈ allKinds)
    (h : RawOk o (evalKind kd0) raw) : GoodRes o kd0 (rename kd0 raw) :=
  good_of_raw o kd0 raw hk h

example : GoodRes "data" "Eof" (rename "Eof" "Io(UnexpectedEof*)") :=
  shape_component _ _ _ (by decide) RawOk.io

example : GoodRes "r" "Eof" (rename "Eof" (numRes "LeafNotFound" 3)) :=
  shape_component _ _ _ (by decide) (RawOk.lnf 3 rfl rfl)

example : GoodRes "ob" "Interrupted" (rename "Interrupted" "Io(Other*)") :=
  shape_component _ _ _ (by decide) RawOk.io

/-- byte encoders (`encv-*`, `encp-*`): a reached fault (`k` below the number of calls on the object in
the fault-free log of `encodeRangesF`) is printed as the io error of its kind, or - fsm flavour,
`ConnectionReset` on the writer - as `ParentWrite(n)` / `LeafWrite(n)`
(from `C10.encF_cut_io`, `C10.encF_cut_w`, `C10.writeErr_spec`) -/
theorem enc_component (name : String) (d : List UInt8) (bs : Nat) (kind : StoreKind) (ranges : Ranges)
    (h : name.startsWith "enc" = true)
    (o : String) (ho : o ∈ opObjs name) (e : Ev) (k : Nat) (kd : String) (hkd : kd ∈ kinds0)
    (hreach : k < (EncFaultL.encLog hf (flOf name) (name.startsWith "encv") d (intactStore kind d bs)
      ranges).count (encObjOf o)) :
    RawOk o kd (twinRes name d bs kind ranges o e k kd) := by
  refine raw_enc name d bs kind ranges h o e k kd hkd ?_ hreach
  rw [opObjs_enc name h] at ho
  simp only [List.mem_cons, List.not_mem_nil, or_false] at ho
  rcases ho with rfl | rfl | rfl | rfl <;> decide

/-- the empty blob: the single (empty) leaf is read once, so a fault on read 0 is reached: the skeleton
has a read, and on an intact store the twin makes every call of the skeleton (`encReach_intact`) -/
example : RawOk "data" "WriteZero" (twinRes "encv-sync" [] 0 .preMem [0] "data" ⟨"data", "x", none⟩ 0
    "WriteZero") :=
  have hdata : "data" ∈ opObjs "encv-sync" := by rw [opObjs_enc _ (by swdec)]; decide
  enc_component "encv-sync" [] 0 .preMem [0] (by swdec) "data" hdata _ 0 "WriteZero" (by decide) (by
    have hsk : ((opTrace "encv-sync" [] 0 .preMem [0]).map fun tr =>
        decide (0 < (tr.filter (·.obj == "data")).length)) = some true := by decide +kernel
    obtain ⟨tr, htr, h0⟩ := Option.map_eq_some_iff.1 hsk
    exact Nat.lt_of_lt_of_le (of_decide_eq_true h0)
      (encReach_intact "encv-sync" (by decide) [] 0 .preMem [0] tr (by decide) (by decide) (by decide)
        (by decide) htr "data" hdata))

/-- `mixed`: under `twinOk` every event of the skeleton is a reached fault of
`traverseRangesValidatedF`: `SendErr` on the sender, the io error otherwise (`C10Mixed.mixedF_terminal`) -/
theorem mixed_component (d : List UInt8) (bs : Nat) (kind : StoreKind) (ranges : Ranges) (tr : List Ev)
    (hok : twinOkOf "mixed" d bs kind ranges tr = true) : RawAll "mixed" d bs kind ranges tr :=
  raw_mixed d bs kind ranges tr hok

/-- outboard creation, copy, validators (twins of `BaoModel/Fault.lean`): under `twinOk` every event of
the skeleton on `data` / `ob` / `w` / `from` / `to` is a reached fault of the twin, printed as the io
error of its kind (`C10.obF_never_ok`, `obpoF_never_ok`, `copyF_never_ok`, `validF_never_ok`,
`validObF_never_ok`); `obio` keeps the skeleton rule -/
theorem twin_component (name : String) (d : List UInt8) (bs : Nat) (kind : StoreKind) (ranges : Ranges)
    (tr : List Ev) (hn : name ∈ names17) (h1 : name.startsWith "enc" = false)
    (hok : twinOkOf name d bs kind ranges tr = true) : RawAll name d bs kind ranges tr :=
  rawAll name d bs kind ranges tr hok (fun h => by rw [h1] at h; cases h)

/-- every operation: the raw terminals of all events, all kinds -/
theorem raw_component (name : String) (d : List UInt8) (bs : Nat) (kind : StoreKind) (ranges : Ranges)
    (tr : List Ev) (htr : opTrace name d bs kind ranges = some tr)
    (hok : twinOkOf name d bs kind ranges tr = true)
    (henc : name.startsWith "enc" = true → EncReach name d bs kind ranges tr) :
    RawAll name d bs kind ranges tr :=
  rawAll name d bs kind ranges tr hok henc

/-- the labels of the skeleton contain neither a space nor a `#` -/
theorem label_component (name : String) (d : List UInt8) (bs : Nat) (kind : StoreKind)
    (ranges : Ranges) (tr : List Ev) (htr : opTrace name d bs kind ranges = some tr) : AllOk tr :=
  opTrace_labels name d bs kind ranges tr htr

/-- one line of the report: accepted by the part verdict, and `#`-free -/
theorem line_component (name : String) (d : List UInt8) (bs : Nat) (kind : StoreKind) (ranges : Ranges)
    (tr : List Ev) (hall : RawAll name d bs kind ranges tr) (hlab : AllOk tr)
    (o : String) (ho : o ∈ opObjs name) (e : Ev) (k : Nat)
    (hek : (tr.filter (·.obj == o))[k]? = some e) :
    partVerdict (lineOf name d bs kind ranges o (e, k)) = none ∧
      NoCh '#' (lineOf name d bs kind ranges o (e, k)) :=
  line_ok name d bs kind ranges tr hall hlab o ho e k hek

/-- the whole report: the verdict accepts the model's line (also when the twin and the skeleton
disagree: the model then prints a line without `" # "`, on which the verdict has nothing to check) -/
theorem report_component (name : String) (d : List UInt8) (bs : Nat) (kind : StoreKind)
    (ranges : Ranges) (tr : List Ev) (stride : Nat)
    (htr : opTrace name d bs kind ranges = some tr)
    (henc : name.startsWith "enc" = true → EncReach name d bs kind ranges tr) :
    sfOf (modelLine name d bs kind ranges tr stride) = none :=
  sfOf_model name d bs kind ranges tr stride
    (fun hok => raw_component name d bs kind ranges tr htr hok henc)
    (label_component name d bs kind ranges tr htr)

/-- `(opFaults args (opFaults args impl).model).specFail = none` for every argument list that parses
to a known operation; for the byte encoders under the reach hypothesis `EncReach` (their twin's call
log is not compared with the skeleton by `opFaults`) -/
theorem faults_specFail (spec stride impl name b bs kind rs : String) (d : List UInt8) (bsn st : Nat)
    (k : StoreKind) (ranges : Ranges) (tr : List Ev)
    (h0 : spec.splitOn "/" = [name, b, bs, kind, rs]) (h1 : stride.toNat? = some st)
    (h2 : blob b = some d) (h3 : bs.toNat? = some bsn) (h4 : storeKind? kind = some k)
    (h5 : parseNatList rs = some ranges) (htr : opTrace name d bsn k ranges = some tr)
    (henc : name.startsWith "enc" = true → EncReach name d bsn k ranges tr) :
    (opFaults [spec, stride] (opFaults [spec, stride] impl).model).specFail = none := by
  rw [opFaults_eq spec stride impl name b bs kind rs d bsn st k ranges h0 h1 h2 h3 h4 h5,
    opFaults_eq spec stride _ name b bs kind rs d bsn st k ranges h0 h1 h2 h3 h4 h5, htr]
  exact report_component name d bsn k ranges tr st htr henc

/-- every operation but the byte encoders: no further hypothesis -/
theorem faults_specFail_nonenc (spec stride impl name b bs kind rs : String) (d : List UInt8)
    (bsn st : Nat) (k : StoreKind) (ranges : Ranges) (tr : List Ev)
    (h0 : spec.splitOn "/" = [name, b, bs, kind, rs]) (h1 : stride.toNat? = some st)
    (h2 : blob b = some d) (h3 : bs.toNat? = some bsn) (h4 : storeKind? kind = some k)
    (h5 : parseNatList rs = some ranges) (htr : opTrace name d bsn k ranges = some tr)
    (hne : name.startsWith "enc" = false) :
    (opFaults [spec, stride] (opFaults [spec, stride] impl).model).specFail = none :=
  faults_specFail spec stride impl name b bs kind rs d bsn st k ranges tr h0 h1 h2 h3 h4 h5 htr
    (fun h => by rw [hne] at h; cases h)

/-- the reach hypothesis of the byte encoders holds on every intact store that is not the
`EmptyOutboard`: the fault-free encoder ends `ok` there (`C04SpecEnc`), so it made every call of the
plan the skeleton is built from -/
theorem enc_reach (name : String) (hn : name ∈ encNames) (d : List UInt8) (bs : Nat)
    (kind : StoreKind) (ranges : Ranges) (tr : List Ev) (hne : kind ≠ .empty)
    (hs : d.length ≤ 2 ^ 63) (hbs : bs ≤ 10) (hwf : Ranges.WF ranges = true)
    (htr : opTrace name d bs kind ranges = some tr) : EncReach name d bs kind ranges tr :=
  encReach_intact name hn d bs kind ranges tr hne hs hbs hwf htr

/-- `twinOk` holds for `outboard_post_order` (both flavours): the fault-free call log of
`outboardPostOrderF` IS the skeleton, so the model prints the real report for these operations -/
theorem obpo_twinOk (name : String) (hn : name = "obpo-sync" ∨ name = "obpo-fsm") (d : List UInt8)
    (bs : Nat) (kind : StoreKind) (ranges : Ranges) (tr : List Ev)
    (hs : d.length ≤ 2 ^ 63) (hbs : bs ≤ 10) (htr : opTrace name d bs kind ranges = some tr) :
    modelLine name d bs kind ranges tr 1 =
      " # ".intercalate (headOf name tr :: linesOf name d bs kind ranges tr 1) := by
  unfold modelLine
  rw [twinOk_obpo name hn d bs kind ranges tr hs hbs htr, if_pos rfl]

example : ∃ tr, opTrace "obpo-sync" (List.replicate 3000 7) 0 .preMem [0] = some tr := ⟨_, rfl⟩

/-- `faults`: the verdict never rejects the model's own report.  Hypotheses: the arguments parse to a
known operation; for the byte encoders (`encv-*`, `encp-*`) the store is not the `EmptyOutboard`,
blob size `≤ 2^63`, block size `≤ 10`, well-formed query.  (On the `EmptyOutboard` the statement is
FALSE for `encv-*`: `SpecFaultsCx.lean`.) -/
theorem faults_specFail_all (spec stride impl name b bs kind rs : String) (d : List UInt8)
    (bsn st : Nat) (k : StoreKind) (ranges : Ranges) (tr : List Ev)
    (h0 : spec.splitOn "/" = [name, b, bs, kind, rs]) (h1 : stride.toNat? = some st)
    (h2 : blob b = some d) (h3 : bs.toNat? = some bsn) (h4 : storeKind? kind = some k)
    (h5 : parseNatList rs = some ranges) (htr : opTrace name d bsn k ranges = some tr)
    (henc : name.startsWith "enc" = true →
      k ≠ .empty ∧ d.length ≤ 2 ^ 63 ∧ bsn ≤ 10 ∧ Ranges.WF ranges = true) :
    (opFaults [spec, stride] (opFaults [spec, stride] impl).model).specFail = none :=
  faults_specFail spec stride impl name b bs kind rs d bsn st k ranges tr h0 h1 h2 h3 h4 h5 htr
    (fun h => by
      obtain ⟨a1, a2, a3, a4⟩ := henc h
      exact enc_reach name (encNames_of name (opTrace_name name d bsn k ranges tr htr) h) d bsn k
        ranges tr a1 a2 a3 a4 htr)

/-- the same for the rendered arguments `name/blob/bs/kind/ranges stride` -/
theorem faults_no_false_alarm (name b impl : String) (bs st : Nat) (kind : StoreKind)
    (ranges : Ranges) (d : List UInt8) (tr : List Ev)
    (hname : NoCh '/' name) (hb : NoCh '/' b) (h2 : blob b = some d)
    (htr : opTrace name d bs kind ranges = some tr)
    (henc : name.startsWith "enc" = true →
      kind ≠ .empty ∧ d.length ≤ 2 ^ 63 ∧ bs ≤ 10 ∧ Ranges.WF ranges = true) :
    (opFaults ["/".intercalate [name, b, toString bs, kindStr kind, natList ranges], toString st]
      (opFaults ["/".intercalate [name, b, toString bs, kindStr kind, natList ranges], toString st]
        impl).model).specFail = none :=
  faults_specFail_all _ _ impl name b _ _ _ d bs st kind ranges tr
    (spec_split name b bs kind ranges hname hb) (toNat?_toString st) h2 (toNat?_toString bs)
    (SpecOb.storeKind?_kindStr kind) (SpecTrunc.parseNatList_natList ranges) htr henc

/-- `obpo-sync` on 3000 bytes -/
example : (opFaults ["/".intercalate ["obpo-sync", "const:" ++ toString 7 ++ ":" ++ toString 3000,
      toString 0, kindStr .preMem, natList [0]], toString 1]
    (opFaults ["/".intercalate ["obpo-sync", "const:" ++ toString 7 ++ ":" ++ toString 3000,
      toString 0, kindStr .preMem, natList [0]], toString 1] "").model).specFail = none :=
  faults_no_false_alarm "obpo-sync" _ "" 0 1 .preMem [0] _ _ (noCh_lit _ _ (by decide))
    (noCh_append (noCh_append (noCh_append (noCh_lit _ _ (by decide)) (noCh_nat '/' (by decide) 7))
      (noCh_lit _ _ (by decide))) (noCh_nat '/' (by decide) 3000))
    (blob_const 7 3000) rfl (fun h => absurd ((sw_lit _ _).symm.trans h) (by decide))

/-- `encv-fsm` on 3000 bytes, in-memory pre-order outboard -/
example : (opFaults ["/".intercalate ["encv-fsm", "const:" ++ toString 7 ++ ":" ++ toString 3000,
      toString 0, kindStr .preMem, natList [0]], toString 1]
    (opFaults ["/".intercalate ["encv-fsm", "const:" ++ toString 7 ++ ":" ++ toString 3000,
      toString 0, kindStr .preMem, natList [0]], toString 1] "").model).specFail = none := by
  have h : ((⟨3000, 0⟩ : Tree).prePartialChunks (Ranges.truncate [0] 3000) 0).isSome = true := by
    decide +kernel
  obtain ⟨plan, hp⟩ := Option.isSome_iff_exists.1 h
  have htr : opTrace "encv-fsm" (List.replicate 3000 (UInt8.ofNat 7)) 0 .preMem [0]
      = some (plan.flatMap (encSkel (List.replicate 3000 (UInt8.ofNat 7)) 0 .preMem)) := by
    rw [opTrace_enc _ (by decide), List.length_replicate, hp]; rfl
  exact faults_no_false_alarm "encv-fsm" _ "" 0 1 .preMem [0] _ _ (noCh_lit _ _ (by decide))
    (noCh_append (noCh_append (noCh_append (noCh_lit _ _ (by decide)) (noCh_nat '/' (by decide) 7))
      (noCh_lit _ _ (by decide))) (noCh_nat '/' (by decide) 3000))
    (blob_const 7 3000) htr
    (fun _ => ⟨by decide, by rw [List.length_replicate]; decide, by decide, by decide⟩)

/-- `decr-fsm` into an `EmptyOutboard` -/
example (tr : List Ev)
    (htr : opTrace "decr-fsm" (List.replicate 3000 (UInt8.ofNat 7)) 0 .empty [0, 1] = some tr) :
    (opFaults ["/".intercalate ["decr-fsm", "const:" ++ toString 7 ++ ":" ++ toString 3000,
      toString 0, kindStr .empty, natList [0, 1]], toString 2]
    (opFaults ["/".intercalate ["decr-fsm", "const:" ++ toString 7 ++ ":" ++ toString 3000,
      toString 0, kindStr .empty, natList [0, 1]], toString 2] "x").model).specFail = none :=
  faults_no_false_alarm "decr-fsm" _ "x" 0 2 .empty [0, 1] _ tr (noCh_lit _ _ (by decide))
    (noCh_append (noCh_append (noCh_append (noCh_lit _ _ (by decide)) (noCh_nat '/' (by decide) 7))
      (noCh_lit _ _ (by decide))) (noCh_nat '/' (by decide) 3000))
    (blob_const 7 3000) htr (fun h => absurd ((sw_lit _ _).symm.trans h) (by decide))

/-- a swallowed fault (`Ok`) is rejected, whatever the part and the kind -/
theorem rejects_ok (part kd0 : String) (h : kd0 ∈ allKinds) :
    (tokVerdict part (kd0 ++ "=" ++ "Ok" ++ "/a0/p1")).isSome = true :=
  tokVerdict_rejects_ok part kd0 (allKinds_plain kd0 h '=' rfl)

/-- a fault reported as a hash mismatch is rejected -/
theorem rejects_mismatch (part kd0 : String) (n : Nat) (h : kd0 ∈ allKinds) :
    (tokVerdict part (kd0 ++ "=" ++ numRes "ParentHashMismatch" n ++ "/a0/p1")).isSome = true :=
  tokVerdict_rejects_mismatch part kd0 n (allKinds_plain kd0 h '=' rfl)

example : (tokVerdict "w@0[write_32] …" ("WriteZero" ++ "=" ++ "Ok" ++ "/a0/p1")).isSome = true :=
  rejects_ok _ _ (by decide)

end Bao.SpecFaults

/-
Status (no-false-alarm theorem for `faults`, `Ops.opFaults`, property C10).

PROVED (what each claims is said at the theorem):
  component level: `token_component`, `shape_component`, `enc_component`, `mixed_component`, `twin_component`,
    `raw_component`, `label_component`, `line_component`, `report_component`;
  skeleton against twin: `enc_reach`, `obpo_twinOk`;
  op level: `faults_specFail`, `faults_specFail_nonenc` (`twinOk` is not a hypothesis: when it is `false` the
    model prints "fault-twin and call skeleton disagree", which the verdict accepts), `faults_specFail_all`,
    `faults_no_false_alarm`;
  the verdict does reject: `rejects_ok`, `rejects_mismatch`.

PARTIAL: none.

OPEN:
  -- OPEN: `twinOkOf name d bs kind ranges tr = true` for `ob-*`, `copy-*`, `valid-*`, `validob-*`, `mixed`
  --   on intact stores (proved only for `obpo-*`).  Not needed for the no-false-alarm theorems (when
  --   `twinOk` fails the model prints the "disagree" line and the verdict accepts it), but needed to know
  --   that the model prints a real report.  It is FALSE for `valid-*`, `validob-*`, `mixed` on the
  --   `EmptyOutboard` (the model prints "fault-twin and call skeleton disagree": the validators / the
  --   traversal stop at the first mismatching pair); `copy-*` on `empty` agrees.
  -- OPEN: `EncReach` for `encp-*` on the `EmptyOutboard` (the non-validating encoder does not look at the
  --   hashes, so it should hold there too; `enc_reach` uses the C04 theorem "the run ends ok", which is
  --   stated for `kind ≠ empty`).

FINDING (false alarm of the machinery; `SpecFaultsCx.lean` evaluates the executable BLAKE3 in the kernel):
  `faults encv-sync/<blob of ≥ 2 blocks>/bs/empty/ranges stride` (also `encv-fsm`): the verdict REJECTS the
  model's own report.  The skeleton lists the calls of the whole plan, the validating encoder on an
  `EmptyOutboard` stops after the first `load` with `ParentHashMismatch`, no later fault is reached, the
  twin prints `ParentHashMismatch(n)` and the verdict says "fault reported as hash mismatch"
  (`cx_event`, `cx_terminal`, `cx_raw`, `cx_token`).
  `opFaults` does not compare the encoder twin with the skeleton (`faultCalls = none` for `enc*`), so
  `twinOk` does not turn this case into the "disagree" line.  Corrected theorem: `faults_specFail_all`
  (hypothesis `kind ≠ empty` for the encoders).  The generator (`harness/src/gen3.rs`, "C10") draws the
  store of every operation except `decr-*` from `STORES` (no `empty`): it cannot emit such arguments.

Axioms (`#print axioms`): every theorem of this file and `opFaults_eq`, `splitOn_hash_intercalate`,
`replace_eq`, `rawAll`, `sfOf_model`, `encReach_intact`, `twinOk_obpo`, `cx_*`:
[propext, Classical.choice, Quot.sound].
-/
