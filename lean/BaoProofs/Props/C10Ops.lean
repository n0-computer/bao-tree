import BaoProofs.Lemmas.OpsFaultL

/-!
# C10 (outboard creation, copy, validators): io failures

"If the k-th operation on any underlying reader, writer, data source or outboard fails, the public
operation using it reports that failure - the io error itself [...] - never a panic, success or hash
mismatch, and it performs no further operation on the failed object.  Whatever was emitted or stored
before the failure is a prefix of what the fault-free run emits or stores."

This file treats `outboard_post_order`, `outboard` (and `init_from`), `copy`, `valid_ranges` and
`valid_outboard_ranges` (sync and fsm).  The fault-aware model functions are in `BaoModel/Fault.lean`:
`outboardPostOrderF`, `outboardF`, `initFromF`, `copyF`, `validRangesF`, `validOutboardRangesF`.
Each takes `fault : Option Fault` - `some ⟨obj, k, kind⟩`: the `k`-th call (0-based) on the object
`obj : FObj` (`.data` reader / data source, `.ob` outboard, `.w` writer, `.src` / `.dst` source and
target of `copy`) fails with the io error `⟨kind, true⟩` - and returns the log of the io calls it
makes (`List (FEv H)`, the failing call is logged and is the last entry) and the ordinary result.

Vocabulary (`BaoProofs/Lemmas/OpsFaultL.lean`):
* `FEv.obj e : Option FObj` – the object call `e` is made on (`none` for `.yield`, the pseudo entry
  the validators log for every range they hand to their consumer);
* `outOf log` – the bytes written by the `.write` calls of a log;
* `savedOf hf s log` – the store `s` after the `.save` calls of a log (a `save` that fails by itself
  leaves the store as it is); `savesOf log` – the `(node, l, r)`s offered to `save`;
* `yieldsOf log` – the ranges yielded in a log;
* `replay ap fault log st nd no nw ns nt` – replay a log against a fault: `nd no nw ns nt` are the
  numbers of calls made so far on `.data` / `.ob` / `.w` / `.src` / `.dst`; the first call whose
  object and counter are hit by the fault fails (it is logged, nothing follows), every other entry
  is applied to the state (`ap`: `apW` appends written bytes, `apS hf` applies a save, `apU` nothing)
  and bumps the counter of its object; result `(calls made, state, error of the failing call)`;
  `asmOb r res0` / `asm .err r t0` – the run assembled from a replay `r` (terminal: the error of the
  replay if it was cut, else the terminal of the fault-free run).

All statements are for every hash instance `hf`, data, store(s), tree, query, flavour and fault.
For each operation `X`:
* `X_none`: without a fault the twin is the fault-free model function;
* `X_sound`: the effect of the fault-free run is the effect of the calls of its log;
* `X_cut`: a reached fault (the fault-free log has a `(k+1)`-th call on `obj`): the fault-free log
  splits as `pre ++ e :: post`, `e` the `k`-th call on `obj`; the faulty run made exactly the calls
  `pre ++ [e]` (no further call on any object), ends with `.err ⟨kind, true⟩`, and its effect is the
  effect of `pre`;  `X_unreached`: otherwise the faulty run is the fault-free run;
* `X_counters`: every run is the replay of the fault-free log (ties "the `k`-th call" to the call
  counters threaded through the model functions);
* `X_prefix`, `X_never_ok`, `X_no_panic`.

The runs of the examples (`opsTriv`, `opsData`, `opsTree`, `opsOb`) are evaluated once, in
`OpsFaultL.obpo_runs`, `ob_runs`, `copy_run`, `valid_runs`, on `CallSplit.zeroHash`, `ones`, `zeroOb`: the
same instance, spelt here with this file's own definitions.
-/

namespace Bao.C10

open Bao Bao.OpsFaultL

variable {H : Type}

/-! ## examples: a 1500-byte blob (two chunks, one parent) under a hash that accepts everything -/

/-- a hash instance under which every outboard is valid (all hashes are 0) -/
def opsTriv : HashFns Nat := ⟨fun _ _ _ => 0, fun _ _ _ => 0, fun _ => 0, fun _ => List.replicate 32 7⟩

def opsData : List UInt8 := List.replicate 1500 1

def opsTree : Tree := ⟨1500, 0⟩

/-- a zero-filled in-memory pre-order outboard for `opsTree` -/
def opsOb : Store Nat := ⟨.preMem, 0, opsTree, List.replicate 64 0⟩

/-- a zero-filled in-memory post-order outboard for `opsTree` -/
def opsObPost : Store Nat := ⟨.postMem, 0, opsTree, List.replicate 64 0⟩

/-- the decomposition of a log at the `k`-th call on `obj` (as in the `_cut` theorems) is unique -/
theorem opsF_cut_unique (obj : FObj) (k : Nat) (log pre pre' post post' : List (FEv H))
    (e e' : FEv H)
    (h : log = pre ++ e :: post) (he : e.obj = some obj)
    (hc : (pre.map FEv.obj).count (some obj) = k)
    (h' : log = pre' ++ e' :: post') (he' : e'.obj = some obj)
    (hc' : (pre'.map FEv.obj).count (some obj) = k) :
    pre = pre' ∧ e = e' ∧ post = post' :=
  decomp_unique obj k log pre pre' post post' e e' h he ((ncalls_eq_count obj pre).trans hc)
    h' he' ((ncalls_eq_count obj pre').trans hc')

example : ([FEv.read 3, .write [1], .read 4] : List (FEv Nat)) = [.read 3, .write [1]] ++ .read 4 :: [] ∧
    (FEv.read 4 : FEv Nat).obj = some .data ∧
    (([FEv.read 3, .write [1]] : List (FEv Nat)).map FEv.obj).count (some .data) = 1 := by decide

/-- the log (io calls) of the fault-free run of `outboard_post_order` -/
def obpoLog (hf : HashFns H) (data : List UInt8) (tree : Tree) : List (FEv H) :=
  (outboardPostOrderF hf data tree none).1

/-- the fault-free run of the example: read, read, write left, write right; root `0`, 64 bytes -/
example : (obpoLog opsTriv opsData opsTree).map FEv.obj = [some .data, some .data, some .w, some .w] ∧
    obpoLog opsTriv opsData opsTree =
      [.read 1024, .read 476, .write (List.replicate 32 7), .write (List.replicate 32 7)] ∧
    (outboardPostOrderF opsTriv opsData opsTree none).2.res = .ok 0 ∧
    (outboardPostOrderF opsTriv opsData opsTree none).2.sink = List.replicate 64 7 := by
  obtain ⟨h1, h2, h3, -⟩ := obpo_runs (outboardPostOrderF opsTriv opsData opsTree none) _ rfl rfl
  rw [obpoLog]
  refine ⟨?_, h1, h2, h3⟩
  rw [h1]
  decide

/-- with no fault the twin is `outboardPostOrder` (same result, same bytes written) -/
theorem obpoF_none (hf : HashFns H) (data : List UInt8) (tree : Tree) :
    (outboardPostOrderF hf data tree none).2 = outboardPostOrder hf data tree :=
  obpoLoop_none ..

/-- the fault-free run performs every call of its log: the bytes written are those of the logged
writes -/
theorem obpoF_sound (hf : HashFns H) (data : List UInt8) (tree : Tree) :
    (outboardPostOrder hf data tree).sink = outOf (obpoLog hf data tree) := by
  rw [← obpoF_none, ob_sound apW [] _ (obpo_replay hf data tree), foldl_apW, List.nil_append]
  rfl

/-- the fault is reached: the faulty run is the fault-free run cut right after the failing call `e`;
it made the calls `pre ++ [e]` and no other, ends with the injected io error, and wrote exactly the
bytes written before `e` (a parent is TWO writes: a fault on the second one leaves the left hash
written) -/
theorem obpoF_cut (hf : HashFns H) (data : List UInt8) (tree : Tree) (obj : FObj) (k : Nat)
    (kind : IoKind) (hk : k < ((obpoLog hf data tree).map FEv.obj).count (some obj)) :
    ∃ pre e post, obpoLog hf data tree = pre ++ e :: post ∧ e.obj = some obj ∧
      (pre.map FEv.obj).count (some obj) = k ∧
      outboardPostOrderF hf data tree (some ⟨obj, k, kind⟩) =
        (pre ++ [e], ⟨.err ⟨kind, true⟩, outOf pre⟩) := by
  obtain ⟨pre, e, post, h1, h2, h3, h4⟩ := ob_cut apW [] _ (obpo_replay hf data tree) obj k kind hk
  rw [foldl_apW] at h4
  exact ⟨pre, e, post, h1, h2, h3, h4⟩

/-- `outboard_post_order`: the fault is not reached (the fault-free log has at most `k` calls on
`obj`): same run -/
theorem obpoF_unreached (hf : HashFns H) (data : List UInt8) (tree : Tree) (obj : FObj) (k : Nat)
    (kind : IoKind) (hk : ((obpoLog hf data tree).map FEv.obj).count (some obj) ≤ k) :
    outboardPostOrderF hf data tree (some ⟨obj, k, kind⟩) = outboardPostOrderF hf data tree none :=
  ob_unreached apW [] _ (obpo_replay hf data tree) obj k kind hk

/-- the log is consistent with the loop counters: every run - faulty or not - is the replay of the
fault-free log in which the counters of `outboardPostOrderLoopF` start at 0 and go up by one at each
entry on their object, and the first entry whose counter is hit by the fault fails -/
theorem obpoF_counters (hf : HashFns H) (data : List UInt8) (tree : Tree) (fault : Option Fault) :
    outboardPostOrderF hf data tree fault =
      asmOb (replay apW fault (obpoLog hf data tree) [] 0 0 0 0 0)
        (outboardPostOrderF hf data tree none).2.res :=
  obpo_replay ..

example : (1 : Nat) < ((obpoLog opsTriv opsData opsTree).map FEv.obj).count (some .w) ∧
    ((obpoLog opsTriv opsData opsTree).map FEv.obj).count (some .data) ≤ 2 := by
  rw [obpoLog, (obpo_runs (outboardPostOrderF opsTriv opsData opsTree none) _ rfl rfl).1]
  decide

/-- the example: the second write (right hash of the parent) fails: the left hash stays written -/
example : (outboardPostOrderF opsTriv opsData opsTree (some ⟨.w, 1, .other⟩)).1.map FEv.obj =
      [some .data, some .data, some .w, some .w] ∧
    (outboardPostOrderF opsTriv opsData opsTree (some ⟨.w, 1, .other⟩)).2.res = .err ⟨.other, true⟩ ∧
    (outboardPostOrderF opsTriv opsData opsTree (some ⟨.w, 1, .other⟩)).2.sink = List.replicate 32 7 :=
  (obpo_runs _ (outboardPostOrderF opsTriv opsData opsTree (some ⟨.w, 1, .other⟩)) rfl rfl).2.2.2

/-- for every fault: the calls made and the bytes written are prefixes of the fault-free ones -/
theorem obpoF_prefix (hf : HashFns H) (data : List UInt8) (tree : Tree) (fault : Option Fault) :
    (outboardPostOrderF hf data tree fault).1 <+: obpoLog hf data tree ∧
    (outboardPostOrderF hf data tree fault).2.sink <+:
      (outboardPostOrderF hf data tree none).2.sink := by
  obtain ⟨h1, pre, rest, _, h3, h4⟩ := ob_prefix apW [] _ (obpo_replay hf data tree) fault
  refine ⟨h1, ?_⟩
  rw [h4, foldl_apW]
  exact List.prefix_append _ _

/-- a reached fault is reported as the injected io error: never `ok`, never a panic -/
theorem obpoF_never_ok (hf : HashFns H) (data : List UInt8) (tree : Tree) (obj : FObj) (k : Nat)
    (kind : IoKind) (hk : k < ((obpoLog hf data tree).map FEv.obj).count (some obj)) :
    (outboardPostOrderF hf data tree (some ⟨obj, k, kind⟩)).2.res = .err ⟨kind, true⟩ :=
  ob_never_ok apW [] _ (obpo_replay hf data tree) obj k kind hk

/-- no fault turns `outboard_post_order` into a panic: if the fault-free run does not panic, no faulty run does -/
theorem obpoF_no_panic (hf : HashFns H) (data : List UInt8) (tree : Tree) (fault : Option Fault)
    (h : (outboardPostOrderF hf data tree none).2.res ≠ .panic) :
    (outboardPostOrderF hf data tree fault).2.res ≠ .panic :=
  ob_no_panic apW [] _ (obpo_replay hf data tree) fault h

example : (outboardPostOrderF opsTriv opsData opsTree none).2.res ≠ .panic := by
  rw [(obpo_runs (outboardPostOrderF opsTriv opsData opsTree none) _ rfl rfl).2.1]
  decide

/-- the log (io calls) of the fault-free run of `outboard` -/
def obLog (hf : HashFns H) (data : List UInt8) (tree : Tree) (ob : Store H) : List (FEv H) :=
  (outboardF hf data tree ob none).1

/-- the fault-free run of the example: read, read, save node 0 -/
example : obLog opsTriv opsData opsTree opsOb = [.read 1024, .read 476, .save .ob 0 0 0] ∧
    (outboardF opsTriv opsData opsTree opsOb none).2.res = .ok 0 ∧
    (outboardF opsTriv opsData opsTree opsOb none).2.sink.data = List.replicate 64 7 := by
  obtain ⟨h1, h2, h3, -⟩ := ob_runs (outboardF opsTriv opsData opsTree opsOb none) _ rfl rfl
  rw [obLog]
  exact ⟨h1, h2, h3⟩

/-- with no fault the twin is `outboard` (same result, same store) -/
theorem obF_none (hf : HashFns H) (data : List UInt8) (tree : Tree) (ob : Store H) :
    (outboardF hf data tree ob none).2 = outboard hf data tree ob :=
  obLoop_none ..

/-- the fault-free run performs every call of its log: the store is the initial store after the
logged saves -/
theorem obF_sound (hf : HashFns H) (data : List UInt8) (tree : Tree) (ob : Store H) :
    (outboard hf data tree ob).sink = savedOf hf ob (obLog hf data tree ob) := by
  rw [← obF_none, ob_sound (apS hf) ob _ (ob_replay hf data tree ob)]
  rfl

/-- the fault is reached: the faulty run is the fault-free run cut right after the failing call `e`;
it made the calls `pre ++ [e]` and no other, ends with the injected io error, and the saves applied
to the outboard are exactly the saves before `e` -/
theorem obF_cut (hf : HashFns H) (data : List UInt8) (tree : Tree) (ob : Store H) (obj : FObj)
    (k : Nat) (kind : IoKind) (hk : k < ((obLog hf data tree ob).map FEv.obj).count (some obj)) :
    ∃ pre e post, obLog hf data tree ob = pre ++ e :: post ∧ e.obj = some obj ∧
      (pre.map FEv.obj).count (some obj) = k ∧
      outboardF hf data tree ob (some ⟨obj, k, kind⟩) =
        (pre ++ [e], ⟨.err ⟨kind, true⟩, savedOf hf ob pre⟩) :=
  ob_cut (apS hf) ob _ (ob_replay hf data tree ob) obj k kind hk

/-- `outboard`: the fault is not reached (the fault-free log has at most `k` calls on `obj`): same run -/
theorem obF_unreached (hf : HashFns H) (data : List UInt8) (tree : Tree) (ob : Store H)
    (obj : FObj) (k : Nat) (kind : IoKind)
    (hk : ((obLog hf data tree ob).map FEv.obj).count (some obj) ≤ k) :
    outboardF hf data tree ob (some ⟨obj, k, kind⟩) = outboardF hf data tree ob none :=
  ob_unreached (apS hf) ob _ (ob_replay hf data tree ob) obj k kind hk

/-- every run - faulty or not - is the replay of the fault-free log against the fault, counters
starting at 0 -/
theorem obF_counters (hf : HashFns H) (data : List UInt8) (tree : Tree) (ob : Store H)
    (fault : Option Fault) :
    outboardF hf data tree ob fault =
      asmOb (replay (apS hf) fault (obLog hf data tree ob) ob 0 0 0 0 0)
        (outboardF hf data tree ob none).2.res :=
  ob_replay ..

example : (0 : Nat) < ((obLog opsTriv opsData opsTree opsOb).map FEv.obj).count (some .ob) ∧
    ((obLog opsTriv opsData opsTree opsOb).map FEv.obj).count (some .ob) ≤ 1 := by
  rw [obLog, (ob_runs (outboardF opsTriv opsData opsTree opsOb none) _ rfl rfl).1]
  decide

/-- the example: the save fails: nothing is stored -/
example : (outboardF opsTriv opsData opsTree opsOb (some ⟨.ob, 0, .writeZero⟩)).1 =
      [.read 1024, .read 476, .save .ob 0 0 0] ∧
    (outboardF opsTriv opsData opsTree opsOb (some ⟨.ob, 0, .writeZero⟩)).2.res =
      .err ⟨.writeZero, true⟩ ∧
    (outboardF opsTriv opsData opsTree opsOb (some ⟨.ob, 0, .writeZero⟩)).2.sink.data =
      List.replicate 64 0 :=
  (ob_runs _ (outboardF opsTriv opsData opsTree opsOb (some ⟨.ob, 0, .writeZero⟩)) rfl rfl).2.2.2

/-- for every fault: the calls made are a prefix of the fault-free calls; the saves applied are
those of a prefix `pre` of the fault-free log, and the fault-free store is the faulty one after the
remaining saves -/
theorem obF_prefix (hf : HashFns H) (data : List UInt8) (tree : Tree) (ob : Store H)
    (fault : Option Fault) :
    (outboardF hf data tree ob fault).1 <+: obLog hf data tree ob ∧
    ∃ pre rest, obLog hf data tree ob = pre ++ rest ∧ savesOf pre <+: savesOf (obLog hf data tree ob) ∧
      (outboardF hf data tree ob fault).2.sink = savedOf hf ob pre ∧
      (outboardF hf data tree ob none).2.sink =
        savedOf hf (outboardF hf data tree ob fault).2.sink rest := by
  obtain ⟨h1, pre, rest, h2, h3, h4⟩ := ob_prefix (apS hf) ob _ (ob_replay hf data tree ob) fault
  exact ⟨h1, pre, rest, h2, savesOf_prefix h2, h3, h4⟩

/-- a reached fault is reported as the injected io error: never `ok`, never a panic -/
theorem obF_never_ok (hf : HashFns H) (data : List UInt8) (tree : Tree) (ob : Store H) (obj : FObj)
    (k : Nat) (kind : IoKind) (hk : k < ((obLog hf data tree ob).map FEv.obj).count (some obj)) :
    (outboardF hf data tree ob (some ⟨obj, k, kind⟩)).2.res = .err ⟨kind, true⟩ :=
  ob_never_ok (apS hf) ob _ (ob_replay hf data tree ob) obj k kind hk

/-- no fault turns `outboard` into a panic: if the fault-free run does not panic, no faulty run does -/
theorem obF_no_panic (hf : HashFns H) (data : List UInt8) (tree : Tree) (ob : Store H)
    (fault : Option Fault) (h : (outboardF hf data tree ob none).2.res ≠ .panic) :
    (outboardF hf data tree ob fault).2.res ≠ .panic :=
  ob_no_panic (apS hf) ob _ (ob_replay hf data tree ob) fault h

example : (outboardF opsTriv opsData opsTree opsOb none).2.res ≠ .panic := by
  rw [(ob_runs (outboardF opsTriv opsData opsTree opsOb none) _ rfl rfl).2.1]
  decide

/-- `init_from`: with no fault the twin is `initFrom` -/
theorem initFromF_none (hf : HashFns H) (data : List UInt8) (ob : Store H) :
    (initFromF hf data ob none).2.1 = initFrom hf data ob := by
  unfold initFromF initFrom
  rw [← obF_none]
  rcases outboardF hf data ob.tree ob none with ⟨log, ⟨(root | e | _), ob'⟩⟩ <;> rfl

/-- `init_from` with a reached fault: the calls `pre ++ [e]`, the injected error, and the store is
left with the saves before `e` (its root is not touched) -/
theorem initFromF_cut (hf : HashFns H) (data : List UInt8) (ob : Store H) (obj : FObj)
    (k : Nat) (kind : IoKind) (hk : k < ((obLog hf data ob.tree ob).map FEv.obj).count (some obj)) :
    ∃ pre e post, obLog hf data ob.tree ob = pre ++ e :: post ∧ e.obj = some obj ∧
      (pre.map FEv.obj).count (some obj) = k ∧
      initFromF hf data ob (some ⟨obj, k, kind⟩) =
        (pre ++ [e], .err ⟨kind, true⟩, savedOf hf ob pre) := by
  obtain ⟨pre, e, post, h1, h2, h3, h4⟩ := obF_cut hf data ob.tree ob obj k kind hk
  refine ⟨pre, e, post, h1, h2, h3, ?_⟩
  unfold initFromF
  rw [h4]

example : (0 : Nat) < ((obLog opsTriv opsData opsOb.tree opsOb).map FEv.obj).count (some .ob) := by
  rw [obLog, (ob_runs (outboardF opsTriv opsData opsOb.tree opsOb none) _ rfl rfl).1]
  decide

/-- the log (io calls) of the fault-free run of `copy` -/
def copyLog (hf : HashFns H) (fl : Flavour) (src dst : Store H) : List (FEv H) :=
  (copyF hf fl src dst none).1

/-- the fault-free run of the example (pre-order into post-order): load node 0, save node 0 -/
example : copyLog opsTriv .sync opsOb opsObPost = [.load .src 0, .save .dst 0 0 0] ∧
    (copyF opsTriv .sync opsOb opsObPost none).2.res = .ok () ∧
    (copyF opsTriv .sync opsOb opsObPost none).2.sink.data = List.replicate 64 7 := by
  rw [copyLog]
  exact copy_run (copyF opsTriv .sync opsOb opsObPost none) rfl

/-- with no fault the twin is `copy` -/
theorem copyF_none (hf : HashFns H) (fl : Flavour) (src dst : Store H) :
    (copyF hf fl src dst none).2.toRes = copy hf fl src dst :=
  copyLoop_none ..

/-- the fault-free run performs every call of its log: the target is the initial target after the
logged saves -/
theorem copyF_sound (hf : HashFns H) (fl : Flavour) (src dst : Store H) :
    (copyF hf fl src dst none).2.sink = savedOf hf dst (copyLog hf fl src dst) :=
  ob_sound (apS hf) dst _ (copy_replay hf fl src dst)

/-- the fault is reached: the faulty run is the fault-free run cut right after the failing call `e`
(a `load` on the source or a `save` on the target); it made the calls `pre ++ [e]` and no other, ends
with the injected io error, and the saves applied to the target are exactly the saves before `e` -/
theorem copyF_cut (hf : HashFns H) (fl : Flavour) (src dst : Store H) (obj : FObj) (k : Nat)
    (kind : IoKind) (hk : k < ((copyLog hf fl src dst).map FEv.obj).count (some obj)) :
    ∃ pre e post, copyLog hf fl src dst = pre ++ e :: post ∧ e.obj = some obj ∧
      (pre.map FEv.obj).count (some obj) = k ∧
      copyF hf fl src dst (some ⟨obj, k, kind⟩) =
        (pre ++ [e], ⟨.err ⟨kind, true⟩, savedOf hf dst pre⟩) :=
  ob_cut (apS hf) dst _ (copy_replay hf fl src dst) obj k kind hk

/-- `copy`: the fault is not reached (the fault-free log has at most `k` calls on `obj`): same run -/
theorem copyF_unreached (hf : HashFns H) (fl : Flavour) (src dst : Store H) (obj : FObj) (k : Nat)
    (kind : IoKind) (hk : ((copyLog hf fl src dst).map FEv.obj).count (some obj) ≤ k) :
    copyF hf fl src dst (some ⟨obj, k, kind⟩) = copyF hf fl src dst none :=
  ob_unreached (apS hf) dst _ (copy_replay hf fl src dst) obj k kind hk

/-- every run - faulty or not - is the replay of the fault-free log against the fault, counters
starting at 0 -/
theorem copyF_counters (hf : HashFns H) (fl : Flavour) (src dst : Store H) (fault : Option Fault) :
    copyF hf fl src dst fault =
      asmOb (replay (apS hf) fault (copyLog hf fl src dst) dst 0 0 0 0 0)
        (copyF hf fl src dst none).2.res :=
  copy_replay ..

example : (0 : Nat) < ((copyLog opsTriv .sync opsOb opsObPost).map FEv.obj).count (some .dst) ∧
    ((copyLog opsTriv .sync opsOb opsObPost).map FEv.obj).count (some .src) ≤ 1 := by
  rw [copyLog, (copy_run (copyF opsTriv .sync opsOb opsObPost none) rfl).1]
  decide

/-- the example: the save on the target fails: the target is unchanged, `copy` returns the error -/
example : (copyF opsTriv .fsm opsOb opsObPost (some ⟨.dst, 0, .other⟩)).1 =
      [.load .src 0, .save .dst 0 0 0] ∧
    (copyF opsTriv .fsm opsOb opsObPost (some ⟨.dst, 0, .other⟩)).2.res = .err ⟨.other, true⟩ ∧
    (copyF opsTriv .fsm opsOb opsObPost (some ⟨.dst, 0, .other⟩)).2.sink.data =
      List.replicate 64 0 := by
  decide +kernel

/-- for every fault: the calls made are a prefix of the fault-free calls; the saves applied to the
target are those of a prefix `pre` of the fault-free log, and the fault-free target is the faulty
one after the remaining saves -/
theorem copyF_prefix (hf : HashFns H) (fl : Flavour) (src dst : Store H) (fault : Option Fault) :
    (copyF hf fl src dst fault).1 <+: copyLog hf fl src dst ∧
    ∃ pre rest, copyLog hf fl src dst = pre ++ rest ∧ savesOf pre <+: savesOf (copyLog hf fl src dst) ∧
      (copyF hf fl src dst fault).2.sink = savedOf hf dst pre ∧
      (copyF hf fl src dst none).2.sink = savedOf hf (copyF hf fl src dst fault).2.sink rest := by
  obtain ⟨h1, pre, rest, h2, h3, h4⟩ := ob_prefix (apS hf) dst _ (copy_replay hf fl src dst) fault
  exact ⟨h1, pre, rest, h2, savesOf_prefix h2, h3, h4⟩

/-- a reached fault is reported as the injected io error: `copy` returns `Err`, never `Ok`, never
panics -/
theorem copyF_never_ok (hf : HashFns H) (fl : Flavour) (src dst : Store H) (obj : FObj) (k : Nat)
    (kind : IoKind) (hk : k < ((copyLog hf fl src dst).map FEv.obj).count (some obj)) :
    (copyF hf fl src dst (some ⟨obj, k, kind⟩)).2.res = .err ⟨kind, true⟩ ∧
    (copyF hf fl src dst (some ⟨obj, k, kind⟩)).2.toRes = .err ⟨kind, true⟩ := by
  have h := ob_never_ok (apS hf) dst _ (copy_replay hf fl src dst) obj k kind hk
  refine ⟨h, ?_⟩
  unfold ObRun.toRes
  rw [h]

/-- no fault turns `copy` into a panic: if the fault-free run does not panic, no faulty run does -/
theorem copyF_no_panic (hf : HashFns H) (fl : Flavour) (src dst : Store H) (fault : Option Fault)
    (h : (copyF hf fl src dst none).2.res ≠ .panic) :
    (copyF hf fl src dst fault).2.res ≠ .panic :=
  ob_no_panic (apS hf) dst _ (copy_replay hf fl src dst) fault h

example : (copyF opsTriv .sync opsOb opsObPost none).2.res ≠ .panic := by
  rw [(copy_run (copyF opsTriv .sync opsOb opsObPost none) rfl).2.1]
  decide

/-- the log (io calls and yields) of the fault-free run of `valid_ranges` -/
def validLog (hf : HashFns H) [BEq H] (fl : Flavour) (ob : Store H) (data : List UInt8)
    (q : Ranges) : List (FEv H) :=
  (validRangesF hf fl ob data q none).1

/-- the fault-free run of the example: load node 0, then read / yield each chunk -/
example : validLog opsTriv .sync opsOb opsData [0] =
      [.load .ob 0, .readAt 0 1024, .yield 0 1, .readAt 1024 476, .yield 1 2] ∧
    (validRangesF opsTriv .sync opsOb opsData [0] none).2 = ⟨[(0, 1), (1, 2)], .ok⟩ := by
  rw [validLog, (valid_runs (validRangesF opsTriv .sync opsOb opsData [0] none) _ rfl rfl).1]
  exact ⟨rfl, rfl⟩

/-- with no fault the twin is `validRanges` (same yields, same terminal) -/
theorem validF_none (hf : HashFns H) [BEq H] (fl : Flavour) (ob : Store H) (data : List UInt8)
    (q : Ranges) :
    (validRangesF hf fl ob data q none).2 = validRanges hf fl ob data q :=
  validRangesF_none_run ..

/-- every run - faulty or not - yields exactly the ranges logged as yielded -/
theorem validF_sound (hf : HashFns H) [BEq H] (fl : Flavour) (ob : Store H) (data : List UInt8)
    (q : Ranges) (fault : Option Fault) :
    (validRangesF hf fl ob data q fault).2.yields = yieldsOf (validRangesF hf fl ob data q fault).1 :=
  validRanges_yields ..

/-- the fault is reached: the faulty run is the fault-free run cut right after the failing call `e`
(a `load` on the outboard or a positional read on the data): it made the calls `pre ++ [e]` and no
other, it yields the ranges yielded before `e` and then the injected io error as its LAST item -/
theorem validF_cut (hf : HashFns H) [BEq H] (fl : Flavour) (ob : Store H) (data : List UInt8)
    (q : Ranges) (obj : FObj) (k : Nat) (kind : IoKind)
    (hk : k < ((validLog hf fl ob data q).map FEv.obj).count (some obj)) :
    ∃ pre e post, validLog hf fl ob data q = pre ++ e :: post ∧ e.obj = some obj ∧
      (pre.map FEv.obj).count (some obj) = k ∧
      validRangesF hf fl ob data q (some ⟨obj, k, kind⟩) =
        (pre ++ [e], ⟨yieldsOf pre, .err ⟨kind, true⟩⟩) :=
  val_cut _ (validRanges_replay hf fl ob data q) (validRanges_yields hf fl ob data q) obj k kind hk

/-- `valid_ranges`: the fault is not reached (the fault-free log has at most `k` calls on `obj`): same run -/
theorem validF_unreached (hf : HashFns H) [BEq H] (fl : Flavour) (ob : Store H)
    (data : List UInt8) (q : Ranges) (obj : FObj) (k : Nat) (kind : IoKind)
    (hk : ((validLog hf fl ob data q).map FEv.obj).count (some obj) ≤ k) :
    validRangesF hf fl ob data q (some ⟨obj, k, kind⟩) = validRangesF hf fl ob data q none :=
  val_unreached _ (validRanges_replay hf fl ob data q) (validRanges_yields hf fl ob data q)
    obj k kind hk

/-- every run - faulty or not - is the replay of the fault-free log against the fault, counters
starting at 0: same calls, and the terminal is the injected error if the replay is cut, that of the
fault-free run otherwise (`viewV r = (log, (), terminal)`) -/
theorem validF_counters (hf : HashFns H) [BEq H] (fl : Flavour) (ob : Store H) (data : List UInt8)
    (q : Ranges) (fault : Option Fault) :
    viewV (validRangesF hf fl ob data q fault) =
      asm ValEnd.err (replay apU fault (validLog hf fl ob data q) () 0 0 0 0 0)
        (validRangesF hf fl ob data q none).2.terminal :=
  validRanges_replay ..

example : (1 : Nat) < ((validLog opsTriv .sync opsOb opsData [0]).map FEv.obj).count (some .data) ∧
    ((validLog opsTriv .sync opsOb opsData [0]).map FEv.obj).count (some .ob) ≤ 1 := by
  rw [validLog, (valid_runs (validRangesF opsTriv .sync opsOb opsData [0] none) _ rfl rfl).1]
  decide

/-- the example: the second read fails: the first range, then the error -/
example : validRangesF opsTriv .fsm opsOb opsData [0] (some ⟨.data, 1, .unexpectedEof⟩) =
    ([.load .ob 0, .readAt 0 1024, .yield 0 1, .readAt 1024 476],
      ⟨[(0, 1)], .err ⟨.unexpectedEof, true⟩⟩) :=
  (valid_runs _ _ rfl rfl).2

/-- for every fault: the calls made and the ranges yielded are prefixes of the fault-free ones -/
theorem validF_prefix (hf : HashFns H) [BEq H] (fl : Flavour) (ob : Store H) (data : List UInt8)
    (q : Ranges) (fault : Option Fault) :
    (validRangesF hf fl ob data q fault).1 <+: validLog hf fl ob data q ∧
    (validRangesF hf fl ob data q fault).2.yields <+: (validRangesF hf fl ob data q none).2.yields :=
  val_prefix _ (validRanges_replay hf fl ob data q) (validRanges_yields hf fl ob data q) fault

/-- a reached fault is reported as the injected io error (the last item of the validator): the run
does not end `ok`, does not panic, and yields no range after the error -/
theorem validF_never_ok (hf : HashFns H) [BEq H] (fl : Flavour) (ob : Store H) (data : List UInt8)
    (q : Ranges) (obj : FObj) (k : Nat) (kind : IoKind)
    (hk : k < ((validLog hf fl ob data q).map FEv.obj).count (some obj)) :
    (validRangesF hf fl ob data q (some ⟨obj, k, kind⟩)).2.terminal = .err ⟨kind, true⟩ :=
  val_never_ok _ (validRanges_replay hf fl ob data q) (validRanges_yields hf fl ob data q)
    obj k kind hk

/-- no fault turns `valid_ranges` into a panic: if the fault-free run does not panic, no faulty run does -/
theorem validF_no_panic (hf : HashFns H) [BEq H] (fl : Flavour) (ob : Store H) (data : List UInt8)
    (q : Ranges) (fault : Option Fault)
    (h : (validRangesF hf fl ob data q none).2.terminal ≠ .panic) :
    (validRangesF hf fl ob data q fault).2.terminal ≠ .panic :=
  val_no_panic _ (validRanges_replay hf fl ob data q) (validRanges_yields hf fl ob data q) fault h

example : (validRangesF opsTriv .sync opsOb opsData [0] none).2.terminal ≠ .panic := by
  rw [(valid_runs (validRangesF opsTriv .sync opsOb opsData [0] none) _ rfl rfl).1]
  decide

/-- the log (io calls and yields) of the fault-free run of `valid_outboard_ranges` -/
def validObLog (hf : HashFns H) [BEq H] (fl : Flavour) (ob : Store H) (q : Ranges) : List (FEv H) :=
  (validOutboardRangesF hf fl ob q none).1

/-- the fault-free run of the example: load node 0, yield both chunks -/
example : validObLog opsTriv .sync opsOb [0] = [.load .ob 0, .yield 0 1, .yield 1 2] ∧
    (validOutboardRangesF opsTriv .sync opsOb [0] none).2 = ⟨[(0, 1), (1, 2)], .ok⟩ := by
  decide +kernel

/-- with no fault the twin is `validOutboardRanges` -/
theorem validObF_none (hf : HashFns H) [BEq H] (fl : Flavour) (ob : Store H) (q : Ranges) :
    (validOutboardRangesF hf fl ob q none).2 = validOutboardRanges hf fl ob q :=
  validObF_none_run ..

/-- every run - faulty or not - yields exactly the ranges logged as yielded -/
theorem validObF_sound (hf : HashFns H) [BEq H] (fl : Flavour) (ob : Store H) (q : Ranges)
    (fault : Option Fault) :
    (validOutboardRangesF hf fl ob q fault).2.yields =
      yieldsOf (validOutboardRangesF hf fl ob q fault).1 :=
  validOb_yields ..

/-- the fault is reached: the faulty run is the fault-free run cut right after the failing `load`:
it made the calls `pre ++ [e]` and no other, it yields the ranges yielded before `e` and then the
injected io error as its LAST item -/
theorem validObF_cut (hf : HashFns H) [BEq H] (fl : Flavour) (ob : Store H) (q : Ranges)
    (obj : FObj) (k : Nat) (kind : IoKind)
    (hk : k < ((validObLog hf fl ob q).map FEv.obj).count (some obj)) :
    ∃ pre e post, validObLog hf fl ob q = pre ++ e :: post ∧ e.obj = some obj ∧
      (pre.map FEv.obj).count (some obj) = k ∧
      validOutboardRangesF hf fl ob q (some ⟨obj, k, kind⟩) =
        (pre ++ [e], ⟨yieldsOf pre, .err ⟨kind, true⟩⟩) :=
  val_cut _ (validOb_replay hf fl ob q) (validOb_yields hf fl ob q) obj k kind hk

/-- `valid_outboard_ranges`: the fault is not reached (the fault-free log has at most `k` calls on `obj`): same run -/
theorem validObF_unreached (hf : HashFns H) [BEq H] (fl : Flavour) (ob : Store H) (q : Ranges)
    (obj : FObj) (k : Nat) (kind : IoKind)
    (hk : ((validObLog hf fl ob q).map FEv.obj).count (some obj) ≤ k) :
    validOutboardRangesF hf fl ob q (some ⟨obj, k, kind⟩) = validOutboardRangesF hf fl ob q none :=
  val_unreached _ (validOb_replay hf fl ob q) (validOb_yields hf fl ob q) obj k kind hk

/-- every run - faulty or not - is the replay of the fault-free log against the fault -/
theorem validObF_counters (hf : HashFns H) [BEq H] (fl : Flavour) (ob : Store H) (q : Ranges)
    (fault : Option Fault) :
    viewV (validOutboardRangesF hf fl ob q fault) =
      asm ValEnd.err (replay apU fault (validObLog hf fl ob q) () 0 0 0 0 0)
        (validOutboardRangesF hf fl ob q none).2.terminal :=
  validOb_replay ..

example : (0 : Nat) < ((validObLog opsTriv .sync opsOb [0]).map FEv.obj).count (some .ob) ∧
    ((validObLog opsTriv .sync opsOb [0]).map FEv.obj).count (some .data) ≤ 0 := by
  decide +kernel

/-- the example: the load fails: no range, the error -/
example : validOutboardRangesF opsTriv .sync opsOb [0] (some ⟨.ob, 0, .other⟩) =
    ([.load .ob 0], ⟨[], .err ⟨.other, true⟩⟩) := by
  decide +kernel

/-- for every fault: the calls made and the ranges yielded are prefixes of the fault-free ones -/
theorem validObF_prefix (hf : HashFns H) [BEq H] (fl : Flavour) (ob : Store H) (q : Ranges)
    (fault : Option Fault) :
    (validOutboardRangesF hf fl ob q fault).1 <+: validObLog hf fl ob q ∧
    (validOutboardRangesF hf fl ob q fault).2.yields <+:
      (validOutboardRangesF hf fl ob q none).2.yields :=
  val_prefix _ (validOb_replay hf fl ob q) (validOb_yields hf fl ob q) fault

/-- a reached fault is reported as the injected io error (the last item of the validator) -/
theorem validObF_never_ok (hf : HashFns H) [BEq H] (fl : Flavour) (ob : Store H) (q : Ranges)
    (obj : FObj) (k : Nat) (kind : IoKind)
    (hk : k < ((validObLog hf fl ob q).map FEv.obj).count (some obj)) :
    (validOutboardRangesF hf fl ob q (some ⟨obj, k, kind⟩)).2.terminal = .err ⟨kind, true⟩ :=
  val_never_ok _ (validOb_replay hf fl ob q) (validOb_yields hf fl ob q) obj k kind hk

/-- no fault turns `valid_outboard_ranges` into a panic: if the fault-free run does not panic, no faulty run does -/
theorem validObF_no_panic (hf : HashFns H) [BEq H] (fl : Flavour) (ob : Store H) (q : Ranges)
    (fault : Option Fault) (h : (validOutboardRangesF hf fl ob q none).2.terminal ≠ .panic) :
    (validOutboardRangesF hf fl ob q fault).2.terminal ≠ .panic :=
  val_no_panic _ (validOb_replay hf fl ob q) (validOb_yields hf fl ob q) fault h

example : (validOutboardRangesF opsTriv .sync opsOb [0] none).2.terminal ≠ .panic := by
  decide +kernel

/-!
## Status (C10: `outboard_post_order`, `outboard` / `init_from`, `copy`, `valid_ranges`,
`valid_outboard_ranges`; sync and fsm)

PROVED, for every `hf`, data, tree, store(s), flavour, query and fault: `opsF_cut_unique`, and for
`X` = `obpoF` (`outboard_post_order`), `obF` (`outboard`), `copyF` (`copy`), `validF` (`valid_ranges`),
`validObF` (`valid_outboard_ranges`): `X_none`, `X_sound`, `X_counters`, `X_cut`, `X_unreached`,
`X_prefix`, `X_never_ok`, `X_no_panic`; for `init_from`: `initFromF_none`, `initFromF_cut`.

PARTIAL: none.   OPEN: none.

"no further operation on the failed object": the own log of a faulty run is `pre ++ [e]`, the failing
call is its last entry, so there is no later call on any object; for the validators no range is
yielded after it either (yields are log entries).

"never a hash mismatch": these operations have no hash-mismatch outcome (`Res IoErr _` / `ValEnd`).

model remarks:
* granularity: a call is one `read_exact` / `read_bytes_exact` / `read_exact_at` / `write_all` /
  `write` / `load` / `save`; a zero-length read (the single leaf of the empty blob; `valid_ranges` on
  an empty blob) is counted and can be hit by a fault, although `read_exact(&mut [])` of the Rust
  standard traits makes no call on the underlying object (same convention as `Ops4.opTrace` and the
  encoders).
* the backing file of an io outboard (`"obio"` in `Ops4.opTrace`: one positional read / write per
  `load` / `save`) is not a separate object here: `.ob` / `.src` / `.dst` calls are `load` / `save`.
* a call that fails by itself (`save` on a node without a slot, `load` on a short backing, a short
  data stream), panics or is followed by a hash mismatch in a validator is logged as a call; a fault
  pointing at it reports the injected error instead (`_cut`).
* `outboard` / `outboard_post_order`: a parent with fewer than two hashes on the stack panics before
  any io (`stack.pop().unwrap()` comes first in the Rust code as well): nothing is logged.
* `Ops4.opTrace "valid-*"/"validob-*"` is the skeleton for an INTACT outboard; for the `EmptyOutboard`
  (`StoreKind.empty`) the validators stop after the first `load` (zero pair ≠ root), so the log of
  `validRangesF` is `[load root]` there while the skeleton lists the whole traversal.
-/

end Bao.C10
