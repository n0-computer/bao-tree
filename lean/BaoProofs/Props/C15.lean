import BaoProofs.Lemmas.PlanPreTop

/-!
# C15 (pre-order half) — the public chunk plans are well-shaped

"For every blob size, block size, minimum-leaf level and query, the public chunk plans list
leaves that are disjoint, in increasing order, each inside one subtree, and together cover
exactly the chunk groups (or, below the block size, chunks) the selection touches.  Every parent
comes before its subtree, its left/right flags say which children follow, the root flag is set
on exactly the root item, and running the hash stack over the plan never underflows and ends
balanced."

This file treats `Tree.prePartialChunks` (`ranges_pre_order_chunks_iter_ref`, the explicit-stack
iterator `PreOrderPartialChunkIterRef`) and `Tree.responseChunks` (`ResponseIter`).  The
post-order plan is in `Props/C15Post.lean`.

Method.  `PlanPre.plan t ml q` (`Lemmas/PlanPre.lean`) is the plan written as a structural
recursion over the shifted tree.  `pre_refines` shows that the iterator of the model — stack,
buffer, `right_descendant` skipping, fuel — yields exactly this list and never reaches one of
its three panic branches.  All shape properties are proved on the recursion
(`Lemmas/PlanPreShape.lean`, `Lemmas/PlanPreCover.lean`, `Lemmas/PlanPreExact.lean`) and
transported here.

Vocabulary (definitions in the lemma files, namespace `Bao.PlanPre`):
* `stackRun h p : Option Nat` — run the decoder's hash stack over `p` starting with `h` expected
  hashes: every item needs `h ≥ 1` and pops one, a parent pushes one per set flag; `none` =
  underflow;
* `Chunk.rootFlag` — the `is_root` field of an item;
* `leafSpans p` — the chunk spans `(start, start + max 1 ⌈size/1024⌉)` of the leaf items of `p`,
  in order (`max 1`: the empty blob has one empty chunk);
* `SpansIn lo hi l` — all spans of `l` are non-empty, inside `[lo, hi)`, and consecutive spans do
  not overlap (`a.2 ≤ b.1` for `a` before `b`);
* `covered p c` — some leaf item of `p` has `c` in its span;
* `Spec.selected size q c` — chunk `c` of the blob is selected by `q` (queried chunks inside the
  blob, plus the last chunk when the query reaches it or beyond).

Bounds: `size ≤ 2^63`, `bs ≤ 10` (the crate's `BlockSize` is at most 10 in practice; this is
what makes real node ids fit into a `u64`).
-/

namespace Bao.C15
open Bao Bao.Spec Bao.PlanPre

variable {size bs ml : Nat} {q : Ranges} {p : List Chunk}

/-- the explicit-stack iterator yields exactly the recursive plan: no `debug_assert!` /
`unwrap()` panic is reachable and `3·filled + 6` calls of `next` exhaust it -/
theorem pre_refines (hs : size ≤ 2 ^ 63) (hbs : bs ≤ 10) :
    Tree.prePartialChunks ⟨size, bs⟩ q ml = some (plan ⟨size, bs⟩ ml q) :=
  planPre_refines size bs ml q hs hbs

/-- the same with ANY number of `next` calls that is at least the length of the plan (which is at
most three items per node of the shifted tree): the fuel of the model is not what makes the
statement true -/
theorem pre_refines_any_fuel (hs : size ≤ 2 ^ 63) (hbs : bs ≤ 10) (fuel : Nat)
    (hf : (plan ⟨size, bs⟩ ml q).length ≤ fuel) :
    PrePartial.run fuel (PrePartial.new ⟨size, bs⟩ q ml) = some (plan ⟨size, bs⟩ ml q) ∧
    (plan ⟨size, bs⟩ ml q).length ≤ 3 * (Tree.shifted ⟨size, bs⟩).2 :=
  ⟨new_run_eq size bs ml q hs hbs fuel hf, plan_length_le _ _ _⟩

example : (20000 : Nat) ≤ 2 ^ 63 ∧ (1 : Nat) ≤ 10 ∧ (plan ⟨20000, 1⟩ 0 [1, 3]).length ≤ 6 :=
  ⟨by decide, by decide, by rw [plan_example]; decide⟩

/-- the iterators never panic -/
theorem pre_total (hs : size ≤ 2 ^ 63) (hbs : bs ≤ 10) :
    (Tree.prePartialChunks ⟨size, bs⟩ q ml).isSome = true ∧
    (Tree.responseChunks ⟨size, bs⟩ q).isSome = true := by
  rw [planPre_refines size bs ml q hs hbs, PlanPre.response_refines size bs q hs]
  exact ⟨rfl, rfl⟩

example : (20000 : Nat) ≤ 2 ^ 63 ∧ (1 : Nat) ≤ 10 := by decide

/-- the response plan is the recursive plan of the block-size-0 tree with `min_full_level = bs`,
ranges erased -/
theorem response_refines (hs : size ≤ 2 ^ 63) :
    Tree.responseChunks ⟨size, bs⟩ q = some ((plan ⟨size, 0⟩ bs q).map Chunk.withoutRanges) :=
  PlanPre.response_refines size bs q hs

/-- an empty query has an empty plan (not even the root; after fix D2) -/
theorem pre_empty (hs : size ≤ 2 ^ 63) (hbs : bs ≤ 10) :
    Tree.prePartialChunks ⟨size, bs⟩ [] ml = some [] := by
  rw [pre_refines hs hbs, plan_nil]

theorem eq_plan (hs : size ≤ 2 ^ 63) (hbs : bs ≤ 10)
    (hp : Tree.prePartialChunks ⟨size, bs⟩ q ml = some p) : p = plan ⟨size, bs⟩ ml q := by
  rw [pre_refines hs hbs] at hp; exact (Option.some.inj hp).symm

theorem eq_plan_response (hs : size ≤ 2 ^ 63)
    (hp : Tree.responseChunks ⟨size, bs⟩ q = some p) :
    p = (plan ⟨size, 0⟩ bs q).map Chunk.withoutRanges := by
  rw [response_refines hs] at hp; exact (Option.some.inj hp).symm

/-- the running example: 20000 bytes, chunk groups of 2 chunks, query chunks `[1, 3)` -/
example : (20000 : Nat) ≤ 2 ^ 63 ∧ (1 : Nat) ≤ 10 ∧
    Tree.prePartialChunks ⟨20000, 1⟩ [1, 3] 0 = some
      [.parent 15 true true false [1, 3], .parent 7 false true false [1, 3],
       .parent 3 false true false [1, 3], .parent 1 false true true [1, 3],
       .leaf 0 2048 false [1], .leaf 2 2048 false [1, 3]] :=
  ⟨by decide, by decide, by rw [pre_refines (by decide) (by decide), plan_example]⟩

example : (20000 : Nat) ≤ 2 ^ 63 ∧
    Tree.responseChunks ⟨20000, 1⟩ [1, 3] = some
      [.parent 15 true true false [], .parent 7 false true false [],
       .parent 3 false true false [], .parent 1 false true true [],
       .parent 0 false false true [], .leaf 1 1024 false [],
       .parent 2 false true false [], .leaf 2 1024 false []] :=
  ⟨by decide, by rw [response_refines (by decide), plan_example_response]; rfl⟩

/-- starting with one expected hash (the root), the stack never underflows — neither at the end
nor on any prefix — and ends empty -/
theorem stack_discipline (hs : size ≤ 2 ^ 63) (hbs : bs ≤ 10) (hq : q ≠ [])
    (hp : Tree.prePartialChunks ⟨size, bs⟩ q ml = some p) :
    stackRun 1 p = some 0 ∧ ∀ n, (stackRun 1 (p.take n)).isSome = true := by
  rw [eq_plan hs hbs hp]
  exact ⟨plan_stack size bs ml q hs hbs hq, plan_stack_prefix size bs ml q hs hbs hq⟩

theorem stack_discipline_response (hs : size ≤ 2 ^ 63) (hq : q ≠ [])
    (hp : Tree.responseChunks ⟨size, bs⟩ q = some p) :
    stackRun 1 p = some 0 ∧ ∀ n, (stackRun 1 (p.take n)).isSome = true := by
  rw [eq_plan_response hs hp]
  refine ⟨by rw [stackRun_withoutRanges]; exact plan_stack size 0 bs q hs (Nat.zero_le _) hq, ?_⟩
  intro n
  rw [← List.map_take, stackRun_withoutRanges]
  exact plan_stack_prefix size 0 bs q hs (Nat.zero_le _) hq n

example : (20000 : Nat) ≤ 2 ^ 63 ∧ (1 : Nat) ≤ 10 ∧ ([1, 3] : Ranges) ≠ [] ∧
    (Tree.prePartialChunks ⟨20000, 1⟩ [1, 3] 0).isSome = true ∧
    (Tree.responseChunks ⟨20000, 1⟩ [1, 3]).isSome = true :=
  ⟨by decide, by decide, by decide, pre_total (by decide) (by decide)⟩

/-- `is_root` is set on the first item and on no other -/
theorem root_flag (hs : size ≤ 2 ^ 63) (hbs : bs ≤ 10) (hq : q ≠ [])
    (hp : Tree.prePartialChunks ⟨size, bs⟩ q ml = some p) :
    ∃ c tail, p = c :: tail ∧ c.rootFlag = true ∧ ∀ c' ∈ tail, c'.rootFlag = false := by
  rw [eq_plan hs hbs hp]
  exact plan_root size bs ml q hs hq

theorem root_flag_response (hs : size ≤ 2 ^ 63) (hq : q ≠ [])
    (hp : Tree.responseChunks ⟨size, bs⟩ q = some p) :
    ∃ c tail, p = c :: tail ∧ c.rootFlag = true ∧ ∀ c' ∈ tail, c'.rootFlag = false := by
  rw [eq_plan_response hs hp]
  exact root_withoutRanges (plan_root size 0 bs q hs hq)

example : (20000 : Nat) ≤ 2 ^ 63 ∧ (1 : Nat) ≤ 10 ∧ ([1, 3] : Ranges) ≠ [] ∧
    (Tree.prePartialChunks ⟨20000, 1⟩ [1, 3] 0).isSome = true ∧
    (Tree.responseChunks ⟨20000, 1⟩ [1, 3]).isSome = true :=
  ⟨by decide, by decide, by decide, pre_total (by decide) (by decide)⟩

/-- the `left` / `right` flags of a parent item say which halves of `split(ranges, node)` are
non-empty -/
theorem flags (hs : size ≤ 2 ^ 63) (hbs : bs ≤ 10)
    (hp : Tree.prePartialChunks ⟨size, bs⟩ q ml = some p) {node : Nat} {ir lf rf : Bool}
    {rs : Ranges} (h : Chunk.parent node ir lf rf rs ∈ p) :
    lf = !(Ranges.splitNode rs node).1.isEmpty ∧ rf = !(Ranges.splitNode rs node).2.isEmpty := by
  rw [eq_plan hs hbs hp] at h
  exact flags_item (shifted_geo size bs hs hbs) h

/-- a parent item is immediately followed by the complete plan `A` of its left half and then the
complete plan `B` of its right half: `A` (`B`) is non-empty iff the left (right) flag is set,
all its leaves lie in the left (right) half of the parent's chunk range, and it hashes to
exactly one value (it consumes one expected hash, net, whatever follows) -/
theorem parent_before_subtree (hs : size ≤ 2 ^ 63) (hbs : bs ≤ 10)
    (hp : Tree.prePartialChunks ⟨size, bs⟩ q ml = some p) {pre tail : List Chunk}
    {node : Nat} {ir lf rf : Bool} {rs : Ranges}
    (h : p = pre ++ Chunk.parent node ir lf rf rs :: tail) :
    ∃ A B post, tail = A ++ B ++ post ∧ (A ≠ [] ↔ lf = true) ∧ (B ≠ [] ↔ rf = true) ∧
      SpansIn (Node.chunkRange node).1 (Node.mid node) (leafSpans A) ∧
      SpansIn (Node.mid node) (Node.chunkRange node).2 (leafSpans B) ∧
      (lf = true → ∀ h rest, stackRun (h + 1) (A ++ rest) = stackRun h rest) ∧
      (rf = true → ∀ h rest, stackRun (h + 1) (B ++ rest) = stackRun h rest) := by
  rw [eq_plan hs hbs hp] at h
  exact plan_parent_subtree size bs ml q hs hbs h

theorem parent_before_subtree_response (hs : size ≤ 2 ^ 63)
    (hp : Tree.responseChunks ⟨size, bs⟩ q = some p) {pre tail : List Chunk}
    {node : Nat} {ir lf rf : Bool} {rs : Ranges}
    (h : p = pre ++ Chunk.parent node ir lf rf rs :: tail) :
    ∃ A B post, tail = A ++ B ++ post ∧ (A ≠ [] ↔ lf = true) ∧ (B ≠ [] ↔ rf = true) ∧
      SpansIn (Node.chunkRange node).1 (Node.mid node) (leafSpans A) ∧
      SpansIn (Node.mid node) (Node.chunkRange node).2 (leafSpans B) ∧
      (lf = true → ∀ h rest, stackRun (h + 1) (A ++ rest) = stackRun h rest) ∧
      (rf = true → ∀ h rest, stackRun (h + 1) (B ++ rest) = stackRun h rest) := by
  rw [eq_plan_response hs hp] at h
  obtain ⟨pre0, tail0, rs0, h0, ht⟩ := parent_occ_withoutRanges h
  obtain ⟨A, B, post, e, hA, hB, sA, sB, rA, rB⟩ :=
    plan_parent_subtree size 0 bs q hs (Nat.zero_le _) h0
  refine ⟨A.map Chunk.withoutRanges, B.map Chunk.withoutRanges, post.map Chunk.withoutRanges,
    by rw [ht, e, List.map_append, List.map_append], ?_, ?_, ?_, ?_, ?_, ?_⟩
  · rw [← hA]; simp
  · rw [← hB]; simp
  · rw [leafSpans_withoutRanges]; exact sA
  · rw [leafSpans_withoutRanges]; exact sB
  · intro h1 h rest; rw [stackRun_append_withoutRanges]; exact rA h1 h rest
  · intro h1 h rest; rw [stackRun_append_withoutRanges]; exact rB h1 h rest

example : (20000 : Nat) ≤ 2 ^ 63 ∧ (1 : Nat) ≤ 10 ∧
    Tree.prePartialChunks ⟨20000, 1⟩ [1, 3] 0 = some
      ([.parent 15 true true false [1, 3], .parent 7 false true false [1, 3],
       .parent 3 false true false [1, 3]] ++ .parent 1 false true true [1, 3] ::
       [.leaf 0 2048 false [1], .leaf 2 2048 false [1, 3]]) :=
  ⟨by decide, by decide, by rw [pre_refines (by decide) (by decide), plan_example]; rfl⟩

/-- the leaf spans are non-empty, pairwise non-overlapping in plan order
(`start_i + max 1 ⌈size_i/1024⌉ ≤ start_j` for `i < j`), hence the starts are strictly
increasing, and every leaf lies inside the blob -/
theorem leaves_increasing (hs : size ≤ 2 ^ 63) (hbs : bs ≤ 10)
    (hp : Tree.prePartialChunks ⟨size, bs⟩ q ml = some p) :
    (∀ a ∈ leafSpans p, a.1 < a.2) ∧
    (leafSpans p).Pairwise (fun a b => a.2 ≤ b.1) ∧
    (leafSpans p).Pairwise (fun a b => a.1 < b.1) ∧
    ∀ s z r x, Chunk.leaf s z r x ∈ p → toBytes s + z ≤ size := by
  rw [eq_plan hs hbs hp]
  have h := plan_spans size bs ml q hs hbs
  exact ⟨fun a ha => (h.1 a ha).2.1, h.2, spans_starts_increasing h,
    plan_leaf_in_blob size bs ml q hs hbs⟩

theorem leaves_increasing_response (hs : size ≤ 2 ^ 63)
    (hp : Tree.responseChunks ⟨size, bs⟩ q = some p) :
    (∀ a ∈ leafSpans p, a.1 < a.2) ∧
    (leafSpans p).Pairwise (fun a b => a.2 ≤ b.1) ∧
    (leafSpans p).Pairwise (fun a b => a.1 < b.1) ∧
    ∀ s z r x, Chunk.leaf s z r x ∈ p → toBytes s + z ≤ size := by
  rw [eq_plan_response hs hp, leafSpans_withoutRanges]
  have h := plan_spans size 0 bs q hs (Nat.zero_le _)
  exact ⟨fun a ha => (h.1 a ha).2.1, h.2, spans_starts_increasing h,
    forall_leaf_withoutRanges (plan_leaf_in_blob size 0 bs q hs (Nat.zero_le _))⟩

example : (20000 : Nat) ≤ 2 ^ 63 ∧ (1 : Nat) ≤ 10 ∧
    (Tree.prePartialChunks ⟨20000, 1⟩ [1, 3] 0).isSome = true ∧
    (Tree.responseChunks ⟨20000, 1⟩ [1, 3]).isSome = true :=
  ⟨by decide, by decide, pre_total (by decide) (by decide)⟩

/-- every selected chunk is covered by a leaf -/
theorem coverage_complete (hs : size ≤ 2 ^ 63) (hbs : bs ≤ 10) (hwf : Ranges.WF q = true)
    (hp : Tree.prePartialChunks ⟨size, bs⟩ q ml = some p) {c : Nat}
    (hsel : Spec.selected size q c = true) : covered p c := by
  rw [eq_plan hs hbs hp]
  exact plan_cover_complete size bs ml hs hbs q hwf c hsel

/-- every leaf contains a selected chunk -/
theorem coverage_sound (hs : size ≤ 2 ^ 63) (hbs : bs ≤ 10) (hwf : Ranges.WF q = true)
    (hp : Tree.prePartialChunks ⟨size, bs⟩ q ml = some p) {s z : Nat} {r : Bool} {x : Ranges}
    (hm : Chunk.leaf s z r x ∈ p) :
    ∃ c, s ≤ c ∧ c < s + max 1 (chunksOf z) ∧ Spec.selected size q c = true := by
  rw [eq_plan hs hbs hp] at hm
  exact plan_cover_sound size bs ml hs hbs q hwf s z r x hm

example : (20000 : Nat) ≤ 2 ^ 63 ∧ (1 : Nat) ≤ 10 ∧ Ranges.WF [1, 3] = true ∧
    Spec.selected 20000 [1, 3] 2 = true ∧
    Tree.prePartialChunks ⟨20000, 1⟩ [1, 3] 0 = some
      [.parent 15 true true false [1, 3], .parent 7 false true false [1, 3],
       .parent 3 false true false [1, 3], .parent 1 false true true [1, 3],
       .leaf 0 2048 false [1], .leaf 2 2048 false [1, 3]] :=
  ⟨by decide, by decide, by decide, by decide,
    by rw [pre_refines (by decide) (by decide), plan_example]⟩

/-- **group-exact coverage**, for every block size and every `min_full_level`: a chunk of the
blob is covered iff its chunk group contains a selected chunk — the leaves cover exactly the chunk
groups the selection touches -/
theorem coverage_groups (hs : size ≤ 2 ^ 63) (hbs : bs ≤ 10)
    (hwf : Ranges.WF q = true) (hp : Tree.prePartialChunks ⟨size, bs⟩ q ml = some p) {c : Nat}
    (hc : c < Spec.nChunks size) :
    covered p c ↔ ∃ x, x / 2 ^ bs = c / 2 ^ bs ∧ Spec.selected size q x = true := by
  rw [eq_plan hs hbs hp]
  exact plan_cover_groups_any size bs ml hs hbs q hwf c hc

example : (20000 : Nat) ≤ 2 ^ 63 ∧ (1 : Nat) ≤ 10 ∧ Ranges.WF [1, 3] = true ∧
    (3 : Nat) < Spec.nChunks 20000 ∧ (Tree.prePartialChunks ⟨20000, 1⟩ [1, 3] 0).isSome = true :=
  ⟨by decide, by decide, by decide, by decide, (pre_total (by decide) (by decide)).1⟩

/-- each leaf is a non-empty run of whole chunk groups clipped to the blob (`[s, min e' N)` with
`s`, `e'` multiples of the group size); a leaf whose ranges are not "all" is a single group -/
theorem leaf_groups (hs : size ≤ 2 ^ 63) (hbs : bs ≤ 10)
    (hp : Tree.prePartialChunks ⟨size, bs⟩ q ml = some p) {s z : Nat} {r : Bool} {x : Ranges}
    (hm : Chunk.leaf s z r x ∈ p) :
    s % 2 ^ bs = 0 ∧ ∃ e', e' % 2 ^ bs = 0 ∧ s < e' ∧
      s + max 1 (chunksOf z) = min e' (Spec.nChunks size) ∧
      (Ranges.isAll x = true ∨ e' = s + 2 ^ bs) := by
  rw [eq_plan hs hbs hp] at hm
  exact leaf_aligned_span (shifted_geo size bs hs hbs) _ _ _ s z r x hm

example : (20000 : Nat) ≤ 2 ^ 63 ∧ (1 : Nat) ≤ 10 ∧
    (Tree.prePartialChunks ⟨20000, 1⟩ [1, 3] 0).isSome = true :=
  ⟨by decide, by decide, (pre_total (by decide) (by decide)).1⟩

/-- every leaf whose attached ranges are "all" (in particular every query leaf) consists of
selected chunks only -/
theorem coverage_full_leaf (hs : size ≤ 2 ^ 63) (hbs : bs ≤ 10) (hwf : Ranges.WF q = true)
    (hp : Tree.prePartialChunks ⟨size, bs⟩ q ml = some p) {s z : Nat} {r : Bool} {x : Ranges}
    (hm : Chunk.leaf s z r x ∈ p) (hall : Ranges.isAll x = true) {c : Nat} (h1 : s ≤ c)
    (h2 : c < s + max 1 (chunksOf z)) : Spec.selected size q c = true := by
  rw [eq_plan hs hbs hp] at hm
  exact plan_all_leaf_selected size bs ml hs hbs q hwf s z r x hm hall c h1 h2

example : (20000 : Nat) ≤ 2 ^ 63 ∧ (1 : Nat) ≤ 10 ∧ Ranges.WF [0, 8] = true ∧
    Tree.prePartialChunks ⟨20000, 1⟩ [0, 8] 4 = some
      [.parent 15 true true false [0, 8], .parent 7 false true false [0, 8],
       .leaf 0 8192 false [0]] ∧ Ranges.isAll [0] = true := by decide

/-- **chunk-exact coverage** for block size 0 and any `min_full_level`: the leaves cover exactly
the selected chunks -/
theorem coverage_exact (hs : size ≤ 2 ^ 63) (hwf : Ranges.WF q = true)
    (hp : Tree.prePartialChunks ⟨size, 0⟩ q ml = some p) (c : Nat) :
    covered p c ↔ Spec.selected size q c = true := by
  rw [eq_plan hs (Nat.zero_le _) hp]
  exact plan_cover_exact size ml hs q hwf c

/-- **the response plan covers exactly the selected chunks**, whatever the block size (below
the block size the items go down to single chunks, unless a whole subtree is selected) -/
theorem coverage_exact_response (hs : size ≤ 2 ^ 63) (hwf : Ranges.WF q = true)
    (hp : Tree.responseChunks ⟨size, bs⟩ q = some p) (c : Nat) :
    covered p c ↔ Spec.selected size q c = true := by
  rw [eq_plan_response hs hp, covered_withoutRanges]
  exact plan_cover_exact size bs hs q hwf c

example : (20000 : Nat) ≤ 2 ^ 63 ∧ Ranges.WF [1, 3] = true ∧
    (Tree.prePartialChunks ⟨20000, 0⟩ [1, 3] 2).isSome = true ∧
    (Tree.responseChunks ⟨20000, 1⟩ [1, 3]).isSome = true ∧
    Spec.selected 20000 [1, 3] 2 = true ∧ Spec.selected 20000 [1, 3] 3 = false :=
  ⟨by decide, by decide, (pre_total (by decide) (by decide)).1,
    (pre_total (ml := 0) (by decide) (by decide)).2, by decide, by decide⟩

/-
## Status (C15, pre-order half: `Tree.prePartialChunks`, `Tree.responseChunks`)

Axioms: `propext`, `Classical.choice`, `Quot.sound` only.

Proved, for all `size ≤ 2^63`, `bs ≤ 10`, every `ml` and (where the selection is involved) every
well-formed query: pre_refines, pre_refines_any_fuel, pre_total, response_refines, pre_empty,
stack_discipline(_response), root_flag(_response), flags, parent_before_subtree(_response),
leaves_increasing(_response), coverage_complete, coverage_sound, coverage_groups, leaf_groups,
coverage_full_leaf, coverage_exact(_response).
Partial: none.  OPEN: none (the post-order plan is the subject of `Props/C15Post.lean`).

Model: `PrePartial.new` contains the repair of defect D2 (empty query ⇒ empty stack); without it
`pre_empty`, `stack_discipline` (for q = []) and the `debug_assert!` freedom would fail.
The `u64 → usize` conversions `try_into().unwrap()` of the leaf sizes are not modelled
(`leaves_increasing` bounds every leaf size by the blob size).
-/

end Bao.C15
