import BaoProofs.Lemmas.EncFaultL

/-!
# C10 (encoders): io failures in `encode_ranges` / `encode_ranges_validated`

"If the k-th operation on any underlying reader, writer, data source or outboard fails, the public
operation using it reports that failure - the io error itself, or for a connection reset while
writing the write-failed error naming the item - never a panic, success or hash mismatch, and it
performs no further operation on the failed object.  Whatever was emitted or stored before the
failure is a prefix of what the fault-free run emits or stores."

This file treats the encoders.  `encodeRangesF hf fl validate data ob q fault` is the model of
`encode_ranges_validated` (`validate = true`) / `encode_ranges` (`false`), flavour `fl` (sync / fsm),
with the fault `fault = some ⟨obj, k, kind⟩`: the `k`-th call (0-based) on `obj` (`.ob`: `load` on
the outboard, `.data`: positional read on the data source, `.w`: write to the output stream) fails
with an io error of kind `kind`.  All statements are for every hash instance `hf`, flavour,
`validate`, data, outboard `ob` (intact or not), query `q`.

Vocabulary (`BaoProofs/Lemmas/EncFaultL.lean`):
* `EncEv` – one io call with its arguments: `.ob node`, `.data start size`,
  `.w isParent label bytes` (the item being written: node of a parent / start chunk of a leaf);
  `EncEv.obj` – the object it is made on; `outOf evs` – the bytes written by a list of calls;
* `encRunL … fault : List EncEv × EncRun` – the instrumented twin of `encodeRangesF`: the same
  code, also returning the calls it makes (a failing call is logged and is the last one);
  `encEventsF … fault` – its log; `encEvents …` – the log of the fault-free run;
  `encLog … : List EncObj` – the objects of the fault-free log;
* `replayT fl fault log t out nd no nw` – replay a log against a fault with the counters
  `nd no nw` = calls made so far on data / outboard / writer; `evErr fl err e` – the error reported
  when call `e` fails with `err`; `paired log` – the log consists of `load n, write parent n` and
  `read s, write leaf s` pairs, possibly ending with a lone `load` / `read`.

The runs of the examples (`encTriv`, `encData0`, `encOb0`) are evaluated once, in `EncFaultL.enc_runs`,
on `CallSplit.zeroHash`, `ones`, `zeroOb`: the same instance, spelt here with this file's own definitions.
-/

namespace Bao.C10

open Bao Bao.EncFaultL

variable {H : Type}

/-! ## example: a 1500-byte blob under a hash that accepts everything -/

/-- a hash instance under which every outboard is valid (all hashes are 0) -/
def encTriv : HashFns Nat := ⟨fun _ _ _ => 0, fun _ _ _ => 0, fun _ => 0, fun _ => List.replicate 32 7⟩

/-- in-memory pre-order outboard of a 1500-byte blob (one parent) -/
def encOb0 : Store Nat := ⟨.preMem, 0, ⟨1500, 0⟩, List.replicate 64 0⟩

def encData0 : List UInt8 := List.replicate 1500 1

/-- the fault-free run: load, write parent, (read, write leaf) twice; `ok` -/
example : encLog encTriv .fsm true encData0 encOb0 [0] = [.ob, .w, .data, .w, .data, .w] ∧
    (encodeRangesF encTriv .fsm true encData0 encOb0 [0] none).terminal = .ok ∧
    (encodeRangesF encTriv .fsm true encData0 encOb0 [0] none).out.length = 1564 := by
  obtain ⟨h1, h2, h3, -⟩ := enc_runs (encRunL encTriv .fsm true encData0 encOb0 [0] none) _ rfl rfl
  rw [← encRunL_run, encLog, encEvents, h1]
  exact ⟨by decide, h2, h3⟩

theorem encF_none_validated (hf : HashFns H) [BEq H] (fl : Flavour) (data : List UInt8)
    (ob : Store H) (q : Ranges) :
    encodeRangesF hf fl true data ob q none = encodeRangesValidated hf fl data ob q := by
  unfold encodeRangesF encodeRangesValidated
  simp only [Bool.true_and]
  by_cases h : (fl == .sync && q.isEmpty) = true
  · simp only [if_pos h]
  · simp only [if_neg h]
    cases ob.tree.prePartialChunks (Ranges.truncate q ob.tree.size) 0 with
    | none => rfl
    | some plan => exact loopF_none_validated ..

theorem encF_none_plain (hf : HashFns H) [BEq H] (fl : Flavour) (data : List UInt8)
    (ob : Store H) (q : Ranges) :
    encodeRangesF hf fl false data ob q none = encodeRanges hf fl data ob q := by
  unfold encodeRangesF encodeRanges
  simp only [Bool.false_and, Bool.false_eq_true, if_false]
  cases ob.tree.prePartialChunks (Ranges.truncate q ob.tree.size) 0 with
  | none => rfl
  | some plan => exact loopF_none_plain ..

/-- with no fault the fault-aware encoder IS the encoder (same `out`, same terminal) -/
theorem encF_none (hf : HashFns H) [BEq H] (fl : Flavour) (data : List UInt8) (ob : Store H)
    (q : Ranges) :
    encodeRangesF hf fl true data ob q none = encodeRangesValidated hf fl data ob q ∧
    encodeRangesF hf fl false data ob q none = encodeRanges hf fl data ob q :=
  ⟨encF_none_validated .., encF_none_plain ..⟩

/-- the instrumented twin runs the model: its run component is `encodeRangesF` (so `encEventsF`
is the call log of `encodeRangesF … fault` and `encEvents` that of the fault-free run) -/
theorem encLog_twin (hf : HashFns H) [BEq H] (fl : Flavour) (validate : Bool) (data : List UInt8)
    (ob : Store H) (q : Ranges) (fault : Option EncFault) :
    (encRunL hf fl validate data ob q fault).2 = encodeRangesF hf fl validate data ob q fault :=
  encRunL_run ..

/-- the fault-free run performs every call of its log: its output is exactly what the writes of
the log wrote -/
theorem encLog_sound (hf : HashFns H) [BEq H] (fl : Flavour) (validate : Bool) (data : List UInt8)
    (ob : Store H) (q : Ranges) :
    encEventsF hf fl validate data ob q none = encEvents hf fl validate data ob q ∧
    (encodeRangesF hf fl validate data ob q none).out = outOf (encEvents hf fl validate data ob q) := by
  refine ⟨rfl, ?_⟩
  rw [← encRunL_run, encRunL_none]

/-- the log is consistent with the loop counters: every run - faulty or not - is the replay of the
fault-free log in which the counters `nd no nw` of `encodeLoopF` start at 0 and go up by one at
each `.data` / `.ob` / `.w` entry, and the first entry whose counter is hit by the fault fails -/
theorem encLog_counters (hf : HashFns H) [BEq H] (fl : Flavour) (validate : Bool)
    (data : List UInt8) (ob : Store H) (q : Ranges) (fault : Option EncFault) :
    (encEventsF hf fl validate data ob q fault, encodeRangesF hf fl validate data ob q fault) =
      replayT fl fault (encEvents hf fl validate data ob q)
        (encodeRangesF hf fl validate data ob q none).terminal [] 0 0 0 := by
  rw [← encRunL_replay, ← encRunL_run]; rfl

/-- shape of every log: `load n, write parent n` and `read s, write leaf s` pairs, possibly ending
with a lone `load` / `read` -/
theorem encLog_paired (hf : HashFns H) [BEq H] (fl : Flavour) (validate : Bool) (data : List UInt8)
    (ob : Store H) (q : Ranges) (fault : Option EncFault) :
    paired (encEventsF hf fl validate data ob q fault) = true :=
  encRunL_paired ..

/-- the item named by a write call is the item fetched by the call just before it: the node of the
`load`, resp. the start chunk of the `read` -/
theorem encLog_write_item (hf : HashFns H) [BEq H] (fl : Flavour) (validate : Bool)
    (data : List UInt8) (ob : Store H) (q : Ranges) (fault : Option EncFault)
    (pre post : List EncEv) (p : Bool) (l : Nat) (b : List UInt8)
    (h : encEventsF hf fl validate data ob q fault = pre ++ .w p l b :: post) :
    ∃ pre', (p = true ∧ pre = pre' ++ [.ob l]) ∨
      (p = false ∧ ∃ size, pre = pre' ++ [.data l size]) :=
  paired_before_w (h ▸ encLog_paired hf fl validate data ob q fault)

/-- the log of the example, split at its second write -/
example : encEventsF encTriv .fsm true encData0 encOb0 [0] none =
    [.ob 0, .w true 0 (List.replicate 64 7), .data 0 1024] ++
      .w false 0 (List.replicate 1024 1) :: [.data 1 476, .w false 1 (List.replicate 476 1)] := by
  rw [encEventsF, (enc_runs (encRunL encTriv .fsm true encData0 encOb0 [0] none) _ rfl rfl).1]
  rfl

/-- the fault is reached (the fault-free log has a `(k+1)`-th call on `obj`): the log splits as
`pre ++ e :: post` with `e` the `k`-th call on `obj`; the faulty run made exactly the calls
`pre ++ [e]` (no further call on any object), wrote exactly what the writes of `pre` wrote, and
reports the failure of `e` -/
theorem encF_cut (hf : HashFns H) [BEq H] (fl : Flavour) (validate : Bool) (data : List UInt8)
    (ob : Store H) (q : Ranges) (obj : EncObj) (k : Nat) (kind : IoKind)
    (hk : k < (encLog hf fl validate data ob q).count obj) :
    ∃ pre e post, encEvents hf fl validate data ob q = pre ++ e :: post ∧ e.obj = obj ∧
      (pre.map EncEv.obj).count obj = k ∧
      encodeRangesF hf fl validate data ob q (some ⟨obj, k, kind⟩) =
        ⟨outOf pre, .err (evErr fl ⟨kind, true⟩ e)⟩ ∧
      encEventsF hf fl validate data ob q (some ⟨obj, k, kind⟩) = pre ++ [e] := by
  rw [encLog, CallSplit.count_map] at hk
  cases hs : CallSplit.splitNth (isOn obj) k (encEvents hf fl validate data ob q) with
  | none => exact absurd (CallSplit.splitNth_none.mp hs) (Nat.not_le.mpr hk)
  | some p =>
    obtain ⟨pre, e, post⟩ := p
    obtain ⟨h1, h2, h3⟩ := CallSplit.splitNth_some hs
    have hr := encRunL_some hf fl validate data ob q obj k kind
    rw [hs] at hr
    refine ⟨pre, e, post, h1, isOn_iff.mp h2, by rw [CallSplit.count_map]; exact h3, ?_, ?_⟩
    · rw [← encRunL_run, hr]
    · unfold encEventsF; rw [hr]

/-- the decomposition in `encF_cut` is unique -/
theorem encF_cut_unique (obj : EncObj) (k : Nat) (log : List EncEv)
    (pre pre' post post' : List EncEv) (e e' : EncEv)
    (h : log = pre ++ e :: post) (he : e.obj = obj) (hc : (pre.map EncEv.obj).count obj = k)
    (h' : log = pre' ++ e' :: post') (he' : e'.obj = obj)
    (hc' : (pre'.map EncEv.obj).count obj = k) :
    pre = pre' ∧ e = e' ∧ post = post' := by
  rw [CallSplit.count_map] at hc hc'
  exact CallSplit.split_unique h (isOn_iff.mpr he) h' (isOn_iff.mpr he') (hc.trans hc'.symm)

/-- a failing `load` or positional read is reported as the io error itself -/
theorem encF_cut_io (hf : HashFns H) [BEq H] (fl : Flavour) (validate : Bool) (data : List UInt8)
    (ob : Store H) (q : Ranges) (obj : EncObj) (k : Nat) (kind : IoKind) (ho : obj ≠ .w)
    (hk : k < (encLog hf fl validate data ob q).count obj) :
    (encodeRangesF hf fl validate data ob q (some ⟨obj, k, kind⟩)).terminal =
      .err (.io ⟨kind, true⟩) := by
  obtain ⟨pre, e, post, _, h2, _, h4, _⟩ := encF_cut hf fl validate data ob q obj k kind hk
  rw [h4, evErr_not_w fl _ (h2 ▸ ho)]

/-- a failing write is reported as `writeErr` of the item being written: the `k`-th write call
`.w isParent label bytes` of the log, which follows the `load` of node `label` (parent) / the read
of chunk `label` (leaf) -/
theorem encF_cut_w (hf : HashFns H) [BEq H] (fl : Flavour) (validate : Bool) (data : List UInt8)
    (ob : Store H) (q : Ranges) (k : Nat) (kind : IoKind)
    (hk : k < (encLog hf fl validate data ob q).count .w) :
    ∃ pre isParent label bytes post,
      encEvents hf fl validate data ob q = pre ++ .w isParent label bytes :: post ∧
      (pre.map EncEv.obj).count .w = k ∧
      (∃ pre', (isParent = true ∧ pre = pre' ++ [.ob label]) ∨
        (isParent = false ∧ ∃ size, pre = pre' ++ [.data label size])) ∧
      encodeRangesF hf fl validate data ob q (some ⟨.w, k, kind⟩) =
        ⟨outOf pre, .err (writeErr fl ⟨kind, true⟩ isParent label)⟩ ∧
      encEventsF hf fl validate data ob q (some ⟨.w, k, kind⟩) =
        pre ++ [.w isParent label bytes] := by
  obtain ⟨pre, e, post, h1, h2, h3, h4, h5⟩ := encF_cut hf fl validate data ob q .w k kind hk
  cases e with
  | ob n => cases h2
  | data s z => cases h2
  | w p l b =>
    exact ⟨pre, p, l, b, post, h1, h3,
      encLog_write_item hf fl validate data ob q none pre post p l b h1, h4, h5⟩

/-- the fault is not reached (the fault-free log has at most `k` calls on `obj`, e.g. because the
run ends earlier with a hash mismatch or an error of its own): same run, same calls -/
theorem encF_unreached (hf : HashFns H) [BEq H] (fl : Flavour) (validate : Bool)
    (data : List UInt8) (ob : Store H) (q : Ranges) (obj : EncObj) (k : Nat) (kind : IoKind)
    (hk : (encLog hf fl validate data ob q).count obj ≤ k) :
    encodeRangesF hf fl validate data ob q (some ⟨obj, k, kind⟩) =
      encodeRangesF hf fl validate data ob q none ∧
    encEventsF hf fl validate data ob q (some ⟨obj, k, kind⟩) =
      encEvents hf fl validate data ob q := by
  rw [encLog, CallSplit.count_map] at hk
  have hs : CallSplit.splitNth (isOn obj) k (encEvents hf fl validate data ob q) = none :=
    CallSplit.splitNth_none.mpr hk
  have hr := encRunL_some hf fl validate data ob q obj k kind
  rw [hs] at hr
  refine ⟨?_, ?_⟩
  · rw [← encRunL_run, ← encRunL_run, hr]
  · unfold encEventsF encEvents; rw [hr]

example : (1 : Nat) < (encLog encTriv .fsm true encData0 encOb0 [0]).count .w ∧
    (0 : Nat) < (encLog encTriv .fsm true encData0 encOb0 [0]).count .ob ∧ EncObj.ob ≠ .w ∧
    (encLog encTriv .fsm true encData0 encOb0 [0]).count .data ≤ 2 := by
  rw [encLog, encEvents, (enc_runs (encRunL encTriv .fsm true encData0 encOb0 [0] none) _ rfl rfl).1]
  decide

/-- the example: the second write (leaf 0) fails with a connection reset: `LeafWrite(0)`, only the
parent pair was written, the calls were load, write, read, write -/
example : encodeRangesF encTriv .fsm true encData0 encOb0 [0] (some ⟨.w, 1, .connectionReset⟩) =
      ⟨List.replicate 64 7, .err (.leafWrite 0)⟩ ∧
    (encEventsF encTriv .fsm true encData0 encOb0 [0] (some ⟨.w, 1, .connectionReset⟩)).map EncEv.obj =
      [.ob, .w, .data, .w] := by
  rw [← encRunL_run, encEventsF]
  exact (enc_runs _ (encRunL encTriv .fsm true encData0 encOb0 [0] (some ⟨.w, 1, .connectionReset⟩))
    rfl rfl).2.2.2

/-- for every fault: either the run stopped at a call `e` of the fault-free log (it made the calls
up to and including `e`, wrote what the writes before `e` wrote and reports the failure of `e`), or
it is the fault-free run -/
theorem encF_dichotomy (hf : HashFns H) [BEq H] (fl : Flavour) (validate : Bool)
    (data : List UInt8) (ob : Store H) (q : Ranges) (fault : Option EncFault) :
    (∃ obj k kind pre e post, fault = some ⟨obj, k, kind⟩ ∧
      encEvents hf fl validate data ob q = pre ++ e :: post ∧ e.obj = obj ∧
      encodeRangesF hf fl validate data ob q fault =
        ⟨outOf pre, .err (evErr fl ⟨kind, true⟩ e)⟩ ∧
      encEventsF hf fl validate data ob q fault = pre ++ [e]) ∨
    (encodeRangesF hf fl validate data ob q fault = encodeRangesF hf fl validate data ob q none ∧
      encEventsF hf fl validate data ob q fault = encEvents hf fl validate data ob q) := by
  cases fault with
  | none => exact Or.inr ⟨rfl, rfl⟩
  | some f =>
    obtain ⟨obj, k, kind⟩ := f
    by_cases hk : k < (encLog hf fl validate data ob q).count obj
    · obtain ⟨pre, e, post, h1, h2, _, h4, h5⟩ := encF_cut hf fl validate data ob q obj k kind hk
      exact Or.inl ⟨obj, k, kind, pre, e, post, rfl, h1, h2, h4, h5⟩
    · exact Or.inr (encF_unreached hf fl validate data ob q obj k kind (Nat.le_of_not_lt hk))

/-- what a faulty run emitted is a prefix of what the fault-free run emits, and the calls it made
are a prefix of the fault-free calls -/
theorem encF_prefix (hf : HashFns H) [BEq H] (fl : Flavour) (validate : Bool) (data : List UInt8)
    (ob : Store H) (q : Ranges) (fault : Option EncFault) :
    (encodeRangesF hf fl validate data ob q fault).out <+:
      (encodeRangesF hf fl validate data ob q none).out ∧
    encEventsF hf fl validate data ob q fault <+: encEvents hf fl validate data ob q := by
  rcases encF_dichotomy hf fl validate data ob q fault with
    ⟨obj, k, kind, pre, e, post, _, h1, _, h4, h5⟩ | ⟨h, h'⟩
  · rw [(encLog_sound hf fl validate data ob q).2, h4, h5, h1]
    refine ⟨?_, ⟨post, by simp⟩⟩
    rw [outOf_append]
    exact List.prefix_append _ _
  · rw [h, h']
    exact ⟨List.prefix_refl _, List.prefix_refl _⟩

/-- an injected fault is reported as the io error or as a write-failed error -/
theorem encF_terminal (hf : HashFns H) [BEq H] (fl : Flavour) (validate : Bool) (data : List UInt8)
    (ob : Store H) (q : Ranges) (obj : EncObj) (k : Nat) (kind : IoKind)
    (hk : k < (encLog hf fl validate data ob q).count obj) :
    (encodeRangesF hf fl validate data ob q (some ⟨obj, k, kind⟩)).terminal =
        .err (.io ⟨kind, true⟩) ∨
    (∃ n, (encodeRangesF hf fl validate data ob q (some ⟨obj, k, kind⟩)).terminal =
        .err (.parentWrite n)) ∨
    (∃ n, (encodeRangesF hf fl validate data ob q (some ⟨obj, k, kind⟩)).terminal =
        .err (.leafWrite n)) := by
  obtain ⟨pre, e, post, _, _, _, h4, _⟩ := encF_cut hf fl validate data ob q obj k kind hk
  rw [h4]
  rcases evErr_cases fl ⟨kind, true⟩ e with h | ⟨n, h⟩ | ⟨n, h⟩
  · exact Or.inl (by rw [h])
  · exact Or.inr (Or.inl ⟨n, by rw [h]⟩)
  · exact Or.inr (Or.inr ⟨n, by rw [h]⟩)

/-- when the fault is reached the run never reports success, a hash mismatch or a panic -/
theorem encF_never_ok_or_mismatch (hf : HashFns H) [BEq H] (fl : Flavour) (validate : Bool)
    (data : List UInt8) (ob : Store H) (q : Ranges) (obj : EncObj) (k : Nat) (kind : IoKind)
    (hk : k < (encLog hf fl validate data ob q).count obj) :
    (encodeRangesF hf fl validate data ob q (some ⟨obj, k, kind⟩)).terminal ≠ .ok ∧
    (encodeRangesF hf fl validate data ob q (some ⟨obj, k, kind⟩)).terminal ≠ .panic ∧
    (∀ n, (encodeRangesF hf fl validate data ob q (some ⟨obj, k, kind⟩)).terminal ≠
      .err (.parentHashMismatch n)) ∧
    (∀ n, (encodeRangesF hf fl validate data ob q (some ⟨obj, k, kind⟩)).terminal ≠
      .err (.leafHashMismatch n)) ∧
    (encodeRangesF hf fl validate data ob q (some ⟨obj, k, kind⟩)).terminal ≠
      .err .sizeMismatch := by
  rcases encF_terminal hf fl validate data ob q obj k kind hk with h | ⟨n, h⟩ | ⟨n, h⟩ <;>
    rw [h] <;> refine ⟨?_, ?_, ?_, ?_, ?_⟩ <;> intros <;> intro hc <;> cases hc

/-- no fault turns into a panic: if the fault-free run does not panic, no faulty run does -/
theorem encF_no_panic (hf : HashFns H) [BEq H] (fl : Flavour) (validate : Bool) (data : List UInt8)
    (ob : Store H) (q : Ranges) (fault : Option EncFault)
    (h : (encodeRangesF hf fl validate data ob q none).terminal ≠ .panic) :
    (encodeRangesF hf fl validate data ob q fault).terminal ≠ .panic := by
  rcases encF_dichotomy hf fl validate data ob q fault with
    ⟨obj, k, kind, pre, e, post, _, _, _, h4, _⟩ | ⟨h', _⟩
  · rw [h4]; intro hc; cases hc
  · rw [h']; exact h

example : (encodeRangesF encTriv .fsm true encData0 encOb0 [0] none).terminal ≠ .panic := by
  rw [← encRunL_run, (enc_runs (encRunL encTriv .fsm true encData0 encOb0 [0] none) _ rfl rfl).2.1]
  decide

/-- `sync`: the io error itself (`?`); `fsm`: `maybe_parent_write` / `maybe_leaf_write` - a
connection reset becomes `ParentWrite(node)` / `LeafWrite(chunk)`, any other kind stays `Io` -/
theorem writeErr_spec (e : IoErr) (isParent : Bool) (n : Nat) :
    writeErr .sync e isParent n = .io e ∧
    (e.kind = .connectionReset →
      writeErr .fsm e true n = .parentWrite n ∧ writeErr .fsm e false n = .leafWrite n) ∧
    (e.kind ≠ .connectionReset → writeErr .fsm e isParent n = .io e) :=
  ⟨rfl, writeErr_fsm_reset e n, writeErr_fsm_other e isParent n⟩

example : (⟨.connectionReset, true⟩ : IoErr).kind = .connectionReset ∧
    (⟨.other, true⟩ : IoErr).kind ≠ .connectionReset := by decide

/-!
## Status (C10, encoders `encodeRangesF`: `encode_ranges_validated` / `encode_ranges`, sync / fsm)

PROVED, for every `hf`, flavour, `validate`, data, outboard, query: `encF_none_validated`,
`encF_none_plain`, `encF_none`, `encLog_twin`, `encLog_sound`, `encLog_counters`, `encLog_paired`,
`encLog_write_item`, `encF_cut`, `encF_cut_unique`, `encF_cut_io`, `encF_cut_w`, `encF_unreached`,
`encF_dichotomy`, `encF_prefix`, `encF_terminal`, `encF_never_ok_or_mismatch`, `encF_no_panic`,
`writeErr_spec`.

PARTIAL: none.   OPEN: none.

"no further operation on the failed object": the own log of the faulty run is `pre ++ [e]`, the
failing call is its last entry, so there is no later call on any object.

model remarks:
* granularity: a call is one `load` / `read_exact_at` / `write_all`; a zero-length read or write
  (the single leaf of the empty blob, or a leaf whose selected encoding is empty) is counted and can
  be hit by a fault, although `write_all(&[])` / `read_exact_at(_, &mut [])` of the Rust standard
  traits make no call on the underlying object.
* a `load` that fails by itself, returns `None` (panic) or is followed by a mismatch is logged as a
  call; a fault pointing at it reports the injected error instead (`encF_cut`).
* validated leaf with an empty stack panics before the read (`stack.pop().unwrap()` comes first in
  the Rust code as well): no `.data` entry is logged.
-/

end Bao.C10
