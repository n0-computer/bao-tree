import BaoProofs.Lemmas.OutboardL

/-!
# C03 — Outboards commit to BLAKE3: root = BLAKE3(data), pairs = subtree values

"For every byte string and block size, every way of creating an outboard returns exactly the
BLAKE3 hash of the data as root, and stores for every node it persists exactly the two chaining
values of that node's children in the BLAKE3 tree.  The outboard is exactly
(number of chunk groups - 1) * 64 bytes."

Everything holds for EVERY `hf : HashFns H` (no collision freedom), every blob `d` with
`d.length ≤ 2^63`, every `bs ≤ 10`, `tree = ⟨d.length, bs⟩`.

* `Spec.root hf d`            – the recursive BLAKE3 tree hash of the blob,
* `Spec.pair hf d k L`        – the chaining values of the two children of node `(k, L)`,
* `Spec.preOutboard/postOutboard hf d bs` – the 64-byte pairs of the persisted nodes in
  pre-order / post-order.

The ways of creating an outboard: `outboardPostOrder` (`outboard_post_order`, sequential writer),
`outboard` (`sync::outboard` / `fsm::outboard` into one of the five store kinds), and `initFrom`
(`CreateOutboard::init_from`, which `create` / `create_sized` call on a fresh store).
Hypotheses on the hash representation: `hlen` (a hash is 32 bytes) for everything positional,
`hrt` (`Hash::from(h.as_bytes()) = h`) only for reading back with `load`.
-/

namespace Bao.C03

open Bao Bao.Spec Bao.OutboardL

/-- a toy hash with 32-byte representation and round trip (for the non-vacuity examples) -/
def toyHash : HashFns UInt8 where
  chunkCv := fun c b r => b.foldl (· + ·) (UInt8.ofNat c + if r then 1 else 0)
  parentCv := fun l r f => l + 2 * r + if f then 1 else 0
  ofBytes := fun b => b.headD 0
  toBytes := fun h => List.replicate 32 h

theorem toy_len : ∀ h, (toyHash.toBytes h).length = 32 := fun _ => List.length_replicate ..
theorem toy_rt : ∀ h, toyHash.ofBytes (toyHash.toBytes h) = h := fun _ => rfl

/-- a 3000-byte blob: 3 chunks; at `bs = 1` two chunk groups, one persisted node -/
def toyBlob : List UInt8 := List.replicate 3000 7
theorem toy_length : toyBlob.length = 3000 := by simp only [toyBlob, List.length_replicate]
theorem toy_size : toyBlob.length ≤ 2 ^ 63 := by rw [toy_length]; decide
theorem toy_tree : (⟨3000, 1⟩ : Tree) = ⟨toyBlob.length, 1⟩ := by rw [toy_length]

/-! ## 1. the sequential post-order writer -/

/-- `outboard_post_order`: the stack machine over the post-order plan returns the BLAKE3 root and
writes exactly the post-order outboard -/
theorem post_order_writer {H : Type} (hf : HashFns H) (d : List UInt8) (bs : Nat)
    (hs : d.length ≤ 2 ^ 63) (hbs : bs ≤ 10) :
    outboardPostOrder hf d ⟨d.length, bs⟩
      = ⟨.ok (Spec.root hf d), Spec.postOutboard hf d bs⟩ :=
  writer_run hf d bs hs hbs

example : outboardPostOrder termHash toyBlob ⟨toyBlob.length, 1⟩
    = ⟨.ok (Spec.root termHash toyBlob), Spec.postOutboard termHash toyBlob 1⟩ :=
  post_order_writer termHash toyBlob 1 toy_size (by decide)

/-! ## 2. `outboard` into the five store kinds -/

/-- pre-order stores: `PreOrderOutboard<io>` (auto-extending backing, ANY initial content not
longer than the outboard: `[]` as `create_sized` uses, or a stale full-size store as `init_from`
may see) and `PreOrderMemOutboard` (backing of exactly the outboard size).  The root is BLAKE3 of
the data; the store keeps kind, root field and tree, and its backing becomes EXACTLY the pre-order
outboard: every stale byte is overwritten. -/
theorem outboard_store_pre {H : Type} (hf : HashFns H) (hlen : ∀ h, (hf.toBytes h).length = 32)
    (d : List UInt8) (bs : Nat) (hs : d.length ≤ 2 ^ 63) (hbs : bs ≤ 10) (ob : Store H)
    (htree : ob.tree = ⟨d.length, bs⟩)
    (hk : (ob.kind = .preIo ∧ ob.data.length ≤ ob.tree.outboardSize) ∨
          (ob.kind = .preMem ∧ ob.data.length = ob.tree.outboardSize)) :
    outboard hf d ob.tree ob
      = ⟨.ok (Spec.root hf d), { ob with data := Spec.preOutboard hf d bs }⟩ :=
  outboard_run_pre hf d bs (pairBytes_length hf hlen d) hs hbs ob htree hk

example : outboard toyHash toyBlob ⟨3000, 1⟩ ⟨.preIo, 0, ⟨3000, 1⟩, []⟩
    = ⟨.ok (Spec.root toyHash toyBlob),
       ⟨.preIo, 0, ⟨3000, 1⟩, Spec.preOutboard toyHash toyBlob 1⟩⟩ :=
  outboard_store_pre toyHash toy_len toyBlob 1 toy_size (by decide)
    ⟨.preIo, 0, ⟨3000, 1⟩, []⟩ toy_tree (.inl ⟨rfl, Nat.zero_le _⟩)

example : outboard toyHash toyBlob ⟨3000, 1⟩ ⟨.preMem, 0, ⟨3000, 1⟩, List.replicate 64 9⟩
    = ⟨.ok (Spec.root toyHash toyBlob),
       ⟨.preMem, 0, ⟨3000, 1⟩, Spec.preOutboard toyHash toyBlob 1⟩⟩ :=
  outboard_store_pre toyHash toy_len toyBlob 1 toy_size (by decide)
    ⟨.preMem, 0, ⟨3000, 1⟩, List.replicate 64 9⟩ toy_tree (.inr ⟨rfl, by decide⟩)

/-- post-order stores: `PostOrderOutboard<io>` and `PostOrderMemOutboard` -/
theorem outboard_store_post {H : Type} (hf : HashFns H) (hlen : ∀ h, (hf.toBytes h).length = 32)
    (d : List UInt8) (bs : Nat) (hs : d.length ≤ 2 ^ 63) (hbs : bs ≤ 10) (ob : Store H)
    (htree : ob.tree = ⟨d.length, bs⟩)
    (hk : (ob.kind = .postIo ∧ ob.data.length ≤ ob.tree.outboardSize) ∨
          (ob.kind = .postMem ∧ ob.data.length = ob.tree.outboardSize)) :
    outboard hf d ob.tree ob
      = ⟨.ok (Spec.root hf d), { ob with data := Spec.postOutboard hf d bs }⟩ :=
  outboard_run_post hf d bs (pairBytes_length hf hlen d) hs hbs ob htree hk

example : outboard toyHash toyBlob ⟨3000, 1⟩ ⟨.postIo, 0, ⟨3000, 1⟩, List.replicate 64 9⟩
    = ⟨.ok (Spec.root toyHash toyBlob),
       ⟨.postIo, 0, ⟨3000, 1⟩, Spec.postOutboard toyHash toyBlob 1⟩⟩ :=
  outboard_store_post toyHash toy_len toyBlob 1 toy_size (by decide)
    ⟨.postIo, 0, ⟨3000, 1⟩, List.replicate 64 9⟩ toy_tree (.inl ⟨rfl, by decide⟩)

/-- `EmptyOutboard`: the root is BLAKE3 of the data, nothing is stored (no hypothesis on the byte
representation is needed) -/
theorem outboard_store_empty {H : Type} (hf : HashFns H)
    (d : List UInt8) (bs : Nat) (hs : d.length ≤ 2 ^ 63) (hbs : bs ≤ 10) (ob : Store H)
    (htree : ob.tree = ⟨d.length, bs⟩) (hk : ob.kind = .empty) :
    outboard hf d ob.tree ob = ⟨.ok (Spec.root hf d), ob⟩ :=
  outboard_run_empty hf d bs hs hbs ob htree hk

example : outboard termHash toyBlob ⟨3000, 1⟩ ⟨.empty, .raw [], ⟨3000, 1⟩, []⟩
    = ⟨.ok (Spec.root termHash toyBlob), ⟨.empty, .raw [], ⟨3000, 1⟩, []⟩⟩ :=
  outboard_store_empty termHash toyBlob 1 toy_size (by decide)
    ⟨.empty, .raw [], ⟨3000, 1⟩, []⟩ toy_tree rfl

/-! ## 3. size, and `init_from` -/

/-- the outboard is exactly `(chunk groups − 1) · 64` bytes (`= BaoTree::outboard_size`), in either
order -/
theorem size {H : Type} (hf : HashFns H) (hlen : ∀ h, (hf.toBytes h).length = 32)
    (d : List UInt8) (bs : Nat) (hs : d.length ≤ 2 ^ 63) (hbs : bs ≤ 10) :
    (Spec.preOutboard hf d bs).length = (Tree.blocks ⟨d.length, bs⟩ - 1) * 64 ∧
    (Spec.postOutboard hf d bs).length = (Tree.blocks ⟨d.length, bs⟩ - 1) * 64 ∧
    (Tree.blocks ⟨d.length, bs⟩ - 1) * 64 = Tree.outboardSize ⟨d.length, bs⟩ ∧
    Tree.blocks ⟨d.length, bs⟩ = Spec.nBlocks d.length bs :=
  ⟨preOutboard_length hf d bs (pairBytes_length hf hlen d) hs hbs,
    postOutboard_length hf d bs (pairBytes_length hf hlen d) hs hbs, rfl,
    C12.blocks_spec _ _⟩

example : (Spec.preOutboard toyHash toyBlob 1).length = (Tree.blocks ⟨toyBlob.length, 1⟩ - 1) * 64 :=
  (size toyHash toy_len toyBlob 1 toy_size (by decide)).1

/-- `CreateOutboard::init_from` on a pre-order store: backing := pre-order outboard,
root := BLAKE3 root (likewise on a post-order store; on the `EmptyOutboard` only the root is set) -/
theorem init_from_pre {H : Type} (hf : HashFns H) (hlen : ∀ h, (hf.toBytes h).length = 32)
    (d : List UInt8) (bs : Nat) (hs : d.length ≤ 2 ^ 63) (hbs : bs ≤ 10) (ob : Store H)
    (htree : ob.tree = ⟨d.length, bs⟩)
    (hk : (ob.kind = .preIo ∧ ob.data.length ≤ ob.tree.outboardSize) ∨
          (ob.kind = .preMem ∧ ob.data.length = ob.tree.outboardSize)) :
    initFrom hf d ob
      = .ok { ob with data := Spec.preOutboard hf d bs, root := Spec.root hf d } := by
  unfold initFrom
  rw [outboard_run_pre hf d bs (pairBytes_length hf hlen d) hs hbs ob htree hk]

example : initFrom toyHash toyBlob ⟨.preIo, 0, ⟨3000, 1⟩, []⟩
    = .ok ⟨.preIo, Spec.root toyHash toyBlob, ⟨3000, 1⟩, Spec.preOutboard toyHash toyBlob 1⟩ :=
  init_from_pre toyHash toy_len toyBlob 1 toy_size (by decide)
    ⟨.preIo, 0, ⟨3000, 1⟩, []⟩ toy_tree (.inl ⟨rfl, Nat.zero_le _⟩)

theorem init_from_post {H : Type} (hf : HashFns H) (hlen : ∀ h, (hf.toBytes h).length = 32)
    (d : List UInt8) (bs : Nat) (hs : d.length ≤ 2 ^ 63) (hbs : bs ≤ 10) (ob : Store H)
    (htree : ob.tree = ⟨d.length, bs⟩)
    (hk : (ob.kind = .postIo ∧ ob.data.length ≤ ob.tree.outboardSize) ∨
          (ob.kind = .postMem ∧ ob.data.length = ob.tree.outboardSize)) :
    initFrom hf d ob
      = .ok { ob with data := Spec.postOutboard hf d bs, root := Spec.root hf d } := by
  unfold initFrom
  rw [outboard_run_post hf d bs (pairBytes_length hf hlen d) hs hbs ob htree hk]

example : initFrom toyHash toyBlob ⟨.postMem, 0, ⟨3000, 1⟩, List.replicate 64 9⟩
    = .ok ⟨.postMem, Spec.root toyHash toyBlob, ⟨3000, 1⟩, Spec.postOutboard toyHash toyBlob 1⟩ :=
  init_from_post toyHash toy_len toyBlob 1 toy_size (by decide)
    ⟨.postMem, 0, ⟨3000, 1⟩, List.replicate 64 9⟩ toy_tree (.inr ⟨rfl, by decide⟩)

theorem init_from_empty {H : Type} (hf : HashFns H)
    (d : List UInt8) (bs : Nat) (hs : d.length ≤ 2 ^ 63) (hbs : bs ≤ 10) (ob : Store H)
    (htree : ob.tree = ⟨d.length, bs⟩) (hk : ob.kind = .empty) :
    initFrom hf d ob = .ok { ob with root := Spec.root hf d } := by
  unfold initFrom
  rw [outboard_run_empty hf d bs hs hbs ob htree hk]

example : initFrom termHash toyBlob ⟨.empty, .raw [], ⟨3000, 1⟩, []⟩
    = .ok ⟨.empty, Spec.root termHash toyBlob, ⟨3000, 1⟩, []⟩ :=
  init_from_empty termHash toyBlob 1 toy_size (by decide)
    ⟨.empty, .raw [], ⟨3000, 1⟩, []⟩ toy_tree rfl

/-! ## 4. reading back -/

/-- on a store holding the outboard of its kind (as produced by 2./3.), `load` of a persisted node
returns exactly the two chaining values of its children in the BLAKE3 tree — in both flavours
(`persistedPre` and `persistedPost` hold the same nodes: `persisted_same_nodes`) -/
theorem load_spec {H : Type} (hf : HashFns H) (hlen : ∀ h, (hf.toBytes h).length = 32)
    (hrt : ∀ h, hf.ofBytes (hf.toBytes h) = h) (d : List UInt8) (bs : Nat)
    (hs : d.length ≤ 2 ^ 63) (hbs : bs ≤ 10) (fl : Flavour) (ob : Store H)
    (htree : ob.tree = ⟨d.length, bs⟩)
    (hk : ((ob.kind = .preIo ∨ ob.kind = .preMem) ∧ ob.data = Spec.preOutboard hf d bs) ∨
          ((ob.kind = .postIo ∨ ob.kind = .postMem) ∧ ob.data = Spec.postOutboard hf d bs))
    (x : Nat) (hx : x ∈ Spec.persistedPre d.length bs) :
    ob.load hf fl x = .ok (some (Spec.pair hf d (indexOf x) (levelOf x))) :=
  load_persisted hf hlen hrt d bs hs hbs fl ob htree hk x hx

example : (⟨.preIo, 0, ⟨3000, 1⟩, Spec.preOutboard toyHash toyBlob 1⟩ : Store UInt8).load
      toyHash .fsm 1
    = .ok (some (Spec.pair toyHash toyBlob (indexOf 1) (levelOf 1))) :=
  load_spec toyHash toy_len toy_rt toyBlob 1 toy_size (by decide) .fsm
    ⟨.preIo, 0, ⟨3000, 1⟩, Spec.preOutboard toyHash toyBlob 1⟩ toy_tree (.inl ⟨.inl rfl, by simp only⟩) 1
    (by rw [toy_length]; decide)

theorem persisted_same_nodes (size bs : Nat) (hs : size ≤ 2 ^ 63) (x : Nat) :
    x ∈ Spec.persistedPost size bs ↔ x ∈ Spec.persistedPre size bs :=
  (persistedPost_perm size bs hs).mem_iff

example : 1 ∈ Spec.persistedPost 3000 1 ↔ 1 ∈ Spec.persistedPre 3000 1 :=
  persisted_same_nodes 3000 1 (by decide) 1

/-- nodes below the block size, and the half-filled last leaf, are not stored: `load` gives `None`
(any store of the four non-empty kinds, whatever its backing) -/
theorem load_none_spec {H : Type} (hf : HashFns H) (d : List UInt8) (bs : Nat)
    (hs : d.length ≤ 2 ^ 63) (hbs : bs ≤ 10) (fl : Flavour) (ob : Store H)
    (htree : ob.tree = ⟨d.length, bs⟩) (hk : ob.kind ≠ .empty) (x : Nat)
    (hx : Node.level x < bs ∨ (Tree.blocks ⟨d.length, bs⟩ % 2 = 1 ∧
      x = Node.subBs (Tree.blocks ⟨d.length, bs⟩ - 1) bs)) :
    ob.load hf fl x = .ok none :=
  load_none hf fl ob hk x (slot_unstored d.length bs hs hbs ob htree hk x hx)

example : (⟨.postMem, 0, ⟨3000, 1⟩, []⟩ : Store UInt8).load toyHash .sync 0 = .ok none :=
  load_none_spec toyHash toyBlob 1 toy_size (by decide) .sync ⟨.postMem, 0, ⟨3000, 1⟩, []⟩ toy_tree
    (by decide) 0 (.inl (by decide))

end Bao.C03

/-
Status.
PROVED (full strength; every `hf : HashFns H`, NO collision-freedom; `d.length ≤ 2^63`, `bs ≤ 10`):
`post_order_writer`, `outboard_store_empty`, `init_from_empty`, `load_none_spec`, `persisted_same_nodes`
(no hypothesis on the byte representation); `outboard_store_pre/post`, `size`, `init_from_pre/post`
(`hlen`); `load_spec` (`hlen`, `hrt`).
PARTIAL: none.   OPEN: none.
Lemmas: `BaoProofs/Lemmas/OutboardL.lean` (`run_sub` = the induction along `planRec`; `obGen` = both
loops as one, parametric in what is done with a finished pair) and `BaoProofs/Lemmas/WriteAtL.lean`
(`applyWrites_perm`: positional 64-byte writes in any order of a slot bijection overwrite every
stale byte).
Remarks on the model (no statement above is affected):
  * the bound "initial backing not longer than outboardSize" for the io kinds is sharp: `writeAt` never
    truncates, so `outboard` / `initFrom` over a LONGER stale `preIo`/`postIo` backing leaves the stale
    tail behind (e.g. size 0, 64 stale bytes: data stays 64 bytes, `Spec.postOutboard = []`).
  * `load` on the `empty` kind returns a pair of zero hashes for relevant nodes, so `load_spec` has no
    analogue there (by design of `EmptyOutboard`).
  * `outboard` does not touch the store's `root` field (it returns the root); only `initFrom` sets it.
-/
