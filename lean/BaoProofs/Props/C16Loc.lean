import BaoProofs.Lemmas.SizeProofLoc

/-!
# C16 with LOCALISED collision freedom

`Props/C16.lean` (`size_proof`): a decode against the true root whose query selects the last chunk
of the CLAIMED geometry can end `done` only if the claimed size is the true size – under the global
`CollisionFree hf`, which no function into 32 bytes satisfies.  Here the same statements are proved
under

  `CollisionFreeOn hf (fun x => x ∈ trueEvals hf d ∨ x ∈ runEvals hf fl root ⟨size', bs⟩ q s)`

(no collision among the finitely many inputs evaluated by the honest hashing of the blob and by
this decoder run; definitions in `Lemmas/C01InvLoc.lean`), and in the contrapositive
`size_collision_extraction` without any hash hypothesis: a `done` under a wrong claimed size
exhibits a collision in that finite, computable list.

Method: `Lemmas/SizeProofLoc.lean` – the spine argument (`Lemmas/SizeProof.lean`) with an
evaluation log threaded through the list machine `runL` (`runLEvals`), and `runEvals_sup`, the
twin of `decodeAll_eq_runL`, which shows that those evaluations are evaluations of the model's
decoder (`runEvals`), sync and fsm.
-/

namespace Bao.C16
open Bao Bao.Spec Bao.DecodeSpec Bao.C01

variable {H : Type} {hf : HashFns H} [BEq H] [LawfulBEq H]

/-- **the size proof, local form**: if the query selects the last chunk of the claimed geometry,
the decode of SOME stream against the true root ends `done`, and `hf` has no collision among the
inputs evaluated by the honest hashing of `d` and by that run, the claimed size is the true size -/
theorem size_proof_loc (fl : Flavour) (d : List UInt8) (hd : d.length ≤ 2 ^ 63)
    (size' bs : Nat) (hs : size' ≤ 2 ^ 63) (q : Ranges) (hwf : Ranges.WF q = true)
    (hsel : Spec.selected size' q (nChunks size' - 1) = true) (s : List UInt8)
    (cf : CollisionFreeOn hf (fun x => x ∈ trueEvals hf d ∨
      x ∈ runEvals hf fl (Spec.root hf d) ⟨size', bs⟩ q s))
    (hdone : (decodeAll hf fl (Spec.root hf d) ⟨size', bs⟩ q s).terminal = .done) :
    size' = d.length :=
  decode_size_proof_loc fl d hd size' bs hs q hwf hsel s cf hdone

/-- contrapositive: with a wrong claimed size a stream is rejected (error, never `done`, never a
panic) unless its run evaluates a collision -/
theorem wrong_size_rejected_loc (fl : Flavour) (d : List UInt8) (hd : d.length ≤ 2 ^ 63)
    (size' bs : Nat) (hs : size' ≤ 2 ^ 63) (hne : size' ≠ d.length) (q : Ranges)
    (hwf : Ranges.WF q = true) (hsel : Spec.selected size' q (nChunks size' - 1) = true)
    (s : List UInt8)
    (cf : CollisionFreeOn hf (fun x => x ∈ trueEvals hf d ∨
      x ∈ runEvals hf fl (Spec.root hf d) ⟨size', bs⟩ q s)) :
    ∃ e, (decodeAll hf fl (Spec.root hf d) ⟨size', bs⟩ q s).terminal = .err e :=
  decode_wrong_size_loc fl d hd size' bs hs hne q hwf hsel s cf

/-- **collision extraction for the size proof** (no hash hypothesis): a decode that ends `done`
under a WRONG claimed size, with a query selecting the last claimed chunk, exhibits two different
inputs with equal hash in the finite list `trueEvals hf d ++ runEvals …` -/
theorem size_collision_extraction (fl : Flavour) (d : List UInt8) (hd : d.length ≤ 2 ^ 63)
    (size' bs : Nat) (hs : size' ≤ 2 ^ 63) (hne : size' ≠ d.length) (q : Ranges)
    (hwf : Ranges.WF q = true) (hsel : Spec.selected size' q (nChunks size' - 1) = true)
    (s : List UInt8)
    (hdone : (decodeAll hf fl (Spec.root hf d) ⟨size', bs⟩ q s).terminal = .done) :
    ∃ x y, x ∈ trueEvals hf d ++ runEvals hf fl (Spec.root hf d) ⟨size', bs⟩ q s ∧
      y ∈ trueEvals hf d ++ runEvals hf fl (Spec.root hf d) ⟨size', bs⟩ q s ∧
      x ≠ y ∧ hf.eval x = hf.eval y :=
  collision_of_not_cf fun cf => hne (size_proof_loc fl d hd size' bs hs q hwf hsel s cf hdone)

/-- … and the quadratic search over that list finds a collision -/
theorem size_collision_search [DecidableEq H] (fl : Flavour) (d : List UInt8)
    (hd : d.length ≤ 2 ^ 63) (size' bs : Nat) (hs : size' ≤ 2 ^ 63) (hne : size' ≠ d.length)
    (q : Ranges) (hwf : Ranges.WF q = true)
    (hsel : Spec.selected size' q (nChunks size' - 1) = true) (s : List UInt8)
    (hdone : (decodeAll hf fl (Spec.root hf d) ⟨size', bs⟩ q s).terminal = .done) :
    ∃ x y, findCollision hf (trueEvals hf d ++ runEvals hf fl (Spec.root hf d) ⟨size', bs⟩ q s) =
        some (x, y) ∧
      x ∈ trueEvals hf d ++ runEvals hf fl (Spec.root hf d) ⟨size', bs⟩ q s ∧
      y ∈ trueEvals hf d ++ runEvals hf fl (Spec.root hf d) ⟨size', bs⟩ q s ∧
      x ≠ y ∧ hf.eval x = hf.eval y :=
  findCollision_of_not_cf fun cf => hne (size_proof_loc fl d hd size' bs hs q hwf hsel s cf hdone)

section
/-! ### (a) the symbolic hash (globally, hence locally, collision free) -/

private def blob : List UInt8 := [1, 2, 3]

example : (3 : Nat) = blob.length :=
  size_proof_loc (hf := termHash) .sync blob (by decide) 3 0 (by decide) [0] (by decide)
    (by decide) [1, 2, 3] (termHash_cf.on _) (by decide)

example (s : List UInt8) :
    ∃ e, (decodeAll termHash .fsm (Spec.root termHash blob) ⟨5000, 1⟩ [4] s).terminal = .err e :=
  wrong_size_rejected_loc .fsm blob (by decide) 5000 1 (by decide) (by decide) [4]
    (by decide) (by decide) s (termHash_cf.on _)

/-! ### (b) a hash WITH the 32-byte wire round trip (`toy32`, not globally collision free)

A blob of three chunks.  The honest encoding of the query "last chunk" decodes to `done` (so the
hypotheses of `size_proof_loc` are all met); the same stream with one byte appended is rejected
under the claimed size 2050.  Collision freedom on the finitely many evaluated inputs is decided. -/

private def blob3 : List UInt8 := (List.range 2049).map UInt8.ofNat
private def honest3 : List UInt8 := Spec.encode toy32 blob3 0 [2]

private theorem blob3_len : blob3.length ≤ 2 ^ 63 := by
  simp only [blob3, List.length_map, List.length_range]; omega

private theorem blob3_length : blob3.length = 2049 := by
  simp only [blob3, List.length_map, List.length_range]

example : (∀ h, toy32.ofBytes (toy32.toBytes h) = h) ∧ (∀ h, (toy32.toBytes h).length = 32) ∧
    ¬ CollisionFree toy32 :=
  ⟨toy32_rt, toy32_len, toy32_not_cf⟩

/-- one evaluation for the two runs (they share the hashing of the blob and the honest stream): no
collision among the inputs of the blob and of either run (equal inputs recognised by their keys),
and the honest run ends `done` -/
private theorem toy_runs :
    (trueEvals toy32 blob3 ++
        runEvals toy32 .sync (Spec.root toy32 blob3) ⟨2049, 0⟩ [2] honest3).Pairwise
      (fun x y => toy32.eval x = toy32.eval y → key32 x = key32 y) ∧
    (decodeAll toy32 .sync (Spec.root toy32 blob3) ⟨2049, 0⟩ [2] honest3).terminal = .done ∧
    (trueEvals toy32 blob3 ++
        runEvals toy32 .fsm (Spec.root toy32 blob3) ⟨2050, 0⟩ [2] (honest3 ++ [5])).Pairwise
      (fun x y => toy32.eval x = toy32.eval y → key32 x = key32 y) := by
  decide +kernel

private theorem toy_cf_honest : CollisionFreeOn toy32 (fun x => x ∈ trueEvals toy32 blob3 ∨
    x ∈ runEvals toy32 .sync (Spec.root toy32 blob3) ⟨2049, 0⟩ [2] honest3) :=
  (collisionFreeOn_keys key32 key32_inj toy_runs.1).mono fun _ => List.mem_append.2

private theorem toy_done :
    (decodeAll toy32 .sync (Spec.root toy32 blob3) ⟨2049, 0⟩ [2] honest3).terminal = .done :=
  toy_runs.2.1

example : (2049 : Nat) = blob3.length :=
  size_proof_loc .sync blob3 blob3_len 2049 0 (by decide) [2] (by decide) (by decide) honest3
    toy_cf_honest toy_done

private theorem toy_cf_wrong : CollisionFreeOn toy32 (fun x => x ∈ trueEvals toy32 blob3 ∨
    x ∈ runEvals toy32 .fsm (Spec.root toy32 blob3) ⟨2050, 0⟩ [2] (honest3 ++ [5])) :=
  (collisionFreeOn_keys key32 key32_inj toy_runs.2.2).mono fun _ => List.mem_append.2

example : ∃ e, (decodeAll toy32 .fsm (Spec.root toy32 blob3) ⟨2050, 0⟩ [2]
    (honest3 ++ [5])).terminal = .err e :=
  wrong_size_rejected_loc .fsm blob3 blob3_len 2050 0 (by decide)
    (by rw [blob3_length]; decide) [2] (by decide) (by decide) (honest3 ++ [5]) toy_cf_wrong

/-! ### (c) collision extraction: the constant hash accepts a wrong size -/

private def unitHash : HashFns Unit where
  chunkCv _ _ _ := ()
  parentCv _ _ _ := ()
  ofBytes _ := ()
  toBytes _ := List.replicate 32 0

private theorem unit_done :
    (decodeAll unitHash .sync (Spec.root unitHash [1]) ⟨2, 0⟩ [0] [2, 3]).terminal = .done := by
  decide +kernel

example : ∃ x y,
    x ∈ trueEvals unitHash [1] ++ runEvals unitHash .sync (Spec.root unitHash [1]) ⟨2, 0⟩ [0] [2, 3] ∧
    y ∈ trueEvals unitHash [1] ++ runEvals unitHash .sync (Spec.root unitHash [1]) ⟨2, 0⟩ [0] [2, 3] ∧
    x ≠ y ∧ unitHash.eval x = unitHash.eval y :=
  size_collision_extraction .sync [1] (by decide) 2 0 (by decide) (by decide) [0] (by decide)
    (by decide) [2, 3] unit_done

example : ∃ x y, findCollision unitHash
      (trueEvals unitHash [1] ++ runEvals unitHash .sync (Spec.root unitHash [1]) ⟨2, 0⟩ [0] [2, 3]) =
      some (x, y) ∧
    x ∈ trueEvals unitHash [1] ++ runEvals unitHash .sync (Spec.root unitHash [1]) ⟨2, 0⟩ [0] [2, 3] ∧
    y ∈ trueEvals unitHash [1] ++ runEvals unitHash .sync (Spec.root unitHash [1]) ⟨2, 0⟩ [0] [2, 3] ∧
    x ≠ y ∧ unitHash.eval x = unitHash.eval y :=
  size_collision_search .sync [1] (by decide) 2 0 (by decide) (by decide) [0] (by decide)
    (by decide) [2, 3] unit_done

/-- the collision that the search computes: the true chunk against the forged, longer one -/
example : findCollision unitHash
    (trueEvals unitHash [1] ++ runEvals unitHash .sync (Spec.root unitHash [1]) ⟨2, 0⟩ [0] [2, 3]) =
    some (.chunk 0 [1] true, .chunk 0 [2, 3] true) := by decide +kernel

end

/-
## Status (C16, local collision freedom)

All theorems depend on the axioms `propext`, `Classical.choice`, `Quot.sound` only.

PROVED (full strength: every claimed size `≤ 2^63`, every block size, every well-formed query that
selects the last claimed chunk, every stream, both flavours): `size_proof_loc`,
`wrong_size_rejected_loc`, `size_collision_extraction` (no hash hypothesis), `size_collision_search`.
(`no_panic` of `Props/C16.lean` needs no hash hypothesis.)

PARTIAL: none.   OPEN: none.

Non-vacuity: (a) `termHash` (global ⇒ local); (b) `toy32` (wire round trip, not globally collision
free): all hypotheses of `size_proof_loc` hold on an honest 3-chunk decode; (c) the constant hash
accepts claimed size 2 for a 1-byte blob, with the extracted collision computed.
-/

end Bao.C16
