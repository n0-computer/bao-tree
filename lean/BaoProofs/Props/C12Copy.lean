import BaoProofs.Lemmas.CopyL
import BaoProofs.Props.C03

/-!
# C12 (copy / flip) — converting or copying an outboard loses and invents nothing

"… Consequently converting an outboard between pre- and post-order, or copying it, loses and invents
nothing."

`copy hf fl src dst` (`sync::copy` / `fsm::copy`) walks the pre-order node iterator of the SOURCE
tree, `load`s each node from `src` and, if it got `some pair`, `save`s it to `dst`;
`flip hf s` (`PostOrderMemOutboard::flip` / `PreOrderMemOutboard::flip`) is a `sync` copy into a
zero-filled memory outboard of the other order with the same root and tree.

Vocabulary (definitions in `BaoProofs/Lemmas/CopyL.lean`, `BaoProofs/Lemmas/WriteAtL.lean`):
* `blockAt data i  = (data.drop (i * 64)).take 64`            – the `i`-th 64-byte record of a backing;
* `recordOf s x    = match s.slot x with | some i => blockAt s.data i | none => []`
                                                              – the record of node `x` in store `s`;
* `plist k size bs = persistedPost size bs` for `k = postIo / postMem`, `persistedPre size bs` otherwise
                                                              – the persisted nodes in the layout order of kind `k`
                                                                (`layout_slots`: `s.slot (plist s.kind ..)[i] = some i`);
* `reenc hf b      = toBytes (ofBytes (b.take 32)) ++ toBytes (ofBytes ((b.drop 32).take 32))`
                                                              – what parse + serialise does to a record;
* `flipKind k      = preMem` for `k = postMem / postIo`, `postMem` otherwise.

Hypotheses on the hash representation: `hlen` (a hash is 32 bytes) everywhere; the byte round trip
`hbt : toBytes (ofBytes b) = b` for 32-byte `b` where the copy has to be verbatim (true of the real
instance `ofBytes = toBytes = id`; without it a copy re-encodes what it parsed: `copy_general`).
-/

namespace Bao.C12

open Bao Bao.Spec Bao.WriteAtL Bao.CopyL

/-- hypotheses on the source and the target of a `copy`: same tree `⟨size, bs⟩`; the source is a
pre/post store (memory or io) whose backing holds at least `outboardSize` bytes; the target is a
memory store of exactly `outboardSize` bytes or an io store with any backing of at most
`outboardSize` bytes (`writeAt` zero-extends) -/
structure CopyPre {H : Type} (src dst : Store H) (size bs : Nat) : Prop where
  size_le : size ≤ 2 ^ 63
  bs_le : bs ≤ 10
  src_tree : src.tree = ⟨size, bs⟩
  dst_tree : dst.tree = ⟨size, bs⟩
  src_kind : src.kind ≠ .empty
  src_len : Tree.outboardSize ⟨size, bs⟩ ≤ src.data.length
  dst_ok : ((dst.kind = .preMem ∨ dst.kind = .postMem) ∧
              dst.data.length = Tree.outboardSize ⟨size, bs⟩) ∨
           ((dst.kind = .preIo ∨ dst.kind = .postIo) ∧
              dst.data.length ≤ Tree.outboardSize ⟨size, bs⟩)

/-! ## a hash instance with the byte round trip (for the non-vacuity examples) -/

/-- a hash is a byte string, serialised by padding / cutting to 32 bytes -/
def byteHash : HashFns (List UInt8) where
  chunkCv := fun c b r => UInt8.ofNat c :: (if r then 1 else 0) :: b.take 8
  parentCv := fun l r f => (if f then 1 else 0) :: (l.take 8 ++ r.take 8)
  ofBytes := fun b => b
  toBytes := fun h => (h ++ List.replicate 32 0).take 32

theorem byte_len : ∀ h, (byteHash.toBytes h).length = 32 := by
  intro h
  simp only [byteHash, List.length_take, List.length_append, List.length_replicate]
  exact Nat.min_eq_left (Nat.le_add_left 32 _)

theorem byte_bt : ∀ b : List UInt8, b.length = 32 → byteHash.toBytes (byteHash.ofBytes b) = b :=
  fun _ hb => List.take_left' hb

/-- 3000 bytes at `bs = 1`: two chunk groups, one persisted node, `outboardSize = 64` -/
def exSrc : Store (List UInt8) := ⟨.postIo, [1], ⟨3000, 1⟩, List.replicate 70 7⟩
def exDst : Store (List UInt8) := ⟨.preMem, [2], ⟨3000, 1⟩, List.replicate 64 9⟩
def exDstIo : Store (List UInt8) := ⟨.postIo, [2], ⟨3000, 1⟩, [5, 5, 5]⟩

theorem ex_pre : CopyPre exSrc exDst 3000 1 :=
  ⟨by decide, by decide, rfl, rfl, by decide, by decide, .inl ⟨.inl rfl, by decide⟩⟩

theorem ex_pre_io : CopyPre exSrc exDstIo 3000 1 :=
  ⟨by decide, by decide, rfl, rfl, by decide, by decide, .inr ⟨.inr rfl, by decide⟩⟩

/-! ## 0. the layout of a store -/

/-- the slot function of a pre/post store (memory or io) maps the persisted nodes, listed in the
store's own order, to `0, 1, …, blocks-2`; that list is a permutation of `persistedPre` -/
theorem layout_slots {H : Type} (s : Store H) (size bs : Nat) (hs : size ≤ 2 ^ 63) (hbs : bs ≤ 10)
    (hk : s.kind ≠ .empty) (ht : s.tree = ⟨size, bs⟩) :
    (plist s.kind size bs).Perm (persistedPre size bs) ∧
    (plist s.kind size bs).length = Tree.blocks ⟨size, bs⟩ - 1 ∧
    ∀ i (h : i < (plist s.kind size bs).length), s.slot (plist s.kind size bs)[i] = some i :=
  ⟨plist_perm _ _ _ hs, plist_length _ _ _ hs hbs, slot_plist s hk size bs hs hbs ht⟩

example : ∀ i (h : i < (plist exSrc.kind 3000 1).length),
    exSrc.slot (plist exSrc.kind 3000 1)[i] = some i :=
  (layout_slots exSrc 3000 1 (by decide) (by decide) (by decide) rfl).2.2

/-! ## 1. `copy` -/

/-- `copy` without any round-trip hypothesis: it succeeds, touches neither kind, root nor tree, and
the target's backing becomes exactly the concatenation, in the TARGET's order, of the re-encoded
source records of the persisted nodes (every stale / missing byte of the target is overwritten) -/
theorem copy_general {H : Type} (hf : HashFns H) (hlen : ∀ h, (hf.toBytes h).length = 32)
    (fl : Flavour) (src dst : Store H) (size bs : Nat) (hp : CopyPre src dst size bs) :
    copy hf fl src dst = .ok { dst with
      data := (plist dst.kind size bs).flatMap fun x => reenc hf (recordOf src x) } := by
  obtain ⟨hs, hbs, hst, hdt, hsk, hsd, hdk⟩ := hp
  rw [← copied_eq_records hf src hsk dst.kind size bs hs hbs hst]
  exact copy_run hf hlen size bs hs hbs fl src dst hst hdt hsk hsd (hdk.symm)

example : copy byteHash .fsm exSrc exDst = .ok { exDst with
    data := (plist exDst.kind 3000 1).flatMap fun x => reenc byteHash (recordOf exSrc x) } :=
  copy_general byteHash byte_len .fsm exSrc exDst 3000 1 ex_pre

/-- no `.panic` / `.err` outcome under the hypotheses (no round trip needed) -/
theorem copy_no_panic {H : Type} (hf : HashFns H) (hlen : ∀ h, (hf.toBytes h).length = 32)
    (fl : Flavour) (src dst : Store H) (size bs : Nat) (hp : CopyPre src dst size bs) :
    ∃ dst', copy hf fl src dst = .ok dst' :=
  ⟨_, copy_general hf hlen fl src dst size bs hp⟩

example : ∃ dst', copy byteHash .sync exSrc exDstIo = .ok dst' :=
  copy_no_panic byteHash byte_len .sync exSrc exDstIo 3000 1 ex_pre_io

/-- LOSES AND INVENTS NOTHING (byte round trip): the target's backing becomes exactly the
concatenation, in the target's order, of the source's own records of the persisted nodes -/
theorem copy_records {H : Type} (hf : HashFns H) (hlen : ∀ h, (hf.toBytes h).length = 32)
    (hbt : ∀ b : List UInt8, b.length = 32 → hf.toBytes (hf.ofBytes b) = b)
    (fl : Flavour) (src dst : Store H) (size bs : Nat) (hp : CopyPre src dst size bs) :
    copy hf fl src dst = .ok { dst with
      data := (plist dst.kind size bs).flatMap (recordOf src) } := by
  obtain ⟨hs, hbs, hst, hdt, hsk, hsd, hdk⟩ := hp
  rw [copy_run hf hlen size bs hs hbs fl src dst hst hdt hsk hsd (hdk.symm),
    copied_hbt hf hbt src hsk dst.kind size bs hs hbs hst hsd]
  congr 2
  exact flatMap_congr' _ _ _ (fun x hx => (recordOf_persisted src hsk size bs hs hbs hst x
    ((plist_perm dst.kind size bs hs).mem_iff.mp hx)).symm)

example : copy byteHash .fsm exSrc exDst = .ok { exDst with
    data := (plist exDst.kind 3000 1).flatMap (recordOf exSrc) } :=
  copy_records byteHash byte_len byte_bt .fsm exSrc exDst 3000 1 ex_pre

/-- the result, node by node.  `copy` returns a store with the target's
kind, root and tree and exactly `outboardSize` bytes, in which every persisted node `x` has a slot
`j`, as it has a slot `i` in the source (both `< blocks - 1`), the 64 bytes at slot `j` are the 64
bytes at slot `i` of the source, and `load` (either flavour) returns what it returns on the source -/
theorem copy_loads {H : Type} (hf : HashFns H) (hlen : ∀ h, (hf.toBytes h).length = 32)
    (hbt : ∀ b : List UInt8, b.length = 32 → hf.toBytes (hf.ofBytes b) = b)
    (fl : Flavour) (src dst : Store H) (size bs : Nat) (hp : CopyPre src dst size bs) :
    ∃ dst', copy hf fl src dst = .ok dst' ∧ dst'.kind = dst.kind ∧ dst'.root = dst.root ∧
      dst'.tree = dst.tree ∧ dst'.data.length = Tree.outboardSize ⟨size, bs⟩ ∧
      ∀ x ∈ persistedPre size bs, ∃ i j, src.slot x = some i ∧ dst'.slot x = some j ∧
        i < Tree.blocks ⟨size, bs⟩ - 1 ∧ j < Tree.blocks ⟨size, bs⟩ - 1 ∧
        (dst'.data.drop (j * 64)).take 64 = (src.data.drop (i * 64)).take 64 ∧
        ∀ fl1 fl2, src.load hf fl1 x = .ok (some (parsePair hf ((src.data.drop (i * 64)).take 64))) ∧
          dst'.load hf fl2 x = src.load hf fl1 x := by
  obtain ⟨hs, hbs, hst, hdt, hsk, hsd, hdk⟩ := hp
  have hdne : dst.kind ≠ .empty :=
    hdk.elim (fun h => OutboardL.ne_empty_of_or h.1) fun h => OutboardL.ne_empty_of_or h.1
  exact ⟨_, copy_run hf hlen size bs hs hbs fl src dst hst hdt hsk hsd (hdk.symm), rfl, rfl, rfl,
    copied_length hf hlen src _ size bs hs hbs,
    copy_node hf hlen hbt size bs hs hbs src _ hst hdt hsk hdne hsd rfl⟩

example : ∃ dst', copy byteHash .sync exSrc exDstIo = .ok dst' ∧ dst'.kind = exDstIo.kind ∧
    dst'.root = exDstIo.root ∧ dst'.tree = exDstIo.tree ∧
    dst'.data.length = Tree.outboardSize ⟨3000, 1⟩ ∧
    ∀ x ∈ persistedPre 3000 1, ∃ i j, exSrc.slot x = some i ∧ dst'.slot x = some j ∧
      i < Tree.blocks ⟨3000, 1⟩ - 1 ∧ j < Tree.blocks ⟨3000, 1⟩ - 1 ∧
      (dst'.data.drop (j * 64)).take 64 = (exSrc.data.drop (i * 64)).take 64 ∧
      ∀ fl1 fl2, exSrc.load byteHash fl1 x
          = .ok (some (parsePair byteHash ((exSrc.data.drop (i * 64)).take 64))) ∧
        dst'.load byteHash fl2 x = exSrc.load byteHash fl1 x :=
  copy_loads byteHash byte_len byte_bt .sync exSrc exDstIo 3000 1 ex_pre_io

/-- "invents nothing", as lists of records: the `blocks - 1` records of the result are a
permutation of the first `blocks - 1` records of the source -/
theorem copy_perm {H : Type} (hf : HashFns H) (hlen : ∀ h, (hf.toBytes h).length = 32)
    (hbt : ∀ b : List UInt8, b.length = 32 → hf.toBytes (hf.ofBytes b) = b)
    (fl : Flavour) (src dst : Store H) (size bs : Nat) (hp : CopyPre src dst size bs) :
    ∃ dst', copy hf fl src dst = .ok dst' ∧
      ((List.range (Tree.blocks ⟨size, bs⟩ - 1)).map (blockAt dst'.data)).Perm
        ((List.range (Tree.blocks ⟨size, bs⟩ - 1)).map (blockAt src.data)) := by
  obtain ⟨hs, hbs, hst, hdt, hsk, hsd, hdk⟩ := hp
  refine ⟨_, copy_run hf hlen size bs hs hbs fl src dst hst hdt hsk hsd (hdk.symm), ?_⟩
  have h := blocks_copied_perm hf hlen src hsk dst.kind size bs hs hbs hst
  have e : ((List.range (Tree.blocks ⟨size, bs⟩ - 1)).map fun i => reenc hf (blockAt src.data i))
      = (List.range (Tree.blocks ⟨size, bs⟩ - 1)).map (blockAt src.data) :=
    List.map_congr_left (fun i hi => reenc_id hf hbt _
      (length_blockAt _ _ (slot_add_le (List.mem_range.mp hi) hsd)))
  rw [e] at h
  exact h

example : ∃ dst', copy byteHash .fsm exSrc exDst = .ok dst' ∧
    ((List.range (Tree.blocks ⟨3000, 1⟩ - 1)).map (blockAt dst'.data)).Perm
      ((List.range (Tree.blocks ⟨3000, 1⟩ - 1)).map (blockAt exSrc.data)) :=
  copy_perm byteHash byte_len byte_bt .fsm exSrc exDst 3000 1 ex_pre

/-- same order (`pre → pre`, `post → post`; memory or io on either side): the result's backing is
the first `outboardSize` bytes of the source's -/
theorem copy_same_order {H : Type} (hf : HashFns H) (hlen : ∀ h, (hf.toBytes h).length = 32)
    (hbt : ∀ b : List UInt8, b.length = 32 → hf.toBytes (hf.ofBytes b) = b)
    (fl : Flavour) (src dst : Store H) (size bs : Nat) (hp : CopyPre src dst size bs)
    (hord : ((src.kind = .preIo ∨ src.kind = .preMem) ∧ (dst.kind = .preIo ∨ dst.kind = .preMem)) ∨
            ((src.kind = .postIo ∨ src.kind = .postMem) ∧ (dst.kind = .postIo ∨ dst.kind = .postMem))) :
    copy hf fl src dst
      = .ok { dst with data := src.data.take (Tree.outboardSize ⟨size, bs⟩) } := by
  obtain ⟨hs, hbs, hst, hdt, hsk, hsd, hdk⟩ := hp
  have hpl : plist dst.kind size bs = plist src.kind size bs := by
    rcases hord with ⟨h1, h2⟩ | ⟨h1, h2⟩
    · rw [plist_pre h1, plist_pre h2]
    · rw [plist_post h1, plist_post h2]
  rw [copy_run hf hlen size bs hs hbs fl src dst hst hdt hsk hsd (hdk.symm),
    copied_same hf hbt src hsk dst.kind size bs hs hbs hst hsd hpl]
  rfl

example : copy byteHash .sync exSrc exDstIo
    = .ok { exDstIo with data := exSrc.data.take (Tree.outboardSize ⟨3000, 1⟩) } :=
  copy_same_order byteHash byte_len byte_bt .sync exSrc exDstIo 3000 1 ex_pre_io
    (.inr ⟨.inl rfl, .inl rfl⟩)

/-! ## 2. copying / flipping the specification outboards -/

/-- copying a store that holds the specification outboard of its order (`Spec.preOutboard` /
`Spec.postOutboard`, what every outboard creation produces: C03) yields the specification outboard
of the TARGET's order; either round trip suffices (`hrt`: the records are `toBytes l ++ toBytes r`) -/
theorem copy_spec {H : Type} (hf : HashFns H) (hlen : ∀ h, (hf.toBytes h).length = 32)
    (hcodec : (∀ h, hf.ofBytes (hf.toBytes h) = h) ∨
      (∀ b : List UInt8, b.length = 32 → hf.toBytes (hf.ofBytes b) = b))
    (fl : Flavour) (d : List UInt8) (bs : Nat) (src dst : Store H)
    (hp : CopyPre src dst d.length bs)
    (hsrc : ((src.kind = .preIo ∨ src.kind = .preMem) ∧ src.data = Spec.preOutboard hf d bs) ∨
            ((src.kind = .postIo ∨ src.kind = .postMem) ∧ src.data = Spec.postOutboard hf d bs)) :
    copy hf fl src dst = .ok { dst with
      data := (if dst.kind = .postIo ∨ dst.kind = .postMem then Spec.postOutboard hf d bs
        else Spec.preOutboard hf d bs) } := by
  obtain ⟨hs, hbs, hst, hdt, hsk, hsd, hdk⟩ := hp
  have hsdat : src.data = specData hf d src.kind bs := by
    rcases hsrc with ⟨hk, hd⟩ | ⟨hk, hd⟩
    · rw [specData_pre hf d hk, hd]
    · rw [specData_post hf d hk, hd]
  rw [copy_run hf hlen d.length bs hs hbs fl src dst hst hdt hsk hsd (hdk.symm),
    copied_spec hf hlen hcodec d bs hs hbs src hsk hst hsdat, specData_ite]

example : copy byteHash .fsm
      ⟨.postIo, [1], ⟨C03.toyBlob.length, 1⟩, Spec.postOutboard byteHash C03.toyBlob 1⟩
      ⟨.preIo, [2], ⟨C03.toyBlob.length, 1⟩, []⟩
    = .ok ⟨.preIo, [2], ⟨C03.toyBlob.length, 1⟩, Spec.preOutboard byteHash C03.toyBlob 1⟩ := by
  have h := copy_spec byteHash byte_len (.inr byte_bt) .fsm C03.toyBlob 1
    ⟨.postIo, [1], ⟨C03.toyBlob.length, 1⟩, Spec.postOutboard byteHash C03.toyBlob 1⟩
    ⟨.preIo, [2], ⟨C03.toyBlob.length, 1⟩, []⟩
    ⟨C03.toy_size, by decide, rfl, rfl, by decide,
      by dsimp only  -- project `.data` first: unifying it with the lemma would unfold the outboard
         exact OutboardL.outboardSize_le_postOutboard byteHash byte_len C03.toyBlob 1 C03.toy_size
           (by decide),
      .inr ⟨.inl rfl, Nat.zero_le _⟩⟩
    (.inr ⟨.inl rfl, by simp only⟩)
  rw [h]
  simp

/-- `flip` of the post-order specification outboard is the pre-order one and conversely
(any root field) -/
theorem flip_spec {H : Type} (hf : HashFns H) (hlen : ∀ h, (hf.toBytes h).length = 32)
    (hcodec : (∀ h, hf.ofBytes (hf.toBytes h) = h) ∨
      (∀ b : List UInt8, b.length = 32 → hf.toBytes (hf.ofBytes b) = b))
    (d : List UInt8) (bs : Nat) (hs : d.length ≤ 2 ^ 63) (hbs : bs ≤ 10) (r : H) :
    flip hf ⟨.postMem, r, ⟨d.length, bs⟩, Spec.postOutboard hf d bs⟩
      = .ok ⟨.preMem, r, ⟨d.length, bs⟩, Spec.preOutboard hf d bs⟩ ∧
    flip hf ⟨.preMem, r, ⟨d.length, bs⟩, Spec.preOutboard hf d bs⟩
      = .ok ⟨.postMem, r, ⟨d.length, bs⟩, Spec.postOutboard hf d bs⟩ := by
  constructor
  · rw [flip_run hf hlen d.length bs hs hbs _ rfl (by simp)
      (by simp only [OutboardL.postOutboard_length hf d bs (OutboardL.pairBytes_length hf hlen d) hs hbs]; exact Nat.le_refl _)]
    simp only [flipKind]
    rw [copied_spec hf hlen hcodec d bs hs hbs ⟨.postMem, r, ⟨d.length, bs⟩, Spec.postOutboard hf d bs⟩
      (by simp) rfl (specData_post hf d (.inr rfl) bs).symm, specData_pre hf d (.inr rfl)]
  · rw [flip_run hf hlen d.length bs hs hbs _ rfl (by simp)
      (by simp only [OutboardL.preOutboard_length hf d bs (OutboardL.pairBytes_length hf hlen d) hs hbs]; exact Nat.le_refl _)]
    simp only [flipKind]
    rw [copied_spec hf hlen hcodec d bs hs hbs ⟨.preMem, r, ⟨d.length, bs⟩, Spec.preOutboard hf d bs⟩
      (by simp) rfl (specData_pre hf d (.inr rfl) bs).symm, specData_post hf d (.inr rfl)]

example : flip C03.toyHash ⟨.postMem, 0, ⟨C03.toyBlob.length, 1⟩, Spec.postOutboard C03.toyHash C03.toyBlob 1⟩
    = .ok ⟨.preMem, 0, ⟨C03.toyBlob.length, 1⟩, Spec.preOutboard C03.toyHash C03.toyBlob 1⟩ :=
  (flip_spec C03.toyHash C03.toy_len (.inl C03.toy_rt) C03.toyBlob 1 C03.toy_size (by decide) 0).1

example : flip byteHash ⟨.preMem, [], ⟨C03.toyBlob.length, 1⟩, Spec.preOutboard byteHash C03.toyBlob 1⟩
    = .ok ⟨.postMem, [], ⟨C03.toyBlob.length, 1⟩, Spec.postOutboard byteHash C03.toyBlob 1⟩ :=
  (flip_spec byteHash byte_len (.inr byte_bt) C03.toyBlob 1 C03.toy_size (by decide) []).2

/-! ## 3. `flip` twice -/

/-- every memory store (pre or post) with ARBITRARY data of exactly `outboardSize` bytes
and arbitrary root flips to a store of the other kind with the same root, tree and data length
whose records are the store's own (`copy_records`), and flipping that gives the store back -/
theorem flip_flip {H : Type} (hf : HashFns H) (hlen : ∀ h, (hf.toBytes h).length = 32)
    (hbt : ∀ b : List UInt8, b.length = 32 → hf.toBytes (hf.ofBytes b) = b)
    (s : Store H) (size bs : Nat) (hs : size ≤ 2 ^ 63) (hbs : bs ≤ 10)
    (ht : s.tree = ⟨size, bs⟩) (hk : s.kind = .preMem ∨ s.kind = .postMem)
    (hd : s.data.length = Tree.outboardSize ⟨size, bs⟩) :
    ∃ t, flip hf s = .ok t ∧ t.kind = flipKind s.kind ∧ t.root = s.root ∧ t.tree = s.tree ∧
      t.data.length = s.data.length ∧
      t.data = (plist t.kind size bs).flatMap (recordOf s) ∧
      flip hf t = .ok s := by
  have hsk := OutboardL.ne_empty_of_or hk
  have hd' : s.data.length = (Tree.blocks ⟨size, bs⟩ - 1) * 64 := hd
  have hfk : flipKind (flipKind s.kind) = s.kind := by
    rcases hk with h | h <;> rw [h] <;> rfl
  have htk := OutboardL.ne_empty_of_or (flipKind_mem s.kind)
  refine ⟨⟨flipKind s.kind, s.root, s.tree, copied hf s (flipKind s.kind) size bs⟩,
    flip_run hf hlen size bs hs hbs s ht hsk (Nat.le_of_eq hd'.symm), rfl, rfl, rfl, ?_, ?_, ?_⟩
  · rw [copied_length hf hlen s _ size bs hs hbs, hd']
  · simp only
    rw [copied_hbt hf hbt s hsk _ size bs hs hbs ht (Nat.le_of_eq hd'.symm)]
    exact flatMap_congr' _ _ _ (fun x hx => (recordOf_persisted s hsk size bs hs hbs ht x
      ((plist_perm _ size bs hs).mem_iff.mp hx)).symm)
  · rw [flip_run hf hlen size bs hs hbs
      ⟨flipKind s.kind, s.root, s.tree, copied hf s (flipKind s.kind) size bs⟩ ht htk
      (by simp only [copied_length hf hlen s _ size bs hs hbs]; exact Nat.le_refl _)]
    simp only [hfk]
    rw [copied_copied hf hlen hbt size bs hs hbs s
      ⟨flipKind s.kind, s.root, s.tree, copied hf s (flipKind s.kind) size bs⟩ ht hsk hd' ht htk rfl]

example : ∃ t, flip byteHash exDst = .ok t ∧ t.kind = flipKind exDst.kind ∧ t.root = exDst.root ∧
    t.tree = exDst.tree ∧ t.data.length = exDst.data.length ∧
    t.data = (plist t.kind 3000 1).flatMap (recordOf exDst) ∧ flip byteHash t = .ok exDst :=
  flip_flip byteHash byte_len byte_bt exDst 3000 1 (by decide) (by decide) rfl (.inl rfl) (by decide)

end Bao.C12

/-
Status.
PROVED (full strength; `size ≤ 2^63`, `bs ≤ 10`, every `hf` with `hlen`; both flavours, all 4×4 kind pairs):
`layout_slots`, `copy_general`, `copy_no_panic` (no round trip); `copy_records`, `copy_loads`, `copy_perm`,
`copy_same_order`, `flip_flip` (`hbt`); `copy_spec`, `flip_spec` (`hrt ∨ hbt`).
PARTIAL: none.   OPEN: none.
Lemmas: `BaoProofs/Lemmas/CopyL.lean` (`copy_run` = closed form of `copy`; `flip_run`; `copied_*`).
Remarks (sharpness of the hypotheses; tree `⟨3000, 1⟩`, one record):
  * `hbt` is needed for the verbatim statements: with `C03.toyHash` (satisfies `hrt`, not `hbt`) a
    `preMem → preMem` copy of the record `0,1,…,63` yields `0 ×32 ++ 32 ×32` (= `reenc`, `copy_general`).
  * source shorter than `outboardSize`: memory source → `.panic`; io source → `.err unexpectedEof`
    (sync) or a silently INVENTED all-zero record (fsm: short read ↦ zero pair).
  * memory target of another length → `.panic` (shorter) / stale tail kept (longer); io target longer
    than `outboardSize` keeps its stale tail (`writeAt` never truncates), so `data.length = outboardSize` fails.
  * `flip` is stated for memory stores only (as in the crate); `flip_run` covers io sources too; on the
    `empty` kind `copy` reads zero pairs for every relevant node (no analogue of these theorems).
-/
