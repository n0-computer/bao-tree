import BaoProofs.Props.C12SpecFlip
import BaoModel.Ops5

/-!
# The executable specification verdict of `flipz` never rejects the model

`flipz seed size bs m` (`Ops.opFlipZ`): flip of SPARSE memory outboards (the 64-byte records with
index `i % max m 1 = 0` are all zero) and a sync copy of the sparse pre-order outboard into a
post-order target that already holds other records.  The verdict compares the implementation's
line with the re-ordering of the records computed from `Spec.persistedPre` / `Spec.persistedPost`
and `Spec.indexOfNode`.

Everything about `flip` / `copy` is taken from `Lemmas/SpecFlipL.lean` / `Props/C12SpecFlip.lean`
(`flip_flip_reorder`, `copy_run'`, `moved_eq_reorder`), which hold for ARBITRARY contents.  This file adds
the length of the `flatMap`-built sparse data, and the fifth token (copy into a used target).
-/

set_option maxRecDepth 100000

namespace Bao.SpecFlipZ
open Bao Bao.Spec Bao.Ops Bao.Proto Bao.CopyL Bao.SpecFlip

/-! ## A. general: flip / copy of a memory store with arbitrary contents of the right length -/

/-- a pre-order memory store with arbitrary root and `outboardSize` arbitrary bytes flips to the
post-order store holding `reorder persistedPre persistedPost data`, and back -/
theorem flip_pre_any (r data : List UInt8) (size bs : Nat) (hs : size ≤ 2 ^ 63) (hbs : bs ≤ 10)
    (hd : data.length = Tree.outboardSize ⟨size, bs⟩) :
    flip Ops.hf (⟨.preMem, r, ⟨size, bs⟩, data⟩ : Store HB)
      = .ok ⟨.postMem, r, ⟨size, bs⟩,
          reorder (Spec.persistedPre size bs) (Spec.persistedPost size bs) data⟩ ∧
    flip Ops.hf (⟨.postMem, r, ⟨size, bs⟩,
          reorder (Spec.persistedPre size bs) (Spec.persistedPost size bs) data⟩ : Store HB)
      = .ok ⟨.preMem, r, ⟨size, bs⟩, data⟩ :=
  flip_flip_reorder Ops.hf real_byteRT ⟨.preMem, r, ⟨size, bs⟩, data⟩ size bs hs hbs rfl (.inl rfl) hd

/-- the same for a post-order memory store -/
theorem flip_post_any (r data : List UInt8) (size bs : Nat) (hs : size ≤ 2 ^ 63) (hbs : bs ≤ 10)
    (hd : data.length = Tree.outboardSize ⟨size, bs⟩) :
    flip Ops.hf (⟨.postMem, r, ⟨size, bs⟩, data⟩ : Store HB)
      = .ok ⟨.preMem, r, ⟨size, bs⟩,
          reorder (Spec.persistedPost size bs) (Spec.persistedPre size bs) data⟩ ∧
    flip Ops.hf (⟨.preMem, r, ⟨size, bs⟩,
          reorder (Spec.persistedPost size bs) (Spec.persistedPre size bs) data⟩ : Store HB)
      = .ok ⟨.postMem, r, ⟨size, bs⟩, data⟩ :=
  flip_flip_reorder Ops.hf real_byteRT ⟨.postMem, r, ⟨size, bs⟩, data⟩ size bs hs hbs rfl (.inr rfl) hd

/-- copy (either flavour) of a pre-order memory store with arbitrary contents into a post-order
memory target that ALREADY HOLDS arbitrary bytes (of the outboard size): every byte of the target is
overwritten, the result is the same re-ordering as `flip` produces; root / tree of the target kept -/
theorem copy_into_used (fl : Flavour) (r r' data other : List UInt8) (size bs : Nat)
    (hs : size ≤ 2 ^ 63) (hbs : bs ≤ 10)
    (hd : data.length = Tree.outboardSize ⟨size, bs⟩)
    (ho : other.length = Tree.outboardSize ⟨size, bs⟩) :
    copy Ops.hf fl (⟨.preMem, r, ⟨size, bs⟩, data⟩ : Store HB) ⟨.postMem, r', ⟨size, bs⟩, other⟩
      = .ok ⟨.postMem, r', ⟨size, bs⟩,
          reorder (Spec.persistedPre size bs) (Spec.persistedPost size bs) data⟩ := by
  have hsk : (⟨.preMem, r, ⟨size, bs⟩, data⟩ : Store HB).kind ≠ .empty := by simp
  have hsd : (Tree.blocks ⟨size, bs⟩ - 1) * 64
      ≤ (⟨.preMem, r, ⟨size, bs⟩, data⟩ : Store HB).data.length := Nat.le_of_eq hd.symm
  rw [copy_run' Ops.hf real_byteRT size bs hs hbs fl ⟨.preMem, r, ⟨size, bs⟩, data⟩
    ⟨.postMem, r', ⟨size, bs⟩, other⟩ rfl rfl hsk hsd (.inr ⟨.inr rfl, ho⟩),
    moved_eq_reorder (⟨.preMem, r, ⟨size, bs⟩, data⟩ : Store HB) hsk .postMem size bs hs hbs rfl]
  rfl

example : copy Ops.hf .sync (⟨.preMem, [1], ⟨3000, 1⟩, List.replicate 64 9⟩ : Store HB)
    ⟨.postMem, [2], ⟨3000, 1⟩, List.replicate 64 5⟩
    = .ok ⟨.postMem, [2], ⟨3000, 1⟩,
        reorder (Spec.persistedPre 3000 1) (Spec.persistedPost 3000 1) (List.replicate 64 9)⟩ :=
  copy_into_used .sync [1] [2] _ _ 3000 1 (by decide) (by decide) (by decide) (by decide)

/-! ## B. `opFlipZ`: the `let`s as named definitions -/

/-- `data` of `opFlipZ`: the sparse backing -/
def fzData (seed size bs m : Nat) : List UInt8 :=
  (List.range (Tree.outboardSize ⟨size, bs⟩ / 64)).flatMap fun i =>
    if i % (max m 1) == 0 then zerosN 64 else ((fxData seed size bs).drop (i * 64)).take 64

/-- `other` of `opFlipZ`: what the re-used target holds -/
def fzOther (seed size bs : Nat) : List UInt8 := randBytes (seed + 7) (Tree.outboardSize ⟨size, bs⟩)

def fzPre (seed size bs m : Nat) : Store HB :=
  ⟨.preMem, fxRoot seed size bs, ⟨size, bs⟩, fzData seed size bs m⟩
def fzPost (seed size bs m : Nat) : Store HB :=
  ⟨.postMem, fxRoot seed size bs, ⟨size, bs⟩, fzData seed size bs m⟩

/-- `cp` of `opFlipZ` -/
def fzCp (seed size bs m : Nat) : Res IoErr (Store HB) :=
  copy hf .sync (fzPre seed size bs m) ⟨.postMem, fxRoot seed size bs, ⟨size, bs⟩, fzOther seed size bs⟩

/-- `cpS` of `opFlipZ` -/
def fzCpStr (cp : Res IoErr (Store HB)) : String :=
  match cp with | .ok st => dig st.data | .err e => ioErrStr e | .panic => "panic"

/-- the output line for the five results -/
def fzFmt (a a2 b b2 : Res IoErr (Store HB)) (c : String) : String :=
  s!"{fxStr a} {fxStr a2} {fxStr b} {fxStr b2} {c}"

/-- `mdl` of `opFlipZ` -/
def fzModel (seed size bs m : Nat) : String :=
  fzFmt (flip hf (fzPre seed size bs m)) (fxBind (flip hf (fzPre seed size bs m)) (flip hf))
    (flip hf (fzPost seed size bs m)) (fxBind (flip hf (fzPost seed size bs m)) (flip hf))
    (fzCpStr (fzCp seed size bs m))

/-- `toPost` / `toPre` of `opFlipZ` -/
def fzToPost (seed size bs m : Nat) : List UInt8 :=
  reorder (Spec.persistedPre size bs) (Spec.persistedPost size bs) (fzData seed size bs m)
def fzToPre (seed size bs m : Nat) : List UInt8 :=
  reorder (Spec.persistedPost size bs) (Spec.persistedPre size bs) (fzData seed size bs m)

/-- `spec` of `opFlipZ` -/
def fzSpec (seed size bs m : Nat) : String :=
  s!"postMem:{dig (fxRoot seed size bs)}:{dig (fzToPost seed size bs m)} preMem:{dig (fxRoot seed size bs)}:{dig (fzData seed size bs m)} preMem:{dig (fxRoot seed size bs)}:{dig (fzToPre seed size bs m)} postMem:{dig (fxRoot seed size bs)}:{dig (fzData seed size bs m)} {dig (fzToPost seed size bs m)}"

/-- the verdict of `opFlipZ` -/
def fzVerdict (seed size bs m : Nat) (impl : String) : Option String :=
  if impl == fzSpec seed size bs m then none
  else some s!"flip / copy of a sparse outboard is not the re-ordering of its records ({fzSpec seed size bs m})"

/-- the named copies ARE the `let`s of the operation -/
theorem opFlipZ_eq (args : List String) (impl : String) (seed size bs m : Nat)
    (h : args.mapM (·.toNat?) = some [seed, size, bs, m]) :
    (opFlipZ args impl).model = fzModel seed size bs m ∧
    (opFlipZ args impl).specFail = fzVerdict seed size bs m impl := by
  rw [opFlipZ, h]
  constructor
  · unfold fzModel fzFmt fxStr fxBind fzPre fzPost fzCpStr fzCp fzPre fzOther fxRoot fzData fxData
    rfl
  · unfold fzVerdict fzSpec fzToPost fzToPre reorder fxRoot fzData fxData
    rfl

/-! ## C. component level -/

/-- every record of the sparse data has 64 bytes -/
theorem fzRec_length (seed size bs m i : Nat) (hi : i < Tree.outboardSize ⟨size, bs⟩ / 64) :
    (if i % (max m 1) == 0 then zerosN 64
      else ((fxData seed size bs).drop (i * 64)).take 64).length = 64 := by
  split
  · simp [zerosN]
  · rw [List.length_take, List.length_drop, fxData_length]
    have : Tree.outboardSize ⟨size, bs⟩ = (Tree.blocks ⟨size, bs⟩ - 1) * 64 := rfl
    rw [this, Nat.mul_div_cancel _ (by decide)] at hi
    omega

/-- the `flatMap`-built sparse data has exactly `outboardSize` bytes -/
theorem fzData_length (seed size bs m : Nat) :
    (fzData seed size bs m).length = Tree.outboardSize ⟨size, bs⟩ := by
  unfold fzData
  rw [WriteAtL.length_flatMap64 _ _ (fun i hi => fzRec_length seed size bs m i (List.mem_range.1 hi)),
    List.length_range]
  have : Tree.outboardSize ⟨size, bs⟩ = (Tree.blocks ⟨size, bs⟩ - 1) * 64 := rfl
  rw [this, Nat.mul_div_cancel _ (by decide)]

/-- the data really is sparse: its first record (index `0`, `0 % max m 1 = 0`) is all zero when there
is at least one record -/
theorem fzData_first_zero (seed size bs m : Nat) (h : 0 < Tree.outboardSize ⟨size, bs⟩ / 64) :
    (fzData seed size bs m).take 64 = zerosN 64 := by
  unfold fzData
  obtain ⟨n, hn⟩ := Nat.exists_eq_succ_of_ne_zero (Nat.ne_of_gt h)
  rw [hn, List.range_succ_eq_map, List.flatMap_cons]
  have : (0 % max m 1 == 0) = true := by simp
  rw [if_pos this, List.take_left' (by simp [zerosN])]

example : (fzData 3 5000 0 2).take 64 = zerosN 64 := fzData_first_zero 3 5000 0 2 (by decide)

theorem fzOther_length (seed size bs : Nat) :
    (fzOther seed size bs).length = Tree.outboardSize ⟨size, bs⟩ :=
  SpecIndex.randBytes_length _ _

/-- tokens 1, 2: the sparse pre-order store flips to the post-order store with the verdict's
`toPost` (zero records included), and flipping again gives the original -/
theorem flipz_pre (seed size bs m : Nat) (hs : size ≤ 2 ^ 63) (hbs : bs ≤ 10) :
    flip Ops.hf (fzPre seed size bs m)
      = .ok ⟨.postMem, fxRoot seed size bs, ⟨size, bs⟩, fzToPost seed size bs m⟩ ∧
    flip Ops.hf ⟨.postMem, fxRoot seed size bs, ⟨size, bs⟩, fzToPost seed size bs m⟩
      = .ok (fzPre seed size bs m) :=
  flip_pre_any _ _ size bs hs hbs (fzData_length seed size bs m)

example : flip Ops.hf (fzPre 3 5000 0 2)
    = .ok ⟨.postMem, fxRoot 3 5000 0, ⟨5000, 0⟩, fzToPost 3 5000 0 2⟩ :=
  (flipz_pre 3 5000 0 2 (by decide) (by decide)).1

/-- tokens 3, 4: the sparse post-order store flips to the pre-order store with the verdict's
`toPre`, and flipping again gives the original -/
theorem flipz_post (seed size bs m : Nat) (hs : size ≤ 2 ^ 63) (hbs : bs ≤ 10) :
    flip Ops.hf (fzPost seed size bs m)
      = .ok ⟨.preMem, fxRoot seed size bs, ⟨size, bs⟩, fzToPre seed size bs m⟩ ∧
    flip Ops.hf ⟨.preMem, fxRoot seed size bs, ⟨size, bs⟩, fzToPre seed size bs m⟩
      = .ok (fzPost seed size bs m) :=
  flip_post_any _ _ size bs hs hbs (fzData_length seed size bs m)

example : flip Ops.hf ⟨.preMem, fxRoot 3 5000 0, ⟨5000, 0⟩, fzToPre 3 5000 0 2⟩
    = .ok (fzPost 3 5000 0 2) :=
  (flipz_post 3 5000 0 2 (by decide) (by decide)).2

/-- token 5: the copy of the sparse pre-order outboard into the post-order target that holds
other records is `.ok`, and its data is the verdict's `toPost` (nothing of `other` survives) -/
theorem flipz_copy (seed size bs m : Nat) (hs : size ≤ 2 ^ 63) (hbs : bs ≤ 10) :
    fzCp seed size bs m
      = .ok ⟨.postMem, fxRoot seed size bs, ⟨size, bs⟩, fzToPost seed size bs m⟩ :=
  copy_into_used .sync _ _ _ _ size bs hs hbs (fzData_length seed size bs m)
    (fzOther_length seed size bs)

example : fzCpStr (fzCp 3 5000 0 2) = dig (fzToPost 3 5000 0 2) := by
  rw [flipz_copy 3 5000 0 2 (by decide) (by decide)]; rfl

theorem fzFmt_eq (a a2 b b2 : Res IoErr (Store HB)) (c : String) :
    fzFmt a a2 b b2 c = fxFmt a a2 b b2 ++ " " ++ c := rfl

theorem fzSpec_eq (seed size bs m : Nat) :
    fzSpec seed size bs m
      = s!"postMem:{dig (fxRoot seed size bs)}:{dig (fzToPost seed size bs m)} preMem:{dig (fxRoot seed size bs)}:{dig (fzData seed size bs m)} preMem:{dig (fxRoot seed size bs)}:{dig (fzToPre seed size bs m)} postMem:{dig (fxRoot seed size bs)}:{dig (fzData seed size bs m)}"
        ++ " " ++ dig (fzToPost seed size bs m) := rfl

/-- the model's output line IS the verdict's expected line -/
theorem flipz_line (seed size bs m : Nat) (hs : size ≤ 2 ^ 63) (hbs : bs ≤ 10) :
    fzModel seed size bs m = fzSpec seed size bs m := by
  unfold fzModel
  rw [(flipz_pre seed size bs m hs hbs).1, (flipz_post seed size bs m hs hbs).1]
  simp only [fxBind]
  rw [(flipz_pre seed size bs m hs hbs).2, (flipz_post seed size bs m hs hbs).2,
    flipz_copy seed size bs m hs hbs, fzFmt_eq, fzSpec_eq]
  unfold fzPre fzPost
  rw [fxFmt_ok]
  rfl

example : fzModel 3 5000 0 2 = fzSpec 3 5000 0 2 := flipz_line 3 5000 0 2 (by decide) (by decide)

/-! ## D. op level -/

/-- the full statement for `opFlipZ`: on the model's own output the verdict is `none`, for every
argument list that parses to `seed size bs m` (every `m`, `m = 0` included: `max m 1`) -/
theorem flipz_specFail (args : List String) (impl : String) (seed size bs m : Nat)
    (h : args.mapM (·.toNat?) = some [seed, size, bs, m]) (hs : size ≤ 2 ^ 63) (hbs : bs ≤ 10) :
    (opFlipZ args (opFlipZ args impl).model).specFail = none := by
  rw [(opFlipZ_eq args _ seed size bs m h).2, (opFlipZ_eq args impl seed size bs m h).1,
    flipz_line seed size bs m hs hbs]
  exact (verdict_iff _ _ _).2 rfl

/-- the same with `toString` arguments: no parse hypothesis left -/
theorem flipz_no_false_alarm (seed size bs m : Nat) (impl : String)
    (hs : size ≤ 2 ^ 63) (hbs : bs ≤ 10) :
    (opFlipZ [toString seed, toString size, toString bs, toString m]
      (opFlipZ [toString seed, toString size, toString bs, toString m] impl).model).specFail = none :=
  flipz_specFail _ impl seed size bs m (SpecIndex.mapM_toNat?_toString [seed, size, bs, m]) hs hbs

example : (opFlipZ [toString 3, toString 5000, toString 0, toString 2]
    (opFlipZ [toString 3, toString 5000, toString 0, toString 2] "").model).specFail = none :=
  flipz_no_false_alarm 3 5000 0 2 "" (by decide) (by decide)

example : (opFlipZ [toString 77, toString 70000, toString 2, toString 0]
    (opFlipZ [toString 77, toString 70000, toString 2, toString 0] "x").model).specFail = none :=
  flipz_specFail _ "x" 77 70000 2 0 (SpecIndex.mapM_toNat?_toString [77, 70000, 2, 0]) (by decide)
    (by decide)

/-- the verdict is sharp: it accepts EXACTLY the model's line (so a wrong output is rejected) -/
theorem flipz_verdict_iff (args : List String) (impl : String) (seed size bs m : Nat)
    (h : args.mapM (·.toNat?) = some [seed, size, bs, m]) (hs : size ≤ 2 ^ 63) (hbs : bs ≤ 10) :
    (opFlipZ args impl).specFail = none ↔ impl = (opFlipZ args impl).model := by
  rw [(opFlipZ_eq args impl seed size bs m h).2, (opFlipZ_eq args impl seed size bs m h).1,
    flipz_line seed size bs m hs hbs]
  exact verdict_iff _ _ _

theorem fzSpec_ne_empty (seed size bs m : Nat) : fzSpec seed size bs m ≠ "" := by
  rw [fzSpec_eq]
  apply append_ne_empty_left
  apply append_ne_empty_right
  decide

/-- the verdict rejects a wrong output (the empty line) -/
example : (opFlipZ [toString 3, toString 5000, toString 0, toString 2] "").specFail ≠ none := by
  intro h
  have e := (opFlipZ_eq _ "" 3 5000 0 2 (SpecIndex.mapM_toNat?_toString [3, 5000, 0, 2])).2
  exact fzSpec_ne_empty 3 5000 0 2 ((verdict_iff _ _ _).1 (e.symm.trans h)).symm

end Bao.SpecFlipZ

/-
Status (no-false-alarm theorem for `flipz`).  Hypotheses: `size ≤ 2^63`, `bs ≤ 10`, arguments that parse; every `m`
(the model uses `max m 1`).

PROVED: `flip_pre_any`, `flip_post_any`, `copy_into_used` (driver hash, arbitrary root and contents of `outboardSize`
  bytes; nothing of the old target contents survives a copy); `opFlipZ_eq`; `fzRec_length`, `fzData_length`,
  `fzData_first_zero`, `fzOther_length`, `flipz_pre`, `flipz_post`, `flipz_copy`, `flipz_line`; `flipz_specFail`,
  `flipz_no_false_alarm`, `flipz_verdict_iff`, `fzSpec_ne_empty`.
PARTIAL: none.   OPEN: none.

No false alarm found.  Generator (`harness/src/gen4.rs`, "FLIPZ"): `bs ∈ 0..=3`, sizes above one block, `m ∈ {1, 2, 3}`,
seed `< 2^30`: all inside the theorem's range.

Axioms (`#print axioms`): [propext, Classical.choice, Quot.sound].
-/
