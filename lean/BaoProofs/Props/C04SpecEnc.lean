import BaoProofs.Lemmas.SpecEncL
import BaoProofs.Lemmas.SpecTruncL
import BaoProofs.Props.C04

/-!
# The executable specification verdict of `enc` never rejects the model on an intact store
# (properties C04 / C08)

`enc blob bs store flavour plain|val ranges corruption` (`Ops.opEnc`) runs one of the five encoders
(`encode_ranges_validated` / `encode_ranges`, sync or fsm, and the item stream of
`traverse_ranges_validated`) over a blob and the outboard of the given store kind, after applying the
listed corruptions, and prints `<terminal> <len:fnv of the emitted bytes>` (`… framing=1` for the
item stream).  THIS FILE covers the corruption argument `-` (intact store).  For a corrupted store the
verdict (prefix of the honest encoding; error iff a dependency is hit) relies on collision freedom of
the real hash — OUT of scope here.

Clauses of the verdict that apply when the corruption argument is `-` (`encVerdictI`, proved to be the
verdict of `opEnc` by `opEnc_intact`):
  0. the line has at least two tokens and the second parses as `len:fnv`     (else `malformed`),
  1. the first token is not `panic`,
  2. item stream only: the remaining tokens are exactly `framing=1`,
  3. the first token is `Ok`,
  4. the second token is `dig (Spec.encode hf d bs ranges)`.

1. hash instance.  The driver's `Ops.hf = realHash` represents a hash by its byte list, so the
   hypothesis `hlen : ∀ h, (toBytes h).length = 32` of the C04 theorems is FALSE for it
   (`C03SpecOb`).  `encode_is_spec''` is the three C04 theorems under `SpecOb.OutLen hf` (outputs
   only; it implies the C04 versions by `outLen_of_hlen`).
2. component level: `store_component` (the driver's `intactStore` satisfies the hypotheses of C04),
   `val_component`, `plain_component`, `mixed_component`, `line_component`, `split_component`,
   `dig_component`, `verdict_component`.
3. op level: `enc_specFail` (any argument strings that parse), `enc_no_false_alarm` (canonical
   argument strings, no parse hypothesis left but the blob), `enc_const_no_false_alarm`.
4. FALSE ALARM outside the theorem: store kind `empty` with more than one chunk group
   (`enc_empty_false_alarm`); ill-formed (not strictly increasing) range lists (`#eval` only).

Bounds: `d.length ≤ 2^63`, `bs ≤ 10`, `Ranges.WF ranges`, store kind ≠ `empty`.
-/

set_option maxRecDepth 8192

namespace Bao.SpecEnc
open Bao Bao.Spec Bao.Ops Bao.Proto Bao.SpecIndex Bao.SpecOb Bao.EncodeSpec

/-! ## 1. C04 for the driver's hash instance -/

/-- C04 `encode_is_spec` for every instance whose hash OUTPUTS are 32 bytes -/
theorem encode_is_spec'' {H : Type} {hf : HashFns H} [BEq H] [LawfulBEq H] {d : List UInt8}
    {bs : Nat} {st : Store H} (hol : OutLen hf)
    (hrt : ∀ h, hf.ofBytes (hf.toBytes h) = h) (hs : d.length ≤ 2 ^ 63) (hbs : bs ≤ 10)
    (htree : st.tree = ⟨d.length, bs⟩) (hroot : st.root = Spec.root hf d)
    (hdata : ((st.kind = .preIo ∨ st.kind = .preMem) ∧ st.data = Spec.preOutboard hf d bs) ∨
             ((st.kind = .postIo ∨ st.kind = .postMem) ∧ st.data = Spec.postOutboard hf d bs))
    (fl : Flavour) {q : Ranges} (hwf : Ranges.WF q = true) :
    encodeRangesValidated hf fl d st q = ⟨Spec.encode hf d bs q, .ok⟩ ∧
    encodeRanges hf fl d st q = ⟨Spec.encode hf d bs q, .ok⟩ ∧
    ∃ items, traverseRangesValidated hf d st q = some items ∧
      items.flatMap (EncodedItem.flatten hf) = Spec.encode hf d bs q ∧
      items.getLast? = some .done :=
  have hI := Intact'.loads ⟨hol, hrt, hs, hbs, htree, hdata⟩
  ⟨validated_spec hI hroot fl hwf, plain_spec hI hroot fl hwf, mixed_spec hI hroot hwf⟩

/-- the C04 running example satisfies the hypotheses (there `hlen` holds, hence `OutLen`) -/
example : OutLen C03.toyHash ∧ (∀ h, C03.toyHash.ofBytes (C03.toyHash.toBytes h) = h) ∧
    C03.toyBlob.length ≤ 2 ^ 63 ∧ (1 : Nat) ≤ 10 ∧ Ranges.WF [1, 2] = true :=
  ⟨outLen_of_hlen _ C03.toy_len, C03.toy_rt, C03.toy_size, by decide, by decide⟩

example : encodeRangesValidated C03.toyHash .fsm C03.toyBlob C04.toyStore [1, 2]
    = ⟨Spec.encode C03.toyHash C03.toyBlob 1 [1, 2], .ok⟩ :=
  (encode_is_spec'' (outLen_of_hlen _ C03.toy_len) C03.toy_rt C03.toy_size (by decide)
    C04.toyStore_tree C04.toyStore_root C04.toyStore_data .fsm (by decide)).1

/-! ## 2. component level -/

/-- the store `opEnc` encodes from is the intact store of C04: tree, root, and the outboard of its
kind (pre-order for `preIo` / `preMem`, post-order for `postIo` / `postMem`) -/
theorem store_component (kind : StoreKind) (hne : kind ≠ .empty) (d : List UInt8) (bs : Nat)
    (hs : d.length ≤ 2 ^ 63) (hbs : bs ≤ 10) :
    (intactStore kind d bs).tree = ⟨d.length, bs⟩ ∧
    (intactStore kind d bs).root = Spec.root hf d ∧
    ((((intactStore kind d bs).kind = .preIo ∨ (intactStore kind d bs).kind = .preMem) ∧
        (intactStore kind d bs).data = Spec.preOutboard hf d bs) ∨
     (((intactStore kind d bs).kind = .postIo ∨ (intactStore kind d bs).kind = .postMem) ∧
        (intactStore kind d bs).data = Spec.postOutboard hf d bs)) :=
  ⟨intactStore_tree kind d bs, intactStore_root kind d bs hs hbs, intactStore_data kind hne d bs hs hbs⟩

example : (intactStore .postIo (List.replicate 3000 7) 1).data
    = Spec.postOutboard hf (List.replicate 3000 7) 1 := by
  have := (store_component .postIo (by decide) (List.replicate 3000 7) 1
    (by rw [List.length_replicate]; decide) (by decide)).2.2
  rcases this with ⟨h, _⟩ | ⟨_, h⟩
  · rw [intactStore_kind] at h; rcases h with h | h <;> cases h
  · exact h

/-- clauses 1, 3, 4 for `val`: the validating byte encoders end `Ok` with `Spec.encode` -/
theorem val_component (kind : StoreKind) (hne : kind ≠ .empty) (d : List UInt8) (bs : Nat)
    (hs : d.length ≤ 2 ^ 63) (hbs : bs ≤ 10) (f : Flavour) {q : Ranges} (hwf : Ranges.WF q = true) :
    encodeRangesValidated hf f d (intactStore kind d bs) q = ⟨Spec.encode hf d bs q, .ok⟩ :=
  enc_validated kind hne d bs hs hbs f hwf

example : encodeRangesValidated hf .fsm (List.replicate 3000 7)
    (intactStore .preIo (List.replicate 3000 7) 1) [1, 2]
    = ⟨Spec.encode hf (List.replicate 3000 7) 1 [1, 2], .ok⟩ :=
  val_component .preIo (by decide) _ 1 (by rw [List.length_replicate]; decide) (by decide) .fsm
    (by decide)

/-- clauses 1, 3, 4 for `plain`: so do the non-validating byte encoders -/
theorem plain_component (kind : StoreKind) (hne : kind ≠ .empty) (d : List UInt8) (bs : Nat)
    (hs : d.length ≤ 2 ^ 63) (hbs : bs ≤ 10) (f : Flavour) {q : Ranges} (hwf : Ranges.WF q = true) :
    encodeRanges hf f d (intactStore kind d bs) q = ⟨Spec.encode hf d bs q, .ok⟩ :=
  enc_plain kind hne d bs hs hbs f hwf

example : encodeRanges hf .sync (List.replicate 3000 7)
    (intactStore .postMem (List.replicate 3000 7) 0) [0]
    = ⟨Spec.encode hf (List.replicate 3000 7) 0 [0], .ok⟩ :=
  plain_component .postMem (by decide) _ 0 (by rw [List.length_replicate]; decide) (by decide) .sync
    (by decide)

/-- clauses 1–4 for `mixed`: the item stream does not panic, ends with `Done`, and flattens to
`Spec.encode` -/
theorem mixed_component (kind : StoreKind) (hne : kind ≠ .empty) (d : List UInt8) (bs : Nat)
    (hs : d.length ≤ 2 ^ 63) (hbs : bs ≤ 10) {q : Ranges} (hwf : Ranges.WF q = true) :
    ∃ items, traverseRangesValidated hf d (intactStore kind d bs) q = some items ∧
      items.flatMap (EncodedItem.flatten hf) = Spec.encode hf d bs q ∧
      items.getLast? = some .done :=
  enc_mixed kind hne d bs hs hbs hwf

example : ∃ items, traverseRangesValidated hf (List.replicate 3000 7)
      (intactStore .preMem (List.replicate 3000 7) 2) [2] = some items ∧
    items.flatMap (EncodedItem.flatten hf) = Spec.encode hf (List.replicate 3000 7) 2 [2] ∧
    items.getLast? = some .done :=
  mixed_component .preMem (by decide) _ 2 (by rw [List.length_replicate]; decide) (by decide)
    (by decide)

/-- the model's line (every flavour string, every mode string): `Ok <digest of Spec.encode>`, and
`framing=1` after it exactly for the item stream -/
theorem line_component (kind : StoreKind) (hne : kind ≠ .empty) (d : List UInt8) (bs : Nat)
    (hs : d.length ≤ 2 ^ 63) (hbs : bs ≤ 10) (fl mode : String) {q : Ranges}
    (hwf : Ranges.WF q = true) :
    encModel d (intactStore kind d bs) fl mode q
      = (" ".intercalate (encToks (Spec.encode hf d bs q) (fl == "mixed")), fl == "mixed") :=
  encModel_intact kind hne d bs hs hbs fl mode hwf

example : (encModel (List.replicate 3000 7) (intactStore .preMem (List.replicate 3000 7) 2)
      "mixed" "val" [2]).2 = true := by
  rw [line_component .preMem (by decide) _ 2 (by rw [List.length_replicate]; decide) (by decide)
    "mixed" "val" (by decide)]
  decide

/-- clause 0, first half: the model's line splits into the expected tokens -/
theorem split_component (honest : List UInt8) (mixed : Bool) :
    (" ".intercalate (encToks honest mixed)).splitOn " " = encToks honest mixed :=
  encLine_split honest mixed

/-- clause 0, second half: a digest token parses as two numbers -/
theorem dig_component (b : List UInt8) :
    ((dig b).splitOn ":").mapM (·.toNat?) = some [b.length, (fnv b).toNat] :=
  dig_parse b

/-- all clauses: the intact verdict accepts `Ok <dig honest> [framing=1]` -/
theorem verdict_component (honest : List UInt8) (mixed : Bool) :
    encVerdictI honest mixed (encToks honest mixed) = none :=
  verdict_tokens honest mixed

/-- the verdict accepts exactly such lines -/
theorem verdict_component_iff (honest : List UInt8) (mixed : Bool) (toks : List String) :
    encVerdictI honest mixed toks = none →
      ∃ rest, toks = "Ok" :: dig honest :: rest ∧ (mixed = true → rest = ["framing=1"]) :=
  verdict_sound honest mixed toks

/-- the verdict does reject: an error terminal (any honest encoding) -/
example (honest : List UInt8) :
    encVerdictI honest false ["ParentHashMismatch(1)", dig honest] ≠ none := by
  intro h
  obtain ⟨rest, e, _⟩ := verdict_sound _ _ _ h
  exact absurd (List.cons.inj e).1 (by decide)

/-- the verdict does reject: an item stream without the framing token -/
example (honest : List UInt8) : encVerdictI honest true ["Ok", dig honest] ≠ none := by
  intro h
  obtain ⟨rest, e, hr⟩ := verdict_sound _ _ _ h
  have := hr rfl
  subst this
  cases e

/-- the verdict does reject: a line of the wrong shape -/
example (honest : List UInt8) : encVerdictI honest false ["Ok"] = some "malformed" := rfl

/-- concrete: the empty blob (one empty chunk).  Its honest encoding is empty and the expected line
is `Ok 0:<FNV offset basis>` -/
theorem empty_blob_tokens :
    Spec.encode hf [] 0 [0] = [] ∧ encToks [] false = ["Ok", "0:14695981039346656037"] := by
  decide +kernel

/-- … the verdict accepts that line -/
example : encVerdictI (Spec.encode hf [] 0 [0]) false ["Ok", "0:14695981039346656037"] = none := by
  rw [empty_blob_tokens.1, ← empty_blob_tokens.2]
  exact verdict_tokens [] false

/-- … and rejects a wrong digest -/
example : encVerdictI (Spec.encode hf [] 0 [0]) false ["Ok", "0:0"] ≠ none := by
  intro h
  obtain ⟨rest, e, _⟩ := verdict_sound _ _ _ h
  rw [empty_blob_tokens.1] at e
  exact absurd (List.cons.inj (List.cons.inj e).2).1 (by decide +kernel)

/-! ## 3. op level -/

/-- the full statement for `opEnc` on an intact store: on the model's own output the verdict is
`none`, for all argument strings that parse (flavour and mode strings are arbitrary: everything but
`fsm` / `mixed` / `syncw…` is the sync encoder, everything but `val` is `plain`) -/
theorem enc_specFail (b bs kind fl mode rs impl : String) (d : List UInt8) (bsn : Nat)
    (k : StoreKind) (ranges : Ranges)
    (h1 : blob b = some d) (h2 : bs.toNat? = some bsn) (h3 : storeKind? kind = some k)
    (h4 : parseNatList rs = some ranges)
    (hs : d.length ≤ 2 ^ 63) (hbs : bsn ≤ 10) (hk : k ≠ .empty) (hwf : Ranges.WF ranges = true) :
    (opEnc [b, bs, kind, fl, mode, rs, "-"]
      (opEnc [b, bs, kind, fl, mode, rs, "-"] impl).model).specFail = none := by
  rw [opEnc_intact b bs kind fl mode rs impl d bsn k ranges h1 h2 h3 h4,
    opEnc_intact b bs kind fl mode rs _ d bsn k ranges h1 h2 h3 h4]
  simp only [encModel_intact k hk d bsn hs hbs (flOf fl) mode hwf, encLine_split]
  exact verdict_tokens _ _

example : (opEnc ["const:7:3000", "1", "postIo", "syncw63", "plain", "1,2", "-"]
    (opEnc ["const:7:3000", "1", "postIo", "syncw63", "plain", "1,2", "-"] "").model).specFail
    = none :=
  enc_specFail _ _ _ _ _ _ _ _ 1 .postIo [1, 2] (blob_const 7 3000) (toNat?_toString 1) rfl
    (SpecTrunc.parseNatList_natList [1, 2]) (by rw [List.length_replicate]; decide) (by decide)
    (by decide) (by decide)

/-- canonical argument strings (`toString bs`, `kindStr kind`, `natList ranges`): no parse hypothesis
left but the blob descriptor -/
theorem enc_no_false_alarm (b fl mode impl : String) (d : List UInt8) (bs : Nat) (kind : StoreKind)
    (ranges : Ranges) (h1 : blob b = some d)
    (hs : d.length ≤ 2 ^ 63) (hbs : bs ≤ 10) (hk : kind ≠ .empty) (hwf : Ranges.WF ranges = true) :
    let args := [b, toString bs, kindStr kind, fl, mode, natList ranges, "-"]
    (opEnc args (opEnc args impl).model).specFail = none :=
  enc_specFail b _ _ fl mode _ impl d bs kind ranges h1 (toNat?_toString bs) (storeKind?_kindStr kind)
    (SpecTrunc.parseNatList_natList ranges) hs hbs hk hwf

example : (opEnc ["const:7:3000", toString 0, kindStr .preMem, "mixed", "val", natList [0], "-"]
    (opEnc ["const:7:3000", toString 0, kindStr .preMem, "mixed", "val", natList [0], "-"]
      "x").model).specFail = none :=
  enc_no_false_alarm "const:7:3000" "mixed" "val" "x" _ 0 .preMem [0] (blob_const 7 3000)
    (by rw [List.length_replicate]; decide) (by decide) (by decide) (by decide)

/-- constant blobs of every size `n ≤ 2^63`: no parse hypothesis left -/
theorem enc_const_no_false_alarm (byte n bs : Nat) (kind : StoreKind) (fl mode impl : String)
    (ranges : Ranges) (hn : n ≤ 2 ^ 63) (hbs : bs ≤ 10) (hk : kind ≠ .empty)
    (hwf : Ranges.WF ranges = true) :
    let args := ["const:" ++ toString byte ++ ":" ++ toString n, toString bs, kindStr kind, fl, mode,
      natList ranges, "-"]
    (opEnc args (opEnc args impl).model).specFail = none :=
  enc_no_false_alarm _ fl mode impl _ bs kind ranges (blob_const byte n)
    (by rw [List.length_replicate]; exact hn) hbs hk hwf

example : (opEnc ["const:" ++ toString 200 ++ ":" ++ toString 1000000, toString 4, kindStr .postMem,
      "fsm", "val", natList [3, 500, 18446744073709551615], "-"]
    (opEnc ["const:" ++ toString 200 ++ ":" ++ toString 1000000, toString 4, kindStr .postMem,
      "fsm", "val", natList [3, 500, 18446744073709551615], "-"] "").model).specFail = none :=
  enc_const_no_false_alarm 200 1000000 4 .postMem "fsm" "val" "" _ (by decide) (by decide) (by decide)
    (by decide)

/-- the agreement clauses of `encx` (C08) on an intact store follow: all five model lines carry the
same two leading tokens `Ok <dig Spec.encode>` -/
theorem enc_lines_agree (kind : StoreKind) (hne : kind ≠ .empty) (d : List UInt8) (bs : Nat)
    (hs : d.length ≤ 2 ^ 63) (hbs : bs ≤ 10) (fl₁ mode₁ fl₂ mode₂ : String) {q : Ranges}
    (hwf : Ranges.WF q = true) :
    ((encModel d (intactStore kind d bs) fl₁ mode₁ q).1.splitOn " ").take 2
      = ((encModel d (intactStore kind d bs) fl₂ mode₂ q).1.splitOn " ").take 2 := by
  simp only [encModel_intact kind hne d bs hs hbs _ _ hwf, encLine_split]
  unfold encToks
  cases fl₁ == "mixed" <;> cases fl₂ == "mixed" <;> rfl

example : ((encModel (List.replicate 3000 7) (intactStore .preIo (List.replicate 3000 7) 1)
      "mixed" "val" [1, 2]).1.splitOn " ").take 2
    = ((encModel (List.replicate 3000 7) (intactStore .preIo (List.replicate 3000 7) 1)
      "fsm" "plain" [1, 2]).1.splitOn " ").take 2 :=
  enc_lines_agree .preIo (by decide) _ 1 (by rw [List.length_replicate]; decide) (by decide) _ _ _ _
    (by decide)

/-! ## 4. false alarms outside the theorem -/

/-- FALSE ALARM for the `EmptyOutboard` (`kind = empty`, more than one chunk group): the model's
validating encoder loads the zero pair, reports `ParentHashMismatch(0)`, and the intact verdict
rejects that line (`intact store: ParentHashMismatch(0)`).  The hypothesis `hne` is a fact about
BLAKE3 (the parent of two zero hashes is not the root of the blob); for the blob below it is
`#eval`-true; it is not proved here.  `#eval (opEnc a (opEnc a "").model).specFail` for
`a = ["const:7:3000", "0", "empty", "sync", "val", "0", "-"]` gives
`some "intact store: ParentHashMismatch(1)"`, and for `… "plain" …` gives
`some "differs from Spec.encode (3128:11443393804154094637)"` (model: `Ok 3128:16530964291526531197`). -/
theorem enc_empty_false_alarm (impl : String)
    (hne : hf.parentCv zeros32 zeros32 true ≠ Spec.root hf (List.replicate 1025 7)) :
    (opEnc ["const:7:1025", "0", "empty", "sync", "val", "0", "-"]
      (opEnc ["const:7:1025", "0", "empty", "sync", "val", "0", "-"] impl).model).specFail
      ≠ none := by
  have h1 : blob "const:7:1025" = some (List.replicate 1025 7) := blob_const 7 1025
  have h2 : ("0" : String).toNat? = some 0 := toNat?_toString 0
  have h4 : parseNatList "0" = some [0] := SpecTrunc.parseNatList_natList [0]
  rw [opEnc_intact _ _ _ _ _ _ impl _ 0 .empty [0] h1 h2 rfl h4,
    opEnc_intact _ _ _ _ _ _ _ _ 0 .empty [0] h1 h2 rfl h4]
  simp only [flOf_lits.1, encModel_empty_two _ (List.length_replicate ..) hne]
  rw [encLine2_split _ (by
    show NoSp ("ParentHashMismatch(" ++ toString 0 ++ ")")
    exact noSp_append (noSp_append (noSp_lit _ (by decide)) (noSp_nat 0)) (noSp_lit _ (by decide)))]
  intro h
  obtain ⟨rest, e, _⟩ := verdict_sound _ _ _ h
  exact absurd (List.cons.inj e).1 (by decide)

/-- the hypotheses of `enc_empty_false_alarm` other than `hne` hold; `hne` itself:
`#eval (Blake3.parentCv zeros32 zeros32 true != Spec.root hf (List.replicate 1025 7))` is `true` -/
example : (List.replicate 1025 (7 : UInt8)).length = 1025 ∧
    storeKind? "empty" = some StoreKind.empty := ⟨List.length_replicate .., rfl⟩

/- corrected statement: `enc_specFail` above carries `k ≠ .empty`.  With a single chunk group the
`EmptyOutboard` is never loaded and the verdict accepts (checked by `#eval` only, e.g.
`["const:7:1000", "0", "empty", "mixed", "val", "0", "-"]`, `["const:7:2048", "1", "empty", "fsm",
"val", "0", "-"]`); not proved here. -/

end Bao.SpecEnc

/-
Status (operation `enc` = `Ops.opEnc`, corruption argument `-`; properties C04 / C08).
Bounds throughout: `d.length ≤ 2^63`, `bs ≤ 10`, `Ranges.WF ranges`, store kind ≠ `empty`.

OUT OF SCOPE: corruption arguments other than `-`.  There the verdict (the clauses "prefix of the honest
  encoding", "error iff a dependency is hit", "short data store" of `Ops.opEnc`) judges the model's
  behaviour on a store with altered bytes; that the model satisfies it depends on collision freedom
  of the real hash (C05 / C10 carry such hypotheses) and is not treated here.

PROVED (no `hlen` hypothesis left: the 32-byte facts come from `SpecOb.real_hash_outputs`):
  1. `encode_is_spec''`: C04 `encode_is_spec`, `encode_plain_is_spec`, `mixed_is_spec` for EVERY `hf`
       with `OutLen hf` (outputs only).  The section `loop` of `Lemmas/EncodeSpec.lean` uses the store
       through `EncodeSpec.Loads` only; in `SpecEncL`: `Intact'`, `load_persisted'`, `Intact'.loads`;
       `intact'_of_intact` gives the C04 versions back.
  2. component level: `store_component`, `val_component`, `plain_component`, `mixed_component`,
     `line_component`, `split_component`, `dig_component`, `verdict_component`, `verdict_component_iff`.
  3. op level: `enc_specFail` (all argument strings that parse; `fl`, `mode` arbitrary: covers `sync`,
     `syncw<k>`, `fsm`, `mixed`; `val`, `plain`), `enc_no_false_alarm`, `enc_const_no_false_alarm`,
     `enc_lines_agree`.

PARTIAL: none.
OPEN:
  -- OPEN: `enc_specFail` for `kind = empty` on blobs of a single chunk group (`d.length ≤ 1024·2^bs`): the
  --   plan has no parent item, `load` is never called, the verdict accepts (`#eval`).  `EncodeSpec.validated_spec`
  --   asks only for `EncodeSpec.Loads`, which holds there for every store (`persistedPre` has `blocks - 1 = 0` entries); not
  --   carried through to the op level.
  -- OPEN (out of scope): corruption arguments other than `-`.

FALSE ALARMS of the machinery (verdict rejects the model's own line):
  (a) store kind `empty`, more than one chunk group: `enc_empty_false_alarm` (conditional on one BLAKE3
      inequality, which is `#eval`-true).  The model follows the
      crate here (`EmptyOutboard::load` hands out zero pairs), so the real code fails the same clause: the
      verdict's "intact store ⇒ Ok and Spec.encode" is simply not meant for `empty`.  The generators
      (`harness/src/gen2.rs`: C04 picks from `["preMem","postMem","preIo","postIo"]`, C05/C08enc `encx` from
      `STORES` = the same four; `gen3.rs` likewise) NEVER emit `empty` for `enc` / `encx`.
  (b) ill-formed range lists (not strictly increasing), e.g. `enc const:7:3000 0 preMem sync val 5,2 -`:
      `encodeRangesValidated` ≠ `⟨Spec.encode …, Ok⟩` (`#eval`; `Spec.selected` and `truncate` disagree on
      unsorted input).  The generators sort and dedup every query (`query_classes`, `subsets`), and the crate's
      `RangeSetRef` cannot hold such a list: outside the bound `Ranges.WF ranges`.
  Within the bounds (stored kind, well-formed query): none.

Generator coverage: `gen2.rs` C04 emits `enc <blob> <bs ≤ 8> <preMem|postMem|preIo|postIo>
  <sync|fsm|mixed|syncw<k>> <val|plain> <sorted, deduplicated list, boundaries ≤ u64::MAX> -` with blobs
  ≤ 1.2 MB: all inside `enc_no_false_alarm` (`rnd:` / `rep:` / `idx:` descriptors through `blob b = some d`).

Model: `intactStore .empty` stores the PRE-order outboard bytes under kind
  `empty` (they are never read: `Store.load` of `empty` ignores `data`).

Non-vacuity: every theorem with hypotheses is followed by a concrete instance (`const:7:3000` blobs, all
  four stored kinds, `syncw63` / `fsm` / `mixed`); `empty_blob_tokens` and two examples use `decide +kernel`
  (no BLAKE3 evaluation: the empty blob's encoding is the empty leaf).

Axioms (`#print axioms`, all theorems of this file and of `SpecEncL`): subsets of
  [propext, Classical.choice, Quot.sound] (`empty_blob_tokens`: [propext, Quot.sound]).
-/
