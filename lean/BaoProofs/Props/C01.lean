import BaoProofs.Props.C01Loc

/-!
# C01: a decoder never hands out bytes that are not the blob's

Whatever byte stream is presented to a decoder (sync or fsm) that was set up with a blob's true
root hash — any claimed size, any block size, any query, in fact ANY plan iterator state — every
data item it yields, every byte `decode_ranges` writes to the target and every hash pair it stores
in the outboard is the corresponding datum of the true blob `d`.

Hypotheses: `CollisionFree hf` (the global form: `chunkCv` / `parentCv` jointly injective,
`BaoProofs/Lemmas/HashCF.lean`; satisfiable: `termHash_cf`) and `d.length ≤ 2^64 · 1024`
(`hash_subtree` is only defined up to `2^64` chunks; this covers the property's `≤ 2^63`).

Vocabulary (`BaoProofs/Lemmas/C01Inv.lean`), with `n = nChunks d.length`:
* `Sub d c e`       – `[c, e)` is a subtree chunk interval of the BLAKE3 tree of `d`
                      (`2^M ∣ c`, `e = min (c + 2^M) n`, `c < n`);
* `TrueLeaf d off bytes` – `off = c·1024` and `bytes = Spec.slice d c e` for such an interval;
* `TruePair hf d l r`    – `(l, r) = Spec.pair hf d k L` for a node `(k, L)` that exists in the true
                      tree (`midOf k L < n`, `L < 64`), and `parentCv l r f` is that node's `Spec.cv`;
* `ItemOk hf d i`   – `TrueLeaf` for a leaf item, `TruePair` for a parent item.  Nothing is claimed
                      about the `node` label of a parent item: with a wrong claimed size it need
                      not be a node of the true tree (e.g. blob of 1500 bytes, claimed size 5000:
                      the root pair is yielded under label 3 instead of 0).
-/

namespace Bao.C01

open Bao.Spec

variable {H : Type} [BEq H] [LawfulBEq H] {hf : HashFns H} {d : List UInt8}

/-- **Step invariant**, both flavours, any iterator state, any stream: if all pending hashes are
hashes of the true tree, a yielded item is true and the pending hashes stay true. -/
theorem step_sound (cf : CollisionFree hf) (hd : d.length ≤ 2 ^ 64 * 1024) (fl : Flavour)
    (dec : Dec H) (hs : ∀ h ∈ dec.stack, TrueCv hf d h) {i : Item H} {dec' : Dec H}
    (h : dec.next hf fl = .item i dec') : ItemOk hf d i ∧ ∀ h ∈ dec'.stack, TrueCv hf d h :=
  next_sound cf hd fl dec hs h

/-- **C01 (iterator client).**  Every item yielded by a decoder set up with the true root hash,
for any claimed geometry `tree`, any query `ranges`, any stream `s`, is true. -/
theorem decode_sound (cf : CollisionFree hf) (hd : d.length ≤ 2 ^ 64 * 1024) (fl : Flavour)
    (tree : Tree) (ranges : Ranges) (s : List UInt8) :
    ∀ i ∈ (decodeAll hf fl (Spec.root hf d) tree ranges s).items, ItemOk hf d i :=
  decode_sound_loc hd fl tree ranges s (cf.on _)

/-- C01 for data items, spelled out: the bytes are the blob's bytes at that (chunk aligned)
offset. -/
theorem decode_sound_leaf (cf : CollisionFree hf) (hd : d.length ≤ 2 ^ 64 * 1024) (fl : Flavour)
    (tree : Tree) (ranges : Ranges) (s : List UInt8) {off : Nat} {bytes : List UInt8}
    (h : Item.leaf off bytes ∈ (decodeAll hf fl (Spec.root hf d) tree ranges s).items) :
    off % 1024 = 0 ∧ off + bytes.length ≤ d.length ∧ bytes = (d.drop off).take bytes.length :=
  TrueLeaf.spec (decode_sound cf hd fl tree ranges s _ h)

/-- C01 for hash pairs, spelled out: the pair is the stored pair of a node of the true tree. -/
theorem decode_sound_parent (cf : CollisionFree hf) (hd : d.length ≤ 2 ^ 64 * 1024) (fl : Flavour)
    (tree : Tree) (ranges : Ranges) (s : List UInt8) {node : Nat} {l r : H}
    (h : Item.parent node l r ∈ (decodeAll hf fl (Spec.root hf d) tree ranges s).items) :
    ∃ k L, L < 64 ∧ midOf k L < nChunks d.length ∧ (l, r) = Spec.pair hf d k L ∧
      ∀ f, hf.parentCv l r f =
        Spec.cv hf d (startOf k L) (min (endOf k L) (nChunks d.length)) f :=
  decode_sound cf hd fl tree ranges s _ h

/-- **C01 (`decode_ranges`).**  With an outboard whose root is the true root hash (its claimed
tree is arbitrary), the final target is the initial target after a list of positioned writes of
true leaves, and the final outboard is the initial one after a list of successful `save`s of true
pairs. -/
theorem decodeRanges_sound (cf : CollisionFree hf) (hd : d.length ≤ 2 ^ 64 * 1024) (fl : Flavour)
    (s : List UInt8) (ranges : Ranges) (sink : Sink H) (hroot : sink.ob.root = Spec.root hf d) :
    ∃ (wl : List (Nat × List UInt8)) (pl : List (Nat × H × H)),
      (∀ w ∈ wl, TrueLeaf d w.1 w.2) ∧ (∀ p ∈ pl, TruePair hf d p.2.1 p.2.2) ∧
      (decodeRanges hf fl s ranges sink).sink.target = applyWrites sink.target wl ∧
      (decodeRanges hf fl s ranges sink).sink.ob = applySaves hf sink.ob pl :=
  decodeRanges_sound_loc hd fl s ranges sink hroot (cf.on _)

/-- Corollary: a target of the blob's length keeps that length, and afterwards every position
holds its initial byte or the true blob's byte. -/
theorem decodeRanges_target (cf : CollisionFree hf) (hd : d.length ≤ 2 ^ 64 * 1024) (fl : Flavour)
    (s : List UInt8) (ranges : Ranges) (sink : Sink H) (hroot : sink.ob.root = Spec.root hf d)
    (hlen : sink.target.length = d.length) :
    (decodeRanges hf fl s ranges sink).sink.target.length = d.length ∧
    ∀ i : Nat, (decodeRanges hf fl s ranges sink).sink.target[i]? = sink.target[i]? ∨
      (decodeRanges hf fl s ranges sink).sink.target[i]? = d[i]? :=
  decodeRanges_target_loc hd fl s ranges sink hroot (cf.on _) hlen

/-! ## non-vacuity: the symbolic collision free hash, a 3-chunk blob, a tampered stream -/

section
private def blob : List UInt8 := List.replicate 2500 7
/-- not an encoding of `blob` -/
private def tampered : List UInt8 := List.replicate 64 1 ++ List.replicate 2500 8

private theorem blob_len : blob.length ≤ 2 ^ 64 * 1024 := by
  simp only [blob, List.length_replicate]; omega

example : ∀ i ∈ (decodeAll termHash .fsm (Spec.root termHash blob) ⟨2500, 0⟩ [0] tampered).items,
    ItemOk termHash blob i :=
  decode_sound termHash_cf blob_len .fsm ⟨2500, 0⟩ [0] tampered

example (dec : Dec Term) (hs : dec.stack = [Spec.root termHash blob]) {i : Item Term} {dec' : Dec Term}
    (h : dec.next termHash .sync = .item i dec') : ItemOk termHash blob i :=
  (step_sound termHash_cf blob_len .sync dec (by
    intro x hx; rw [hs, List.mem_singleton] at hx; rw [hx]; exact TrueCv.root _ _) h).1

example {off : Nat} {bytes : List UInt8}
    (h : Item.leaf off bytes ∈
      (decodeAll termHash .sync (Spec.root termHash blob) ⟨9999, 2⟩ [1] tampered).items) :
    off % 1024 = 0 ∧ off + bytes.length ≤ blob.length ∧ bytes = (blob.drop off).take bytes.length :=
  decode_sound_leaf termHash_cf blob_len .sync ⟨9999, 2⟩ [1] tampered h

example {node : Nat} {l r : Term}
    (h : Item.parent node l r ∈
      (decodeAll termHash .sync (Spec.root termHash blob) ⟨9999, 2⟩ [1] tampered).items) :
    ∃ k L, L < 64 ∧ midOf k L < nChunks blob.length ∧ (l, r) = Spec.pair termHash blob k L ∧
      ∀ f, termHash.parentCv l r f =
        Spec.cv termHash blob (startOf k L) (min (endOf k L) (nChunks blob.length)) f :=
  decode_sound_parent termHash_cf blob_len .sync ⟨9999, 2⟩ [1] tampered h

/-- a sink whose outboard carries the true root (claimed tree: wrong size, block size 1) -/
private def sink0 : Sink Term :=
  { ob := { kind := .preMem, root := Spec.root termHash blob, tree := ⟨4000, 1⟩, data := [] },
    target := List.replicate 2500 0 }

private theorem sink0_root : sink0.ob.root = Spec.root termHash blob := by simp only [sink0]

example : ∃ (wl : List (Nat × List UInt8)) (pl : List (Nat × Term × Term)),
    (∀ w ∈ wl, TrueLeaf blob w.1 w.2) ∧ (∀ p ∈ pl, TruePair termHash blob p.2.1 p.2.2) ∧
    (decodeRanges termHash .sync tampered [0] sink0).sink.target = applyWrites sink0.target wl ∧
    (decodeRanges termHash .sync tampered [0] sink0).sink.ob = applySaves termHash sink0.ob pl :=
  decodeRanges_sound termHash_cf blob_len .sync tampered [0] sink0 sink0_root

example : (decodeRanges termHash .fsm tampered [0] sink0).sink.target.length = blob.length ∧
    ∀ i : Nat, (decodeRanges termHash .fsm tampered [0] sink0).sink.target[i]? = sink0.target[i]? ∨
      (decodeRanges termHash .fsm tampered [0] sink0).sink.target[i]? = blob[i]? :=
  decodeRanges_target termHash_cf blob_len .fsm tampered [0] sink0 sink0_root (by
    simp only [sink0, blob, List.length_replicate])

end

/-
## Status

Proved (axioms: propext, Classical.choice, Quot.sound): `step_sound`, `decode_sound`,
`decode_sound_leaf`, `decode_sound_parent`, `decodeRanges_sound`, `decodeRanges_target`.

`_partial`: none.   OPEN: none.

Remarks
* Hypothesis is the GLOBAL `CollisionFree hf`; the run theorems are the instances at
  `CollisionFree.on` of the localised ones (`Props/C01Loc.lean`).  Injectivity is used only at: the
  popped hash vs. the recomputed hash of the step, and inside `cv_inj` on the sub-hashes of those
  two trees.
* Nothing is (or can be) said about the `node` label of a yielded parent, see the header.
* `decodeRangesAux` calls `writeAt` also for an empty leaf (which zero-extends a short target up to
  `off`); in the sound runs above an empty leaf only occurs for the empty blob at `off = 0`, where
  it is the identity, so this does not matter for C01.
-/

end Bao.C01
