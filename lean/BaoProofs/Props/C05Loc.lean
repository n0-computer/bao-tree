import BaoProofs.Lemmas.C05LocL

/-!
# C05 with LOCALISED collision freedom (validating encoder)

`Props/C05.lean` proves the theorems about `encodeRangesValidated` under the global
`CollisionFree hf` – injectivity of the two hash primitives on ALL inputs, which no function into 32
bytes has and which is inconsistent with the 32-byte wire round trip (`Lemmas/CFUnsat.lean`).  Here
the same statements are proved under

  `CollisionFreeOn hf (fun x => x ∈ encEvals hf fl data ob q ++ encEvals hf fl₀ data₀ ob₀ q)`

i.e. no collision among the FINITELY many hash inputs the two encoder runs under consideration
evaluate.  `encEvals hf fl data ob q` (`Lemmas/C05LocL.lean`) is a computable twin of
`encodeRangesValidated hf fl data ob q`: for every parent item the run reaches and whose `load`
returns a pair, the input `.parent l r isRoot`; for every leaf item it reaches with a non-empty
stack and whose read succeeds, `hashEvals hf start buf isRoot` of ALL the bytes read (also for a
partially selected chunk group, `C05.leafAW_hash`); the inputs of the last, failing item
included.

Setting as in `Props/C05.lean`: `S = (data, ob)` is ANY store, `S₀ = (data₀, ob₀)` a reference store
with the same root and tree on which the validating encoder runs to `.ok`; flavours arbitrary.

`validated_collision_extraction` is the contrapositive WITHOUT any hash hypothesis: a run whose
output is not a prefix of the reference output (or that ends `.ok` with a different output)
exhibits a collision inside that finite list, and the quadratic search `findCollision` finds it.

The global theorems of `Props/C05.lean` are instances of the local ones (`CollisionFree.on`;
`*_of_global`).
-/

namespace Bao.C05Loc

open Bao.C05

variable {H : Type} [BEq H] [LawfulBEq H] {hf : HashFns H}

/-- **Prefix (local).**  On ANY store the validating encoder emits a prefix of what it emits on a
reference store with the same root and tree that passes all checks; if it returns `.ok` it emitted
exactly the same bytes – provided `hf` has no collision among the inputs the two runs evaluate. -/
theorem validated_prefix_rel_loc (fl fl₀ : Flavour) (data data₀ : List UInt8)
    (ob ob₀ : Store H) (q : Ranges) (htree : ob.tree = ob₀.tree) (hroot : ob.root = ob₀.root)
    (hd : data.length ≤ 2 ^ 64 * 1024) (hd₀ : data₀.length ≤ 2 ^ 64 * 1024)
    (cf : CollisionFreeOn hf
      (fun x => x ∈ encEvals hf fl data ob q ++ encEvals hf fl₀ data₀ ob₀ q))
    (hok : (encodeRangesValidated hf fl₀ data₀ ob₀ q).terminal = .ok) :
    (encodeRangesValidated hf fl data ob q).out <+: (encodeRangesValidated hf fl₀ data₀ ob₀ q).out ∧
    ((encodeRangesValidated hf fl data ob q).terminal = .ok →
      (encodeRangesValidated hf fl data ob q).out = (encodeRangesValidated hf fl₀ data₀ ob₀ q).out) := by
  obtain ⟨_, _, _, h1, h2, _⟩ := validated_rel_loc (fl := fl) htree hroot hd hd₀ q cf hok
  exact ⟨h1, fun h => (h2 h).1⟩

/-- **Proper prefix (local).**  If the run on `S` does not end `.ok`, what it emitted is strictly
shorter than the reference output. -/
theorem validated_proper_prefix_loc (hb : ∀ h, hf.toBytes h ≠ [])
    (fl fl₀ : Flavour) (data data₀ : List UInt8) (ob ob₀ : Store H) (q : Ranges)
    (htree : ob.tree = ob₀.tree) (hroot : ob.root = ob₀.root)
    (hd : data.length ≤ 2 ^ 64 * 1024) (hd₀ : data₀.length ≤ 2 ^ 64 * 1024)
    (cf : CollisionFreeOn hf
      (fun x => x ∈ encEvals hf fl data ob q ++ encEvals hf fl₀ data₀ ob₀ q))
    (hok : (encodeRangesValidated hf fl₀ data₀ ob₀ q).terminal = .ok)
    (hne : (encodeRangesValidated hf fl data ob q).terminal ≠ .ok) :
    (encodeRangesValidated hf fl data ob q).out <+: (encodeRangesValidated hf fl₀ data₀ ob₀ q).out ∧
    (encodeRangesValidated hf fl data ob q).out.length
      < (encodeRangesValidated hf fl₀ data₀ ob₀ q).out.length := by
  obtain ⟨_, _, _, h1, _, h3⟩ := validated_rel_loc (fl := fl) htree hroot hd hd₀ q cf hok
  exact ⟨h1, h3 hb hne⟩

/-- **Detection (local).**  If the run on `S` ends `.ok` too, then `S` and the reference store
agree on every access the plan makes … -/
theorem validated_ok_agree_loc (fl fl₀ : Flavour) (data data₀ : List UInt8)
    (ob ob₀ : Store H) (q : Ranges) (htree : ob.tree = ob₀.tree) (hroot : ob.root = ob₀.root)
    (hd : data.length ≤ 2 ^ 64 * 1024) (hd₀ : data₀.length ≤ 2 ^ 64 * 1024)
    (cf : CollisionFreeOn hf
      (fun x => x ∈ encEvals hf fl data ob q ++ encEvals hf fl₀ data₀ ob₀ q))
    (hok₀ : (encodeRangesValidated hf fl₀ data₀ ob₀ q).terminal = .ok)
    (hok : (encodeRangesValidated hf fl data ob q).terminal = .ok) :
    ∃ plan, planOf ob q = some plan ∧ ∀ c ∈ plan, AgreeAt hf fl fl₀ data ob data₀ ob₀ c := by
  obtain ⟨plan, hp, _, _, h2, _⟩ := validated_rel_loc (fl := fl) htree hroot hd hd₀ q cf hok₀
  exact ⟨plan, hp, (h2 hok).2⟩

/-- … hence: if `S` differs from the reference store in anything the query depends on (the pair
loaded for some parent of the plan, or the bytes read for some leaf of the plan), the run on `S`
does not end `.ok`. -/
theorem validated_detects_loc (fl fl₀ : Flavour) (data data₀ : List UInt8)
    (ob ob₀ : Store H) (q : Ranges) (htree : ob.tree = ob₀.tree) (hroot : ob.root = ob₀.root)
    (hd : data.length ≤ 2 ^ 64 * 1024) (hd₀ : data₀.length ≤ 2 ^ 64 * 1024)
    (cf : CollisionFreeOn hf
      (fun x => x ∈ encEvals hf fl data ob q ++ encEvals hf fl₀ data₀ ob₀ q))
    (hok₀ : (encodeRangesValidated hf fl₀ data₀ ob₀ q).terminal = .ok)
    {plan : List Chunk} (hp : planOf ob q = some plan) {c : Chunk} (hc : c ∈ plan)
    (hdiff : ¬ AgreeAt hf fl fl₀ data ob data₀ ob₀ c) :
    (encodeRangesValidated hf fl data ob q).terminal ≠ .ok := by
  intro hok
  obtain ⟨plan', hp', h⟩ :=
    validated_ok_agree_loc fl fl₀ data data₀ ob ob₀ q htree hroot hd hd₀ cf hok₀ hok
  rw [hp] at hp'
  cases hp'
  exact hdiff (h c hc)

/-- **Uniqueness (local).**  Two stores (same root, same tree) that both pass validation emit the
same bytes. -/
theorem validated_ok_unique_loc (fl fl₀ : Flavour) (data data₀ : List UInt8)
    (ob ob₀ : Store H) (q : Ranges) (htree : ob.tree = ob₀.tree) (hroot : ob.root = ob₀.root)
    (hd : data.length ≤ 2 ^ 64 * 1024) (hd₀ : data₀.length ≤ 2 ^ 64 * 1024)
    (cf : CollisionFreeOn hf
      (fun x => x ∈ encEvals hf fl data ob q ++ encEvals hf fl₀ data₀ ob₀ q))
    (hok₀ : (encodeRangesValidated hf fl₀ data₀ ob₀ q).terminal = .ok)
    (hok : (encodeRangesValidated hf fl data ob q).terminal = .ok) :
    (encodeRangesValidated hf fl data ob q).out = (encodeRangesValidated hf fl₀ data₀ ob₀ q).out :=
  (validated_prefix_rel_loc fl fl₀ data data₀ ob ob₀ q htree hroot hd hd₀ cf hok₀).2 hok

/-- **What "passes validation" means (local).**  If the root is the root hash of blob `d` and the
run ends `.ok`, then every pair it loaded is the true pair of a node of the tree of `d` and every
leaf it read is the bytes of `d` at that place – provided `hf` has no collision among the inputs of
the honest hashing of `d` (`C01.trueEvals hf d`) and of this run. -/
theorem validated_ok_reads_true_loc {d : List UInt8} (hd : d.length ≤ 2 ^ 64 * 1024)
    (fl : Flavour) (data : List UInt8) (ob : Store H) (q : Ranges)
    (hdata : data.length ≤ 2 ^ 64 * 1024) (hroot : ob.root = Spec.root hf d)
    (cf : CollisionFreeOn hf (fun x => x ∈ C01.trueEvals hf d ++ encEvals hf fl data ob q))
    (hok : (encodeRangesValidated hf fl data ob q).terminal = .ok) :
    ∃ plan, planOf ob q = some plan ∧ ∀ c ∈ plan, ReadTrue hf fl data ob d c :=
  validated_true_loc hd hdata hroot q cf hok

/-! ## collision extraction: no hash hypothesis -/

/-- the general form: whenever the relation of `validated_rel_loc` FAILS between the run on `S` and
a reference run that ends `.ok`, the finite list of evaluated inputs contains a collision -/
theorem validated_collision_of_not_rel (fl fl₀ : Flavour) (data data₀ : List UInt8)
    (ob ob₀ : Store H) (q : Ranges) (htree : ob.tree = ob₀.tree) (hroot : ob.root = ob₀.root)
    (hd : data.length ≤ 2 ^ 64 * 1024) (hd₀ : data₀.length ≤ 2 ^ 64 * 1024)
    (hok₀ : (encodeRangesValidated hf fl₀ data₀ ob₀ q).terminal = .ok)
    (hbad : ¬ ∃ plan, planOf ob q = some plan ∧ planOf ob₀ q = some plan ∧
      (encodeRangesValidated hf fl data ob q).out <+: (encodeRangesValidated hf fl₀ data₀ ob₀ q).out ∧
      ((encodeRangesValidated hf fl data ob q).terminal = .ok →
        (encodeRangesValidated hf fl data ob q).out = (encodeRangesValidated hf fl₀ data₀ ob₀ q).out ∧
        ∀ c ∈ plan, AgreeAt hf fl fl₀ data ob data₀ ob₀ c) ∧
      ((∀ h, hf.toBytes h ≠ []) → (encodeRangesValidated hf fl data ob q).terminal ≠ .ok →
        (encodeRangesValidated hf fl data ob q).out.length
          < (encodeRangesValidated hf fl₀ data₀ ob₀ q).out.length)) :
    ∃ x y, x ∈ encEvals hf fl data ob q ++ encEvals hf fl₀ data₀ ob₀ q ∧
      y ∈ encEvals hf fl data ob q ++ encEvals hf fl₀ data₀ ob₀ q ∧
      x ≠ y ∧ hf.eval x = hf.eval y :=
  collision_of_not_cf fun cf => hbad (validated_rel_loc (fl := fl) htree hroot hd hd₀ q
    (cf.mono fun _ hx => List.mem_append.1 hx) hok₀)

/-- **Collision extraction.**  NO hash hypothesis: if both stores have the same root and tree, the
reference run ends `.ok`, and the run on `S` emits something that is not a prefix of the reference
output, or ends `.ok` with a different output, then the finite, computable list
`encEvals hf fl data ob q ++ encEvals hf fl₀ data₀ ob₀ q` contains two different inputs with the
same hash, and the quadratic search `findCollision` returns such a pair. -/
theorem validated_collision_extraction [DecidableEq H] (fl fl₀ : Flavour) (data data₀ : List UInt8)
    (ob ob₀ : Store H) (q : Ranges) (htree : ob.tree = ob₀.tree) (hroot : ob.root = ob₀.root)
    (hd : data.length ≤ 2 ^ 64 * 1024) (hd₀ : data₀.length ≤ 2 ^ 64 * 1024)
    (hok₀ : (encodeRangesValidated hf fl₀ data₀ ob₀ q).terminal = .ok)
    (hbad : ¬ (encodeRangesValidated hf fl data ob q).out
          <+: (encodeRangesValidated hf fl₀ data₀ ob₀ q).out ∨
      ((encodeRangesValidated hf fl data ob q).terminal = .ok ∧
        (encodeRangesValidated hf fl data ob q).out
          ≠ (encodeRangesValidated hf fl₀ data₀ ob₀ q).out)) :
    ∃ x y, findCollision hf (encEvals hf fl data ob q ++ encEvals hf fl₀ data₀ ob₀ q)
        = some (x, y) ∧
      x ∈ encEvals hf fl data ob q ++ encEvals hf fl₀ data₀ ob₀ q ∧
      y ∈ encEvals hf fl data ob q ++ encEvals hf fl₀ data₀ ob₀ q ∧
      x ≠ y ∧ hf.eval x = hf.eval y := by
  refine findCollision_of_not_cf fun cf => ?_
  obtain ⟨_, _, _, h1, h2, _⟩ := validated_rel_loc (fl := fl) htree hroot hd hd₀ q
    (cf.mono fun _ hx => List.mem_append.1 hx) hok₀
  rcases hbad with h | ⟨h, h'⟩
  · exact h h1
  · exact h' (h2 h).1

/-- collision extraction, detection form: both runs end `.ok` although the stores differ in an
access the plan makes ⇒ a collision in the list, found by `findCollision` -/
theorem validated_collision_extraction_agree [DecidableEq H] (fl fl₀ : Flavour)
    (data data₀ : List UInt8) (ob ob₀ : Store H) (q : Ranges) (htree : ob.tree = ob₀.tree)
    (hroot : ob.root = ob₀.root) (hd : data.length ≤ 2 ^ 64 * 1024)
    (hd₀ : data₀.length ≤ 2 ^ 64 * 1024)
    (hok₀ : (encodeRangesValidated hf fl₀ data₀ ob₀ q).terminal = .ok)
    (hok : (encodeRangesValidated hf fl data ob q).terminal = .ok)
    {plan : List Chunk} (hp : planOf ob q = some plan) {c : Chunk} (hc : c ∈ plan)
    (hdiff : ¬ AgreeAt hf fl fl₀ data ob data₀ ob₀ c) :
    ∃ x y, findCollision hf (encEvals hf fl data ob q ++ encEvals hf fl₀ data₀ ob₀ q)
        = some (x, y) ∧
      x ∈ encEvals hf fl data ob q ++ encEvals hf fl₀ data₀ ob₀ q ∧
      y ∈ encEvals hf fl data ob q ++ encEvals hf fl₀ data₀ ob₀ q ∧
      x ≠ y ∧ hf.eval x = hf.eval y := by
  refine findCollision_of_not_cf fun cf => ?_
  obtain ⟨plan', hp', _, _, h2, _⟩ := validated_rel_loc (fl := fl) htree hroot hd hd₀ q
    (cf.mono fun _ hx => List.mem_append.1 hx) hok₀
  rw [hp] at hp'
  cases hp'
  exact hdiff ((h2 hok).2 c hc)

/-- collision extraction, proper-prefix form: the run on `S` fails but emitted at least as many
bytes as the reference run ⇒ a collision in the list, found by `findCollision` -/
theorem validated_collision_extraction_short [DecidableEq H] (hb : ∀ h, hf.toBytes h ≠ [])
    (fl fl₀ : Flavour) (data data₀ : List UInt8) (ob ob₀ : Store H) (q : Ranges)
    (htree : ob.tree = ob₀.tree) (hroot : ob.root = ob₀.root)
    (hd : data.length ≤ 2 ^ 64 * 1024) (hd₀ : data₀.length ≤ 2 ^ 64 * 1024)
    (hok₀ : (encodeRangesValidated hf fl₀ data₀ ob₀ q).terminal = .ok)
    (hne : (encodeRangesValidated hf fl data ob q).terminal ≠ .ok)
    (hlen : (encodeRangesValidated hf fl₀ data₀ ob₀ q).out.length
      ≤ (encodeRangesValidated hf fl data ob q).out.length) :
    ∃ x y, findCollision hf (encEvals hf fl data ob q ++ encEvals hf fl₀ data₀ ob₀ q)
        = some (x, y) ∧
      x ∈ encEvals hf fl data ob q ++ encEvals hf fl₀ data₀ ob₀ q ∧
      y ∈ encEvals hf fl data ob q ++ encEvals hf fl₀ data₀ ob₀ q ∧
      x ≠ y ∧ hf.eval x = hf.eval y := by
  refine findCollision_of_not_cf fun cf => ?_
  obtain ⟨_, _, _, _, _, h3⟩ := validated_rel_loc (fl := fl) htree hroot hd hd₀ q
    (cf.mono fun _ hx => List.mem_append.1 hx) hok₀
  exact absurd (h3 hb hne) (by omega)

/-! ## the global theorems of `Props/C05.lean` follow from the local ones -/

theorem validated_prefix_rel_of_global (cf : CollisionFree hf) (fl fl₀ : Flavour)
    (data data₀ : List UInt8) (ob ob₀ : Store H) (q : Ranges) (htree : ob.tree = ob₀.tree)
    (hroot : ob.root = ob₀.root) (hd : data.length ≤ 2 ^ 64 * 1024)
    (hd₀ : data₀.length ≤ 2 ^ 64 * 1024)
    (hok : (encodeRangesValidated hf fl₀ data₀ ob₀ q).terminal = .ok) :
    (encodeRangesValidated hf fl data ob q).out <+: (encodeRangesValidated hf fl₀ data₀ ob₀ q).out ∧
    ((encodeRangesValidated hf fl data ob q).terminal = .ok →
      (encodeRangesValidated hf fl data ob q).out = (encodeRangesValidated hf fl₀ data₀ ob₀ q).out) :=
  validated_prefix_rel_loc fl fl₀ data data₀ ob ob₀ q htree hroot hd hd₀ (cf.on _) hok

theorem validated_proper_prefix_of_global (cf : CollisionFree hf) (hb : ∀ h, hf.toBytes h ≠ [])
    (fl fl₀ : Flavour) (data data₀ : List UInt8) (ob ob₀ : Store H) (q : Ranges)
    (htree : ob.tree = ob₀.tree) (hroot : ob.root = ob₀.root)
    (hd : data.length ≤ 2 ^ 64 * 1024) (hd₀ : data₀.length ≤ 2 ^ 64 * 1024)
    (hok : (encodeRangesValidated hf fl₀ data₀ ob₀ q).terminal = .ok)
    (hne : (encodeRangesValidated hf fl data ob q).terminal ≠ .ok) :
    (encodeRangesValidated hf fl data ob q).out <+: (encodeRangesValidated hf fl₀ data₀ ob₀ q).out ∧
    (encodeRangesValidated hf fl data ob q).out.length
      < (encodeRangesValidated hf fl₀ data₀ ob₀ q).out.length :=
  validated_proper_prefix_loc hb fl fl₀ data data₀ ob ob₀ q htree hroot hd hd₀ (cf.on _) hok hne

theorem validated_ok_agree_of_global (cf : CollisionFree hf) (fl fl₀ : Flavour)
    (data data₀ : List UInt8) (ob ob₀ : Store H) (q : Ranges) (htree : ob.tree = ob₀.tree)
    (hroot : ob.root = ob₀.root) (hd : data.length ≤ 2 ^ 64 * 1024)
    (hd₀ : data₀.length ≤ 2 ^ 64 * 1024)
    (hok₀ : (encodeRangesValidated hf fl₀ data₀ ob₀ q).terminal = .ok)
    (hok : (encodeRangesValidated hf fl data ob q).terminal = .ok) :
    ∃ plan, planOf ob q = some plan ∧ ∀ c ∈ plan, AgreeAt hf fl fl₀ data ob data₀ ob₀ c :=
  validated_ok_agree_loc fl fl₀ data data₀ ob ob₀ q htree hroot hd hd₀ (cf.on _) hok₀ hok

theorem validated_detects_of_global (cf : CollisionFree hf) (fl fl₀ : Flavour)
    (data data₀ : List UInt8) (ob ob₀ : Store H) (q : Ranges) (htree : ob.tree = ob₀.tree)
    (hroot : ob.root = ob₀.root) (hd : data.length ≤ 2 ^ 64 * 1024)
    (hd₀ : data₀.length ≤ 2 ^ 64 * 1024)
    (hok₀ : (encodeRangesValidated hf fl₀ data₀ ob₀ q).terminal = .ok)
    {plan : List Chunk} (hp : planOf ob q = some plan) {c : Chunk} (hc : c ∈ plan)
    (hdiff : ¬ AgreeAt hf fl fl₀ data ob data₀ ob₀ c) :
    (encodeRangesValidated hf fl data ob q).terminal ≠ .ok :=
  validated_detects_loc fl fl₀ data data₀ ob ob₀ q htree hroot hd hd₀ (cf.on _) hok₀ hp hc hdiff

theorem validated_ok_unique_of_global (cf : CollisionFree hf) (fl fl₀ : Flavour)
    (data data₀ : List UInt8) (ob ob₀ : Store H) (q : Ranges) (htree : ob.tree = ob₀.tree)
    (hroot : ob.root = ob₀.root) (hd : data.length ≤ 2 ^ 64 * 1024)
    (hd₀ : data₀.length ≤ 2 ^ 64 * 1024)
    (hok₀ : (encodeRangesValidated hf fl₀ data₀ ob₀ q).terminal = .ok)
    (hok : (encodeRangesValidated hf fl data ob q).terminal = .ok) :
    (encodeRangesValidated hf fl data ob q).out = (encodeRangesValidated hf fl₀ data₀ ob₀ q).out :=
  validated_ok_unique_loc fl fl₀ data data₀ ob ob₀ q htree hroot hd hd₀ (cf.on _) hok₀ hok

theorem validated_ok_reads_true_of_global (cf : CollisionFree hf) {d : List UInt8}
    (hd : d.length ≤ 2 ^ 64 * 1024) (fl : Flavour) (data : List UInt8) (ob : Store H) (q : Ranges)
    (hdata : data.length ≤ 2 ^ 64 * 1024) (hroot : ob.root = Spec.root hf d)
    (hok : (encodeRangesValidated hf fl data ob q).terminal = .ok) :
    ∃ plan, planOf ob q = some plan ∧ ∀ c ∈ plan, ReadTrue hf fl data ob d c :=
  validated_ok_reads_true_loc hd fl data ob q hdata hroot (cf.on _) hok

section
/-! ### (a) `toy32`: 32-byte hashes WITH the wire round trip, not globally collision free

A blob of three chunks, block size 1 (one chunk group of two chunks and one single chunk), its
honest pre-order outboard (one pair) and the query "chunk 1 only": the plan is the root parent
(left child only) and the PARTIALLY selected group `[0, 2)`, which goes through
`encode_selected_rec`.  The reference run evaluates 4 inputs (root parent, group parent, two
chunks).  Corrupted stores: one data byte of chunk 1 changed (leaf hash mismatch after the root
pair was sent); one outboard byte changed (parent hash mismatch, nothing sent); an outboard with an
unused trailing byte (passes). -/

private def blob3 : List UInt8 := (List.range 2049).map UInt8.ofNat
private def bad3 : List UInt8 := blob3.take 1500 ++ [99] ++ blob3.drop 1501
private def ob3 : Store H32 :=
  ⟨.preMem, Spec.root toy32 blob3, ⟨2049, 1⟩, Spec.preOutboard toy32 blob3 1⟩
private def ob3' : Store H32 :=
  ⟨.preMem, Spec.root toy32 blob3, ⟨2049, 1⟩, Spec.preOutboard toy32 blob3 1 ++ [9]⟩
private def ob3bad : Store H32 :=
  ⟨.preMem, Spec.root toy32 blob3, ⟨2049, 1⟩,
    (Spec.preOutboard toy32 blob3 1).take 40 ++ [7] ++ (Spec.preOutboard toy32 blob3 1).drop 41⟩

private theorem len_blob3 : blob3.length ≤ 2 ^ 64 * 1024 := by
  simp only [blob3, List.length_map, List.length_range]; omega
private theorem len_bad3 : bad3.length ≤ 2 ^ 64 * 1024 := by
  simp only [bad3, blob3, List.length_append, List.length_take, List.length_drop, List.length_map,
    List.length_range, List.length_singleton]; omega

/-- the wire round trip holds for `toy32`, its hashes are 32 bytes, and the global hypothesis
fails -/
example : (∀ h, toy32.ofBytes (toy32.toBytes h) = h) ∧ (∀ h, (toy32.toBytes h).length = 32) ∧
    ¬ CollisionFree toy32 :=
  ⟨toy32_rt, toy32_len, toy32_not_cf⟩

private theorem toy32_toBytes_ne (h : H32) : toy32.toBytes h ≠ [] := by
  intro h0
  have := toy32_len h
  rw [h0] at this
  cases this

/-- everything the kernel computes about the four runs, in ONE evaluation (it hashes the blob and
builds the outboard once): how they end, what they emit and evaluate, that the corrupted data
reads differently, and that `toy32` has no collision among the inputs of the honest hashing and of the runs – every unordered pair is checked
once, equal inputs being recognised by their keys (`collisionFreeOn_keys`, `key32`) -/
private theorem runs3 :
    ((encodeRangesValidated toy32 .sync blob3 ob3 [1, 2]).terminal = .ok ∧
      (encodeRangesValidated toy32 .fsm blob3 ob3' [1, 2]).terminal = .ok ∧
      (encodeRangesValidated toy32 .fsm bad3 ob3 [1, 2]).terminal = .err (.leafHashMismatch 0) ∧
      (encodeRangesValidated toy32 .fsm blob3 ob3bad [1, 2]).terminal
        = .err (.parentHashMismatch 1)) ∧
    ((encodeRangesValidated toy32 .sync blob3 ob3 [1, 2]).out.length = 1152 ∧
      (encEvals toy32 .sync blob3 ob3 [1, 2]).length = 4 ∧
      (encodeRangesValidated toy32 .fsm bad3 ob3 [1, 2]).out.length = 64 ∧
      (encEvals toy32 .fsm bad3 ob3 [1, 2]).length = 4 ∧
      (encodeRangesValidated toy32 .fsm blob3 ob3bad [1, 2]).out.length = 0 ∧
      (encEvals toy32 .fsm blob3 ob3bad [1, 2]).length = 1) ∧
    (readExactAt bad3 (toBytes 0) 2048).toOption ≠ (readExactAt blob3 (toBytes 0) 2048).toOption ∧
    (C01.trueEvals toy32 blob3 ++ (encEvals toy32 .fsm bad3 ob3 [1, 2] ++
      (encEvals toy32 .fsm blob3 ob3bad [1, 2] ++ (encEvals toy32 .fsm blob3 ob3' [1, 2] ++
        encEvals toy32 .sync blob3 ob3 [1, 2])))).Pairwise
      (fun x y => toy32.eval x = toy32.eval y → key32 x = key32 y) := by decide +kernel

private theorem ok3 : (encodeRangesValidated toy32 .sync blob3 ob3 [1, 2]).terminal = .ok :=
  runs3.1.1

private theorem ok3' : (encodeRangesValidated toy32 .fsm blob3 ob3' [1, 2]).terminal = .ok :=
  runs3.1.2.1

private theorem bad3_err :
    (encodeRangesValidated toy32 .fsm bad3 ob3 [1, 2]).terminal = .err (.leafHashMismatch 0) :=
  runs3.1.2.2.1

private theorem ob3bad_err :
    (encodeRangesValidated toy32 .fsm blob3 ob3bad [1, 2]).terminal
      = .err (.parentHashMismatch 1) :=
  runs3.1.2.2.2

private theorem plan3 : planOf ob3 [1, 2] = some
    [.parent 1 true true false [1, 2], .leaf 0 2048 false [1]] := by decide +kernel

/-- the runs are not trivial: the reference run emits 1152 bytes (root pair, group pair, chunk 1)
and evaluates 4 inputs; the run on the corrupted data emits the root pair and evaluates 4 inputs;
the run on the corrupted outboard emits nothing and evaluates 1 input -/
example : (encodeRangesValidated toy32 .sync blob3 ob3 [1, 2]).out.length = 1152 ∧
    (encEvals toy32 .sync blob3 ob3 [1, 2]).length = 4 ∧
    (encodeRangesValidated toy32 .fsm bad3 ob3 [1, 2]).out.length = 64 ∧
    (encEvals toy32 .fsm bad3 ob3 [1, 2]).length = 4 ∧
    (encodeRangesValidated toy32 .fsm blob3 ob3bad [1, 2]).out.length = 0 ∧
    (encEvals toy32 .fsm blob3 ob3bad [1, 2]).length = 1 := runs3.2.1

private theorem cf3 : CollisionFreeOn toy32 (fun x => x ∈ C01.trueEvals toy32 blob3 ++
    (encEvals toy32 .fsm bad3 ob3 [1, 2] ++ (encEvals toy32 .fsm blob3 ob3bad [1, 2] ++
      (encEvals toy32 .fsm blob3 ob3' [1, 2] ++ encEvals toy32 .sync blob3 ob3 [1, 2])))) :=
  collisionFreeOn_keys key32 key32_inj runs3.2.2.2

/-- **the local hypothesis is satisfiable together with 32-byte hashes and the round trip** -/
private theorem toy_cf_bad : CollisionFreeOn toy32
    (fun x => x ∈ encEvals toy32 .fsm bad3 ob3 [1, 2] ++ encEvals toy32 .sync blob3 ob3 [1, 2]) :=
  cf3.mono fun x hx => by
    simp only [List.mem_append] at hx ⊢
    rcases hx with h | h
    · exact .inr (.inl h)
    · exact .inr (.inr (.inr (.inr h)))

private theorem toy_cf_obbad : CollisionFreeOn toy32
    (fun x => x ∈ encEvals toy32 .fsm blob3 ob3bad [1, 2] ++ encEvals toy32 .sync blob3 ob3 [1, 2]) :=
  cf3.mono fun x hx => by
    simp only [List.mem_append] at hx ⊢
    rcases hx with h | h
    · exact .inr (.inr (.inl h))
    · exact .inr (.inr (.inr (.inr h)))

private theorem toy_cf_ok : CollisionFreeOn toy32
    (fun x => x ∈ encEvals toy32 .fsm blob3 ob3' [1, 2] ++ encEvals toy32 .sync blob3 ob3 [1, 2]) :=
  cf3.mono fun x hx => by
    simp only [List.mem_append] at hx ⊢
    rcases hx with h | h
    · exact .inr (.inr (.inr (.inl h)))
    · exact .inr (.inr (.inr (.inr h)))

example :
    (encodeRangesValidated toy32 .fsm bad3 ob3 [1, 2]).out
      <+: (encodeRangesValidated toy32 .sync blob3 ob3 [1, 2]).out ∧
    ((encodeRangesValidated toy32 .fsm bad3 ob3 [1, 2]).terminal = .ok →
      (encodeRangesValidated toy32 .fsm bad3 ob3 [1, 2]).out
        = (encodeRangesValidated toy32 .sync blob3 ob3 [1, 2]).out) :=
  validated_prefix_rel_loc .fsm .sync bad3 blob3 ob3 ob3 [1, 2] rfl rfl len_bad3 len_blob3
    toy_cf_bad ok3

example :
    (encodeRangesValidated toy32 .fsm bad3 ob3 [1, 2]).out
      <+: (encodeRangesValidated toy32 .sync blob3 ob3 [1, 2]).out ∧
    (encodeRangesValidated toy32 .fsm bad3 ob3 [1, 2]).out.length
      < (encodeRangesValidated toy32 .sync blob3 ob3 [1, 2]).out.length :=
  validated_proper_prefix_loc toy32_toBytes_ne .fsm .sync bad3 blob3 ob3 ob3 [1, 2] rfl rfl
    len_bad3 len_blob3 toy_cf_bad ok3 (by rw [bad3_err]; simp)

example :
    (encodeRangesValidated toy32 .fsm blob3 ob3bad [1, 2]).out
      <+: (encodeRangesValidated toy32 .sync blob3 ob3 [1, 2]).out ∧
    (encodeRangesValidated toy32 .fsm blob3 ob3bad [1, 2]).out.length
      < (encodeRangesValidated toy32 .sync blob3 ob3 [1, 2]).out.length :=
  validated_proper_prefix_loc toy32_toBytes_ne .fsm .sync blob3 blob3 ob3bad ob3 [1, 2] rfl rfl
    len_blob3 len_blob3 toy_cf_obbad ok3 (by rw [ob3bad_err]; simp)

example : ∃ plan, planOf ob3' [1, 2] = some plan ∧
    ∀ c ∈ plan, AgreeAt toy32 .fsm .sync blob3 ob3' blob3 ob3 c :=
  validated_ok_agree_loc .fsm .sync blob3 blob3 ob3' ob3 [1, 2] rfl rfl len_blob3 len_blob3
    toy_cf_ok ok3 ok3'

example : (encodeRangesValidated toy32 .fsm bad3 ob3 [1, 2]).terminal ≠ .ok :=
  validated_detects_loc .fsm .sync bad3 blob3 ob3 ob3 [1, 2] rfl rfl len_bad3 len_blob3
    toy_cf_bad ok3 plan3 (c := .leaf 0 2048 false [1]) (by simp)
    (fun h => runs3.2.2.1 (congrArg Except.toOption h))

example : (encodeRangesValidated toy32 .fsm blob3 ob3' [1, 2]).out
    = (encodeRangesValidated toy32 .sync blob3 ob3 [1, 2]).out :=
  validated_ok_unique_loc .fsm .sync blob3 blob3 ob3' ob3 [1, 2] rfl rfl len_blob3 len_blob3
    toy_cf_ok ok3 ok3'

private theorem toy_cf_true : CollisionFreeOn toy32
    (fun x => x ∈ C01.trueEvals toy32 blob3 ++ encEvals toy32 .sync blob3 ob3 [1, 2]) :=
  cf3.mono fun x hx => by
    simp only [List.mem_append] at hx ⊢
    rcases hx with h | h
    · exact .inl h
    · exact .inr (.inr (.inr (.inr h)))

example : ∃ plan, planOf ob3 [1, 2] = some plan ∧
    ∀ c ∈ plan, ReadTrue toy32 .sync blob3 ob3 blob3 c :=
  validated_ok_reads_true_loc (d := blob3) len_blob3 .sync blob3 ob3 [1, 2] len_blob3
    (by simp only [ob3]) toy_cf_true ok3

/-! ### (b) the symbolic hash `exHash`: globally, hence locally, collision free -/

private def blob2 : List UInt8 := List.replicate 1024 0 ++ [1]
private def bad2 : List UInt8 := List.replicate 1024 0 ++ [2]
private def root2 : Term := .parent (.chunk 0 (List.replicate 1024 0) false) (.chunk 1 [1] false) true
private def ob2 : Store Term := ⟨.preMem, root2, ⟨1025, 0⟩, zeros32 ++ List.replicate 32 1⟩

private theorem len_blob2 : blob2.length ≤ 2 ^ 64 * 1024 := by
  simp only [blob2, List.length_append, List.length_replicate, List.length_singleton]; omega
private theorem len_bad2 : bad2.length ≤ 2 ^ 64 * 1024 := by
  simp only [bad2, List.length_append, List.length_replicate, List.length_singleton]; omega

private theorem ok2 : (encodeRangesValidated exHash .sync blob2 ob2 [0]).terminal = .ok :=
  exHash_runs.1

example : CollisionFreeOn exHash
    (fun x => x ∈ encEvals exHash .fsm bad2 ob2 [0] ++ encEvals exHash .sync blob2 ob2 [0]) :=
  exHash_cf.on _

example :
    (encodeRangesValidated exHash .fsm bad2 ob2 [0]).out
      <+: (encodeRangesValidated exHash .sync blob2 ob2 [0]).out ∧
    ((encodeRangesValidated exHash .fsm bad2 ob2 [0]).terminal = .ok →
      (encodeRangesValidated exHash .fsm bad2 ob2 [0]).out
        = (encodeRangesValidated exHash .sync blob2 ob2 [0]).out) :=
  validated_prefix_rel_of_global exHash_cf .fsm .sync bad2 blob2 ob2 ob2 [0] rfl rfl len_bad2
    len_blob2 ok2

example :
    (encodeRangesValidated exHash .fsm bad2 ob2 [0]).out
      <+: (encodeRangesValidated exHash .sync blob2 ob2 [0]).out ∧
    (encodeRangesValidated exHash .fsm bad2 ob2 [0]).out.length
      < (encodeRangesValidated exHash .sync blob2 ob2 [0]).out.length :=
  validated_proper_prefix_of_global exHash_cf exHash_toBytes_ne .fsm .sync bad2 blob2 ob2 ob2 [0]
    rfl rfl len_bad2 len_blob2 ok2 (by
      have h : (encodeRangesValidated exHash .fsm bad2 ob2 [0]).terminal
          = .err (.leafHashMismatch 1) := exHash_runs.2.2.2.1
      rw [h]; simp)

example : ∃ plan, planOf ob2 [0] = some plan ∧
    ∀ c ∈ plan, AgreeAt exHash .fsm .sync blob2 ob2 blob2 ob2 c :=
  validated_ok_agree_of_global exHash_cf .fsm .sync blob2 blob2 ob2 ob2 [0] rfl rfl len_blob2
    len_blob2 ok2 exHash_runs.2.1

example : (encodeRangesValidated exHash .fsm bad2 ob2 [0]).terminal ≠ .ok :=
  validated_detects_of_global exHash_cf .fsm .sync bad2 blob2 ob2 ob2 [0] rfl rfl len_bad2
    len_blob2 ok2 (plan := [.parent 0 true true true [0], .leaf 0 1024 false [0],
      .leaf 1 1 false [0]]) exHash_runs.2.2.2.2.2 (c := .leaf 1 1 false [0]) (by simp)
    (fun h => exHash_runs.2.2.2.2.1 (congrArg Except.toOption h))

example : (encodeRangesValidated exHash .fsm blob2 ob2 [0]).out
    = (encodeRangesValidated exHash .sync blob2 ob2 [0]).out :=
  validated_ok_unique_of_global exHash_cf .fsm .sync blob2 blob2 ob2 ob2 [0] rfl rfl len_blob2
    len_blob2 ok2 exHash_runs.2.1

private def blob1 : List UInt8 := [1, 2, 3]
private def ob1 : Store Term := ⟨.postMem, Spec.root exHash blob1, ⟨3, 0⟩, []⟩

example : ∃ plan, planOf ob1 [0] = some plan ∧ ∀ c ∈ plan, ReadTrue exHash .sync blob1 ob1 blob1 c :=
  validated_ok_reads_true_of_global exHash_cf (d := blob1) (by decide) .sync blob1 ob1 [0]
    (by decide) rfl (by decide +kernel)

/-! ### (c) collision extraction

`toy32` has a checksum collision between the one-chunk blobs `[1, 40]` and `[2, 9]` (same length,
same checksum).  A store holding `[2, 9]` under the root of `[1, 40]` passes validation and emits
the wrong bytes; the extracted collision is the pair of chunk inputs. -/

private def dA : List UInt8 := [1, 40]
private def dB : List UInt8 := [2, 9]
private def obA : Store H32 := ⟨.postMem, Spec.root toy32 dA, ⟨2, 0⟩, []⟩

private theorem okA : (encodeRangesValidated toy32 .sync dA obA [0]).terminal = .ok := by
  decide +kernel

private theorem badB : ¬ (encodeRangesValidated toy32 .fsm dB obA [0]).out
      <+: (encodeRangesValidated toy32 .sync dA obA [0]).out ∨
    ((encodeRangesValidated toy32 .fsm dB obA [0]).terminal = .ok ∧
      (encodeRangesValidated toy32 .fsm dB obA [0]).out
        ≠ (encodeRangesValidated toy32 .sync dA obA [0]).out) := by
  right
  decide +kernel

example : ∃ x y, findCollision toy32
      (encEvals toy32 .fsm dB obA [0] ++ encEvals toy32 .sync dA obA [0]) = some (x, y) ∧
    x ∈ encEvals toy32 .fsm dB obA [0] ++ encEvals toy32 .sync dA obA [0] ∧
    y ∈ encEvals toy32 .fsm dB obA [0] ++ encEvals toy32 .sync dA obA [0] ∧
    x ≠ y ∧ toy32.eval x = toy32.eval y :=
  validated_collision_extraction .fsm .sync dB dA obA obA [0] rfl rfl (by decide) (by decide) okA
    badB

example : ∃ x y, x ∈ encEvals toy32 .fsm dB obA [0] ++ encEvals toy32 .sync dA obA [0] ∧
    y ∈ encEvals toy32 .fsm dB obA [0] ++ encEvals toy32 .sync dA obA [0] ∧
    x ≠ y ∧ toy32.eval x = toy32.eval y :=
  validated_collision_of_not_rel .fsm .sync dB dA obA obA [0] rfl rfl (by decide) (by decide) okA
    (by
      rintro ⟨_, _, _, _, h2, _⟩
      exact absurd (h2 (by decide +kernel)).1 (by decide +kernel))

/-- … and the search indeed computes the collision: the forged chunk against the true one -/
example : findCollision toy32
    (encEvals toy32 .fsm dB obA [0] ++ encEvals toy32 .sync dA obA [0]) =
    some (.chunk 0 [2, 9] true, .chunk 0 [1, 40] true) := by decide +kernel

example : ∃ x y, findCollision toy32
      (encEvals toy32 .fsm dB obA [0] ++ encEvals toy32 .sync dA obA [0]) = some (x, y) ∧
    x ∈ encEvals toy32 .fsm dB obA [0] ++ encEvals toy32 .sync dA obA [0] ∧
    y ∈ encEvals toy32 .fsm dB obA [0] ++ encEvals toy32 .sync dA obA [0] ∧
    x ≠ y ∧ toy32.eval x = toy32.eval y :=
  validated_collision_extraction_agree .fsm .sync dB dA obA obA [0] rfl rfl (by decide)
    (by decide) okA (by decide +kernel) (plan := [.leaf 0 2 true [0]]) (by decide +kernel)
    (c := .leaf 0 2 true [0]) (by simp) (by
      simp only [AgreeAt]
      intro h
      have h2 := congrArg (fun x => match x with | .ok b => b | .error _ => []) h
      revert h2
      decide +kernel)

/-- a constant hash whose wire encodings have different lengths (the theorems assume nothing about
`toBytes` beyond non-emptiness): the hypotheses of `validated_collision_extraction_short` – a run
that fails but has emitted at least as much as the reference run – are satisfiable only with such
an `hf`.  Reference: the two-chunk blob with the pair `(true, true)` (2 + 1025 bytes sent); store
`S`: the pair `(false, false)` (4000 bytes sent) and an empty data file (io error at the first
leaf). -/
private def boolHash : HashFns Bool where
  chunkCv _ _ _ := true
  parentCv _ _ _ := true
  ofBytes b := b.head? == some 1
  toBytes h := if h then [1] else List.replicate 2000 0

private def obT : Store Bool := ⟨.preMem, true, ⟨1025, 0⟩, List.replicate 64 1⟩
private def obF : Store Bool := ⟨.preMem, true, ⟨1025, 0⟩, List.replicate 64 0⟩

example : ∃ x y, findCollision boolHash
      (encEvals boolHash .sync [] obF [0] ++ encEvals boolHash .sync blob2 obT [0]) = some (x, y) ∧
    x ∈ encEvals boolHash .sync [] obF [0] ++ encEvals boolHash .sync blob2 obT [0] ∧
    y ∈ encEvals boolHash .sync [] obF [0] ++ encEvals boolHash .sync blob2 obT [0] ∧
    x ≠ y ∧ boolHash.eval x = boolHash.eval y := by
  have h : (encodeRangesValidated boolHash .sync blob2 obT [0]).terminal = .ok ∧
      (encodeRangesValidated boolHash .sync [] obF [0]).terminal ≠ .ok ∧
      (encodeRangesValidated boolHash .sync blob2 obT [0]).out.length
        ≤ (encodeRangesValidated boolHash .sync [] obF [0]).out.length := by decide +kernel
  exact validated_collision_extraction_short (hf := boolHash) (by intro h; cases h <;> decide)
    .sync .sync [] blob2 obF obT [0] rfl rfl (by decide) len_blob2 h.1 h.2.1 h.2.2

end

/-
## Status (C05, local collision freedom)

Axioms: `propext`, `Classical.choice`, `Quot.sound` only.

PROVED, for any two stores with the same root and tree, any flavours, any query, data files
`≤ 2^64 · 1024` bytes: the six `validated_*_loc` under
`CollisionFreeOn hf (· ∈ encEvals hf fl data ob q ++ encEvals hf fl₀ data₀ ob₀ q)`
(`validated_ok_reads_true_loc`: on `C01.trueEvals hf d ++ encEvals hf fl data ob q`); with NO hash
hypothesis `validated_collision_of_not_rel` and the three `validated_collision_extraction*`; the six
`validated_*_of_global` (the theorems of `Props/C05.lean`, via `CollisionFree.on`).
PARTIAL: none.   OPEN: none.

Non-vacuity: (a) `toy32` (32-byte hashes with the wire round trip, not globally collision free):
3-chunk blob, block size 1, query "chunk 1" (root parent + a PARTIALLY selected chunk group, i.e. the
`encode_selected_rec` branch); stores with a flipped data byte, a flipped outboard byte, an unused
trailing outboard byte.  (b) `exHash` (globally collision free) for the `_of_global` forms.
(c) extraction: `toy32` collides on the one-chunk blobs `[1, 40]` / `[2, 9]`; `boolHash` (constant
hash, wire encodings of different lengths) for the `_short` form.

Remarks
* `stepEvals` follows the order of the code: a parent item hashes the loaded pair BEFORE popping
  the expected hash (so the input is listed even if the stack is empty and the run panics); a leaf
  item pops first, then reads, then hashes.
* For a partially selected group the list is `hashEvals` of the whole buffer: `encode_selected_rec`
  returns `hashSubtree` of all bytes (`C05.leafAW_hash`, needs `buf.length ≤ 2^64·1024`, which
  is where the data length hypotheses come from, also in the extraction theorems).  That the
  primitive evaluations inside `encode_selected_rec` are exactly those of `hash_subtree` on the
  buffer is not stated; the theorems only use the value.
* `encEvals` includes the inputs of the last, failing item.
-/

end Bao.C05Loc
