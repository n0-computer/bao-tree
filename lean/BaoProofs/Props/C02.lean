import BaoProofs.Lemmas.DecodeSpec

/-!
# C02 — honest encodings decode completely, exactly and only the selected chunks

"The honest stream is accepted by a decoder given the same root, size, block size and query; it
finishes without error and consumes exactly the bytes of the stream; it delivers exactly the
selected chunks, each once, in increasing offset order, with the blob's bytes at the right
offsets; an empty query encodes to nothing and decodes to nothing."

The honest stream is `Spec.encode hf d bs q`, the concatenation of the bytes of the specification
items `Spec.items hf d bs q` (`BaoModel/Spec.lean`).  The decoder is the model's `decodeAll`
(`sync::DecodeResponseIter` / `fsm::ResponseDecoder`, either flavour), which walks the lazily
produced response plan of the *canonicalised* query (`truncate_ranges`).

Method (`Lemmas/DecRunL.lean`, `QueryCanon.lean`, `ItemsEq.lean`, `DecodeBridge.lean`,
`DecodeSpec.lean`): the decoder run is a machine `runL` over the recursive plan
`PlanPre.plan ⟨size, 0⟩ bs (truncate q)`; plan and `Spec.items` are two recursions over the same tree
that take the same branch at every node because the sub-queries stay canonical (`QInv`): "is_all"
⇔ "every chunk selected", "non-empty" ⇔ "some chunk selected".  On the honest stream the hash stack
holds the `Spec.cv` of the pending intervals and every comparison succeeds by `cv_split`.
No collision-freedom is needed.

Hypotheses: `hrt`/`hlen` (a hash is its 32 bytes on the wire), a lawful `==` on hashes,
`d.length ≤ 2^63`, a well-formed query.  `bs ≤ 10` is NOT needed.
-/

namespace Bao.C02
open Bao Bao.Spec Bao.DecodeSpec Bao.PlanPre

variable {H : Type} {hf : HashFns H}

/-- **plan ↔ items**: the response plan of `(⟨d.length, bs⟩, truncate q)` and `Spec.items hf d bs q`
have the same length, and item by item (`DecodeSpec.Match`): a plan item `.parent node …`
corresponds to `.parent node (Spec.pairBytes hf d node)`; a plan item `.leaf start size …` to
`.leaf start bytes` with `bytes.length = size` and `bytes = (d.drop (start·1024)).take size` -/
theorem plan_items (hf : HashFns H) (d : List UInt8) (bs : Nat) (q : Ranges)
    (hd : d.length ≤ 2 ^ 63) (hwf : Ranges.WF q = true) :
    Skel (Match hf d) (plan ⟨d.length, 0⟩ bs (Ranges.truncate q d.length)) (Spec.items hf d bs q) ∧
    Tree.responseChunks ⟨d.length, bs⟩ (Ranges.truncate q d.length)
      = some ((plan ⟨d.length, 0⟩ bs (Ranges.truncate q d.length)).map Chunk.withoutRanges) :=
  ⟨DecodeSpec.plan_items hf d bs q hd hwf, response_refines d.length bs _ hd⟩

/-- the same, index by index -/
theorem plan_items_index (hf : HashFns H) (d : List UInt8) (bs : Nat) (q : Ranges)
    (hd : d.length ≤ 2 ^ 63) (hwf : Ranges.WF q = true) :
    (plan ⟨d.length, 0⟩ bs (Ranges.truncate q d.length)).length = (Spec.items hf d bs q).length ∧
    ∀ (i : Nat) (c : Chunk) (it : SItem), (plan ⟨d.length, 0⟩ bs (Ranges.truncate q d.length))[i]? = some c →
      (Spec.items hf d bs q)[i]? = some it → Match hf d c it :=
  ⟨(DecodeSpec.plan_items hf d bs q hd hwf).length_eq,
   fun _ _ _ hc hi => (DecodeSpec.plan_items hf d bs q hd hwf).getElem? hc hi⟩

variable [BEq H] [LawfulBEq H]

/-- **round trip**: decoding the honest stream with the same root, size, block size and query
returns exactly the specification items (`toItem`: a parent with the pair parsed from its bytes, a
leaf with its byte offset and bytes), ends `done`, and leaves nothing unread -/
theorem roundtrip (hrt : ∀ h, hf.ofBytes (hf.toBytes h) = h)
    (hlen : ∀ h, (hf.toBytes h).length = 32) (fl : Flavour) (d : List UInt8) (bs : Nat)
    (q : Ranges) (hd : d.length ≤ 2 ^ 63) (hwf : Ranges.WF q = true) :
    decodeAll hf fl (Spec.root hf d) ⟨d.length, bs⟩ q (Spec.encode hf d bs q)
      = ⟨(Spec.items hf d bs q).map (toItem hf), .done, []⟩ := by
  have := honest_run hrt hlen d bs q hd hwf []
  rw [List.append_nil] at this
  rw [decodeAll_eq_runL hf fl _ _ _ _ _ hd, this]
  rfl

omit [BEq H] [LawfulBEq H] in
/-- the pair a parent item carries is the true pair of its node: `Spec.pair` of the node's
coordinates -/
theorem parent_items_true (hrt : ∀ h, hf.ofBytes (hf.toBytes h) = h)
    (hlen : ∀ h, (hf.toBytes h).length = 32) (d : List UInt8) (bs : Nat) (q : Ranges)
    (hd : d.length ≤ 2 ^ 63) (hwf : Ranges.WF q = true) {node : Nat} {bytes : List UInt8}
    (h : SItem.parent node bytes ∈ Spec.items hf d bs q) :
    toItem hf (.parent node bytes) = .parent node
      (Spec.pair hf d (indexOf node) (levelOf node)).1
      (Spec.pair hf d (indexOf node) (levelOf node)).2 := by
  obtain ⟨c, -, hm⟩ := (DecodeSpec.plan_items hf d bs q hd hwf).mem_right h
  cases c with
  | leaf s z ir rs => simp [Match] at hm
  | parent n ir l r rs =>
    simp only [Match] at hm
    obtain ⟨rfl, rfl⟩ := hm
    simp only [toItem, pairBytes, parsePair_pair hrt hlen]

/-- **bytes after the encoding are left untouched** -/
theorem trailing (hrt : ∀ h, hf.ofBytes (hf.toBytes h) = h)
    (hlen : ∀ h, (hf.toBytes h).length = 32) (fl : Flavour) (d : List UInt8) (bs : Nat)
    (q : Ranges) (hd : d.length ≤ 2 ^ 63) (hwf : Ranges.WF q = true) (x : List UInt8) :
    decodeAll hf fl (Spec.root hf d) ⟨d.length, bs⟩ q (Spec.encode hf d bs q ++ x)
      = ⟨(Spec.items hf d bs q).map (toItem hf), .done, x⟩ := by
  rw [decodeAll_eq_runL hf fl _ _ _ _ _ hd, honest_run hrt hlen d bs q hd hwf x]
  rfl

/-- **exactly and only the selected chunks, each once, in increasing order, with the blob's
bytes**: with `its` the items of the decode of the honest stream and `itemSpans its` the chunk spans
`[off/1024, off/1024 + max 1 ⌈len/1024⌉)` of its leaf items, in order:
a chunk is selected iff it lies in a span; the spans are non-empty, pairwise disjoint and increasing
(so every selected chunk is delivered exactly once); every leaf carries the blob's bytes at its
(chunk-aligned) offset -/
theorem delivered_exactly_selected (hrt : ∀ h, hf.ofBytes (hf.toBytes h) = h)
    (hlen : ∀ h, (hf.toBytes h).length = 32) (fl : Flavour) (d : List UInt8) (bs : Nat)
    (q : Ranges) (hd : d.length ≤ 2 ^ 63) (hwf : Ranges.WF q = true) :
    let its := (decodeAll hf fl (Spec.root hf d) ⟨d.length, bs⟩ q (Spec.encode hf d bs q)).items
    (∀ c, Spec.selected d.length q c = true ↔ ∃ a ∈ itemSpans its, a.1 ≤ c ∧ c < a.2) ∧
    (∀ a ∈ itemSpans its, a.1 < a.2) ∧
    (itemSpans its).Pairwise (fun a b => a.2 ≤ b.1) ∧
    (itemSpans its).Pairwise (fun a b => a.1 < b.1) ∧
    (∀ off bytes, Item.leaf off bytes ∈ its →
      off % 1024 = 0 ∧ off + bytes.length ≤ d.length ∧ bytes = (d.drop off).take bytes.length) := by
  rw [roundtrip hrt hlen fl d bs q hd hwf]
  dsimp only
  have hsk := DecodeSpec.plan_items hf d bs q hd hwf
  have hsp := plan_spans d.length 0 bs (Ranges.truncate q d.length) hd (by omega)
  rw [spans_of_skel hsk]
  refine ⟨fun c => ?_, fun a ha => (hsp.1 a ha).2.1, hsp.2, spans_starts_increasing hsp, ?_⟩
  · rw [← covered_iff_spans, plan_cover_exact d.length bs hd _ (C14.truncate_wf _ hwf),
      C14.truncate_selected _ hwf]
  · intro off bytes hmem
    obtain ⟨it, hit, hoff⟩ := List.mem_map.1 hmem
    obtain ⟨c, hc, hm⟩ := hsk.mem_right hit
    cases it with
    | parent node b => simp [toItem] at hoff
    | leaf s b =>
      simp only [toItem, Item.leaf.injEq] at hoff
      obtain ⟨rfl, rfl⟩ := hoff
      cases c with
      | parent n ir l r rs => simp [Match] at hm
      | leaf s' z ir rs =>
        simp only [Match] at hm
        obtain ⟨rfl, hz, hb⟩ := hm
        have := plan_leaf_in_blob d.length 0 bs (Ranges.truncate q d.length) hd (by omega) _ _ _ _ hc
        unfold toBytes at this
        exact ⟨Nat.mul_mod_left s 1024, by omega, by rw [hz]; exact hb⟩

omit [LawfulBEq H] in
/-- **an empty query encodes to nothing and decodes to nothing** (whatever follows in the stream
is not touched) -/
theorem empty_query (fl : Flavour) (d : List UInt8) (bs : Nat) (hd : d.length ≤ 2 ^ 63)
    (x : List UInt8) :
    Spec.encode hf d bs [] = [] ∧
    decodeAll hf fl (Spec.root hf d) ⟨d.length, bs⟩ [] x = ⟨[], .done, x⟩ := by
  refine ⟨?_, ?_⟩
  · -- the plan of the empty query is empty, and the items have its skeleton
    have hsk := DecodeSpec.plan_items hf d bs [] hd (by rfl)
    rw [DecSim.truncate_nil, plan_nil] at hsk
    unfold Spec.encode
    rw [List.eq_nil_of_length_eq_zero hsk.length_eq.symm]
    rfl
  · rw [decodeAll_eq_runL hf fl _ _ _ _ _ hd, DecSim.truncate_nil, plan_nil]
    rfl

/-! ## non-vacuity: a toy hash with a 32-byte wire format, a 3000-byte blob -/

/-- a toy hash with 32-byte representation and round trip -/
private def toy : HashFns UInt8 where
  chunkCv := fun c b r => b.foldl (· + ·) (UInt8.ofNat c + if r then 1 else 0)
  parentCv := fun l r f => l + 2 * r + if f then 1 else 0
  ofBytes := fun b => b.headD 0
  toBytes := fun h => List.replicate 32 h

private theorem toy_len : ∀ h, (toy.toBytes h).length = 32 := fun _ => List.length_replicate ..
private theorem toy_rt : ∀ h, toy.ofBytes (toy.toBytes h) = h := fun _ => rfl
private def blob : List UInt8 := List.replicate 3000 7
private theorem blob_size : blob.length ≤ 2 ^ 63 := by
  simp only [blob, List.length_replicate]; decide

example : Skel (Match toy blob) (plan ⟨blob.length, 0⟩ 1 (Ranges.truncate [1, 2] blob.length))
    (Spec.items toy blob 1 [1, 2]) :=
  (plan_items toy blob 1 [1, 2] blob_size (by decide)).1

example : (plan ⟨blob.length, 0⟩ 1 (Ranges.truncate [1, 2] blob.length)).length
    = (Spec.items toy blob 1 [1, 2]).length :=
  (plan_items_index toy blob 1 [1, 2] blob_size (by decide)).1

example : decodeAll toy .fsm (Spec.root toy blob) ⟨blob.length, 1⟩ [1, 2] (Spec.encode toy blob 1 [1, 2])
    = ⟨(Spec.items toy blob 1 [1, 2]).map (toItem toy), .done, []⟩ :=
  roundtrip toy_rt toy_len .fsm blob 1 [1, 2] blob_size (by decide)

example (node : Nat) (bytes : List UInt8) (h : SItem.parent node bytes ∈ Spec.items toy blob 1 [1, 2]) :
    toItem toy (.parent node bytes) = .parent node
      (Spec.pair toy blob (indexOf node) (levelOf node)).1
      (Spec.pair toy blob (indexOf node) (levelOf node)).2 :=
  parent_items_true toy_rt toy_len blob 1 [1, 2] blob_size (by decide) h

example : decodeAll toy .sync (Spec.root toy blob) ⟨blob.length, 0⟩ [2]
      (Spec.encode toy blob 0 [2] ++ [1, 2, 3])
    = ⟨(Spec.items toy blob 0 [2]).map (toItem toy), .done, [1, 2, 3]⟩ :=
  trailing toy_rt toy_len .sync blob 0 [2] blob_size (by decide) [1, 2, 3]

example (c : Nat) : Spec.selected blob.length [1, 2] c = true ↔
    ∃ a ∈ itemSpans (decodeAll toy .sync (Spec.root toy blob) ⟨blob.length, 1⟩ [1, 2]
      (Spec.encode toy blob 1 [1, 2])).items, a.1 ≤ c ∧ c < a.2 :=
  (delivered_exactly_selected toy_rt toy_len .sync blob 1 [1, 2] blob_size (by decide)).1 c

example : Spec.encode toy blob 2 [] = [] ∧
    decodeAll toy .sync (Spec.root toy blob) ⟨blob.length, 2⟩ [] [9] = ⟨[], .done, [9]⟩ :=
  empty_query .sync blob 2 blob_size [9]

/-
## Status (C02)

All theorems depend on the axioms `propext`, `Classical.choice`, `Quot.sound` only.

Proved (full strength; every `bs`, both flavours, every well-formed query, `d.length ≤ 2^63`):
  plan_items, plan_items_index   (the bridge: response plan ↔ `Spec.items`, same skeleton),
  roundtrip                      (items = `Spec.items` mapped by `toItem`, `done`, nothing unread),
  parent_items_true              (the pair of a parent item is `Spec.pair` of its node),
  trailing                       (`Spec.encode … ++ x` leaves exactly `x`),
  delivered_exactly_selected     (spans of the leaf items = selected chunks, non-empty, disjoint,
                                  increasing; bytes = the blob's bytes at the offset),
  empty_query                    (no hypotheses on the hash at all).
Partial: none.   OPEN: none.

Remarks.
* `bs ≤ 10` is not needed: the response plan runs on the block-size-0 tree.
* No collision-freedom is used (it could not be: together with `hrt`/`hlen` it is unsatisfiable,
  `Lemmas/CFUnsat.lean`).
* The converse of `C14.splitInner_left_all` / `_right_all` (left OPEN there) is
  `DecodeSpec.QInv.all_of_selected` (`Lemmas/QueryCanon.lean`).
* Model: nothing suspicious.  `Spec.items` starts at height `log2ceil 64 n`, the plan at the root of
  the shifted tree; they differ for a one-chunk blob (height 0 vs. level-0 node) — handled in
  `DecodeSpec.items_top`.
-/

end Bao.C02
