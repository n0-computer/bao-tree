import BaoProofs.Props.C15SpecPost

/-!
# A plan the post-order predicate accepts IS the model plan (up to the `ranges` fields)

`planPostWF_unique`: for `size ≤ 2^63`, `bs ≤ 10`, `planPostWF size bs plan = none` implies
`plan.map Chunk.withoutRanges = (Tree.postOrderChunks ⟨size, bs⟩).map Chunk.withoutRanges`.

Route.  `core_unique`: two plans with the same leaves (in order), the same parents (in order),
pairwise distinct leaf starts, and span walks that both run through from the same span stack —
whose span starts are not starts of leaves still to come — have the same items up to flags and
ranges (`strip`).  Induction on the first plan; at a position where one plan has a leaf and the
other the parent `n`, the second finds `(Node.mid n, _)` on top of the stack, while the first can
only reach `n` (its next parent too) after pushing a leaf that starts at `Node.mid n`
(`next_parent_top`) — but the start of a span on the stack is never the start of a leaf still to
come.  The flags are then fixed by `RootLast` and `BothChildren`.
-/

namespace Bao.SpecPostU

open Bao Bao.NodeIterL Bao.Ops Bao.SpecPost

/-- an item without its flags and ranges -/
def strip : Chunk → Chunk
  | .parent n _ _ _ _ => .parent n false false false []
  | .leaf s z _ _ => .leaf s z false []

theorem leavesOf_leaf (s z : Nat) (r : Bool) (x : Ranges) (t : List Chunk) :
    leavesOf (.leaf s z r x :: t) = (s, z) :: leavesOf t := rfl

theorem leavesOf_parent (n : Nat) (r l rr : Bool) (x : Ranges) (t : List Chunk) :
    leavesOf (.parent n r l rr x :: t) = leavesOf t := rfl

theorem parentsOf_leaf (s z : Nat) (r : Bool) (x : Ranges) (t : List Chunk) :
    parentsOf (.leaf s z r x :: t) = parentsOf t := rfl

theorem parentsOf_parent (n : Nat) (r l rr : Bool) (x : Ranges) (t : List Chunk) :
    parentsOf (.parent n r l rr x :: t) = n :: parentsOf t := rfl

/-- a parent step inside a run -/
theorem spanRun_parent_inv {st r0 : List (Nat × Nat)} {n : Nat} {r l rr : Bool} {x : Ranges}
    {t : List Chunk} (h : spanRun st (.parent n r l rr x :: t) = some r0) :
    ∃ ls re rest, st = (Node.mid n, re) :: (ls, Node.mid n) :: rest ∧
      spanRun ((ls, re) :: rest) t = some r0 := by
  have hab : (Chunk.parent n r l rr x :: t) = [.parent n r l rr x] ++ t := rfl
  obtain ⟨s, hs⟩ := span_prefix h hab
  have h' := h
  rw [hab, spanRun_append, hs, Option.bind_some] at h'
  change spanStep (some st) (.parent n r l rr x) = some s at hs
  obtain ⟨ls, re, rest, e1, e2⟩ := spanStep_parent_inv hs
  exact ⟨ls, re, rest, e1, by rw [← e2]; exact h'⟩

/-- when the walk reaches the next parent `n`, the top span starts at `Node.mid n`: either it is
on the stack already (no leaf in between) or it is the span of a leaf still to come -/
theorem next_parent_top {p : List Chunk} {st r0 : List (Nat × Nat)} {n : Nat} {ps : List Nat}
    (h : spanRun st p = some r0) (hp : parentsOf p = n :: ps) :
    (∃ re tl, st = (Node.mid n, re) :: tl) ∨ ∃ lf ∈ leavesOf p, lf.1 = Node.mid n := by
  induction p generalizing st with
  | nil => cases hp
  | cons c t ih =>
    cases c with
    | parent m r l rr x =>
      rw [parentsOf_parent] at hp
      obtain ⟨rfl, _⟩ := List.cons.inj hp
      obtain ⟨ls, re, rest, e, _⟩ := spanRun_parent_inv h
      exact .inl ⟨re, _, e⟩
    | leaf s z r x =>
      rw [parentsOf_leaf] at hp
      rw [spanRun_leaf] at h
      rw [leavesOf_leaf]
      rcases ih h hp with ⟨re, tl, e⟩ | ⟨lf, hm, e⟩
      · obtain ⟨e1, _⟩ := List.cons.inj e
        exact .inr ⟨(s, z), List.mem_cons_self, (congrArg Prod.fst e1)⟩
      · exact .inr ⟨lf, List.mem_cons_of_mem _ hm, e⟩

/-- a leaf where the other plan has its (and hence this plan's) next parent: contradiction -/
theorem leaf_vs_parent {t q' : List Chunk} {st r1 r2 : List (Nat × Nat)} {s z n : Nat}
    {r r' l rr : Bool} {x x' : Ranges}
    (h1 : spanRun st (.leaf s z r x :: t) = some r1)
    (h2 : spanRun st (.parent n r' l rr x' :: q') = some r2)
    (hp : parentsOf (.leaf s z r x :: t) = parentsOf (.parent n r' l rr x' :: q'))
    (hinv : ∀ sp ∈ st, ∀ lf ∈ leavesOf (.leaf s z r x :: t), sp.1 ≠ lf.1) : False := by
  obtain ⟨ls, re, rest, e, _⟩ := spanRun_parent_inv h2
  rw [parentsOf_leaf, parentsOf_parent] at hp
  rw [spanRun_leaf] at h1
  have htop : (Node.mid n, re) ∈ st := by rw [e]; exact List.mem_cons_self
  rw [leavesOf_leaf] at hinv
  rcases next_parent_top h1 hp with ⟨re', tl, e'⟩ | ⟨lf, hm, e'⟩
  · obtain ⟨e1, _⟩ := List.cons.inj e'
    exact hinv _ htop (s, z) List.mem_cons_self (congrArg Prod.fst e1).symm
  · exact hinv _ htop lf (List.mem_cons_of_mem _ hm) e'.symm

/-- the interleaving of leaves and parents is determined -/
theorem core_unique (p q : List Chunk) (st r1 r2 : List (Nat × Nat))
    (hl : leavesOf p = leavesOf q) (hp : parentsOf p = parentsOf q)
    (hnd : ((leavesOf p).map Prod.fst).Nodup)
    (hinv : ∀ sp ∈ st, ∀ lf ∈ leavesOf p, sp.1 ≠ lf.1)
    (h1 : spanRun st p = some r1) (h2 : spanRun st q = some r2) :
    p.map strip = q.map strip := by
  induction p generalizing q st with
  | nil =>
    have := length_views q
    rw [← hl, ← hp] at this
    simp only [leavesOf, parentsOf, List.filterMap_nil, List.length_nil, Nat.add_zero] at this
    rw [List.length_eq_zero_iff.mp this]
  | cons c t ih =>
    cases c with
    | leaf s z r x =>
      cases q with
      | nil => rw [leavesOf_leaf] at hl; cases hl
      | cons d q' =>
        cases d with
        | leaf s' z' r' x' =>
          rw [leavesOf_leaf, leavesOf_leaf] at hl
          obtain ⟨e, hl'⟩ := List.cons.inj hl
          obtain ⟨rfl, rfl⟩ := Prod.mk.inj e
          rw [parentsOf_leaf, parentsOf_leaf] at hp
          rw [leavesOf_leaf, List.map_cons, List.nodup_cons] at hnd
          rw [spanRun_leaf] at h1 h2
          rw [leavesOf_leaf] at hinv
          have hinv' : ∀ sp ∈ (s, s + max 1 ((z + 1023) / 1024)) :: st, ∀ lf ∈ leavesOf t,
              sp.1 ≠ lf.1 := by
            intro sp hsp lf hlf
            rcases List.mem_cons.mp hsp with rfl | hsp
            · intro e
              exact hnd.1 (e ▸ List.mem_map_of_mem hlf)
            · exact hinv sp hsp lf (List.mem_cons_of_mem _ hlf)
          rw [List.map_cons, List.map_cons, ih q' _ hl' hp hnd.2 hinv' h1 h2]
          rfl
        | parent n r' l rr x' => exact (leaf_vs_parent h1 h2 hp hinv).elim
    | parent n r l rr x =>
      cases q with
      | nil => rw [parentsOf_parent] at hp; cases hp
      | cons d q' =>
        cases d with
        | leaf s' z' r' x' =>
          exact (leaf_vs_parent h2 h1 hp.symm (by rw [← hl]; exact hinv)).elim
        | parent n' r' l' rr' x' =>
          rw [parentsOf_parent, parentsOf_parent] at hp
          obtain ⟨rfl, hp'⟩ := List.cons.inj hp
          rw [leavesOf_parent, leavesOf_parent] at hl
          rw [leavesOf_parent] at hnd hinv
          obtain ⟨ls, re, rest, e, h1'⟩ := spanRun_parent_inv h1
          obtain ⟨ls', re', rest', e', h2'⟩ := spanRun_parent_inv h2
          rw [e] at e'
          obtain ⟨e1, e2⟩ := List.cons.inj e'
          obtain ⟨e3, e4⟩ := List.cons.inj e2
          obtain ⟨_, rfl⟩ := Prod.mk.inj e1
          obtain ⟨rfl, _⟩ := Prod.mk.inj e3
          subst e4
          have hinv' : ∀ sp ∈ (ls, re) :: rest, ∀ lf ∈ leavesOf t, sp.1 ≠ lf.1 := by
            intro sp hsp lf hlf
            rcases List.mem_cons.mp hsp with rfl | hsp
            · exact hinv (ls, Node.mid n) (by rw [e]; simp) lf hlf
            · exact hinv sp (by rw [e]; simp [hsp]) lf hlf
          rw [List.map_cons, List.map_cons, ih q' _ hl hp' hnd hinv' h1' h2']
          rfl

example : [Chunk.leaf 0 1024 false [], .leaf 1 1024 false [], .parent 0 true true true []].map strip
    = [Chunk.leaf 0 1024 false [1], .leaf 1 1024 true [], .parent 0 false true false []].map strip :=
  core_unique _ _ [] [(0, 2)] [(0, 2)] (by decide) (by decide) (by decide) (by simp)
    (by decide +kernel) (by decide +kernel)

/-- an item up to ranges is its stripped form plus its flags -/
theorem withoutRanges_eq_of {c d : Chunk} (hs : strip c = strip d) (hr : rootFlag c = rootFlag d)
    (hc : bothFlags c = true) (hd : bothFlags d = true) : c.withoutRanges = d.withoutRanges := by
  cases c <;> cases d <;>
    simp_all [strip, rootFlag, bothFlags, Chunk.withoutRanges]

theorem map_withoutRanges_eq_of (p q : List Chunk) (hs : p.map strip = q.map strip)
    (hr : p.map rootFlag = q.map rootFlag) (hp : ∀ c ∈ p, bothFlags c = true)
    (hq : ∀ c ∈ q, bothFlags c = true) :
    p.map Chunk.withoutRanges = q.map Chunk.withoutRanges := by
  induction p generalizing q with
  | nil =>
    cases q with
    | nil => rfl
    | cons d q' => cases hs
  | cons c t ih =>
    cases q with
    | nil => cases hs
    | cons d q' =>
      rw [List.map_cons, List.map_cons] at hs hr ⊢
      obtain ⟨hs1, hs2⟩ := List.cons.inj hs
      obtain ⟨hr1, hr2⟩ := List.cons.inj hr
      rw [withoutRanges_eq_of hs1 hr1 (hp c List.mem_cons_self) (hq d List.mem_cons_self),
        ih q' hs2 hr2 (fun c hc => hp c (List.mem_cons_of_mem _ hc))
          (fun c hc => hq c (List.mem_cons_of_mem _ hc))]

/-- the wanted leaves start at pairwise distinct chunks -/
theorem wantLeaves_nodup (size bs : Nat) : ((wantLeaves size bs).map Prod.fst).Nodup := by
  unfold wantLeaves
  rw [List.map_map]
  unfold List.Nodup
  rw [List.pairwise_map]
  refine List.Pairwise.imp ?_ (List.pairwise_lt_range (n := Spec.nBlocks size bs))
  intro i j hij h
  have : i = j := Nat.eq_of_mul_eq_mul_right (Nat.two_pow_pos bs) h
  omega

/-- two plans meeting the clauses 1, 3, 4, 5, 6 are equal up to the `ranges` fields (every `size`,
`bs`; clause 2, the hash-stack height, is implied) -/
theorem clauses_unique (size bs : Nat) (p q : List Chunk)
    (hp1 : LeavesTile size bs p) (hp3 : RootLast p) (hp4 : ParentsPersisted size bs p)
    (hp5 : BothChildren p) (hp6 : SpansOk p)
    (hq1 : LeavesTile size bs q) (hq3 : RootLast q) (hq4 : ParentsPersisted size bs q)
    (hq5 : BothChildren q) (hq6 : SpansOk q) :
    p.map Chunk.withoutRanges = q.map Chunk.withoutRanges := by
  unfold LeavesTile at hp1 hq1
  unfold ParentsPersisted at hp4 hq4
  obtain ⟨r1, h1⟩ := hp6
  obtain ⟨r2, h2⟩ := hq6
  have hs : p.map strip = q.map strip :=
    core_unique p q [] r1 r2 (hp1.trans hq1.symm) (hp4.trans hq4.symm)
      (by rw [hp1]; exact wantLeaves_nodup size bs) (fun _ h => by cases h) h1 h2
  have hlen : p.length = q.length := by
    have := congrArg List.length hs
    simpa using this
  refine map_withoutRanges_eq_of p q hs ?_ hp5 hq5
  unfold RootLast at hp3 hq3
  rw [hp3, hq3, hlen]

/-- **uniqueness**: two plans the predicate accepts are equal up to the `ranges` fields (every
`size`, `bs`) -/
theorem planPostWF_unique2 (size bs : Nat) (p q : List Chunk)
    (hp : planPostWF size bs p = none) (hq : planPostWF size bs q = none) :
    p.map Chunk.withoutRanges = q.map Chunk.withoutRanges := by
  obtain ⟨a1, _, a3, a4, a5, a6⟩ := (planPostWF_none_iff size bs p).mp hp
  obtain ⟨b1, _, b3, b4, b5, b6⟩ := (planPostWF_none_iff size bs q).mp hq
  exact clauses_unique size bs p q a1 a3 a4 a5 a6 b1 b3 b4 b5 b6

example : [Chunk.leaf 0 1024 false [7], .leaf 1 1024 false [], .parent 0 true true true []].map
      Chunk.withoutRanges
    = [Chunk.leaf 0 1024 false [], .leaf 1 1024 false [3], .parent 0 true true true []].map
      Chunk.withoutRanges :=
  planPostWF_unique2 2048 0 _ _ (by decide +kernel) (by decide +kernel)

/-- **soundness of the verdict**: a plan the predicate accepts is the model's post-order plan, up
to the `ranges` fields (`size ≤ 2^63`, `bs ≤ 10`) -/
theorem planPostWF_unique (size bs : Nat) (hs : size ≤ 2 ^ 63) (hbs : bs ≤ 10) (plan : List Chunk)
    (h : planPostWF size bs plan = none) :
    plan.map Chunk.withoutRanges = (Tree.postOrderChunks ⟨size, bs⟩).map Chunk.withoutRanges :=
  planPostWF_unique2 size bs plan _ h (planPostWF_model size bs hs hbs)

example : [Chunk.leaf 0 1024 false [7], .leaf 1 1024 false [], .parent 0 true true true []].map
      Chunk.withoutRanges = (Tree.postOrderChunks ⟨2048, 0⟩).map Chunk.withoutRanges :=
  planPostWF_unique 2048 0 (by decide) (by decide) _ (by decide +kernel)

theorem wr_planRec (size bs root F : Nat) (L k : Nat) :
    ∀ c ∈ planRec size bs root F L k, c.withoutRanges = c :=
  forall_planRec root (fun _ _ _ => rfl) (fun _ _ => rfl) L k

/-- the model's post-order plan carries no ranges -/
theorem model_withoutRanges (size bs : Nat) (hs : size ≤ 2 ^ 63) (hbs : bs ≤ 10) :
    (Tree.postOrderChunks ⟨size, bs⟩).map Chunk.withoutRanges = Tree.postOrderChunks ⟨size, bs⟩ := by
  rw [plan_rec size bs hs hbs]
  exact List.map_congr_left (wr_planRec _ _ _ _ _ _) |>.trans (List.map_id _)

example : (Tree.postOrderChunks ⟨5000, 1⟩).map Chunk.withoutRanges = Tree.postOrderChunks ⟨5000, 1⟩ :=
  model_withoutRanges 5000 1 (by decide) (by decide)

/-- **soundness of the verdict**: a plan the
predicate accepts, with its `ranges` fields erased, is literally the model's post-order plan -/
theorem planPostWF_unique' (size bs : Nat) (hs : size ≤ 2 ^ 63) (hbs : bs ≤ 10) (plan : List Chunk)
    (h : planPostWF size bs plan = none) :
    plan.map Chunk.withoutRanges = Tree.postOrderChunks ⟨size, bs⟩ :=
  (planPostWF_unique size bs hs hbs plan h).trans (model_withoutRanges size bs hs hbs)

example : [Chunk.leaf 0 1024 false [7], .leaf 1 1024 false [], .parent 0 true true true []].map
      Chunk.withoutRanges = Tree.postOrderChunks ⟨2048, 0⟩ :=
  planPostWF_unique' 2048 0 (by decide) (by decide) _ (by decide +kernel)

theorem leavesOf_wr (p : List Chunk) : leavesOf (p.map Chunk.withoutRanges) = leavesOf p := by
  induction p with
  | nil => rfl
  | cons c t ih => cases c <;> simp only [List.map_cons, Chunk.withoutRanges, leavesOf_leaf,
      leavesOf_parent, ih]

theorem parentsOf_wr (p : List Chunk) : parentsOf (p.map Chunk.withoutRanges) = parentsOf p := by
  induction p with
  | nil => rfl
  | cons c t ih => cases c <;> simp only [List.map_cons, Chunk.withoutRanges, parentsOf_leaf,
      parentsOf_parent, ih]

theorem rootFlags_wr (p : List Chunk) :
    (p.map Chunk.withoutRanges).map rootFlag = p.map rootFlag := by
  rw [List.map_map]
  congr 1; funext c; cases c <;> rfl

theorem stackRun_wr (p : List Chunk) (h : Nat) :
    stackRun h (p.map Chunk.withoutRanges) = stackRun h p := by
  unfold stackRun
  rw [List.foldl_map]
  congr 1; funext a c; cases a <;> cases c <;> rfl

theorem spanRun_wr (p : List Chunk) (st : List (Nat × Nat)) :
    spanRun st (p.map Chunk.withoutRanges) = spanRun st p := by
  unfold spanRun
  rw [List.foldl_map]
  congr 1; funext a c; cases a <;> cases c <;> rfl

theorem both_wr (p : List Chunk) :
    BothChildren (p.map Chunk.withoutRanges) ↔ BothChildren p := by
  unfold BothChildren
  have e : ∀ c : Chunk, bothFlags c.withoutRanges = bothFlags c := by intro c; cases c <;> rfl
  simp only [List.mem_map, forall_exists_index, and_imp, forall_apply_eq_imp_iff₂, e]

/-- the predicate decides "is the model plan up to ranges" (`size ≤ 2^63`, `bs ≤ 10`) -/
theorem planPostWF_none_iff_model (size bs : Nat) (hs : size ≤ 2 ^ 63) (hbs : bs ≤ 10)
    (plan : List Chunk) :
    planPostWF size bs plan = none ↔
      plan.map Chunk.withoutRanges = (Tree.postOrderChunks ⟨size, bs⟩).map Chunk.withoutRanges := by
  refine ⟨planPostWF_unique size bs hs hbs plan, fun h => ?_⟩
  obtain ⟨a1, a2, a3, a4, a5, a6⟩ :=
    (planPostWF_none_iff size bs _).mp (planPostWF_model size bs hs hbs)
  refine (planPostWF_none_iff size bs plan).mpr ⟨?_, ?_, ?_, ?_, ?_, ?_⟩
  · unfold LeavesTile at a1 ⊢; rw [← leavesOf_wr, h, leavesOf_wr]; exact a1
  · unfold StackOk at a2 ⊢; rw [← stackRun_wr, h, stackRun_wr]; exact a2
  · unfold RootLast at a3 ⊢
    have hlen : plan.length = (Tree.postOrderChunks ⟨size, bs⟩).length := by
      simpa using congrArg List.length h
    rw [← rootFlags_wr, h, rootFlags_wr, hlen]; exact a3
  · unfold ParentsPersisted at a4 ⊢; rw [← parentsOf_wr, h, parentsOf_wr]; exact a4
  · exact (both_wr plan).mp (h ▸ (both_wr _).mpr a5)
  · obtain ⟨st, hst⟩ := a6
    exact ⟨st, by rw [← spanRun_wr, h, spanRun_wr]; exact hst⟩

example : planPostWF 2048 0
    [.leaf 0 1024 false [7], .leaf 1 1024 false [], .parent 0 true true true []] = none :=
  (planPostWF_none_iff_model 2048 0 (by decide) (by decide) _).mpr (by decide +kernel)

end Bao.SpecPostU

/-
Status.
PROVED (no sorry; axioms: propext, Classical.choice, Quot.sound at most):
  * `planPostWF_unique`   — `size ≤ 2^63`, `bs ≤ 10`, `planPostWF size bs plan = none` ⟹
                            `plan.map withoutRanges = (⟨size, bs⟩ : Tree).postOrderChunks.map withoutRanges`.
  * `planPostWF_unique'`  — same, right-hand side the model plan itself (`model_withoutRanges`: the
                            model plan has empty `ranges` fields).
  * `planPostWF_none_iff_model` — the predicate accepts a plan IFF it is the model plan up to ranges.
  * `planPostWF_unique2`  — any two accepted plans agree up to ranges (every `size`, `bs`, no bounds).
  * `clauses_unique`      — the same from clauses 1, 3, 4, 5, 6 (clause 2, `StackOk`, is not needed).
  * `core_unique`         — same leaves, same parents, distinct leaf starts, span walks run through
                            from a common stack whose span starts are not starts of coming leaves ⟹
                            same items up to flags and ranges (`strip`).
PARTIAL: none.   OPEN: none.
Remark on the predicate: leaf root flags are covered by `RootLast` (flag on the last item only), so
for a single-leaf plan the only leaf carries `isRoot = true`; `StackOk` is redundant given the
other five clauses.
-/
