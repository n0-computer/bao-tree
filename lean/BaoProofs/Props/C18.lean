import BaoProofs.Lemmas.Bits

/-!
# C18 — tree node navigation is a consistent algebra

Every node id `x` is `Spec.nodeOf k L = (2k+1)·2^L − 1` for exactly one index `k` and level `L`
(`coords_exist`, `nodeOf_inj`).  Every `TreeNode` operation of the model (`Bao.Node.*`) is
characterised in these coordinates.

Bounds.  Ids are `u64`.  `trailing_ones` is exact for every `L ≤ 64`, so most statements only
need `L ≤ 64`; the ones that go through `x + 1` as a `u64` (`count_below`, `right_count`,
`post_order_offset`, ...) need `x ≠ u64::MAX`, written `nodeOf k L + 1 < 2^64`.
The property's quantifier (`x < 2^63`, levels `≤ 62`, shifts `n ≤ 10`) is inside all of them.
-/

namespace Bao.C18

open Bao Bao.Bits
open Bao.Spec (nodeOf startOf endOf midOf)

theorem coords_exist (x : Nat) : ∃ k L, x = nodeOf k L := by
  obtain ⟨k, L, h⟩ := odd_pow_decomp (x + 1) (by omega)
  exact ⟨k, L, by rw [← nodeOf_succ'] at h; omega⟩

theorem nodeOf_inj {k L k' L' : Nat} (h : nodeOf k L = nodeOf k' L') : k = k' ∧ L = L' := by
  apply odd_pow_inj
  rw [← nodeOf_succ', ← nodeOf_succ', h]

/-- a `u64` id has level at most 64 (exactly 64 only for `u64::MAX`) -/
theorem level_le {k L : Nat} (h : nodeOf k L < 2 ^ 64) : L ≤ 64 := level_le_of_lt h

/-- an id other than `u64::MAX` has level at most 63 -/
theorem level_lt {k L : Nat} (h : nodeOf k L + 1 < 2 ^ 64) : L < 64 := level_lt_of_succ_lt h

example : nodeOf 5 3 < 2 ^ 64 ∧ nodeOf 5 3 + 1 < 2 ^ 64 := by decide

theorem level_nodeOf {k L : Nat} (h : L ≤ 64) : Node.level (nodeOf k L) = L :=
  trailingOnesAux_nodeOf k L 64 h

example : Node.level (nodeOf 5 3) = 3 := level_nodeOf (by decide)

/-- with the bound on the id instead of the level: a `u64` id `(k, L)` has `level = L` -/
theorem level_nodeOf_of_lt {k L : Nat} (h : nodeOf k L < 2 ^ 64) : Node.level (nodeOf k L) = L :=
  level_nodeOf (level_le h)

example : Node.level (nodeOf 5 3) = 3 := level_nodeOf_of_lt (by decide)

/-- the executable coordinate functions of `Spec` invert `nodeOf` -/
theorem levelOf_indexOf_nodeOf {k L : Nat} (h : L ≤ 64) :
    Spec.levelOf (nodeOf k L) = L ∧ Spec.indexOf (nodeOf k L) = k :=
  ⟨levelOf_nodeOf h, indexOf_nodeOf h⟩

example : Spec.levelOf (nodeOf 5 3) = 3 ∧ Spec.indexOf (nodeOf 5 3) = 5 :=
  levelOf_indexOf_nodeOf (by decide)

/-- every `u64` id is the node of its computed coordinates, and `level` is `Spec.levelOf` -/
theorem coords_eq {x : Nat} (h : x < 2 ^ 64) :
    x = nodeOf (Spec.indexOf x) (Spec.levelOf x) ∧ Node.level x = Spec.levelOf x := by
  obtain ⟨k, L, rfl⟩ := coords_exist x
  have hL := level_le h
  rw [levelOf_nodeOf hL, indexOf_nodeOf hL, level_nodeOf hL]
  exact ⟨rfl, rfl⟩

example : (87 : Nat) < 2 ^ 64 := by decide

theorem isLeaf_spec (k L : Nat) : Node.isLeaf (nodeOf k L) = decide (L = 0) := by
  cases L with
  | zero => simp [Node.isLeaf, Spec.nodeOf]
  | succ n => simp [Node.isLeaf, nodeOf_succ_level]

theorem mid_spec (k L : Nat) : Node.mid (nodeOf k L) = midOf k L := by
  rw [Node.mid, nodeOf_succ, midOf_eq]

theorem leftChild_spec {k L : Nat} (h : L + 1 ≤ 64) :
    Node.leftChild (nodeOf k (L + 1)) = some (nodeOf (2 * k) L) := by
  simp [Node.leftChild, level_nodeOf h, nodeOf_sub_half]

theorem rightChild_spec {k L : Nat} (h : L + 1 ≤ 64) :
    Node.rightChild (nodeOf k (L + 1)) = some (nodeOf (2 * k + 1) L) := by
  simp [Node.rightChild, level_nodeOf h, nodeOf_add_half]

example : Node.leftChild (nodeOf 5 3) = some (nodeOf 10 2) := leftChild_spec (by decide)
example : Node.rightChild (nodeOf 5 3) = some (nodeOf 11 2) := rightChild_spec (by decide)

theorem leftChild_leaf (k : Nat) : Node.leftChild (nodeOf k 0) = none := by
  simp [Node.leftChild, level_nodeOf (Nat.zero_le 64)]

theorem rightChild_leaf (k : Nat) : Node.rightChild (nodeOf k 0) = none := by
  simp [Node.rightChild, level_nodeOf (Nat.zero_le 64)]

/-- `right_child` does not overflow unless the id is `u64::MAX` -/
theorem rightChild_lt {k L : Nat} (h : nodeOf k (L + 1) + 1 < 2 ^ 64) :
    nodeOf (2 * k + 1) L < 2 ^ 64 := nodeOf_right_lt h

example : nodeOf 5 3 + 1 < 2 ^ 64 := by decide

theorem parent_spec {k L : Nat} (hL : L < 63) :
    Node.parent (nodeOf k L) = some (nodeOf (k / 2) (L + 1)) := by
  have hne : L ≠ 63 := by omega
  simp only [Node.parent, level_nodeOf (by omega : L ≤ 64), hne, if_false, nodeOf_div_span]
  rw [← nodeOf_parent k L]
  split <;> rfl

example : Node.parent (nodeOf 5 3) = some (nodeOf 2 4) := parent_spec (by decide)

theorem parent_top (k : Nat) : Node.parent (nodeOf k 63) = none := by
  simp [Node.parent, level_nodeOf (by decide : 63 ≤ 64)]

/-- `parent` does not overflow: the parent of a `u64` id is a `u64` id (and not `u64::MAX`) -/
theorem parent_lt {k L : Nat} (hL : L < 63) (h : nodeOf k L < 2 ^ 64) :
    nodeOf (k / 2) (L + 1) + 1 < 2 ^ 64 :=
  nodeOf_lt_succ_lt (nodeOf_parent_lt h hL) (by omega)

example : (3 : Nat) < 63 ∧ nodeOf 5 3 < 2 ^ 64 := by decide

/-- the left child has the node as parent and sits one level lower -/
theorem parent_leftChild {x c : Nat} (hx : x + 1 < 2 ^ 64) (h : Node.leftChild x = some c) :
    Node.parent c = some x ∧ Node.level c + 1 = Node.level x := by
  obtain ⟨k, L, rfl⟩ := coords_exist x
  have hL := level_lt hx
  cases L with
  | zero => simp [leftChild_leaf] at h
  | succ n =>
    rw [leftChild_spec (by omega)] at h
    obtain rfl := Option.some.inj h
    rw [parent_spec (by omega), level_nodeOf (by omega), level_nodeOf (by omega)]
    exact ⟨by rw [Nat.mul_div_cancel_left k (by decide : 0 < 2)], rfl⟩

/-- the right child has the node as parent and sits one level lower -/
theorem parent_rightChild {x c : Nat} (hx : x + 1 < 2 ^ 64) (h : Node.rightChild x = some c) :
    Node.parent c = some x ∧ Node.level c + 1 = Node.level x := by
  obtain ⟨k, L, rfl⟩ := coords_exist x
  have hL := level_lt hx
  cases L with
  | zero => simp [rightChild_leaf] at h
  | succ n =>
    rw [rightChild_spec (by omega)] at h
    obtain rfl := Option.some.inj h
    rw [parent_spec (by omega), level_nodeOf (by omega), level_nodeOf (by omega)]
    exact ⟨by rw [show (2 * k + 1) / 2 = k by omega], rfl⟩

example : (87 : Nat) + 1 < 2 ^ 64 ∧ Node.leftChild 87 = some 83 ∧ Node.rightChild 87 = some 91 := by
  decide

/-- conversely a node is the left or the right child of its parent, one level higher -/
theorem child_of_parent {x p : Nat} (hx : x + 1 < 2 ^ 64) (h : Node.parent x = some p) :
    (Node.leftChild p = some x ∨ Node.rightChild p = some x) ∧ Node.level p = Node.level x + 1 := by
  obtain ⟨k, L, rfl⟩ := coords_exist x
  have hL := level_lt hx
  by_cases h63 : L = 63
  · subst h63; simp [parent_top] at h
  · have hL' : L < 63 := by omega
    rw [parent_spec hL'] at h
    obtain rfl := Option.some.inj h
    rw [leftChild_spec (by omega), rightChild_spec (by omega), level_nodeOf (by omega),
      level_nodeOf (by omega)]
    refine ⟨?_, rfl⟩
    rcases Nat.mod_two_eq_zero_or_one k with hk | hk
    · left; rw [show 2 * (k / 2) = k by omega]
    · right; rw [show 2 * (k / 2) + 1 = k by omega]

example : (87 : Nat) + 1 < 2 ^ 64 ∧ Node.parent 87 = some 79 := by decide

theorem chunkRange_spec {k L : Nat} (h : L ≤ 64) :
    Node.chunkRange (nodeOf k L) = (startOf k L, endOf k L) := by
  simp only [Node.chunkRange, level_nodeOf h, nodeOf_mid_sub, nodeOf_mid_add]

example : Node.chunkRange (nodeOf 5 3) = (80, 96) := by
  rw [chunkRange_spec (by decide)]; decide

/-- the chunk range of a node is the disjoint union of its children's: they meet at `mid` -/
theorem chunkRange_children {x l r : Nat} (hx : x + 1 < 2 ^ 64)
    (hl : Node.leftChild x = some l) (hr : Node.rightChild x = some r) :
    Node.chunkRange l = ((Node.chunkRange x).1, Node.mid x) ∧
    Node.chunkRange r = (Node.mid x, (Node.chunkRange x).2) ∧
    (Node.chunkRange x).1 < Node.mid x ∧ Node.mid x < (Node.chunkRange x).2 := by
  obtain ⟨k, L, rfl⟩ := coords_exist x
  have hL := level_lt hx
  cases L with
  | zero => simp [leftChild_leaf] at hl
  | succ n =>
    rw [leftChild_spec (by omega)] at hl
    rw [rightChild_spec (by omega)] at hr
    obtain rfl := Option.some.inj hl
    obtain rfl := Option.some.inj hr
    rw [chunkRange_spec (by omega), chunkRange_spec (by omega), chunkRange_spec (by omega),
      mid_spec, startOf_left, endOf_left, startOf_right, endOf_right]
    exact ⟨rfl, rfl, startOf_lt_midOf _ _, midOf_lt_endOf _ _⟩

example : (87 : Nat) + 1 < 2 ^ 64 ∧ Node.leftChild 87 = some 83 ∧ Node.rightChild 87 = some 91 := by
  decide

/-- the same in coordinates -/
theorem chunkRange_children_spec {k L : Nat} (h : L + 1 ≤ 64) :
    Node.chunkRange (nodeOf (2 * k) L) = (startOf k (L + 1), midOf k (L + 1)) ∧
    Node.chunkRange (nodeOf (2 * k + 1) L) = (midOf k (L + 1), endOf k (L + 1)) := by
  rw [chunkRange_spec (by omega), chunkRange_spec (by omega),
    startOf_left, endOf_left, startOf_right, endOf_right]
  exact ⟨rfl, rfl⟩

example : (2 : Nat) + 1 ≤ 64 := by decide

/-- ids of the complete subtree below `(k, L)`: the `2^(L+1) − 1` ids from `k·2^(L+1)` on -/
theorem nodeRange_spec {k L : Nat} (h : L ≤ 64) :
    Node.nodeRange (nodeOf k L) = (startOf k L, startOf k L + 2 ^ (L + 1) - 1) := by
  simp only [Node.nodeRange, Node.halfSpan, level_nodeOf h, nodeOf_mid_sub, nodeOf_add_span]

example : Node.nodeRange (nodeOf 5 3) = (80, 95) := by
  rw [nodeRange_spec (by decide)]; decide

theorem lowestBit_spec {k L : Nat} (h : nodeOf k L + 1 < 2 ^ 64) :
    Node.lowestBit (nodeOf k L + 1) = 2 ^ L := and_neg_nodeOf h

theorem countBelow_spec {k L : Nat} (h : nodeOf k L + 1 < 2 ^ 64) :
    Node.countBelow (nodeOf k L) = 2 ^ (L + 1) - 2 := by
  rw [Node.countBelow, lowestBit_spec h, Nat.pow_succ]

example : nodeOf 5 3 + 1 < 2 ^ 64 ∧ Node.countBelow (nodeOf 5 3) = 14 := by decide

/-- the node range holds the node itself and the nodes below it -/
theorem nodeRange_card {k L : Nat} (h : nodeOf k L + 1 < 2 ^ 64) :
    (Node.nodeRange (nodeOf k L)).2 - (Node.nodeRange (nodeOf k L)).1
      = Node.countBelow (nodeOf k L) + 1 := by
  have hp := two_pow_pos' L
  rw [nodeRange_spec (by have := level_lt h; omega), countBelow_spec h, Nat.pow_succ]
  simp only; omega

example : nodeOf 5 3 + 1 < 2 ^ 64 := by decide

/-- `!(!x << n)` is `(x+1)·2^n − 1` whenever that fits in a `u64` -/
theorem subBs_eq {x n : Nat} (h : (x + 1) * 2 ^ n ≤ 2 ^ 64) :
    Node.subBs x n = (x + 1) * 2 ^ n - 1 := not_shl_not h

example : ((87 : Nat) + 1) * 2 ^ 4 ≤ 2 ^ 64 := by decide

theorem subBs_spec {k L n : Nat} (h : nodeOf k (L + n) < 2 ^ 64) :
    Node.subBs (nodeOf k L) n = nodeOf k (L + n) := by
  rw [subBs_eq (by rw [succ_mul_pow]; omega), succ_mul_pow, Nat.add_sub_cancel]

example : nodeOf 5 (3 + 4) < 2 ^ 64 ∧ Node.subBs (nodeOf 5 3) 4 = nodeOf 5 7 := by decide

theorem addBs_spec (k L n : Nat) :
    Node.addBs (nodeOf k L) n = if n ≤ L then some (nodeOf k (L - n)) else none := by
  unfold Node.addBs
  by_cases h : n ≤ L
  · simp [h, nodeOf_mod_pow k L n h, nodeOf_div_pow k L n h]
  · simp [h, nodeOf_mod_pow_ne k L n (by omega)]

example : Node.addBs (nodeOf 5 3) 2 = some (nodeOf 5 1) ∧ Node.addBs (nodeOf 5 3) 4 = none := by
  decide

/-- `add_block_size` succeeds exactly on nodes at or above the block level -/
theorem addBs_isSome_iff {x n : Nat} (hx : x < 2 ^ 64) :
    (Node.addBs x n).isSome ↔ n ≤ Node.level x := by
  obtain ⟨k, L, rfl⟩ := coords_exist x
  rw [addBs_spec, level_nodeOf (level_le hx)]
  split <;> simp [*]

example : (87 : Nat) < 2 ^ 64 := by decide

theorem addBs_subBs {x n : Nat} (h : (x + 1) * 2 ^ n ≤ 2 ^ 64) :
    Node.addBs (Node.subBs x n) n = some x := by
  obtain ⟨k, L, rfl⟩ := coords_exist x
  rw [succ_mul_pow] at h
  rw [subBs_spec (by omega), addBs_spec]
  simp

example : ((87 : Nat) + 1) * 2 ^ 4 ≤ 2 ^ 64 := by decide

theorem subBs_addBs {x y n : Nat} (hx : x < 2 ^ 64) (h : Node.addBs x n = some y) :
    Node.subBs y n = x := by
  obtain ⟨k, L, rfl⟩ := coords_exist x
  rw [addBs_spec] at h
  split at h
  · obtain rfl := Option.some.inj h
    have e : L - n + n = L := by omega
    rw [subBs_spec (by rw [e]; exact hx), e]
  · simp at h

example : (87 : Nat) < 2 ^ 64 ∧ Node.addBs 87 3 = some 10 := by decide

theorem restrictedParentAux_lt {fuel x len p : Nat}
    (h : Node.restrictedParentAux fuel x len = some p) : p < len := by
  induction fuel generalizing x with
  | zero => simp [Node.restrictedParentAux] at h
  | succ f ih =>
    simp only [Node.restrictedParentAux] at h
    split at h
    · simp at h
    · split at h
      · obtain rfl := Option.some.inj h; assumption
      · exact ih h

theorem restrictedParent_lt {x len p : Nat} (h : Node.restrictedParent x len = some p) :
    p < len := restrictedParentAux_lt h

example : Node.restrictedParent 8 9 = some 7 := by decide

/-- the restricted parent is a proper ancestor: `j ≥ 1` parent steps up -/
theorem restrictedParentAux_spec {fuel k L len p : Nat} (hx : nodeOf k L < 2 ^ 64) (hL : L ≤ 63)
    (h : Node.restrictedParentAux fuel (nodeOf k L) len = some p) :
    ∃ j, 0 < j ∧ L + j ≤ 63 ∧ p = nodeOf (k / 2 ^ j) (L + j) := by
  induction fuel generalizing k L with
  | zero => simp [Node.restrictedParentAux] at h
  | succ f ih =>
    by_cases h63 : L = 63
    · rw [h63, Node.restrictedParentAux, parent_top] at h
      simp at h
    have hL' : L < 63 := by omega
    simp only [Node.restrictedParentAux, parent_spec hL'] at h
    split at h
    · obtain rfl := Option.some.inj h
      exact ⟨1, Nat.one_pos, hL', by simp⟩
    · obtain ⟨j, hj, hLj, rfl⟩ := ih (nodeOf_parent_lt hx hL') (by omega) h
      refine ⟨j + 1, by omega, by omega, ?_⟩
      rw [Nat.div_div_eq_div_mul, Nat.pow_succ', Nat.add_assoc, Nat.add_comm 1 j]

theorem restrictedParent_spec {k L len p : Nat} (hx : nodeOf k L + 1 < 2 ^ 64)
    (h : Node.restrictedParent (nodeOf k L) len = some p) :
    ∃ j, 0 < j ∧ L + j ≤ 63 ∧ p = nodeOf (k / 2 ^ j) (L + j) :=
  restrictedParentAux_spec (by omega) (by have := level_lt hx; omega) h

example : nodeOf 4 0 + 1 < 2 ^ 64 ∧ Node.restrictedParent (nodeOf 4 0) 9 = some 7 := by decide

/-- the fuel of the model loop is enough: `none` means that no ancestor up to level 63 is
inside `len` -/
theorem restrictedParentAux_none {fuel k L len : Nat} (hL : L ≤ 63) (hf : 63 - L < fuel)
    (h : Node.restrictedParentAux fuel (nodeOf k L) len = none) :
    ∀ j, 0 < j → L + j ≤ 63 → len ≤ nodeOf (k / 2 ^ j) (L + j) := by
  induction fuel generalizing k L with
  | zero => omega
  | succ f ih =>
    intro j hj hLj
    have hL' : L < 63 := by omega
    simp only [Node.restrictedParentAux, parent_spec hL'] at h
    split at h
    · simp at h
    · cases j with
      | zero => omega
      | succ i =>
        cases i with
        | zero => simpa using (by omega : len ≤ nodeOf (k / 2) (L + 1))
        | succ i' =>
          have := ih (k := k / 2) (L := L + 1) (by omega) (by omega) h (i' + 1) (by omega)
            (by omega)
          rw [Nat.div_div_eq_div_mul, ← Nat.pow_succ'] at this
          rw [show L + (i' + 1 + 1) = L + 1 + (i' + 1) by omega]
          exact this

theorem restrictedParent_none {k L len : Nat} (hL : L ≤ 63)
    (h : Node.restrictedParent (nodeOf k L) len = none) :
    ∀ j, 0 < j → L + j ≤ 63 → len ≤ nodeOf (k / 2 ^ j) (L + j) :=
  restrictedParentAux_none hL (by omega) h

example : (0 : Nat) ≤ 63 ∧ Node.restrictedParent (nodeOf 4 0) 3 = none := by decide +kernel

/-- the restricted parent is strictly higher and its chunk range contains the node's -/
theorem restrictedParent_ancestor {x len p : Nat} (hx : x + 1 < 2 ^ 64)
    (h : Node.restrictedParent x len = some p) :
    Node.level x < Node.level p ∧
    (Node.chunkRange p).1 ≤ (Node.chunkRange x).1 ∧
    (Node.chunkRange x).2 ≤ (Node.chunkRange p).2 := by
  obtain ⟨k, L, rfl⟩ := coords_exist x
  obtain ⟨j, hj, hLj, rfl⟩ := restrictedParent_spec hx h
  rw [level_nodeOf (by omega), level_nodeOf (by omega), chunkRange_spec (by omega),
    chunkRange_spec (by omega)]
  exact ⟨by omega, ancestor_start_le k L j, ancestor_end_le k L j⟩

example : (8 : Nat) + 1 < 2 ^ 64 ∧ Node.restrictedParent 8 9 = some 7 := by decide

theorem descendLeft_lt {fuel x len r : Nat} (h : Node.descendLeft fuel x len = some r) :
    r < len := by
  induction fuel generalizing x with
  | zero => simp [Node.descendLeft] at h
  | succ f ih =>
    simp only [Node.descendLeft] at h
    split at h
    · split at h
      · simp at h
      · exact ih h
    · obtain rfl := Option.some.inj h; omega

theorem rightDescendant_lt {x len r : Nat} (h : Node.rightDescendant x len = some r) :
    r < len := by
  unfold Node.rightDescendant at h
  split at h
  · simp at h
  · exact descendLeft_lt h

example : Node.rightDescendant 3 6 = some 5 := by decide

/-- `descendLeft` walks `j` left-child steps down -/
theorem descendLeft_spec {fuel k L len r : Nat} (hL : L ≤ 64)
    (h : Node.descendLeft fuel (nodeOf k L) len = some r) :
    ∃ j, j ≤ L ∧ r = nodeOf (k * 2 ^ j) (L - j) := by
  induction fuel generalizing k L with
  | zero => simp [Node.descendLeft] at h
  | succ f ih =>
    simp only [Node.descendLeft] at h
    split at h
    · cases L with
      | zero => simp [leftChild_leaf] at h
      | succ n =>
        simp only [leftChild_spec hL] at h
        obtain ⟨j, hj, rfl⟩ := ih (by omega) h
        refine ⟨j + 1, by omega, ?_⟩
        rw [Nat.add_sub_add_right, Nat.pow_succ', ← Nat.mul_assoc, Nat.mul_comm k 2]
    · obtain rfl := Option.some.inj h
      exact ⟨0, by omega, by simp⟩

/-- the right descendant lies in the right subtree: `j` left steps below the right child -/
theorem rightDescendant_spec {k L len r : Nat} (hL : L + 1 ≤ 64)
    (h : Node.rightDescendant (nodeOf k (L + 1)) len = some r) :
    ∃ j, j ≤ L ∧ r = nodeOf ((2 * k + 1) * 2 ^ j) (L - j) := by
  simp only [Node.rightDescendant, rightChild_spec hL] at h
  exact descendLeft_spec (by omega) h

example : (1 : Nat) + 1 ≤ 64 ∧ Node.rightDescendant (nodeOf 0 2) 6 = some 5 := by decide

/-- the right descendant's chunk range starts at the node's mid and stays inside the node's -/
theorem rightDescendant_range {x len r : Nat} (hx : x < 2 ^ 64)
    (h : Node.rightDescendant x len = some r) :
    (Node.chunkRange r).1 = Node.mid x ∧ (Node.chunkRange r).2 ≤ (Node.chunkRange x).2 ∧
    Node.level r < Node.level x := by
  obtain ⟨k, L, rfl⟩ := coords_exist x
  have hL := level_le hx
  cases L with
  | zero => simp [Node.rightDescendant, rightChild_leaf] at h
  | succ n =>
    obtain ⟨j, hj, rfl⟩ := rightDescendant_spec hL h
    rw [chunkRange_spec (by omega), chunkRange_spec hL, mid_spec, level_nodeOf (by omega),
      level_nodeOf hL, descendant_start _ _ _ hj, startOf_right, ← endOf_right]
    exact ⟨rfl, descendant_end_le _ _ _ hj, by omega⟩

example : (3 : Nat) < 2 ^ 64 ∧ Node.rightDescendant 3 6 = some 5 := by decide

/-- `descendLeft` finds a node exactly when the leftmost leaf below the start is inside `len` -/
theorem descendLeft_none_iff {fuel k L len : Nat} (hL : L ≤ 64) (hf : L < fuel) :
    Node.descendLeft fuel (nodeOf k L) len = none ↔ len ≤ startOf k L := by
  induction fuel generalizing k L with
  | zero => omega
  | succ f ih =>
    have hp := two_pow_pos' L
    have hs : startOf k L ≤ nodeOf k L := by rw [startOf_eq, nodeOf_eq]; omega
    simp only [Node.descendLeft]
    split
    · cases L with
      | zero =>
        have : startOf k 0 = nodeOf k 0 := by simp [Spec.startOf, Spec.nodeOf]; omega
        simp only [leftChild_leaf, true_iff]; omega
      | succ n =>
        simp only [leftChild_spec hL]
        rw [ih (k := 2 * k) (L := n) (by omega) (by omega), startOf_left]
    · simp only [reduceCtorEq, false_iff]; omega

/-- the right descendant exists exactly when the right half starts inside the tree -/
theorem rightDescendant_none_iff {k L len : Nat} (hL : L + 1 ≤ 64) :
    Node.rightDescendant (nodeOf k (L + 1)) len = none ↔ len ≤ Node.mid (nodeOf k (L + 1)) := by
  simp only [Node.rightDescendant, rightChild_spec hL, mid_spec]
  rw [descendLeft_none_iff (by omega) (by omega), startOf_right]

example : (1 : Nat) + 1 ≤ 64 ∧ Node.rightDescendant (nodeOf 0 2) 4 = none := by decide

/-- `right_count`: the number of right turns on the way from the top is `count_ones(k)` -/
theorem rightCount_spec {k L : Nat} (h : nodeOf k L + 1 < 2 ^ 64) :
    Node.rightCount (nodeOf k L) = popcount k := by
  rw [Node.rightCount, popcount_nodeOf_succ h, Nat.add_sub_cancel]

example : nodeOf 5 3 + 1 < 2 ^ 64 ∧ Node.rightCount (nodeOf 5 3) = 2 := by decide

/-- `y & (y-1)` on `y = x+1` gives the start chunk; the next left ancestor is the id just
before it, and there is none on the left spine (`k = 0`) -/
theorem nextLeftAncestor_spec (k L : Nat) :
    Node.nextLeftAncestor (nodeOf k L) = if k = 0 then none else some (startOf k L - 1) := by
  simp only [Node.nextLeftAncestor, and_pred_nodeOf, startOf_eq_zero_iff]

/-- in coordinates: strip the trailing zeros of the index and its lowest one bit -/
theorem nextLeftAncestor_coords (k' j L : Nat) :
    Node.nextLeftAncestor (nodeOf ((2 * k' + 1) * 2 ^ j) L) = some (nodeOf k' (L + j + 1)) := by
  have hp := two_pow_pos' j
  have : (2 * k' + 1) * 2 ^ j ≠ 0 := Nat.ne_of_gt (Nat.mul_pos (by omega) hp)
  rw [nextLeftAncestor_spec, if_neg this, startOf_pred_eq]

/-- post-order offset in a complete tree: all nodes of the complete subtrees entirely to the
left (`s − count_ones(s)` for `s` chunks), then the nodes below -/
theorem postOrderOffset_spec {k L : Nat} (h : nodeOf k L + 1 < 2 ^ 64) :
    Node.postOrderOffset (nodeOf k L)
      = (2 ^ (L + 1) - 2) + (startOf k L - popcount (startOf k L)) := by
  have hle := popcount_le (startOf k L)
  simp only [Node.postOrderOffset, countBelow_spec h, nextLeftAncestor_spec]
  by_cases hk : k = 0
  · subst hk
    simp [(startOf_eq_zero_iff 0 L).mpr rfl]
  · have hpos : startOf k L ≠ 0 := fun e => hk ((startOf_eq_zero_iff k L).mp e)
    simp only [hk, if_false]
    rw [Nat.add_assoc, Nat.sub_add_cancel (Nat.pos_of_ne_zero hpos), Nat.add_sub_assoc hle]

example : nodeOf 5 3 + 1 < 2 ^ 64 ∧ Node.postOrderOffset (nodeOf 5 3) = 14 + (80 - 2) := by decide

theorem postOrderRange_spec {k L : Nat} (h : nodeOf k L + 1 < 2 ^ 64) :
    Node.postOrderRange (nodeOf k L)
      = (startOf k L - popcount (startOf k L),
         (2 ^ (L + 1) - 2) + (startOf k L - popcount (startOf k L)) + 1) := by
  rw [Node.postOrderRange, postOrderOffset_spec h, countBelow_spec h]
  apply Prod.ext <;> simp only <;> omega

example : nodeOf 5 3 + 1 < 2 ^ 64 ∧ Node.postOrderRange (nodeOf 5 3) = (78, 93) := by decide

/-! ## agreement with explicit enumeration on complete trees

`Spec.postNodes n 0 L k` lists, by plain recursion (left subtree, right subtree, node), the
nodes of the subtree below `(k, L)`.  When that subtree is complete (`endOf k L ≤ n`) the
post-order offsets of the listed nodes are consecutive numbers, the list has
`count_below + 1` entries and all of them lie in `node_range`. -/

/-- post-order offset of the first node of the subtree below `(k, L)` -/
def base (k L : Nat) : Nat := startOf k L - popcount (startOf k L)

theorem base_left (k L : Nat) : base (2 * k) L = base k (L + 1) := by
  rw [base, base, startOf_left]

theorem base_right {k L : Nat} (h : endOf k (L + 1) < 2 ^ 64) :
    base (2 * k + 1) L = base k (L + 1) + (2 ^ (L + 1) - 1) := by
  have hp := two_pow_pos' (L + 1)
  have h1 := startOf_lt_midOf k (L + 1)
  have h2 := midOf_lt_endOf k (L + 1)
  have e : midOf k (L + 1) = nodeOf k (L + 1) + 1 := by rw [nodeOf_succ, midOf_eq]
  have hs : popcount (startOf k (L + 1)) = popcount k := popcount_startOf (by omega)
  have hle' : popcount k ≤ startOf k (L + 1) := hs ▸ popcount_le (startOf k (L + 1))
  rw [base, base, startOf_right, hs, e, popcount_nodeOf_succ (by omega), ← e]
  have : midOf k (L + 1) = startOf k (L + 1) + 2 ^ (L + 1) := rfl
  clear h h1 h2 e hs
  omega

theorem postOrderOffset_enumeration {n : Nat} (hn : n < 2 ^ 64) (L k : Nat)
    (h : endOf k L ≤ n) :
    (Spec.postNodes n 0 L k).map Node.postOrderOffset = List.range' (base k L) (2 ^ (L + 1) - 1) := by
  induction L generalizing k with
  | zero =>
    have hm : midOf k 0 < n := by have := midOf_lt_endOf k 0; omega
    have hx : nodeOf k 0 + 1 < 2 ^ 64 := by rw [nodeOf_succ, ← midOf_eq]; omega
    simp [Spec.postNodes, hm, postOrderOffset_spec hx, base, List.range'_one]
  | succ m ih =>
    have hm : midOf k (m + 1) < n := Nat.lt_of_lt_of_le (midOf_lt_endOf k (m + 1)) h
    have hx : nodeOf k (m + 1) + 1 < 2 ^ 64 := by rw [nodeOf_succ, ← midOf_eq]; omega
    have il := ih (2 * k) (by rw [endOf_left]; exact Nat.le_of_lt hm)
    have ir := ih (2 * k + 1) (by rw [endOf_right]; exact h)
    rw [base_left] at il
    rw [base_right (Nat.lt_of_le_of_lt h hn)] at ir
    simp only [Spec.postNodes, hm, if_true, ge_iff_le, Nat.zero_le, List.map_append, il, ir,
      List.map_cons, List.map_nil, postOrderOffset_spec hx]
    -- with `2^(m+1) = q + 1`: `q` nodes left, `q` nodes right, then the node
    obtain ⟨q, hq⟩ := Nat.exists_eq_add_of_lt (two_pow_pos' (m + 1))
    rw [Nat.zero_add] at hq
    rw [List.range'_append_1, ← base, Nat.pow_succ 2 (m + 1), hq, Nat.add_sub_cancel, Nat.succ_mul,
      Nat.add_sub_cancel, Nat.mul_two, Nat.add_sub_assoc (by decide : 1 ≤ 2), List.range'_concat,
      Nat.one_mul, Nat.add_comm (q + q)]

example : (16 : Nat) < 2 ^ 64 ∧ endOf 1 2 ≤ 16 := by decide

/-- on the complete tree over `2^(L+1)` chunks the post-order offsets are `0, 1, 2, …` -/
theorem postOrderOffset_complete {L : Nat} (hL : L < 63) :
    (Spec.postNodes (2 ^ (L + 1)) 0 L 0).map Node.postOrderOffset
      = List.range' 0 (2 ^ (L + 1) - 1) := by
  have h : (2 : Nat) ^ (L + 1) < 2 ^ 64 := Nat.pow_lt_pow_right (by decide) (by omega)
  have := postOrderOffset_enumeration h L 0 (by simp [Spec.endOf])
  simpa [base, Spec.startOf, popcount, popcountAux_zero] using this

example : (Spec.postNodes (2 ^ 3) 0 2 0).map Node.postOrderOffset = [0, 1, 2, 3, 4, 5, 6] := by
  rw [postOrderOffset_complete (by decide)]; decide

/-- the enumeration has `count_below + 1` entries, pairwise distinct -/
theorem postNodes_length_nodup {n : Nat} (hn : n < 2 ^ 64) (L k : Nat) (h : endOf k L ≤ n) :
    (Spec.postNodes n 0 L k).length = Node.countBelow (nodeOf k L) + 1 ∧
    (Spec.postNodes n 0 L k).Nodup := by
  have hx : nodeOf k L + 1 < 2 ^ 64 := by
    have := midOf_lt_endOf k L
    rw [nodeOf_succ, ← midOf_eq]; omega
  have hp := two_pow_pos' L
  have e := postOrderOffset_enumeration hn L k h
  constructor
  · have := congrArg List.length e
    rw [List.length_map, List.length_range'] at this
    rw [this, countBelow_spec hx, Nat.pow_succ]; omega
  · have hnd : ((Spec.postNodes n 0 L k).map Node.postOrderOffset).Nodup := by
      rw [e]; exact List.nodup_range' 1
    exact List.Pairwise.of_map Node.postOrderOffset (fun a b hab e => hab (congrArg _ e)) hnd

example : (16 : Nat) < 2 ^ 64 ∧ endOf 1 2 ≤ 16 := by decide

/-- every enumerated node lies in `node_range` (which has exactly as many ids as the list) -/
theorem nodeRange_enumeration {n : Nat} (L k : Nat) (hL : L ≤ 64) :
    ∀ y ∈ Spec.postNodes n 0 L k,
      (Node.nodeRange (nodeOf k L)).1 ≤ y ∧ y < (Node.nodeRange (nodeOf k L)).2 := by
  rw [nodeRange_spec hL]
  intro y hy
  have := postNodes_range n L k y hy
  exact ⟨this.1, by simp only; omega⟩

example : (3 : Nat) ≤ 64 := by decide

end Bao.C18

/-
## Status of C18

PROVED (full strength): every theorem of this file; the three bit tricks (`y & -y`, `y & (y-1)`,
`!(!x << n)`) are proved in `BaoProofs/Lemmas/Bits.lean`.   PARTIAL: none.   OPEN: none.

Hypotheses.  Statements that only read `level` hold for every `L ≤ 64` (no bound on `k`);
`parent_spec` needs `L < 63` (`L = 63` gives `none`, `parent_top`).  Statements that go through
`x + 1` as a `u64` (`lowestBit`, `countBelow`, `rightCount`, `postOrderOffset/Range`, and the
general-`x` corollaries about children and parents) assume `x + 1 < 2^64`, i.e. `x ≠ u64::MAX`.
That hypothesis is necessary for the model: at `x = 2^64 − 1` (level 64) `Node.parent` returns
`some (2^65 − 1)` and `Node.countBelow` returns `0 − 2 = 0`, where the Rust code panics in the
dev profile (`1u64 << 64`, `self.0 + 1`).  This id is outside the property's quantifier
(`x < 2^63`), so it is only a remark about the model's domain, not a defect.
-/
