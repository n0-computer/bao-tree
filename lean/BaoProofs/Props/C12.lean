import BaoProofs.Lemmas.Offsets

/-!
# C12 — pre-order and post-order offsets enumerate the persisted nodes

"For every blob size and block size, the pre-order and the post-order offset functions each map
the nodes an outboard persists one-to-one onto 0..(chunk groups - 1), in exactly the order in which
the corresponding traversal visits them, and map the other nodes of the tree (those below the
block size and the half-filled last leaf) to nothing."

`Spec.persistedPre size bs` / `Spec.persistedPost size bs` are the recursive pre-order / post-order
lists of the nodes of level `≥ bs` that exist in the blob.  The theorems say: the list has
`blocks - 1` entries and the `i`-th entry is mapped to `i` (hence one-to-one and onto
`0 … blocks-2`, in traversal order).
-/

namespace Bao.C12

open Bao Bao.Offsets

/-- pre-order: `persistedPre[i] ↦ i`, and there are `blocks - 1` persisted nodes -/
theorem pre (size bs : Nat) (hs : size ≤ 2 ^ 63) (_hbs : bs ≤ 10) :
    let P := Spec.persistedPre size bs
    P.length = Tree.blocks ⟨size, bs⟩ - 1 ∧
    (∀ i (h : i < P.length), Tree.preOrderOffset ⟨size, bs⟩ P[i] = some i) := by
  obtain ⟨hlen, hmap⟩ := persistedPre_offsets size bs hs
  refine ⟨hlen, fun i h => ?_⟩
  have := getElem_of_map_eq_range _ _ 0 hmap i h
  rwa [Nat.zero_add] at this

example : Tree.preOrderOffset ⟨20000, 1⟩ (Spec.persistedPre 20000 1)[3] = some 3 :=
  (pre 20000 1 (by decide) (by decide)).2 3 (by decide)

/-- post-order: `persistedPost[i] ↦ i` (whether stable or unstable) -/
theorem post (size bs : Nat) (hs : size ≤ 2 ^ 63) (_hbs : bs ≤ 10) :
    let P := Spec.persistedPost size bs
    P.length = Tree.blocks ⟨size, bs⟩ - 1 ∧
    (∀ i (h : i < P.length),
      (Tree.postOrderOffset ⟨size, bs⟩ P[i]).map Tree.PostOffset.value = some i) := by
  obtain ⟨hlen, hmap⟩ := persistedPost_offsets size bs hs
  refine ⟨hlen, fun i h => ?_⟩
  have := getElem_of_map_eq_range _
    (fun x => (Tree.postOrderOffset ⟨size, bs⟩ x).map Tree.PostOffset.value) 0 hmap i h
  rwa [Nat.zero_add] at this

example : (Tree.postOrderOffset ⟨20000, 1⟩ (Spec.persistedPost 20000 1)[3]).map
    Tree.PostOffset.value = some 3 :=
  (post 20000 1 (by decide) (by decide)).2 3 (by decide)

/-- nodes below the block size, and the half-filled last leaf, have no pre-order offset -/
theorem pre_none (size bs : Nat) (hs : size ≤ 2 ^ 63) (hbs : bs ≤ 10) :
    (∀ x, Node.level x < bs → Tree.preOrderOffset ⟨size, bs⟩ x = none) ∧
    (Tree.blocks ⟨size, bs⟩ % 2 = 1 →
      Tree.preOrderOffset ⟨size, bs⟩ (Node.subBs (Tree.blocks ⟨size, bs⟩ - 1) bs) = none) := by
  refine ⟨fun x h => ?_, pre_half_leaf size bs hs hbs⟩
  unfold Tree.preOrderOffset
  simp only [addBs_none_of_level_lt h (by omega)]

example : Tree.preOrderOffset ⟨20000, 2⟩ 1 = none ∧
    Tree.preOrderOffset ⟨20000, 2⟩ (Node.subBs (Tree.blocks ⟨20000, 2⟩ - 1) 2) = none :=
  ⟨(pre_none 20000 2 (by decide) (by decide)).1 1 (by decide),
   (pre_none 20000 2 (by decide) (by decide)).2 (by decide)⟩

/-- nodes below the block size, and the half-filled last leaf, have no post-order offset -/
theorem post_none (size bs : Nat) (hs : size ≤ 2 ^ 63) (hbs : bs ≤ 10) :
    (∀ x, Node.level x < bs → Tree.postOrderOffset ⟨size, bs⟩ x = none) ∧
    (Tree.blocks ⟨size, bs⟩ % 2 = 1 →
      Tree.postOrderOffset ⟨size, bs⟩ (Node.subBs (Tree.blocks ⟨size, bs⟩ - 1) bs) = none) := by
  refine ⟨fun x h => ?_, post_half_leaf size bs hs hbs⟩
  unfold Tree.postOrderOffset
  simp only [addBs_none_of_level_lt h (by omega)]

example : Tree.postOrderOffset ⟨20000, 2⟩ 1 = none ∧
    Tree.postOrderOffset ⟨20000, 2⟩ (Node.subBs (Tree.blocks ⟨20000, 2⟩ - 1) 2) = none :=
  ⟨(post_none 20000 2 (by decide) (by decide)).1 1 (by decide),
   (post_none 20000 2 (by decide) (by decide)).2 (by decide)⟩

/-- one-to-one: two positions of the pre-order list holding the same node are the same position
(so together with `pre` the offset function is a bijection `persisted nodes → {0 … blocks-2}`) -/
theorem pre_injective (size bs : Nat) (hs : size ≤ 2 ^ 63) (hbs : bs ≤ 10) :
    let P := Spec.persistedPre size bs
    ∀ i j (hi : i < P.length) (hj : j < P.length), P[i] = P[j] → i = j := by
  intro P i j hi hj h
  have h1 := (pre size bs hs hbs).2 i hi
  have h2 := (pre size bs hs hbs).2 j hj
  simp only [P] at h
  rw [h, h2] at h1
  exact (Option.some.inj h1).symm

example : ∀ i j (hi : i < (Spec.persistedPre 20000 1).length)
    (hj : j < (Spec.persistedPre 20000 1).length),
    (Spec.persistedPre 20000 1)[i] = (Spec.persistedPre 20000 1)[j] → i = j :=
  pre_injective 20000 1 (by decide) (by decide)

theorem post_injective (size bs : Nat) (hs : size ≤ 2 ^ 63) (hbs : bs ≤ 10) :
    let P := Spec.persistedPost size bs
    ∀ i j (hi : i < P.length) (hj : j < P.length), P[i] = P[j] → i = j := by
  intro P i j hi hj h
  have h1 := (post size bs hs hbs).2 i hi
  have h2 := (post size bs hs hbs).2 j hj
  simp only [P] at h
  rw [h, h2] at h1
  exact (Option.some.inj h1).symm

example : ∀ i j (hi : i < (Spec.persistedPost 20000 1).length)
    (hj : j < (Spec.persistedPost 20000 1).length),
    (Spec.persistedPost 20000 1)[i] = (Spec.persistedPost 20000 1)[j] → i = j :=
  post_injective 20000 1 (by decide) (by decide)

/-- the number of chunk groups of the model is the specification's -/
theorem blocks_spec (size bs : Nat) : Tree.blocks ⟨size, bs⟩ = Spec.nBlocks size bs :=
  blocks_eq_nBlocks size bs

end Bao.C12

/-
Status.
PROVED (full strength, no `_partial`):
  * `pre`, `post`          — length = blocks-1 and `P[i] ↦ i`, for all size ≤ 2^63 (the hypothesis
                              `bs ≤ 10` is not used: the statements hold for every `bs`).
  * `pre_none`, `post_none` — level < bs ⇒ none; half leaf (blocks odd) ⇒ none.
  * `pre_injective`, `post_injective`, `blocks_spec`.
PARTIAL: none.   OPEN: none.
Not stated: that *every* id outside the persisted set is mapped to
`none` — this is false for the code: ids beyond the tree get `some` garbage offset (e.g.
`Tree.preOrderOffset ⟨20000,1⟩ 19 = some _`); the property only speaks about the nodes of the tree.
-/
