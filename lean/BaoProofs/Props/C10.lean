import BaoProofs.Lemmas.FaultL
import BaoProofs.Lemmas.FaultPlan

/-!
# C10: IO failures surface as errors at every operation index (decode driver)

"If the k-th operation on any underlying reader, writer, data source or outboard fails, the public
operation using it reports that failure, never a panic, success or hash mismatch, and it performs
no further operation on the failed object.  Whatever was emitted or stored before the failure is a
prefix of what the fault-free run emits or stores."

This file treats `decode_ranges` (`sync::decode_ranges` / `fsm::decode_ranges`), whose fault-aware
model is `decodeRangesF hf fl stream query sink fw fs`: the `fw`-th write call on the target or the
`fs`-th save call on the outboard of this run (0-based) fails with the injected error
`injected = .err (.io ⟨.other, true⟩)` and has no effect.  All statements are for every hash
instance `hf`, flavour `fl`, stream `s` (honest or not), query `q` and sink.

Vocabulary (`BaoProofs/Lemmas/FaultL.lean`):
* `callLog hf fl s q sink : List (Ev H) × DecEnd` – an instrumented twin of the fault-free run: the
  calls it makes on the target (`.write off data`) and on the outboard (`.save node l r`; every
  call, also one that fails by itself – that one is then the last), and its terminal;
* `writes`, `saves` – the two projections of a log; `applyWrites target ws` / `applySaves hf ob ss`
  – performing a list of calls on a target / outboard (`saveOrKeep`: a failing save has no effect);
* `beforeWrite k log` / `beforeSave k log` – the calls that precede the `k`-th write / save call.

The runs of the examples (`triv`, `strm`, `sink0`) are evaluated once, in `FaultL.callLog_runs`, on
`CallSplit.zeroHash` and `zeroOb`: the same instance, spelt here with this file's own definitions.
-/

namespace Bao.C10

open Bao Bao.FaultL

variable {H : Type}

/-- the write calls `(offset, data)` of the fault-free run, in order -/
def writeCalls (hf : HashFns H) [BEq H] (fl : Flavour) (s : List UInt8) (q : Ranges) (sink : Sink H) :
    List (Nat × List UInt8) := writes (callLog hf fl s q sink).1

/-- the save calls `(node, l, r)` of the fault-free run, in order -/
def saveCalls (hf : HashFns H) [BEq H] (fl : Flavour) (s : List UInt8) (q : Ranges) (sink : Sink H) :
    List (Nat × H × H) := saves (callLog hf fl s q sink).1

/-- number of save calls that precede the `k`-th write call of the fault-free run -/
def savesBeforeWrite (hf : HashFns H) [BEq H] (fl : Flavour) (s : List UInt8) (q : Ranges)
    (sink : Sink H) (k : Nat) : Nat := (saves (beforeWrite k (callLog hf fl s q sink).1)).length

/-- number of write calls that precede the `k`-th save call of the fault-free run -/
def writesBeforeSave (hf : HashFns H) [BEq H] (fl : Flavour) (s : List UInt8) (q : Ranges)
    (sink : Sink H) (k : Nat) : Nat := (writes (beforeSave k (callLog hf fl s q sink).1)).length

/-! ## examples: a 1500-byte blob under a hash that accepts everything -/

/-- a hash instance under which every stream is honest (all hashes are 0) -/
def triv : HashFns Nat := ⟨fun _ _ _ => 0, fun _ _ _ => 0, fun _ => 0, fun _ => List.replicate 32 7⟩

/-- in-memory pre-order outboard of a 1500-byte blob (one parent), empty target -/
def sink0 : Sink Nat := ⟨⟨.preMem, 0, ⟨1500, 0⟩, List.replicate 64 0⟩, []⟩

/-- parent pair + two leaves -/
def strm : List UInt8 := List.replicate 1564 1

/-- the fault-free run makes one save call and two write calls and ends with `done` -/
example : (saveCalls triv .sync strm [0] sink0).length = 1 ∧
    (writeCalls triv .sync strm [0] sink0).map (fun w => (w.1, w.2.length)) = [(0, 1024), (1024, 476)] ∧
    (callLog triv .sync strm [0] sink0).2 = .done ∧
    savesBeforeWrite triv .sync strm [0] sink0 1 = 1 ∧
    writesBeforeSave triv .sync strm [0] sink0 0 = 0 := by
  obtain ⟨h1, h2, h3, h4, h5, -⟩ := callLog_runs (callLog triv .sync strm [0] sink0) _ rfl rfl
  exact ⟨h1, h2, h3, h4, h5⟩

/-- the log is sound: the fault-free run ends with the log's terminal, a target on which exactly
the write calls were performed and an outboard on which exactly the save calls were performed -/
theorem log_sound (hf : HashFns H) [BEq H] (fl : Flavour) (s : List UInt8) (q : Ranges)
    (sink : Sink H) :
    (decodeRangesF hf fl s q sink none none).2 = (callLog hf fl s q sink).2 ∧
    (decodeRangesF hf fl s q sink none none).1.target =
      applyWrites sink.target (writeCalls hf fl s q sink) ∧
    (decodeRangesF hf fl s q sink none none).1.ob =
      applySaves hf sink.ob (saveCalls hf fl s q sink) := by
  rw [decodeRangesF_eq, cut_none_none]
  exact ⟨rfl, applyEvs_target .., applyEvs_ob ..⟩

/-- the log agrees with the logs the plain model `decodeRanges` keeps: same saved nodes, same
`(offset, length)` of the writes except that the sync flavour makes no call for an empty leaf,
same terminal -/
theorem log_model (hf : HashFns H) [BEq H] (fl : Flavour) (s : List UInt8) (q : Ranges)
    (sink : Sink H) :
    (saveCalls hf fl s q sink).map (·.1) = (decodeRanges hf fl s q sink).saves ∧
    (writeCalls hf fl s q sink).map (fun w => (w.1, w.2.length)) =
      (decodeRanges hf fl s q sink).writes.filter (fun p => !(fl == .sync && p.2 == 0)) ∧
    (callLog hf fl s q sink).2 = (decodeRanges hf fl s q sink).terminal :=
  let ⟨h1, h2, h3, _⟩ := logAux_model hf fl _ _ _ sink sink rfl
  ⟨h1, h2, h3⟩

/-- `decodeRangesF … none none` against `decodeRanges`: terminal and final outboard always
coincide -/
theorem no_fault_ob_terminal (hf : HashFns H) [BEq H] (fl : Flavour) (s : List UInt8) (q : Ranges)
    (sink : Sink H) :
    (decodeRangesF hf fl s q sink none none).1.ob = (decodeRanges hf fl s q sink).sink.ob ∧
    (decodeRangesF hf fl s q sink none none).2 = (decodeRanges hf fl s q sink).terminal := by
  obtain ⟨-, -, h3, h4⟩ := logAux_model hf fl _ _ _ sink sink rfl
  rw [decodeRangesF_eq, cut_none_none]
  exact ⟨(applyEvs_ob ..).trans h4.symm, h3⟩

/-- … and so does the final target – i.e. the two runs are equal – in the fsm flavour, and in the
sync flavour provided every empty leaf write logged by `decodeRanges` is at offset 0 (the only
documented difference: sync makes no call `write_all_at(off, [])`, and
`writeAt t off [] = t ++ zeros` when `t` is shorter than `off`, but `writeAt t 0 [] = t`).
For every supported blob size the hypothesis holds: see `no_fault_eq_wf`. -/
theorem no_fault_eq (hf : HashFns H) [BEq H] (fl : Flavour) (s : List UInt8) (q : Ranges)
    (sink : Sink H)
    (h : fl = .sync → ∀ p ∈ (decodeRanges hf fl s q sink).writes, p.2 = 0 → p.1 = 0) :
    decodeRangesF hf fl s q sink none none =
      ((decodeRanges hf fl s q sink).sink, (decodeRanges hf fl s q sink).terminal) :=
  faux_none_eq hf fl _ _ _ sink 0 0 h

theorem no_fault_eq_fsm (hf : HashFns H) [BEq H] (s : List UInt8) (q : Ranges) (sink : Sink H) :
    decodeRangesF hf .fsm s q sink none none =
      ((decodeRanges hf .fsm s q sink).sink, (decodeRanges hf .fsm s q sink).terminal) :=
  no_fault_eq hf .fsm s q sink (fun h => by cases h)

/-- for every blob size the crate supports (`≤ 2^63`; any block size, any stream, any query) the
only empty leaf of a response plan is the single leaf of the empty blob, at offset 0; hence the
fault-free faulty driver IS the plain driver: same sink, same terminal -/
theorem no_fault_eq_wf (hf : HashFns H) [BEq H] (fl : Flavour) (s : List UInt8) (q : Ranges)
    (sink : Sink H) (hs : sink.ob.tree.size ≤ 2 ^ 63) :
    decodeRangesF hf fl s q sink none none =
      ((decodeRanges hf fl s q sink).sink, (decodeRanges hf fl s q sink).terminal) :=
  no_fault_eq hf fl s q sink
    (fun _ => FaultPlan.decodeRanges_empty_writes hf fl s q sink hs)

example : sink0.ob.tree.size ≤ 2 ^ 63 := by decide

/-- the hypothesis of `no_fault_eq` holds for the example, and for the empty blob (one empty leaf
at offset 0, which the sync flavour does not write) -/
example : (∀ p ∈ (decodeRanges triv .sync strm [0] sink0).writes, p.2 = 0 → p.1 = 0) ∧
    (decodeRanges triv .sync [] [0] ⟨⟨.preMem, 0, ⟨0, 0⟩, []⟩, [5]⟩).writes = [(0, 0)] ∧
    writeCalls triv .sync [] [0] ⟨⟨.preMem, 0, ⟨0, 0⟩, []⟩, [5]⟩ = [] :=
  ⟨(callLog_runs _ (decodeRanges triv .sync strm [0] sink0) rfl rfl).2.2.2.2.2, by decide +kernel⟩

/-- the `k`-th write call fails (`k <` number of write calls of the fault-free run): the run
reports the injected error (not `done`, not a hash mismatch, not a panic); the target received
exactly the first `k` writes of the fault-free run; the outboard received exactly the saves that
precede write `k` in the fault-free run, a prefix of the fault-free saves -/
theorem fault_write (hf : HashFns H) [BEq H] (fl : Flavour) (s : List UInt8) (q : Ranges)
    (sink : Sink H) (k : Nat) (hk : k < (writeCalls hf fl s q sink).length) :
    (decodeRangesF hf fl s q sink (some k) none).2 = .err (.io ⟨.other, true⟩) ∧
    (decodeRangesF hf fl s q sink (some k) none).1.target =
      applyWrites sink.target ((writeCalls hf fl s q sink).take k) ∧
    (decodeRangesF hf fl s q sink (some k) none).1.ob =
      applySaves hf sink.ob ((saveCalls hf fl s q sink).take (savesBeforeWrite hf fl s q sink k)) ∧
    savesBeforeWrite hf fl s q sink k ≤ (saveCalls hf fl s q sink).length := by
  have hp := saves_prefix (beforeWrite_prefix k (callLog hf fl s q sink).1)
  have hk : k < (writes (callLog hf fl s q sink).1).length := hk
  rw [decodeRangesF_eq, cut_write, if_pos hk]
  refine ⟨rfl, ?_, ?_, hp.length_le⟩
  · rw [applyEvs_target, writes_beforeWrite]; rfl
  · rw [applyEvs_ob, prefix_eq_take hp]; rfl

/-- a write fault beyond the last write call is never triggered -/
theorem fault_write_ge (hf : HashFns H) [BEq H] (fl : Flavour) (s : List UInt8) (q : Ranges)
    (sink : Sink H) (k : Nat) (hk : (writeCalls hf fl s q sink).length ≤ k) :
    decodeRangesF hf fl s q sink (some k) none = decodeRangesF hf fl s q sink none none := by
  have hk : ¬ k < (writes (callLog hf fl s q sink).1).length := Nat.not_lt.mpr hk
  rw [decodeRangesF_eq, decodeRangesF_eq, cut_none_none, cut_write, if_neg hk]

example : (1 : Nat) < (writeCalls triv .sync strm [0] sink0).length ∧
    (2 : Nat) ≥ (writeCalls triv .sync strm [0] sink0).length := by
  have h := congrArg List.length (callLog_runs (callLog triv .sync strm [0] sink0) _ rfl rfl).2.1
  rw [List.length_map] at h
  rw [writeCalls, h]
  decide

/-- the `k`-th save call fails (`k <` number of save calls of the fault-free run): the run reports
the injected error; the outboard received exactly the first `k` saves of the fault-free run; the
target received exactly the writes that precede save `k`, a prefix of the fault-free writes -/
theorem fault_save (hf : HashFns H) [BEq H] (fl : Flavour) (s : List UInt8) (q : Ranges)
    (sink : Sink H) (k : Nat) (hk : k < (saveCalls hf fl s q sink).length) :
    (decodeRangesF hf fl s q sink none (some k)).2 = .err (.io ⟨.other, true⟩) ∧
    (decodeRangesF hf fl s q sink none (some k)).1.ob =
      applySaves hf sink.ob ((saveCalls hf fl s q sink).take k) ∧
    (decodeRangesF hf fl s q sink none (some k)).1.target =
      applyWrites sink.target ((writeCalls hf fl s q sink).take (writesBeforeSave hf fl s q sink k)) ∧
    writesBeforeSave hf fl s q sink k ≤ (writeCalls hf fl s q sink).length := by
  have hp := writes_prefix (beforeSave_prefix k (callLog hf fl s q sink).1)
  have hk : k < (saves (callLog hf fl s q sink).1).length := hk
  rw [decodeRangesF_eq, cut_save, if_pos hk]
  refine ⟨rfl, ?_, ?_, hp.length_le⟩
  · rw [applyEvs_ob, saves_beforeSave]; rfl
  · rw [applyEvs_target, prefix_eq_take hp]; rfl

/-- a save fault beyond the last save call is never triggered -/
theorem fault_save_ge (hf : HashFns H) [BEq H] (fl : Flavour) (s : List UInt8) (q : Ranges)
    (sink : Sink H) (k : Nat) (hk : (saveCalls hf fl s q sink).length ≤ k) :
    decodeRangesF hf fl s q sink none (some k) = decodeRangesF hf fl s q sink none none := by
  have hk : ¬ k < (saves (callLog hf fl s q sink).1).length := Nat.not_lt.mpr hk
  rw [decodeRangesF_eq, decodeRangesF_eq, cut_none_none, cut_save, if_neg hk]

example : (0 : Nat) < (saveCalls triv .sync strm [0] sink0).length ∧
    (1 : Nat) ≥ (saveCalls triv .sync strm [0] sink0).length := by
  rw [saveCalls, (callLog_runs (callLog triv .sync strm [0] sink0) _ rfl rfl).1]
  decide

/-- for every script `(fw, fs)` (also both at once): the calls completed are a prefix of the
fault-free call log, the sink is the initial sink with exactly these calls performed, and the
terminal is either the injected error (the prefix is then proper: the failing call and everything
after it did not happen) or, if no call failed, the run is the fault-free run -/
theorem fault_prefix (hf : HashFns H) [BEq H] (fl : Flavour) (s : List UInt8) (q : Ranges)
    (sink : Sink H) (fw fs : Option Nat) :
    (∃ pre, pre <+: (callLog hf fl s q sink).1 ∧ pre.length < (callLog hf fl s q sink).1.length ∧
      decodeRangesF hf fl s q sink fw fs = (applyEvs hf sink pre, .err (.io ⟨.other, true⟩))) ∨
    decodeRangesF hf fl s q sink fw fs = decodeRangesF hf fl s q sink none none := by
  rw [decodeRangesF_eq, decodeRangesF_eq hf fl s q sink none none, cut_none_none]
  cases hc : cut fw fs 0 0 (callLog hf fl s q sink).1 with
  | none => exact Or.inr rfl
  | some pre => exact Or.inl ⟨pre, cut_prefix _ _ _ _ _ _ hc, cut_length_lt _ _ _ _ _ _ hc, rfl⟩

/-- no fault turns into a panic: if the fault-free run does not panic, no faulty run does -/
theorem fault_no_panic (hf : HashFns H) [BEq H] (fl : Flavour) (s : List UInt8) (q : Ranges)
    (sink : Sink H) (fw fs : Option Nat)
    (h : (decodeRangesF hf fl s q sink none none).2 ≠ .panic) :
    (decodeRangesF hf fl s q sink fw fs).2 ≠ .panic := by
  rcases fault_prefix hf fl s q sink fw fs with ⟨pre, _, _, he⟩ | he
  · rw [he]; exact fun h => by cases h
  · rw [he]; exact h

/-- a faulty run ends with the injected error or with the fault-free terminal – in particular a
fault is never reported as a hash mismatch or as success unless the fault-free run says so -/
theorem fault_terminal (hf : HashFns H) [BEq H] (fl : Flavour) (s : List UInt8) (q : Ranges)
    (sink : Sink H) (fw fs : Option Nat) :
    (decodeRangesF hf fl s q sink fw fs).2 = .err (.io ⟨.other, true⟩) ∨
    (decodeRangesF hf fl s q sink fw fs).2 = (decodeRangesF hf fl s q sink none none).2 := by
  rcases fault_prefix hf fl s q sink fw fs with ⟨pre, _, _, he⟩ | he
  · rw [he]; exact Or.inl rfl
  · rw [he]; exact Or.inr rfl

example : (decodeRangesF triv .sync strm [0] sink0 none none).2 ≠ .panic := by
  rw [(log_sound triv .sync strm [0] sink0).1, (callLog_runs (callLog triv .sync strm [0] sink0) _ rfl rfl).2.2.1]
  decide

/-!
## Status (C10, decode driver `decodeRangesF`)

proved, for every `hf`, flavour, stream, query, sink:
* `log_sound`, `log_model` – the instrumented call log `callLog` is the fault-free run, and agrees
  with the `writes` / `saves` logs of the plain model `decodeRanges`;
* `no_fault_ob_terminal` (unconditional), `no_fault_eq` (sync: under "empty leaf writes are at
  offset 0"), `no_fault_eq_fsm` (unconditional), `no_fault_eq_wf` (blob size `≤ 2^63`: hypothesis
  discharged from the plan geometry) – `decodeRangesF … none none` vs `decodeRanges`;
* `fault_write`, `fault_write_ge`, `fault_save`, `fault_save_ge` – the k-th write / save fails;
* `fault_prefix`, `fault_terminal`, `fault_no_panic` – any script `(fw, fs)`, also both at once.

"no further operation on the failed object": in the model the run stops at the failing call
(`fault_prefix`: the calls performed are a proper prefix of the fault-free log), so there is no
later call on either object.

not covered here: faults of the stream reader (the `r` object; a failing exact read is the
`.error` branch of `Dec.next`, reported as `…NotFound` / `Io`), and the other operations (encode,
outboard creation, copy, validate); `decodeRangesF` models only target and outboard faults.

model remarks:
* a save that fails by itself (`Store.save` → `.err`, e.g. `invalidInput` of a `preMem` store
  without a slot) counts as a save call: `fs = some k` pointing at it reports the injected error
  instead of the store's own error (`fault_save` with `k` = its index); it is logged in `saveCalls`
  and is a no-op in `applySaves`.
* for a blob size `> 2^63` (outside the crate's range) the sync flavour of `decodeRangesF … none none`
  and `decodeRanges` are only proved equal under the explicit hypothesis of `no_fault_eq`.
-/

end Bao.C10
