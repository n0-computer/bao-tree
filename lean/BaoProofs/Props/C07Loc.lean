import BaoProofs.Lemmas.C07LocL
import BaoProofs.Props.C07
import BaoProofs.Props.C07Conv
import BaoProofs.Props.C06Loc
import BaoProofs.Props.C01Loc

/-!
# C07 with LOCALISED collision freedom (histories of partial downloads)

`Props/C07.lean` and `Props/C07Conv.lean` prove the consistency / convergence of every history of
fault-injected `decode_ranges` calls under the GLOBAL hypothesis `CollisionFree hf`, which no
function into 32 bytes satisfies (`Lemmas/CFUnsat.lean`).  Here the same statements are proved under

  `CollisionFreeOn hf (fun x => x ∈ histEvals hf d ops sink)`

where `histEvals hf d ops sink` (`Lemmas/C07LocL.lean`) is the finite, computable list

  `trueEvals hf d ++ ops.flatMap (fun op => runEvals hf op.fl sink.ob.root sink.ob.tree op.ranges op.stream)`

i.e. the inputs evaluated by the honest hashing of the blob, followed – for every call of the
history – by the inputs evaluated by the decoder run of that call on its stream and query, set up
with the root and the tree of the sink's outboard (which a history never changes, `C07.root_preserved`
/ `tree_preserved`).  CHOICE: `runEvals` is the list of the FAULT-FREE run of the call.  A call with
an injected write / save failure stops earlier and evaluates a prefix of it, so this is a superset
of what the faulty history evaluates; in exchange `histEvals` does not depend on the injected faults
nor on the state of the sink (only on its root and tree).

For the validator theorems the inputs of the final validator run are added:
`histValidEvals hf d ops sink fl q = histEvals hf d ops sink ++
  validEvals hf fl (run hf ops sink).ob (run hf ops sink).target q` (`C06Loc.validEvals`).

`history_collision_extraction*` are the contrapositives without any hash hypothesis.
-/

set_option maxRecDepth 8192

namespace Bao.C07Loc

open Bao Bao.Spec Bao.C01 Bao.C07 Bao.C07L
open Bao.FaultL (Ev applyEvs)

variable {H : Type} [BEq H] [LawfulBEq H] {hf : HashFns H} {d : List UInt8} {bs : Nat}

/-- the evaluation list of a history followed by the inputs of a validator run on the final sink -/
def histValidEvals (hf : HashFns H) (d : List UInt8) (ops : List Op) (sink : Sink H)
    (fl : Flavour) (q : Ranges) : List (HashIn H) :=
  histEvals hf d ops sink ++
    C06Loc.validEvals hf fl (run hf ops sink).ob (run hf ops sink).target q

omit [LawfulBEq H] in
theorem mem_histEvals {ops : List Op} {sink : Sink H} {x : HashIn H} :
    x ∈ histEvals hf d ops sink ↔ x ∈ trueEvals hf d ∨
      ∃ op ∈ ops, x ∈ runEvals hf op.fl sink.ob.root sink.ob.tree op.ranges op.stream := by
  simp only [histEvals, List.mem_append, mem_callEvals]

omit [LawfulBEq H] in
theorem histEvals_prefix (ops : List Op) (sink : Sink H) (n : Nat) :
    ∀ x ∈ histEvals hf d (ops.take n) sink, x ∈ histEvals hf d ops sink :=
  histEvals_mono hf d sink sink rfl rfl (fun _ h => List.mem_of_mem_take h)

omit [LawfulBEq H] in
theorem collisionFree_hist (cf : CollisionFree hf) (ops : List Op) (sink : Sink H) :
    CollisionFreeOn hf (fun x => x ∈ histEvals hf d ops sink) := cf.on _

/-- **C01 for the fault-injected `decode_ranges`, local form** (`C07.decodeRangesF_sound`): the
hypothesis is collision freedom on the evaluation list of the one-call history. -/
theorem decodeRangesF_sound_loc (hd : d.length ≤ 2 ^ 64 * 1024) (fl : Flavour)
    (s : List UInt8) (ranges : Ranges) (sink : Sink H) (fw fs : Option Nat)
    (hroot : sink.ob.root = Spec.root hf d)
    (cf : CollisionFreeOn hf (fun x => x ∈ histEvals hf d [⟨fl, s, ranges, fw, fs⟩] sink)) :
    ∃ (wl : List (Nat × List UInt8)) (pl : List (Nat × H × H)),
      (∀ w ∈ wl, TrueLeaf d w.1 w.2) ∧ (∀ p ∈ pl, TruePair hf d p.2.1 p.2.2) ∧
      (decodeRangesF hf fl s ranges sink fw fs).1.target = applyWrites sink.target wl ∧
      (decodeRangesF hf fl s ranges sink fw fs).1.ob = applySaves hf sink.ob pl :=
  run_effect_loc hd [⟨fl, s, ranges, fw, fs⟩] sink hroot cf

/-- **Invariant of histories, local form** (`C07.inv`). -/
theorem inv_loc (hd : d.length ≤ 2 ^ 64 * 1024) (ops : List Op) (sink : Sink H)
    (hroot : sink.ob.root = Spec.root hf d)
    (cf : CollisionFreeOn hf (fun x => x ∈ histEvals hf d ops sink)) :
    ∃ wl : List (Nat × List UInt8),
      (∀ w ∈ wl, TrueLeaf d w.1 w.2) ∧
      (run hf ops sink).target = applyWrites sink.target wl ∧
      (sink.target.length = d.length →
        (run hf ops sink).target.length = d.length ∧
        ∀ i : Nat,
          (¬ Cov wl i → (run hf ops sink).target[i]? = sink.target[i]?) ∧
          (Cov wl i → (run hf ops sink).target[i]? = d[i]? ∧ i < d.length) ∧
          ((run hf ops sink).target[i]? = sink.target[i]? ∨ (run hf ops sink).target[i]? = d[i]?)) :=
  (run_effect_loc hd ops sink hroot cf).inv

/-- "after every step", local form (`C07.inv_prefix`): the invariant at the prefix of length `n`
needs collision freedom only on the evaluation list of THAT prefix (a sublist of the list of the
whole history, `histEvals_prefix`). -/
theorem inv_prefix_loc (hd : d.length ≤ 2 ^ 64 * 1024) (ops : List Op)
    (sink : Sink H) (hroot : sink.ob.root = Spec.root hf d) (hlen : sink.target.length = d.length)
    (n : Nat) (cf : CollisionFreeOn hf (fun x => x ∈ histEvals hf d (ops.take n) sink)) :
    ∃ wl : List (Nat × List UInt8),
      (∀ w ∈ wl, TrueLeaf d w.1 w.2) ∧
      (run hf (ops.take n) sink).target.length = d.length ∧
      ∀ i : Nat,
        (¬ Cov wl i → (run hf (ops.take n) sink).target[i]? = sink.target[i]?) ∧
        (Cov wl i → (run hf (ops.take n) sink).target[i]? = d[i]?) := by
  obtain ⟨wl, hw, _, h⟩ := inv_loc hd (ops.take n) sink hroot cf
  obtain ⟨hl, hg⟩ := h hlen
  exact ⟨wl, hw, hl, fun i => ⟨(hg i).1, fun hc => ((hg i).2.1 hc).1⟩⟩

/-- the same with the hypothesis on the list of the whole history: every prefix at once -/
theorem inv_prefix_loc_all (hd : d.length ≤ 2 ^ 64 * 1024) (ops : List Op)
    (sink : Sink H) (hroot : sink.ob.root = Spec.root hf d) (hlen : sink.target.length = d.length)
    (cf : CollisionFreeOn hf (fun x => x ∈ histEvals hf d ops sink)) (n : Nat) :
    ∃ wl : List (Nat × List UInt8),
      (∀ w ∈ wl, TrueLeaf d w.1 w.2) ∧
      (run hf (ops.take n) sink).target.length = d.length ∧
      ∀ i : Nat,
        (¬ Cov wl i → (run hf (ops.take n) sink).target[i]? = sink.target[i]?) ∧
        (Cov wl i → (run hf (ops.take n) sink).target[i]? = d[i]?) :=
  inv_prefix_loc hd ops sink hroot hlen n (cf.mono (histEvals_prefix ops sink n))

/-- the delivered set only grows, local form (`C07.inv_extend`) -/
theorem inv_extend_loc (hd : d.length ≤ 2 ^ 64 * 1024) (ops more : List Op)
    (sink : Sink H) (hroot : sink.ob.root = Spec.root hf d)
    (cf : CollisionFreeOn hf (fun x => x ∈ histEvals hf d (ops ++ more) sink)) :
    ∃ wl wl' : List (Nat × List UInt8),
      (∀ w ∈ wl ++ wl', TrueLeaf d w.1 w.2) ∧
      (run hf ops sink).target = applyWrites sink.target wl ∧
      (run hf (ops ++ more) sink).target = applyWrites sink.target (wl ++ wl') ∧
      ∀ i, Cov wl i → Cov (wl ++ wl') i := by
  obtain ⟨r1, r2, -⟩ := run_root hf ops sink
  rw [run_append]
  exact (run_effect_loc hd ops sink hroot (cf.mono (histEvals_mono hf d sink sink rfl rfl
    (fun _ h => List.mem_append_left _ h)))).extend
    (run_effect_loc hd more _ (r1.trans hroot) (cf.mono (histEvals_mono hf d sink _ r1 r2
      (fun _ h => List.mem_append_right _ h))))

/-- convergence, local form (`C07.converges`; `C07.converges_target` has no hash hypothesis) -/
theorem converges_loc (hd : d.length ≤ 2 ^ 64 * 1024) (ops : List Op)
    (sink : Sink H) (hroot : sink.ob.root = Spec.root hf d) (hlen : sink.target.length = d.length)
    (cf : CollisionFreeOn hf (fun x => x ∈ histEvals hf d ops sink)) :
    ∃ wl : List (Nat × List UInt8),
      (∀ w ∈ wl, TrueLeaf d w.1 w.2) ∧
      (run hf ops sink).target = applyWrites sink.target wl ∧
      ((∀ i, i < d.length → Cov wl i) → (run hf ops sink).target = d) := by
  obtain ⟨wl, hw, ht, _⟩ := inv_loc hd ops sink hroot cf
  exact ⟨wl, hw, ht, converges_target ops sink wl hw ht hlen⟩

/-- every pair ever saved is a pair of the blob's true tree, local form (`C07.saved_pairs_true`) -/
theorem saved_pairs_true_loc (hd : d.length ≤ 2 ^ 64 * 1024) (ops : List Op)
    (sink : Sink H) (hroot : sink.ob.root = Spec.root hf d)
    (cf : CollisionFreeOn hf (fun x => x ∈ histEvals hf d ops sink)) :
    ∃ pl : List (Nat × H × H),
      (∀ p ∈ pl, TruePair hf d p.2.1 p.2.2) ∧
      (run hf ops sink).ob = applySaves hf sink.ob pl := by
  obtain ⟨_, pl, _, hp, _, ho⟩ := run_effect_loc hd ops sink hroot cf
  exact ⟨pl, hp, ho⟩

/-! ## 2. the theorems of `Props/C07Conv.lean`

`log_order`, `log_target`, `log_saves`, `log_ancestors_hold`, `log_converges`,
`log_validator_reports`, `log_validator_ok` of `Props/C07Conv.lean` take a `LabelledLog` as
hypothesis and have NO hash hypothesis; they apply unchanged to the log produced by
`history_log_loc`. -/

/-- **every history has a labelled log, local form** (`C07.history_log`) -/
theorem history_log_loc (hd : d.length ≤ 2 ^ 63) (ops : List Op)
    (sink : Sink H) (hroot : sink.ob.root = Spec.root hf d)
    (htree : sink.ob.tree = ⟨d.length, bs⟩)
    (cf : CollisionFreeOn hf (fun x => x ∈ histEvals hf d ops sink)) :
    ∃ es, LabelledLog hf d bs ops sink es :=
  run_log_on cf (histEvals_true hf d ops sink) hd _ _ hroot htree ops sink rfl rfl
    (fun _ hop => histEvals_call hf d sink hop)

/-- **Stage A: labelled saves, local form** (`C07.saved_pairs_labelled`) -/
theorem saved_pairs_labelled_loc (hd : d.length ≤ 2 ^ 63) (ops : List Op)
    (sink : Sink H) (hroot : sink.ob.root = Spec.root hf d)
    (htree : sink.ob.tree = ⟨d.length, bs⟩)
    (cf : CollisionFreeOn hf (fun x => x ∈ histEvals hf d ops sink)) :
    ∃ pl : List (Nat × H × H),
      (∀ p ∈ pl, ∃ k L, bs ≤ L ∧ midOf k L < nChunks d.length ∧ p.1 = nodeOf k L ∧
        (p.2.1, p.2.2) = Spec.pair hf d k L) ∧
      SavesOk hf sink.ob pl ∧
      (run hf ops sink).ob = applySaves hf sink.ob pl := by
  obtain ⟨es, h⟩ := history_log_loc (bs := bs) hd ops sink hroot htree cf
  exact ⟨_, log_saves h⟩

/-- **Stage B: ancestors before leaves, within one call, local form**
(`C07.ancestors_saved_before_leaf`) -/
theorem ancestors_saved_before_leaf_loc (hd : d.length ≤ 2 ^ 63)
    (fl : Flavour) (s : List UInt8) (q : Ranges) (sink : Sink H) (fw fs : Option Nat)
    (hroot : sink.ob.root = Spec.root hf d) (htree : sink.ob.tree = ⟨d.length, bs⟩)
    (cf : CollisionFreeOn hf (fun x => x ∈ histEvals hf d [⟨fl, s, q, fw, fs⟩] sink)) :
    ∃ es : List (Ev H),
      (decodeRangesF hf fl s q sink fw fs).1 = applyEvs hf sink es ∧ EvsOk hf sink es ∧
      (∀ a node l r b, es = a ++ Ev.save node l r :: b →
        ∃ k L, bs ≤ L ∧ midOf k L < nChunks d.length ∧ node = nodeOf k L ∧
          (l, r) = Spec.pair hf d k L) ∧
      (∀ a off data b, es = a ++ Ev.write off data :: b →
        ∃ c e, Sub d c e ∧ off = c * 1024 ∧ data = slice d c e ∧
          ∀ x, c ≤ x → x < e → ∀ L, bs ≤ L → midOf (x / 2 ^ (L + 1)) L < nChunks d.length →
            Ev.save (nodeOf (x / 2 ^ (L + 1)) L) (Spec.pair hf d (x / 2 ^ (L + 1)) L).1
              (Spec.pair hf d (x / 2 ^ (L + 1)) L).2 ∈ a) := by
  obtain ⟨es, h⟩ := history_log_loc (bs := bs) hd [⟨fl, s, q, fw, fs⟩] sink hroot htree cf
  exact ⟨es, h.1, h.2.1, log_order h⟩

/-- Stage B, consequence, local form (`C07.ancestors_hold`) -/
theorem ancestors_hold_loc (hlen : ∀ h, (hf.toBytes h).length = 32)
    (hd : d.length ≤ 2 ^ 63) (hbs : bs ≤ 10) (ops : List Op) (sink : Sink H)
    (hroot : sink.ob.root = Spec.root hf d) (htree : sink.ob.tree = ⟨d.length, bs⟩)
    (hk : sink.ob.kind ≠ .empty)
    (cf : CollisionFreeOn hf (fun x => x ∈ histEvals hf d ops sink)) :
    ∃ wl : List (Nat × List UInt8),
      (∀ w ∈ wl, TrueLeaf d w.1 w.2) ∧
      (run hf ops sink).target = applyWrites sink.target wl ∧
      ∀ i, Cov wl i → ∀ L, bs ≤ L → midOf (i / 1024 / 2 ^ (L + 1)) L < nChunks d.length →
        Holds hf d (run hf ops sink).ob (nodeOf (i / 1024 / 2 ^ (L + 1)) L) := by
  obtain ⟨es, h⟩ := history_log_loc (bs := bs) hd ops sink hroot htree cf
  exact ⟨_, (log_target h).1, (log_target h).2, log_ancestors_hold hlen hd hbs h htree hk⟩

/-- **Stage C: convergence of the outboard, local form** (`C07.converges_outboard`) -/
theorem converges_outboard_loc (hlen : ∀ h, (hf.toBytes h).length = 32)
    (hd : d.length ≤ 2 ^ 63) (hbs : bs ≤ 10) (ops : List Op) (sink : Sink H)
    (hroot : sink.ob.root = Spec.root hf d) (htree : sink.ob.tree = ⟨d.length, bs⟩)
    (hk : sink.ob.kind ≠ .empty) (hsz : sink.ob.data.length ≤ sink.ob.tree.outboardSize)
    (cf : CollisionFreeOn hf (fun x => x ∈ histEvals hf d ops sink)) :
    ∃ wl : List (Nat × List UInt8),
      (∀ w ∈ wl, TrueLeaf d w.1 w.2) ∧
      (run hf ops sink).target = applyWrites sink.target wl ∧
      ((∀ i, i < d.length → Cov wl i) →
        ((sink.ob.kind = .preIo ∨ sink.ob.kind = .preMem) →
          (run hf ops sink).ob.data = Spec.preOutboard hf d bs) ∧
        ((sink.ob.kind = .postIo ∨ sink.ob.kind = .postMem) →
          (run hf ops sink).ob.data = Spec.postOutboard hf d bs) ∧
        (sink.target.length = d.length → (run hf ops sink).target = d)) := by
  obtain ⟨es, h⟩ := history_log_loc (bs := bs) hd ops sink hroot htree cf
  exact ⟨_, (log_target h).1, (log_target h).2, log_converges hlen hd hbs h htree hk hsz⟩

/-- **(ii) every reported group holds the blob's bytes, local form** (`C07.log_validator_sound`):
`C06Loc.reported_true_bytes_run` on the final sink; the hypothesis is collision freedom on the
inputs of the honest hashing and of THIS validator run. -/
theorem log_validator_sound_loc (hd : d.length ≤ 2 ^ 63) (hbs : bs ≤ 10)
    {ops : List Op} {sink : Sink H} {es : List (Ev H)} (h : LabelledLog hf d bs ops sink es)
    (hroot : sink.ob.root = Spec.root hf d) (htree : sink.ob.tree = ⟨d.length, bs⟩)
    (htl : sink.target.length = d.length) (fl : Flavour) (q : Ranges)
    (cf : CollisionFreeOn hf (fun x => x ∈ trueEvals hf d ++
      C06Loc.validEvals hf fl (run hf ops sink).ob (run hf ops sink).target q))
    (g : Nat × Nat)
    (hgm : g ∈ (validRanges hf fl (run hf ops sink).ob (run hf ops sink).target q).yields) :
    ((run hf ops sink).target.drop (g.1 * 1024)).take (min (g.2 * 1024) d.length - g.1 * 1024) =
      (d.drop (g.1 * 1024)).take (min (g.2 * 1024) d.length - g.1 * 1024) ∧
    g.1 * 1024 + (min (g.2 * 1024) d.length - g.1 * 1024) ≤ d.length := by
  obtain ⟨r1, r2, -⟩ := run_root hf ops sink
  have htree' := r2.trans htree
  obtain ⟨hl, -⟩ := evs_target_spec h.2.2 h.1 htl
  have := C06Loc.reported_true_bytes_run hf fl (run hf ops sink).ob (run hf ops sink).target d
    (by rw [htree']; exact hd) (by rw [htree']; exact hbs) (by omega) (r1.trans hroot)
    (by rw [htree', hl]; exact Nat.le_refl _) q cf g hgm
  rw [htree'] at this
  exact this

/-- **exact converse, chunk by chunk, local form** (`C07.log_reported_delivered`) -/
theorem log_reported_delivered_loc (hd : d.length ≤ 2 ^ 63)
    (hbs : bs ≤ 10) {ops : List Op} {sink : Sink H} {es : List (Ev H)}
    (h : LabelledLog hf d bs ops sink es) (hroot : sink.ob.root = Spec.root hf d)
    (htree : sink.ob.tree = ⟨d.length, bs⟩) (htl : sink.target.length = d.length) (fl : Flavour)
    (q : Ranges)
    (cf : CollisionFreeOn hf (fun x => x ∈ trueEvals hf d ++
      C06Loc.validEvals hf fl (run hf ops sink).ob (run hf ops sink).target q))
    (g : Nat × Nat)
    (hgm : g ∈ (validRanges hf fl (run hf ops sink).ob (run hf ops sink).target q).yields)
    (c : Nat) (hc1 : g.1 ≤ c) (hc2 : c < g.2)
    (hdiff : ∃ i₀, c * 1024 ≤ i₀ ∧ i₀ < (c + 1) * 1024 ∧ i₀ < d.length ∧
      sink.target[i₀]? ≠ d[i₀]?) :
    ∀ i, c * 1024 ≤ i → i < (c + 1) * 1024 → i < d.length → Cov (FaultL.writes es) i :=
  chunk_delivered h.2.2 h.1 htl (log_validator_sound_loc hd hbs h hroot htree htl fl q cf g hgm).1
    hc1 hc2 hdiff

/-- **the validator reports exactly the delivered groups, local form**
(`C07.log_validator_exact`) -/
theorem log_validator_exact_loc (hlen : ∀ h, (hf.toBytes h).length = 32)
    (hrt : RtTrue hf d bs) (hd : d.length ≤ 2 ^ 63) (hbs : bs ≤ 10) {ops : List Op}
    {sink : Sink H} {es : List (Ev H)} (h : LabelledLog hf d bs ops sink es)
    (hroot : sink.ob.root = Spec.root hf d) (htree : sink.ob.tree = ⟨d.length, bs⟩)
    (hk : sink.ob.kind ≠ .empty) (htl : sink.target.length = d.length)
    (hfull : sink.ob.tree.outboardSize ≤ sink.ob.data.length) (fl : Flavour) (q : Ranges)
    (hq : Ranges.WF q = true)
    (cf : CollisionFreeOn hf (fun x => x ∈ trueEvals hf d ++
      C06Loc.validEvals hf fl (run hf ops sink).ob (run hf ops sink).target q))
    (j : Nat) (hj : j < Tree.blocks ⟨d.length, bs⟩)
    (hdiff : ∀ c, (ValidL.groupRange ⟨d.length, bs⟩ j).1 ≤ c →
      c < (ValidL.groupRange ⟨d.length, bs⟩ j).2 →
      ∃ i₀, c * 1024 ≤ i₀ ∧ i₀ < (c + 1) * 1024 ∧ i₀ < d.length ∧ sink.target[i₀]? ≠ d[i₀]?) :
    ValidL.groupRange ⟨d.length, bs⟩ j ∈
        (validRanges hf fl (run hf ops sink).ob (run hf ops sink).target q).yields ↔
      (Tree.blocks ⟨d.length, bs⟩ = 1 ∨
        ValidL.Touched d.length q (ValidL.groupRange ⟨d.length, bs⟩ j)) ∧
      GroupDelivered d bs (FaultL.writes es) j := by
  obtain ⟨-, r2, -⟩ := run_root hf ops sink
  have htree' := r2.trans htree
  constructor
  · intro hgm
    refine ⟨?_, ?_⟩
    · have := (C06.reported_sound hf fl (run hf ops sink).ob (run hf ops sink).target
        (by rw [htree']; exact hd) (by rw [htree']; exact hbs) q hq _ hgm).2
      rw [htree'] at this
      exact this
    · exact group_delivered h.2.2 h.1 htl
        (log_validator_sound_loc hd hbs h hroot htree htl fl q cf _ hgm).1 hdiff
  · rintro ⟨ht, hdel⟩
    exact (log_validator_reports hlen hrt hd hbs h hroot htree hk htl fl j hj hdel).2 q hq ht
      (log_validator_ok hd hbs h htree hk htl hfull fl q)

omit [LawfulBEq H] in
private theorem cf_valid {ops : List Op} {sink : Sink H} {fl : Flavour} {q : Ranges}
    (cf : CollisionFreeOn hf (fun x => x ∈ histValidEvals hf d ops sink fl q)) :
    CollisionFreeOn hf (fun x => x ∈ trueEvals hf d ++
      C06Loc.validEvals hf fl (run hf ops sink).ob (run hf ops sink).target q) := by
  refine cf.mono fun x hx => ?_
  rcases List.mem_append.1 hx with hx | hx
  · exact List.mem_append_left _ (histEvals_true hf d ops sink x hx)
  · exact List.mem_append_right _ hx

/-- the same with the delivered list existentially quantified (`C07.validator_exact_partial`); the
hypothesis is collision freedom on `histValidEvals`: the evaluation list of the history followed by
the inputs of the validator run on the final sink.  `_partial` for the same reason as the global
theorem: the O3 side condition `hdiff`, pre-sized outboard, well-formed query, `RtTrue`. -/
theorem validator_exact_partial_loc (hlen : ∀ h, (hf.toBytes h).length = 32)
    (hrt : RtTrue hf d bs) (hd : d.length ≤ 2 ^ 63) (hbs : bs ≤ 10) (ops : List Op) (sink : Sink H)
    (hroot : sink.ob.root = Spec.root hf d) (htree : sink.ob.tree = ⟨d.length, bs⟩)
    (hk : sink.ob.kind ≠ .empty) (htl : sink.target.length = d.length)
    (hfull : sink.ob.tree.outboardSize ≤ sink.ob.data.length) (fl : Flavour) (q : Ranges)
    (hq : Ranges.WF q = true)
    (cf : CollisionFreeOn hf (fun x => x ∈ histValidEvals hf d ops sink fl q)) :
    ∃ wl : List (Nat × List UInt8),
      (∀ w ∈ wl, TrueLeaf d w.1 w.2) ∧
      (run hf ops sink).target = applyWrites sink.target wl ∧
      ∀ j, j < Tree.blocks ⟨d.length, bs⟩ →
        (∀ c, (ValidL.groupRange ⟨d.length, bs⟩ j).1 ≤ c →
          c < (ValidL.groupRange ⟨d.length, bs⟩ j).2 →
          ∃ i₀, c * 1024 ≤ i₀ ∧ i₀ < (c + 1) * 1024 ∧ i₀ < d.length ∧
            sink.target[i₀]? ≠ d[i₀]?) →
        (ValidL.groupRange ⟨d.length, bs⟩ j ∈
            (validRanges hf fl (run hf ops sink).ob (run hf ops sink).target q).yields ↔
          (Tree.blocks ⟨d.length, bs⟩ = 1 ∨
            ValidL.Touched d.length q (ValidL.groupRange ⟨d.length, bs⟩ j)) ∧
          GroupDelivered d bs wl j) := by
  obtain ⟨es, h⟩ := history_log_loc (bs := bs) hd ops sink hroot htree
    (cf.mono (fun x hx => List.mem_append_left _ hx))
  exact ⟨_, (log_target h).1, (log_target h).2, fun j hj hdiff =>
    log_validator_exact_loc hlen hrt hd hbs h hroot htree hk htl hfull fl q hq (cf_valid cf) j hj
      hdiff⟩

/-- **Stage D: the validator after any history, local form** (`C07.validator_after_history`).
Collision freedom on the evaluation list of the history gives the log (parts (i) and (iii)); part
(ii) speaks about an arbitrary validator query `q` and needs, for that `q`, collision freedom on the
inputs of the honest hashing and of the validator run on the final sink. -/
theorem validator_after_history_loc (hlen : ∀ h, (hf.toBytes h).length = 32)
    (hrt : RtTrue hf d bs) (hd : d.length ≤ 2 ^ 63) (hbs : bs ≤ 10) (ops : List Op) (sink : Sink H)
    (hroot : sink.ob.root = Spec.root hf d) (htree : sink.ob.tree = ⟨d.length, bs⟩)
    (hk : sink.ob.kind ≠ .empty) (htl : sink.target.length = d.length) (fl : Flavour)
    (cf : CollisionFreeOn hf (fun x => x ∈ histEvals hf d ops sink)) :
    ∃ wl : List (Nat × List UInt8),
      (∀ w ∈ wl, TrueLeaf d w.1 w.2) ∧
      (run hf ops sink).target = applyWrites sink.target wl ∧
      (∀ j, j < Tree.blocks ⟨d.length, bs⟩ → GroupDelivered d bs wl j →
        ValidL.Verifiable hf fl (run hf ops sink).ob (run hf ops sink).target true
          (ValidL.groupRange ⟨d.length, bs⟩ j) ∧
        ∀ q, Ranges.WF q = true →
          (Tree.blocks ⟨d.length, bs⟩ = 1 ∨
            ValidL.Touched d.length q (ValidL.groupRange ⟨d.length, bs⟩ j)) →
          (validRanges hf fl (run hf ops sink).ob (run hf ops sink).target q).terminal = .ok →
          ValidL.groupRange ⟨d.length, bs⟩ j ∈
            (validRanges hf fl (run hf ops sink).ob (run hf ops sink).target q).yields) ∧
      (∀ q, CollisionFreeOn hf (fun x => x ∈ trueEvals hf d ++
          C06Loc.validEvals hf fl (run hf ops sink).ob (run hf ops sink).target q) →
        ∀ g, g ∈ (validRanges hf fl (run hf ops sink).ob (run hf ops sink).target q).yields →
        (((run hf ops sink).target.drop (g.1 * 1024)).take
            (min (g.2 * 1024) d.length - g.1 * 1024) =
          (d.drop (g.1 * 1024)).take (min (g.2 * 1024) d.length - g.1 * 1024) ∧
        g.1 * 1024 + (min (g.2 * 1024) d.length - g.1 * 1024) ≤ d.length) ∧
        ∀ c, g.1 ≤ c → c < g.2 →
          (∃ i₀, c * 1024 ≤ i₀ ∧ i₀ < (c + 1) * 1024 ∧ i₀ < d.length ∧
            sink.target[i₀]? ≠ d[i₀]?) →
          ∀ i, c * 1024 ≤ i → i < (c + 1) * 1024 → i < d.length → Cov wl i) ∧
      (sink.ob.tree.outboardSize ≤ sink.ob.data.length → ∀ q,
        (validRanges hf fl (run hf ops sink).ob (run hf ops sink).target q).terminal = .ok) := by
  obtain ⟨es, h⟩ := history_log_loc (bs := bs) hd ops sink hroot htree cf
  exact ⟨_, (log_target h).1, (log_target h).2,
    fun j hj hdel => log_validator_reports hlen hrt hd hbs h hroot htree hk htl fl j hj hdel,
    fun q cfv g hgm => ⟨log_validator_sound_loc hd hbs h hroot htree htl fl q cfv g hgm,
      fun c c1 c2 hdf => log_reported_delivered_loc hd hbs h hroot htree htl fl q cfv g hgm c c1
        c2 hdf⟩,
    fun hfull q => log_validator_ok hd hbs h htree hk htl hfull fl q⟩

omit [LawfulBEq H] in
/-- generic form: whatever follows from collision freedom on the evaluation list of a history and
fails, exhibits a collision inside that list, and the quadratic search `findCollision` returns one -/
theorem history_collision_of [DecidableEq H] {ops : List Op} {sink : Sink H} {P : Prop}
    (hP : CollisionFreeOn hf (fun x => x ∈ histEvals hf d ops sink) → P) (hbad : ¬ P) :
    ∃ x y, findCollision hf (histEvals hf d ops sink) = some (x, y) ∧
      x ∈ histEvals hf d ops sink ∧ y ∈ histEvals hf d ops sink ∧
      x ≠ y ∧ hf.eval x = hf.eval y :=
  findCollision_of_not_cf (l₁ := trueEvals hf d) (l₂ := callEvals hf sink.ob.root sink.ob.tree ops)
    (fun cf => hbad (hP (cf.mono fun _ hx => List.mem_append.1 hx)))

/-- **Collision extraction for histories.**  Outboard with the true root, anything else arbitrary.
If after a history the sink is NOT "the initial target after writes of true leaves, the initial
outboard after successful saves of true pairs" – i.e. the target holds a delivered byte or the
outboard a saved pair that is not the blob's – then the finite list `histEvals hf d ops sink`
contains two different inputs with the same hash, and `findCollision` returns such a pair. -/
theorem history_collision_extraction [DecidableEq H] (hd : d.length ≤ 2 ^ 64 * 1024)
    (ops : List Op) (sink : Sink H) (hroot : sink.ob.root = Spec.root hf d)
    (hbad : ¬ ∃ (wl : List (Nat × List UInt8)) (pl : List (Nat × H × H)),
      (∀ w ∈ wl, TrueLeaf d w.1 w.2) ∧ (∀ p ∈ pl, TruePair hf d p.2.1 p.2.2) ∧
      (run hf ops sink).target = applyWrites sink.target wl ∧
      (run hf ops sink).ob = applySaves hf sink.ob pl) :
    ∃ x y, findCollision hf (histEvals hf d ops sink) = some (x, y) ∧
      x ∈ histEvals hf d ops sink ∧ y ∈ histEvals hf d ops sink ∧
      x ≠ y ∧ hf.eval x = hf.eval y :=
  history_collision_of (run_effect_loc hd ops sink hroot) hbad

/-- a wrong byte: pre-sized target; if after a history some position holds neither its initial
byte nor the blob's byte, the evaluation list contains a collision, which the search finds -/
theorem history_collision_byte [DecidableEq H] (hd : d.length ≤ 2 ^ 64 * 1024)
    (ops : List Op) (sink : Sink H) (hroot : sink.ob.root = Spec.root hf d)
    (hlen : sink.target.length = d.length) (i : Nat)
    (h1 : (run hf ops sink).target[i]? ≠ sink.target[i]?)
    (h2 : (run hf ops sink).target[i]? ≠ d[i]?) :
    ∃ x y, findCollision hf (histEvals hf d ops sink) = some (x, y) ∧
      x ∈ histEvals hf d ops sink ∧ y ∈ histEvals hf d ops sink ∧
      x ≠ y ∧ hf.eval x = hf.eval y := by
  refine history_collision_of (P := (run hf ops sink).target[i]? = sink.target[i]? ∨
    (run hf ops sink).target[i]? = d[i]?) (fun cf => ?_) (fun h => h.elim h1 h2)
  obtain ⟨wl, _, _, h⟩ := inv_loc hd ops sink hroot cf
  exact ((h hlen).2 i).2.2

/-- a wrong pair: true geometry; if after a history the outboard is NOT the initial one after
successful saves of true pairs of existing nodes of level `≥ bs` under their own labels, the
evaluation list contains a collision, which the search finds -/
theorem history_collision_pair [DecidableEq H] (hd : d.length ≤ 2 ^ 63)
    (ops : List Op) (sink : Sink H) (hroot : sink.ob.root = Spec.root hf d)
    (htree : sink.ob.tree = ⟨d.length, bs⟩)
    (hbad : ¬ ∃ pl : List (Nat × H × H),
      (∀ p ∈ pl, ∃ k L, bs ≤ L ∧ midOf k L < nChunks d.length ∧ p.1 = nodeOf k L ∧
        (p.2.1, p.2.2) = Spec.pair hf d k L) ∧
      SavesOk hf sink.ob pl ∧
      (run hf ops sink).ob = applySaves hf sink.ob pl) :
    ∃ x y, findCollision hf (histEvals hf d ops sink) = some (x, y) ∧
      x ∈ histEvals hf d ops sink ∧ y ∈ histEvals hf d ops sink ∧
      x ≠ y ∧ hf.eval x = hf.eval y :=
  history_collision_of (saved_pairs_labelled_loc hd ops sink hroot htree) hbad

omit [BEq H] [LawfulBEq H] in
/-- the global wire round trip (with 32-byte hashes) gives the round trip on the hashes of the true
tree that Stage D needs -/
theorem rtTrue_of_rt (hrt : ∀ h, hf.ofBytes (hf.toBytes h) = h)
    (hlen : ∀ h, (hf.toBytes h).length = 32) (hd : d.length ≤ 2 ^ 63) : RtTrue hf d bs := by
  intro k L _ hm
  rw [pairBytes_nodeOf hf d (DecodeSpec.level_lt_of_mid_lt hd hm)]
  exact (DecodeSpec.parsePair_pair hrt hlen _ _).trans (Prod.eta _)

section examples

/-- two proofs of the same statement (used to display that a global theorem IS the local one applied
to `CollisionFree.on`) -/
private theorem sameStatement {P : Prop} (_ _ : P) : True := trivial

example (cf : CollisionFree hf) (hd : d.length ≤ 2 ^ 64 * 1024) (fl : Flavour) (s : List UInt8)
    (ranges : Ranges) (sink : Sink H) (fw fs : Option Nat)
    (hroot : sink.ob.root = Spec.root hf d) : True :=
  sameStatement (C07.decodeRangesF_sound cf hd fl s ranges sink fw fs hroot)
    (decodeRangesF_sound_loc hd fl s ranges sink fw fs hroot (cf.on _))

example (cf : CollisionFree hf) (hd : d.length ≤ 2 ^ 64 * 1024) (ops : List Op) (sink : Sink H)
    (hroot : sink.ob.root = Spec.root hf d) : True :=
  sameStatement (C07.inv cf hd ops sink hroot) (inv_loc hd ops sink hroot (cf.on _))

example (cf : CollisionFree hf) (hd : d.length ≤ 2 ^ 64 * 1024) (ops : List Op) (sink : Sink H)
    (hroot : sink.ob.root = Spec.root hf d) (hlen : sink.target.length = d.length) (n : Nat) :
    True :=
  sameStatement (C07.inv_prefix cf hd ops sink hroot hlen n)
    (inv_prefix_loc hd ops sink hroot hlen n (cf.on _))

example (cf : CollisionFree hf) (hd : d.length ≤ 2 ^ 64 * 1024) (ops more : List Op)
    (sink : Sink H) (hroot : sink.ob.root = Spec.root hf d) : True :=
  sameStatement (C07.inv_extend cf hd ops more sink hroot)
    (inv_extend_loc hd ops more sink hroot (cf.on _))

example (cf : CollisionFree hf) (hd : d.length ≤ 2 ^ 64 * 1024) (ops : List Op) (sink : Sink H)
    (hroot : sink.ob.root = Spec.root hf d) (hlen : sink.target.length = d.length) : True :=
  sameStatement (C07.converges cf hd ops sink hroot hlen)
    (converges_loc hd ops sink hroot hlen (cf.on _))

example (cf : CollisionFree hf) (hd : d.length ≤ 2 ^ 64 * 1024) (ops : List Op) (sink : Sink H)
    (hroot : sink.ob.root = Spec.root hf d) : True :=
  sameStatement (C07.saved_pairs_true cf hd ops sink hroot)
    (saved_pairs_true_loc hd ops sink hroot (cf.on _))

example (cf : CollisionFree hf) (hd : d.length ≤ 2 ^ 63) (ops : List Op) (sink : Sink H)
    (hroot : sink.ob.root = Spec.root hf d) (htree : sink.ob.tree = ⟨d.length, bs⟩) : True :=
  sameStatement (C07.history_log cf hd ops sink hroot htree)
    (history_log_loc hd ops sink hroot htree (cf.on _))

example (cf : CollisionFree hf) (hd : d.length ≤ 2 ^ 63) (ops : List Op) (sink : Sink H)
    (hroot : sink.ob.root = Spec.root hf d) (htree : sink.ob.tree = ⟨d.length, bs⟩) : True :=
  sameStatement (C07.saved_pairs_labelled cf hd ops sink hroot htree)
    (saved_pairs_labelled_loc hd ops sink hroot htree (cf.on _))

example (cf : CollisionFree hf) (hd : d.length ≤ 2 ^ 63) (fl : Flavour) (s : List UInt8)
    (q : Ranges) (sink : Sink H) (fw fs : Option Nat) (hroot : sink.ob.root = Spec.root hf d)
    (htree : sink.ob.tree = ⟨d.length, bs⟩) : True :=
  sameStatement (C07.ancestors_saved_before_leaf cf hd fl s q sink fw fs hroot htree)
    (ancestors_saved_before_leaf_loc hd fl s q sink fw fs hroot htree (cf.on _))

example (cf : CollisionFree hf) (hlen : ∀ h, (hf.toBytes h).length = 32) (hd : d.length ≤ 2 ^ 63)
    (hbs : bs ≤ 10) (ops : List Op) (sink : Sink H) (hroot : sink.ob.root = Spec.root hf d)
    (htree : sink.ob.tree = ⟨d.length, bs⟩) (hk : sink.ob.kind ≠ .empty) : True :=
  sameStatement (C07.ancestors_hold cf hlen hd hbs ops sink hroot htree hk)
    (ancestors_hold_loc hlen hd hbs ops sink hroot htree hk (cf.on _))

example (cf : CollisionFree hf) (hlen : ∀ h, (hf.toBytes h).length = 32) (hd : d.length ≤ 2 ^ 63)
    (hbs : bs ≤ 10) (ops : List Op) (sink : Sink H) (hroot : sink.ob.root = Spec.root hf d)
    (htree : sink.ob.tree = ⟨d.length, bs⟩) (hk : sink.ob.kind ≠ .empty)
    (hsz : sink.ob.data.length ≤ sink.ob.tree.outboardSize) : True :=
  sameStatement (C07.converges_outboard cf hlen hd hbs ops sink hroot htree hk hsz)
    (converges_outboard_loc hlen hd hbs ops sink hroot htree hk hsz (cf.on _))

example (cf : CollisionFree hf) (hd : d.length ≤ 2 ^ 63) (hbs : bs ≤ 10) {ops : List Op}
    {sink : Sink H} {es : List (Ev H)} (h : LabelledLog hf d bs ops sink es)
    (hroot : sink.ob.root = Spec.root hf d) (htree : sink.ob.tree = ⟨d.length, bs⟩)
    (htl : sink.target.length = d.length) (fl : Flavour) (q : Ranges) (g : Nat × Nat)
    (hgm : g ∈ (validRanges hf fl (run hf ops sink).ob (run hf ops sink).target q).yields) :
    True :=
  sameStatement (C07.log_validator_sound cf hd hbs h hroot htree htl fl q g hgm)
    (log_validator_sound_loc hd hbs h hroot htree htl fl q (cf.on _) g hgm)

example (cf : CollisionFree hf) (hlen : ∀ h, (hf.toBytes h).length = 32) (hrt : RtTrue hf d bs)
    (hd : d.length ≤ 2 ^ 63) (hbs : bs ≤ 10) (ops : List Op) (sink : Sink H)
    (hroot : sink.ob.root = Spec.root hf d) (htree : sink.ob.tree = ⟨d.length, bs⟩)
    (hk : sink.ob.kind ≠ .empty) (htl : sink.target.length = d.length)
    (hfull : sink.ob.tree.outboardSize ≤ sink.ob.data.length) (fl : Flavour) (q : Ranges)
    (hq : Ranges.WF q = true) : True :=
  sameStatement
    (C07.validator_exact_partial cf hlen hrt hd hbs ops sink hroot htree hk htl hfull fl q hq)
    (validator_exact_partial_loc hlen hrt hd hbs ops sink hroot htree hk htl hfull fl q hq
      (cf.on _))

/-- `validator_after_history`: the local theorem carries the per-query hypothesis inside part (ii);
with the global hypothesis it is discharged by `cf.on _` -/
example (cf : CollisionFree hf) (hlen : ∀ h, (hf.toBytes h).length = 32) (hrt : RtTrue hf d bs)
    (hd : d.length ≤ 2 ^ 63) (hbs : bs ≤ 10) (ops : List Op) (sink : Sink H)
    (hroot : sink.ob.root = Spec.root hf d) (htree : sink.ob.tree = ⟨d.length, bs⟩)
    (hk : sink.ob.kind ≠ .empty) (htl : sink.target.length = d.length) (fl : Flavour) : True := by
  obtain ⟨wl, h1, h2, h3, h4, h5⟩ :=
    validator_after_history_loc hlen hrt hd hbs ops sink hroot htree hk htl fl (cf.on _)
  exact sameStatement (C07.validator_after_history cf hlen hrt hd hbs ops sink hroot htree hk htl fl)
    ⟨wl, h1, h2, h3, fun q g hg => h4 q (cf.on _) g hg, h5⟩

/-! ### (b) a hash WITH the 32-byte wire round trip (`toy32`, not globally collision free)

A blob of three chunks, a pre-sized target (all nines) and a pre-sized pre-order memory outboard
with the true root and the true geometry.  A two-call history:
1. sync, full query, the honest stream with one byte of chunk 1 flipped – the root pair, the left
   pair and chunk 0 are accepted (two saves, one write), then `leafHashMismatch 1`;
2. fsm, query "from chunk 1 on", the honest stream, with the SECOND target write failing – the
   pairs are saved again, chunk 1 is written, the write of chunk 2 fails.
`toy32` evaluates 5 inputs for the blob and 4 + 4 in the two (fault-free) runs, the validator run on
the final sink 5 more; collision freedom on these inputs is decided by the kernel (`tFacts`). -/

private def tBlob : List UInt8 := (List.range 2049).map UInt8.ofNat
private def tHonest : List UInt8 := Spec.encode toy32 tBlob 0 [0]
private def tTampered : List UInt8 := tHonest.take 1500 ++ [99] ++ tHonest.drop 1501
private def tTail : List UInt8 := Spec.encode toy32 tBlob 0 [1]

private def tSink : Sink H32 :=
  { ob := { kind := .preMem, root := Spec.root toy32 tBlob, tree := ⟨2049, 0⟩,
            data := List.replicate 128 0 },
    target := List.replicate 2049 9 }

private def tOp1 : Op := ⟨.sync, tTampered, [0], none, none⟩
private def tOp2 : Op := ⟨.fsm, tTail, [1], some 1, none⟩
private def tHist : List Op := [tOp1, tOp2]

private theorem tBlob_length : tBlob.length = 2049 := by
  simp only [tBlob, List.length_map, List.length_range]
private theorem tBlob_len : tBlob.length ≤ 2 ^ 64 * 1024 := by rw [tBlob_length]; omega
private theorem tBlob_le : tBlob.length ≤ 2 ^ 63 := by rw [tBlob_length]; omega
private theorem tSink_root : tSink.ob.root = Spec.root toy32 tBlob := by simp only [tSink]
private theorem tSink_tree : tSink.ob.tree = ⟨tBlob.length, 0⟩ := by
  rw [tBlob_length]; simp only [tSink]
private theorem tSink_len : tSink.target.length = tBlob.length := by
  rw [tBlob_length]; simp only [tSink, List.length_replicate]
private theorem tSink_kind : tSink.ob.kind ≠ .empty := by decide

/-- everything the kernel computes about this history, in ONE evaluation.  The history is not
trivial: 13 inputs; the first call ends in a hash mismatch, the second in the injected write failure;
afterwards chunks 0 and 1 of the target hold the blob's bytes, the last byte is still the initial
one, the outboard is complete, and the validator (sync, full query) reports exactly the two delivered
chunk groups.  And `toy32` has no collision among the 18 inputs of `histValidEvals` (the 13 of the
history, then the 5 of that validator run): every unordered pair is checked once, equal inputs being
recognised by their keys (`collisionFreeOn_keys`, `key32`) -/
private theorem tFacts : (histEvals toy32 tBlob tHist tSink).length = 13 ∧
    (decodeRangesF toy32 .sync tTampered [0] tSink none none).2 = .err (.leafHashMismatch 1) ∧
    (decodeRangesF toy32 .fsm tTail [1] (step toy32 tSink tOp1) (some 1) none).2 =
      .err (.io ⟨.other, true⟩) ∧
    (run toy32 tHist tSink).target.take 2048 = tBlob.take 2048 ∧
    (run toy32 tHist tSink).target.drop 2048 = [9] ∧
    (run toy32 tHist tSink).ob.data = Spec.preOutboard toy32 tBlob 0 ∧
    (validRanges toy32 .sync (run toy32 tHist tSink).ob (run toy32 tHist tSink).target
      [0]).yields = [(0, 1), (1, 2)] ∧
    (histValidEvals toy32 tBlob tHist tSink .sync [0]).Pairwise
      (fun x y => toy32.eval x = toy32.eval y → key32 x = key32 y) := by decide +kernel

private theorem tHistValid_cf :
    CollisionFreeOn toy32 (fun x => x ∈ histValidEvals toy32 tBlob tHist tSink .sync [0]) :=
  collisionFreeOn_keys key32 key32_inj tFacts.2.2.2.2.2.2.2

/-- **the local hypothesis is satisfiable together with the wire round trip and 32-byte hashes**,
while the global one is not -/
private theorem tHist_cf : CollisionFreeOn toy32 (fun x => x ∈ histEvals toy32 tBlob tHist tSink) :=
  tHistValid_cf.mono (fun _ hx => List.mem_append_left _ hx)

example : (∀ h, toy32.ofBytes (toy32.toBytes h) = h) ∧ (∀ h, (toy32.toBytes h).length = 32) ∧
    ¬ CollisionFree toy32 ∧
    CollisionFreeOn toy32 (fun x => x ∈ histEvals toy32 tBlob tHist tSink) :=
  ⟨toy32_rt, toy32_len, toy32_not_cf, tHist_cf⟩

example := decodeRangesF_sound_loc tBlob_len .sync tTampered [0] tSink none none tSink_root
  (tHist_cf.mono (histEvals_prefix tHist tSink 1))

example := inv_loc tBlob_len tHist tSink tSink_root tHist_cf

example := inv_prefix_loc tBlob_len tHist tSink tSink_root tSink_len 1
  (tHist_cf.mono (histEvals_prefix tHist tSink 1))

example := inv_prefix_loc_all tBlob_len tHist tSink tSink_root tSink_len tHist_cf 1

example := inv_extend_loc tBlob_len [tOp1] [tOp2] tSink tSink_root tHist_cf

example := converges_loc tBlob_len tHist tSink tSink_root tSink_len tHist_cf

example := saved_pairs_true_loc tBlob_len tHist tSink tSink_root tHist_cf

example := history_log_loc (bs := 0) tBlob_le tHist tSink tSink_root tSink_tree tHist_cf

example := saved_pairs_labelled_loc (bs := 0) tBlob_le tHist tSink tSink_root tSink_tree tHist_cf

example := ancestors_saved_before_leaf_loc (bs := 0) tBlob_le .sync tTampered [0] tSink none none
  tSink_root tSink_tree (tHist_cf.mono (histEvals_prefix tHist tSink 1))

example := ancestors_hold_loc (bs := 0) toy32_len tBlob_le (by decide) tHist tSink tSink_root
  tSink_tree tSink_kind tHist_cf

example := converges_outboard_loc (bs := 0) toy32_len tBlob_le (by decide) tHist tSink tSink_root
  tSink_tree tSink_kind (by decide) tHist_cf

/-- Stage D needs `RtTrue`, which follows from the global wire round trip of `toy32` -/
private theorem tRt : RtTrue toy32 tBlob 0 := rtTrue_of_rt toy32_rt toy32_len tBlob_le

example := validator_after_history_loc (bs := 0) toy32_len tRt tBlob_le (by decide) tHist tSink
  tSink_root tSink_tree tSink_kind tSink_len .sync tHist_cf

example := validator_exact_partial_loc (bs := 0) toy32_len tRt tBlob_le (by decide) tHist tSink
  tSink_root tSink_tree tSink_kind tSink_len (by decide) .sync [0] (by decide) tHistValid_cf

/-- the validator indeed reports the two delivered chunk groups, and not the third -/
private theorem tYields : (validRanges toy32 .sync (run toy32 tHist tSink).ob
    (run toy32 tHist tSink).target [0]).yields = [(0, 1), (1, 2)] := tFacts.2.2.2.2.2.2.1

/-- `log_validator_sound_loc`, `log_reported_delivered_loc`, `log_validator_exact_loc` on the log of
the history -/
example : True := by
  obtain ⟨es, h⟩ := history_log_loc (bs := 0) tBlob_le tHist tSink tSink_root tSink_tree tHist_cf
  have cfv := cf_valid tHistValid_cf
  have hgm : (1, 2) ∈ (validRanges toy32 .sync (run toy32 tHist tSink).ob
      (run toy32 tHist tSink).target [0]).yields := by rw [tYields]; decide
  have _h1 := log_validator_sound_loc tBlob_le (by decide) h tSink_root tSink_tree tSink_len .sync
    [0] cfv (1, 2) hgm
  have _h2 := log_reported_delivered_loc tBlob_le (by decide) h tSink_root tSink_tree tSink_len
    .sync [0] cfv (1, 2) hgm 1 (Nat.le_refl _) (by decide)
    ⟨1024, by decide, by decide, by rw [tBlob_length]; decide, by decide +kernel⟩
  have _h3 := log_validator_exact_loc toy32_len tRt tBlob_le (by decide) h tSink_root tSink_tree
    tSink_kind tSink_len (by decide) .sync [0] (by decide) cfv 0
    (by rw [tBlob_length]; decide)
  trivial

private def unitHash : HashFns Unit where
  chunkCv _ _ _ := ()
  parentCv _ _ _ := ()
  ofBytes _ := ()
  toBytes _ := List.replicate 32 0

private def uSink : Sink Unit :=
  { ob := { kind := .preMem, root := Spec.root unitHash [1], tree := ⟨1, 0⟩, data := [] },
    target := [0] }

/-- a truncated call, then a call whose stream carries the forged chunk `[2]` for the blob `[1]` -/
private def uHist : List Op := [⟨.fsm, [], [0], none, none⟩, ⟨.sync, [2], [0], none, none⟩]

private theorem uTarget : (run unitHash uHist uSink).target = [2] := by decide +kernel

private theorem uBad : ¬ ∃ (wl : List (Nat × List UInt8)) (pl : List (Nat × Unit × Unit)),
    (∀ w ∈ wl, TrueLeaf [1] w.1 w.2) ∧ (∀ p ∈ pl, TruePair unitHash [1] p.2.1 p.2.2) ∧
    (run unitHash uHist uSink).target = applyWrites uSink.target wl ∧
    (run unitHash uHist uSink).ob = applySaves unitHash uSink.ob pl := by
  rintro ⟨wl, _, hw, _, ht, _⟩
  have hm := Mixed.applyWrites (d := [1]) (t₀ := [0]) wl uSink.target ⟨rfl, fun _ => .inl rfl⟩ hw
  rw [← ht, uTarget] at hm
  have h0 := hm.2 0
  revert h0
  decide

example : ∃ x y, findCollision unitHash (histEvals unitHash [1] uHist uSink) = some (x, y) ∧
    x ∈ histEvals unitHash [1] uHist uSink ∧ y ∈ histEvals unitHash [1] uHist uSink ∧
    x ≠ y ∧ unitHash.eval x = unitHash.eval y :=
  history_collision_extraction (by decide) uHist uSink rfl uBad

example : ∃ x y, findCollision unitHash (histEvals unitHash [1] uHist uSink) = some (x, y) ∧
    x ∈ histEvals unitHash [1] uHist uSink ∧ y ∈ histEvals unitHash [1] uHist uSink ∧
    x ≠ y ∧ unitHash.eval x = unitHash.eval y :=
  history_collision_byte (by decide) uHist uSink rfl rfl 0
    (by rw [uTarget]; decide) (by rw [uTarget]; decide)

/-- … and the search indeed computes the collision: the true chunk against the forged one -/
example : findCollision unitHash (histEvals unitHash [1] uHist uSink) =
    some (.chunk 0 [1] true, .chunk 0 [2] true) := by decide +kernel

/-! ### (d) a wrong PAIR: a hash whose parent hash ignores the children

Blob of two chunks, true geometry, pre-sized outboard (all zeros = the stored true pair `(0, 0)`).
The stream starts with the forged pair `(1, 1)`; the parent check passes (the parent hash is
constant), the forged pair is saved under the root's label, then the stream ends. -/

private def cHash : HashFns Nat where
  chunkCv _ _ _ := 0
  parentCv _ _ _ := 0
  ofBytes b := (b.headD 0).toNat
  toBytes h := List.replicate 32 (UInt8.ofNat h)

private def cBlob : List UInt8 := List.replicate 1025 7

private def cSink : Sink Nat :=
  { ob := { kind := .preMem, root := Spec.root cHash cBlob, tree := ⟨1025, 0⟩,
            data := List.replicate 64 0 },
    target := List.replicate 1025 0 }

private def cHist : List Op := [⟨.sync, List.replicate 64 1, [0], none, none⟩]

private theorem cSave : cSink.ob.save cHash 0 (0, 0) = .ok cSink.ob := by rfl

private theorem cBad : ¬ ∃ pl : List (Nat × Nat × Nat),
    (∀ p ∈ pl, ∃ k L, 0 ≤ L ∧ midOf k L < nChunks cBlob.length ∧ p.1 = nodeOf k L ∧
      (p.2.1, p.2.2) = Spec.pair cHash cBlob k L) ∧
    SavesOk cHash cSink.ob pl ∧
    (run cHash cHist cSink).ob = applySaves cHash cSink.ob pl := by
  rintro ⟨pl, hp, -, ho⟩
  have key : ∀ pl : List (Nat × Nat × Nat), (∀ p ∈ pl, p = (0, 0, 0)) →
      applySaves cHash cSink.ob pl = cSink.ob := by
    intro pl
    induction pl with
    | nil => intro _; rfl
    | cons p pl ih =>
      intro h
      have hp0 := h p List.mem_cons_self
      subst hp0
      simp only [applySaves, List.foldl_cons, cSave]
      exact ih (fun p hp => h p (List.mem_cons_of_mem _ hp))
  have hall : ∀ p ∈ pl, p = (0, 0, 0) := by
    intro p hpm
    obtain ⟨k, L, -, hm, h1, h2⟩ := hp p hpm
    rw [show nChunks cBlob.length = 2 by decide] at hm
    obtain ⟨rfl, rfl⟩ := node_of_two_chunks hm
    have h3 : Spec.pair cHash cBlob 0 0 = (0, 0) := by decide +kernel
    have h4 : nodeOf 0 0 = 0 := by decide
    rw [h3] at h2
    rw [h4] at h1
    obtain ⟨a, b, c⟩ := p
    simp only [Prod.mk.injEq] at h2 h1 ⊢
    exact ⟨h1, h2.1, h2.2⟩
  rw [key pl hall] at ho
  have hdat := congrArg Store.data ho
  revert hdat
  decide +kernel

example : ∃ x y, findCollision cHash (histEvals cHash cBlob cHist cSink) = some (x, y) ∧
    x ∈ histEvals cHash cBlob cHist cSink ∧ y ∈ histEvals cHash cBlob cHist cSink ∧
    x ≠ y ∧ cHash.eval x = cHash.eval y :=
  history_collision_pair (bs := 0) (by simp only [cBlob, List.length_replicate]; omega) cHist cSink
    (by simp only [cSink]) (by simp only [cSink, cBlob, List.length_replicate]) cBad

/-- the collision behind the wrong pair: the root input of the honest hashing against the forged
one, both in the list (the search returns the first collision of the list, which for this hash is
the root input against the first chunk input) -/
example : HashIn.parent 0 0 true ∈ histEvals cHash cBlob cHist cSink ∧
    HashIn.parent 1 1 true ∈ histEvals cHash cBlob cHist cSink ∧
    cHash.eval (.parent 0 0 true) = cHash.eval (.parent 1 1 true) ∧
    findCollision cHash (histEvals cHash cBlob cHist cSink) =
      some (.parent 0 0 true, .chunk 0 (List.replicate 1024 7) false) := by decide +kernel

end examples

/-
## Status (C07, local collision freedom)

All theorems: axioms ⊆ {propext, Classical.choice, Quot.sound}.  The development under
`CollisionFreeOn hf S` is `Lemmas/HistL.lean`, `HistLabelL.lean`, `HistLogL.lean`; the theorems of
`Props/C07.lean` / `Props/C07Conv.lean` use it at `S := fun _ => True`, the ones here at
`S := (· ∈ histEvals hf d ops sink)`.  CHOICE: `histEvals` takes the FAULT-FREE `runEvals` of every
call (a superset of what the fault-injected call evaluates; independent of `op.fw` / `op.fs` and of
the state of the sink).  As in `Props/C01Loc.lean` the proofs only use the inputs of item-yielding
steps, so the theorems also hold for that smaller list (not stated).

PROVED
1. `Props/C07.lean`: `decodeRangesF_sound_loc`, `inv_loc`, `inv_prefix_loc` (hypothesis on the list
   of THAT prefix only; `inv_prefix_loc_all`: all prefixes from the list of `ops`), `inv_extend_loc`,
   `converges_loc`, `saved_pairs_true_loc`.
2. `Props/C07Conv.lean`: `history_log_loc` (the `log_*` theorems of C07Conv WITHOUT hash hypothesis
   apply to its log unchanged), `saved_pairs_labelled_loc`, `ancestors_saved_before_leaf_loc`,
   `ancestors_hold_loc`, `converges_outboard_loc`; Stage D for a given log:
   `log_validator_sound_loc`, `log_reported_delivered_loc`, `log_validator_exact_loc` (hypothesis:
   collision freedom on `trueEvals hf d ++ validEvals hf fl fin.ob fin.target q`), packaged as
   `validator_after_history_loc` (hypothesis on `histEvals`, and INSIDE part (ii), per validator
   query `q`, on `trueEvals ++ validEvals … q`).
3. NO hash hypothesis: `history_collision_of`, `history_collision_extraction`,
   `history_collision_byte`, `history_collision_pair`: what follows from the local hypothesis and
   fails yields a collision in `histEvals`, and `findCollision` returns one.
4. `rtTrue_of_rt` – the global wire round trip (+ 32-byte hashes) gives `RtTrue`.

PARTIAL: `validator_exact_partial_loc` – `C07.validator_exact_partial` with collision freedom on
`histValidEvals`; `_partial` for exactly the reasons of the global theorem (O3 side condition
`hdiff`, pre-sized outboard, well-formed query, `RtTrue`), not because of the localisation.

OPEN: none of the theorems of `Props/C07.lean` / `Props/C07Conv.lean` that carry a hash hypothesis
is left unlocalised.

Non-vacuity
(a) every global theorem of C07 / C07Conv with a hash hypothesis has the type of the `_loc` theorem
    applied to `CollisionFree.on` (`sameStatement`; for `validator_after_history` after discharging
    the per-query hypothesis with `cf.on _`);
(b) `toy32` (32-byte hashes, `ofBytes ∘ toBytes = id`, NOT globally collision free): 3-chunk blob,
    pre-sized sink, two-call history.  `CollisionFreeOn` on the 18 inputs of `histValidEvals`, hence
    on the 13 of `histEvals`, by one `decide +kernel` (`tFacts`); every `_loc` theorem is
    instantiated; the validator reports exactly the two delivered groups;
(c) constant hash, blob `[1]`, a history delivering the forged byte `[2]`:
    `history_collision_extraction`, `history_collision_byte`; the search returns `chunk 0 [1] true` vs
    `chunk 0 [2] true`;
(d) a hash whose parent hash ignores its children, 2-chunk blob, forged root pair `(1, 1)` saved:
    `history_collision_pair`; the collision is `parent 0 0 true` vs `parent 1 1 true`.

Remark: as in C01Loc the invariant carries the HONEST root flag (`run_good` requires
`f = isRootIv d (startOf k L) (min (endOf k L) n)` for the chaining value on the stack), because
only those evaluations are in `trueEvals`.
-/

end Bao.C07Loc
